import Rivaas.Spec.ErrFmt
import Rivaas.Lemmas.C19Accept
/-
C06 — Error responses conform to the selected formatter. Property theorems.
All statements quantify over every error value (any wrapping depth, any layer implementing any subset
of ErrorType / ErrorCode / ErrorDetails, any details JSON), every formatter configuration, every
Accept header, every position of the failing handler.

The way to `fail_meets_spec`: the status search, the marshalled object, each formatter's shape, status and media
type (also through the encoding fallback), which formatter is selected given what `c.Accepts` answered — under the
hypothesis `AcceptsContract`, which is then proved of C19's model of `Accepts` (Lemmas/C19Accept: `lemma_admits`,
`lemma_answer_no_ranges`), giving `failN_meets_spec` —, and the response as a whole (`lemma_respOK_iff` reads the
oracle clause by clause). The statement's clauses one by one and the witnesses follow.
-/
namespace Rivaas.C06
open Rivaas.ErrFmt

/-! ### `errors.As` is a pre-order search -/

mutual
  theorem lemma_findCap_status : ∀ (e : Err), findCap (·.st) e = (statusLayers e).head?
    | .node caps m kids => by
      simp only [findCap, statusLayers]
      cases h : caps.st with
      | some s => simp
      | none => simpa using lemma_findCapL_status kids
  theorem lemma_findCapL_status : ∀ (es : List Err), findCapL (·.st) es = (statusLayersL es).head?
    | [] => by simp [findCapL, statusLayersL]
    | e :: es => by
      simp only [findCapL, statusLayersL, List.head?_append]
      rw [lemma_findCap_status e, lemma_findCapL_status es]
      cases (statusLayers e).head? <;> simp
end

/-- the status `errors.As(err, &ErrorType)` finds is the outermost declared one (pre-order) -/
theorem status_is_first_layer (e : Err) : asStatus e = (statusLayers e).head? :=
  lemma_findCap_status e

/-- `WithStatus` at the outside always decides, whatever is wrapped inside -/
theorem withStatus_outermost (s : Nat) (e : Err) : asStatus (.withStatus s e) = some s := by
  simp [asStatus, Err.withStatus, findCap]

/-- wrapping with `%w` is transparent for status, code and details -/
theorem wrap_transparent (pre : Bytes) (e : Err) :
    asStatus (.wrap pre e) = asStatus e ∧ asCode (.wrap pre e) = asCode e ∧ asDetails (.wrap pre e) = asDetails e := by
  -- the wrapper is a node without capabilities whose one child is `e`: each of the three searches goes on into `e`
  simp only [asStatus, asCode, asDetails, Err.wrap, findCap, findCapL]
  and_intros <;> cases findCap _ e <;> rfl

/-- the model's status search against the oracle's documented status (Spec/ErrFmt: `docStatus`, with `helperDoc` the
    status each helper's doc comment names), for each of the three entry points -/
theorem lemma_determine_doc (f : Fmt) (call : Call) : determineStatus f call.err = docStatus f call := by
  unfold determineStatus docStatus
  cases hres : f.statusRes with
  | some s => cases call <;> simp
  | none =>
    cases call with
    | fail e =>
      simp only [Call.err, asStatus, lemma_findCap_status]
      cases (statusLayers e).head? <;> simp
    | failStatus s e =>
      cases e with
      | some e => simp [Call.err, withStatus_outermost]
      | none => simp [Call.err, asStatus, Err.withStatusNil, findCap]
    | helper h e =>
      have hh : h.status = helperDoc h := by cases h <;> rfl
      cases e with
      | some e => simp [Call.err, withStatus_outermost, hh]
      | none => simp [Call.err, asStatus, Err.withStatusNil, findCap, hh]


/-! ### sorted objects: looking a member up in `sortKvs kvs` -/

theorem lemma_insertKv_perm (kv : Bytes × Json) (l : List (Bytes × Json)) : (insertKv kv l).Perm (kv :: l) := by
  induction l with
  | nil => exact .refl _
  | cons y ys ih =>
    simp only [insertKv]
    split
    · exact .refl _
    · exact (ih.cons y).trans (.swap ..)

theorem lemma_sortKvs_perm (l : List (Bytes × Json)) : (sortKvs l).Perm l := by
  induction l with
  | nil => exact .refl _
  | cons y ys ih => exact (lemma_insertKv_perm y _).trans (ih.cons y)

theorem lemma_mem_sortKvs (x : Bytes × Json) (l : List (Bytes × Json)) : x ∈ sortKvs l ↔ x ∈ l :=
  (lemma_sortKvs_perm l).mem_iff

theorem lemma_get_unique (kvs : List (Bytes × Json)) (k : Bytes) (v : Json)
    (hall : ∀ x ∈ kvs, x.1 = k → x.2 = v) (hmem : (k, v) ∈ kvs) :
    Json.get? k (.obj (sortKvs kvs)) = some v := by
  simp only [Json.get?]
  cases hf : (sortKvs kvs).find? (fun kv => kv.1 == k) with
  | none =>
    have := List.find?_eq_none.mp hf _ ((lemma_mem_sortKvs _ kvs).mpr hmem)
    simp at this
  | some x =>
    have hm := (lemma_mem_sortKvs x kvs).mp (List.mem_of_find?_eq_some hf)
    have hk : x.1 = k := by simpa using List.find?_some hf
    simp [hall x hm hk]

theorem lemma_get_none (kvs : List (Bytes × Json)) (k : Bytes) (hno : ∀ x ∈ kvs, x.1 ≠ k) :
    Json.get? k (.obj (sortKvs kvs)) = none := by
  simp only [Json.get?, Option.map_eq_none_iff, List.find?_eq_none]
  intro x hx
  have := hno x ((lemma_mem_sortKvs x kvs).mp hx)
  simpa using this

/-! ### `ProblemDetail.MarshalJSON` -/

/-- the members `MarshalJSON` writes from the struct's own fields -/
def ownKvs (p : Problem) : List (Bytes × Json) :=
  [(kType, .str p.type), (kTitle, .str p.title), (kStatus, .num (natBytes p.status))]
  ++ (if p.detail.isEmpty then [] else [(kDetail, .str p.detail)])
  ++ (if p.instance_.isEmpty then [] else [(kInstance, .str p.instance_)])

theorem lemma_mem_marshal (p : Problem) (x : Bytes × Json) :
    x ∈ marshalProblemKvs p ↔ x ∈ ownKvs p ∨ (x ∈ p.extensions ∧ x.1 ∉ reserved) := by
  show x ∈ ownKvs p ++ _ ↔ _
  simp

theorem lemma_own_keys (p : Problem) : ((ownKvs p).map (·.1)).Sublist reserved := by
  simp only [ownKvs, List.map_append, List.map_cons, List.map_nil, apply_ite (List.map _)]
  split <;> split <;> decide

theorem lemma_nonreserved_member (p : Problem) (x : Bytes × Json) (hx : x ∈ marshalProblemKvs p) (hr : x.1 ∉ reserved) :
    x ∈ p.extensions := by
  rcases (lemma_mem_marshal p x).1 hx with ho | h
  · exact absurd ((lemma_own_keys p).subset (List.mem_map_of_mem ho)) hr
  · exact h.1

theorem lemma_get_reserved (p : Problem) (k : Bytes) (hr : k ∈ reserved) :
    (marshalProblem p).get? k = (ownKvs p).lookup k := by
  cases hl : (ownKvs p).lookup k with
  | none =>
    refine lemma_get_none _ k fun x hx hk => ?_
    rcases (lemma_mem_marshal p x).1 hx with ho | ⟨_, hnr⟩
    · simpa [hk] using List.lookup_eq_none_iff.1 hl x ho
    · exact hnr (hk ▸ hr)
  | some v =>
    have h := List.mem_of_lookup_some _ _ _ hl
    refine lemma_get_unique _ k v (fun x hx hk => ?_) ((lemma_mem_marshal p _).2 (.inl h))
    rcases (lemma_mem_marshal p x).1 hx with ho | ⟨_, hnr⟩
    · have hd : (ownKvs p).Pairwise fun a b => a.1 ≠ b.1 :=
        List.pairwise_map.1 (List.Pairwise.sublist (lemma_own_keys p) (by decide))
      rw [List.eq_of_key_eq hd ho h hk]
    · exact absurd (hk ▸ hr) hnr

/-- Reserved members cannot be overridden by extensions: whatever the extensions contain, the five
    RFC 9457 members of the marshalled object are exactly the struct's own fields (`detail` and
    `instance` absent when empty). -/
theorem reserved_not_overridable (p : Problem) :
    (marshalProblem p).get? kType = some (.str p.type) ∧
    (marshalProblem p).get? kTitle = some (.str p.title) ∧
    (marshalProblem p).get? kStatus = some (.num (natBytes p.status)) ∧
    (marshalProblem p).get? kDetail = (if p.detail.isEmpty then none else some (.str p.detail)) ∧
    (marshalProblem p).get? kInstance = (if p.instance_.isEmpty then none else some (.str p.instance_)) := by
  rw [lemma_get_reserved p _ (by decide), lemma_get_reserved p _ (by decide), lemma_get_reserved p _ (by decide),
    lemma_get_reserved p _ (by decide), lemma_get_reserved p _ (by decide), ownKvs]
  cases p.detail.isEmpty <;> cases p.instance_.isEmpty <;> exact ⟨rfl, rfl, rfl, rfl, rfl⟩

mutual
  theorem lemma_beq_refl : ∀ (j : Json), Json.beq j j = true
    | .null => rfl
    | .bool b => by simp [Json.beq]
    | .num t => by simp [Json.beq]
    | .str t => by simp [Json.beq]
    | .arr xs => by simp only [Json.beq]; exact lemma_beqList_refl xs
    | .obj kvs => by simp only [Json.beq]; exact lemma_beqKvs_refl kvs
  theorem lemma_beqList_refl : ∀ (xs : List Json), Json.beqList xs xs = true
    | [] => rfl
    | x :: xs => by simp [Json.beqList, lemma_beq_refl x, lemma_beqList_refl xs]
  theorem lemma_beqKvs_refl : ∀ (kvs : List (Bytes × Json)), Json.beqKvs kvs kvs = true
    | [] => rfl
    | (k, v) :: rest => by simp [Json.beqKvs, lemma_beq_refl v, lemma_beqKvs_refl rest]
end

theorem lemma_beq_self (j : Json) : (j == j) = true := lemma_beq_refl j

/-- `MarshalJSON` as modelled satisfies the whole oracle of the direct-call cases, for every struct
    and every extensions map (a Go map: distinct keys) -/
theorem marshal_meets_spec (p : Problem) (hnd : p.extensions.Pairwise fun a b => a.1 ≠ b.1) :
    marshalOK p (marshalProblem p) = true := by
  obtain ⟨h1, h2, h3, h4, h5⟩ := reserved_not_overridable p
  unfold marshalOK
  simp only [Bool.and_eq_true]
  -- `type`, `title`, `status`, `detail`, `instance` (the reserved members); every other extension is there with its
  -- value (the one place for `hnd`: the key finds this pair and no other); nothing else is there
  refine ⟨⟨⟨⟨⟨⟨?_, ?_⟩, ?_⟩, ?_⟩, ?_⟩, ?_⟩, ?_⟩
  · simp [memberIs, h1, lemma_beq_self]
  · simp [memberIs, h2, lemma_beq_self]
  · simp [memberIs, h3, lemma_beq_self]
  · split <;> rename_i he <;> simp [memberIs, memberAbsent, h4, he, lemma_beq_self]
  · split <;> rename_i he <;> simp [memberIs, memberAbsent, h5, he, lemma_beq_self]
  · rw [List.all_eq_true]
    intro kv hkv
    by_cases hr : kv.1 ∈ reserved
    · simp [hr]
    · have hget : (marshalProblem p).get? kv.1 = some kv.2 := by
        apply lemma_get_unique
        · intro x hx hk
          have := lemma_nonreserved_member p x hx (by rw [hk]; exact hr)
          rw [List.eq_of_key_eq hnd this hkv hk]
        · exact (lemma_mem_marshal p kv).2 (.inr ⟨hkv, hr⟩)
      simp [hget, lemma_beq_self]
  · simp only [marshalProblem, List.all_eq_true]
    intro x hx
    have hx' := (lemma_mem_sortKvs x _).mp hx
    by_cases hr : x.1 ∈ reserved
    · simp [hr]
    · have := lemma_nonreserved_member p x hx' hr
      simp only [Bool.or_eq_true, List.any_eq_true]
      right
      exact ⟨x, this, by simp⟩


/-! ### each formatter produces its documented shape, with the status it returns -/

theorem lemma_natBytes_ne (n : Nat) : (natBytes n).isEmpty = false := by
  unfold natBytes
  cases n with
  | zero => simp [natDigits]
  | succ m =>
    simp only [natDigits]
    split <;> simp

theorem rfc_shape (env : Env) (f : Fmt) (e : Err) :
    shapeOK .rfc9457 (formatRFC env f e).status (formatRFC env f e).body = true := by
  obtain ⟨h1, h2, h3, h4, h5⟩ := reserved_not_overridable (rfcProblem env f e)
  have hs : (rfcProblem env f e).status = determineStatus f e := rfl
  simp only [formatRFC, shapeOK, isStrAt, optStrAt, h1, h2, h3, h4, h5, hs, Bool.and_eq_true]
  refine ⟨rfl, ⟨⟨⟨⟨trivial, trivial⟩, ?_⟩, ?_⟩, by simp⟩⟩
  · by_cases h : (rfcProblem env f e).detail.isEmpty = true <;> simp [h]
  · by_cases h : (rfcProblem env f e).instance_.isEmpty = true <;> simp [h]

def IsApiErr (status : Bytes) (x : Json) : Prop := isObj x = true ∧ x.get? kStatus = some (.str status)

theorem lemma_apiErr (status title code detail : Bytes) (pointer : Option Bytes) (metaV : Option Json)
    (hs : status.isEmpty = false) : IsApiErr status (jsonAPIErrorJson status title code detail pointer metaV) := by
  have h1 : (kId == kStatus) = false := by decide
  refine ⟨rfl, ?_⟩
  simp [jsonAPIErrorJson, Json.get?, hs, h1]

theorem lemma_fieldErr (status title errMsg : Bytes) (field : Json) (hs : status.isEmpty = false) :
    IsApiErr status (jsonAPIFieldError status title errMsg field) := by
  unfold jsonAPIFieldError
  split <;> exact lemma_apiErr _ _ _ _ _ _ hs

theorem lemma_orSingle (l : List Json) (d : Json) :
    orSingle l d ≠ [] ∧ ∀ x ∈ orSingle l d, x = d ∨ x ∈ l := by
  unfold orSingle
  cases l with
  | nil => simp
  | cons a as =>
    refine ⟨by simp, ?_⟩
    intro x hx
    right
    simpa using hx

theorem lemma_fromDetails (status title errMsg : Bytes) (det : Json) (hs : status.isEmpty = false) :
    ∀ x ∈ jsonAPIFromDetails status title errMsg det, IsApiErr status x := by
  intro x hx
  rcases (lemma_orSingle _ _).2 x hx with h | h
  · subst h; exact lemma_apiErr _ _ _ _ _ _ hs
  · cases det with
    | arr xs =>
      simp only [jsonAPIFieldErrors, List.mem_map] at h
      obtain ⟨fld, _, rfl⟩ := h
      exact lemma_fieldErr _ _ _ _ hs
    | _ => simp [jsonAPIFieldErrors] at h

theorem lemma_apiErrors (env : Env) (f : Fmt) (e : Err) :
    jsonAPIErrors env f e ≠ [] ∧ ∀ x ∈ jsonAPIErrors env f e, IsApiErr (natBytes (determineStatus f e)) x := by
  have hs := lemma_natBytes_ne (determineStatus f e)
  refine ⟨(lemma_orSingle _ _).1, ?_⟩
  intro x hx
  rcases (lemma_orSingle _ _).2 x hx with h | h
  · subst h; exact lemma_apiErr _ _ _ _ _ _ hs
  · unfold jsonAPIErrorsRaw at h
    split at h
    · exact lemma_fromDetails _ _ _ _ hs x h
    · simp only [List.mem_singleton] at h; subst h; exact lemma_apiErr _ _ _ _ _ _ hs

/-- JSON:API always has a non-empty errors array — for every error value, also when `Details()`
    is an empty slice, `null`, or not a slice at all -/
theorem jsonapi_nonempty (env : Env) (f : Fmt) (e : Err) :
    ∃ x xs, (formatJSONAPI env f e).body = .obj [(kErrors, .arr (x :: xs))] := by
  obtain ⟨hne, _⟩ := lemma_apiErrors env f e
  cases h : jsonAPIErrors env f e with
  | nil => exact absurd h hne
  | cons x xs => exact ⟨x, xs, by simp [formatJSONAPI, h]⟩

theorem jsonapi_shape (env : Env) (f : Fmt) (e : Err) :
    shapeOK .jsonapi (formatJSONAPI env f e).status (formatJSONAPI env f e).body = true := by
  obtain ⟨hne, hall⟩ := lemma_apiErrors env f e
  have hget : Json.get? kErrors (formatJSONAPI env f e).body = some (.arr (jsonAPIErrors env f e)) := by
    simp [formatJSONAPI, Json.get?]
  unfold shapeOK
  rw [hget]
  simp only [formatJSONAPI, Bool.and_eq_true, List.all_eq_true]
  refine ⟨rfl, by simpa using hne, ?_⟩
  intro x hx
  obtain ⟨a, b⟩ := hall x hx
  rw [a, b]
  simp

theorem simple_shape (env : Env) (f : Fmt) (e : Err) :
    shapeOK .simple (formatSimple env f e).status (formatSimple env f e).body = true := by
  simp only [formatSimple, shapeOK, isObj, Bool.true_and, isStrAt]
  have : Json.get? kError (.obj (sortKvs (simpleKvs env e))) = some (.str (msgOf env.stText e)) := by
    apply lemma_get_unique
    · intro x hx hk
      simp only [simpleKvs, List.mem_append, List.mem_singleton] at hx
      rcases hx with (hx | hx) | hx
      · rw [hx]
      · split at hx
        · simp only [List.mem_singleton] at hx; subst hx; dsimp only at hk; exact absurd hk (by decide)
        · cases hx
      · split at hx
        · simp only [List.mem_singleton] at hx; subst hx; dsimp only at hk; exact absurd hk (by decide)
        · cases hx
    · simp [simpleKvs]
  rw [this]

theorem format_shape (env : Env) (f : Fmt) (e : Err) :
    shapeOK f.kind (format env f e).status (format env f e).body = true := by
  unfold format
  cases hk : f.kind with
  | rfc9457 => exact rfc_shape env f e
  | jsonapi => exact jsonapi_shape env f e
  | simple => exact simple_shape env f e

theorem format_status (env : Env) (f : Fmt) (e : Err) : (format env f e).status = determineStatus f e := by
  unfold format
  cases f.kind <;> rfl

/-- the `Content-Type` a formatter answers with depends on its kind only -/
def ctOf : FKind → Bytes
  | .rfc9457 => ctRFC
  | .jsonapi => ctJSONAPI
  | .simple => ctSimple

theorem format_contentType (env : Env) (f : Fmt) (e : Err) : (format env f e).contentType = ctOf f.kind := by
  cases h : f.kind <;> simp only [format, h, formatRFC, formatJSONAPI, formatSimple, ctOf]

theorem lemma_ctOf_media (k : FKind) : headerMediaType (ctOf k) = mediaTypeOf k := by
  -- `String.toList_ofList` replaces a string literal by its characters by a lemma, which spares the kernel the
  -- decoding of the literal by evaluation (dear for long literals); it is done before every evaluation below
  cases k
  · dsimp only [ctOf, ctRFC, mediaTypeOf]; repeat rewrite [String.toList_ofList]
    decide +kernel
  · dsimp only [ctOf, ctJSONAPI, mediaTypeOf]; repeat rewrite [String.toList_ofList]
    decide +kernel
  · dsimp only [ctOf, ctSimple, mediaTypeOf]; repeat rewrite [String.toList_ofList]
    decide +kernel

/-- the media type of the `Content-Type` a formatter returns is the documented one -/
theorem format_media_type (env : Env) (f : Fmt) (e : Err) :
    headerMediaType (format env f e).contentType = mediaTypeOf f.kind := by
  rw [format_contentType]
  exact lemma_ctOf_media _

/-! ### the encoding fallback of `fail` (K06d repair) -/

/-- the error formatted instead has the status the first `Format` call answered with -/
theorem lemma_plain_status (env : Env) (f : Fmt) (e : Err) :
    determineStatus f (plainErr env.stText (format env f e).status e) = determineStatus f e := by
  rw [format_status]
  unfold determineStatus plainErr
  cases f.statusRes with
  | some s => rfl
  | none => simp [withStatus_outermost]

/-- whether or not the first body encodes, the response `fail` writes carries the documented status … -/
theorem failResp_status (env : Env) (f : Fmt) (e : Err) : (failResp env f e).status = determineStatus f e := by
  unfold failResp
  split
  · exact format_status env f e
  · rw [format_status, lemma_plain_status]

theorem failResp_contentType (env : Env) (f : Fmt) (e : Err) : (failResp env f e).contentType = ctOf f.kind := by
  unfold failResp
  split <;> exact format_contentType env f _

/-- … the formatter's media type … -/
theorem failResp_media_type (env : Env) (f : Fmt) (e : Err) :
    headerMediaType (failResp env f e).contentType = mediaTypeOf f.kind := by
  rw [failResp_contentType]
  exact lemma_ctOf_media _

/-- … and a body of the formatter's documented shape with that status -/
theorem failResp_shape (env : Env) (f : Fmt) (e : Err) :
    shapeOK f.kind (failResp env f e).status (failResp env f e).body = true := by
  unfold failResp
  split <;> exact format_shape env f _

/-- the fallback body always encodes: the error it is made of has no details layer at all -/
theorem fallback_encodes (stText : Nat → Bytes) (s : Nat) (e : Err) : bodyEncodes (plainErr stText s e) = true := by
  simp [bodyEncodes, plainErr, Err.withStatus, Err.new, findCap, findCapL]

/-- an error whose details encode is answered by the formatter's own response, unchanged -/
theorem failResp_encodable (env : Env) (f : Fmt) (e : Err) (h : bodyEncodes e = true) :
    failResp env f e = format env f e := by
  simp [failResp, h]

/-- the "handler error" log record carries the status of the response that is written -/
theorem log_status_is_response_status (env : Env) (cfg : Cfg) (ans : Bytes) (pos : Nat) (call : Call) :
    (failLog env cfg ans call).status = (fail env cfg ans .recorder pos call).status := by
  show (format env _ call.err).status = (failResp env _ call.err).status
  rw [format_status, failResp_status]

/-- what `fail` logs: always the `"handler error"` record first; for an encodable error on a recorder nothing else;
    for an error whose details do not encode exactly one more record (the encoding failure) -/
theorem fail_logs_shape (env : Env) (cfg : Cfg) (ans : Bytes) (call : Call) :
    (failLogs env cfg ans .recorder call).head? = some (failLog env cfg ans call) ∧
    (bodyEncodes call.err = true → failLogs env cfg ans .recorder call = [failLog env cfg ans call]) ∧
    (bodyEncodes call.err = false → failLogs env cfg ans .recorder call = [failLog env cfg ans call, encodeFailureRec]) := by
  refine ⟨rfl, ?_, ?_⟩ <;> intro h <;> simp [failLogs, h]

/-! ### formatter selection -/

theorem lemma_fallback_candidate (opts : List Opt) : fallbackFmt ∈ candidates opts := by
  induction opts with
  | nil => simp [candidates]
  | cons o rest ih => cases o <;> simp [candidates, ih]

/-- every formatter the configuration can hand out satisfies `Q` -/
def CfgIn (c : Cfg) (Q : Fmt → Prop) : Prop :=
  (∀ f, c.formatter = some f → Q f) ∧ (∀ kv ∈ c.formatters, Q kv.2)

theorem lemma_fold_in (opts : List Opt) (c : Cfg) (Q : Fmt → Prop) (h : CfgIn c Q)
    (hc : ∀ f ∈ candidates opts, Q f) : CfgIn (opts.foldl applyOpt c) Q := by
  induction opts generalizing c with
  | nil => exact h
  | cons o rest ih =>
    simp only [List.foldl_cons]
    apply ih
    · cases o with
      | formatter f =>
        refine ⟨?_, h.2⟩
        intro g hg
        simp only [applyOpt, Option.some.injEq] at hg
        subst hg
        exact hc _ (by simp [candidates])
      | formatters m =>
        refine ⟨by intro g hg; simp [applyOpt] at hg, ?_⟩
        intro kv hkv
        simp only [applyOpt] at hkv
        exact hc _ (by simp only [candidates, List.mem_append, List.mem_map]; left; exact ⟨kv, hkv, rfl⟩)
      | defaultFormat d => exact h
    · intro f hf
      apply hc
      cases o <;> simp [candidates, hf]

theorem lemma_lookup_in (x : Bytes) (m : List (Bytes × Fmt)) (f : Fmt)
    (h : (if x.isEmpty then none else lookupFmt x m) = some f) : ∃ kv ∈ m, kv.2 = f := by
  split at h
  · cases h
  · simp only [lookupFmt, Option.map_eq_some_iff] at h
    obtain ⟨kv, hf, rfl⟩ := h
    exact ⟨kv, List.mem_of_find?_eq_some hf, rfl⟩

theorem lemma_select_in (c : Cfg) (ans : Bytes) (Q : Fmt → Prop) (h : CfgIn c Q) (hf : Q fallbackFmt) :
    Q (selectFormatter c ans) := by
  unfold selectFormatter
  split
  · rename_i f hfm; exact h.1 f hfm
  · split
    · exact hf
    · split
      · rename_i f hl
        obtain ⟨kv, hkv, rfl⟩ := lemma_lookup_in _ _ _ hl
        exact h.2 kv hkv
      · split
        · rename_i f hl
          obtain ⟨kv, hkv, rfl⟩ := lemma_lookup_in _ _ _ hl
          exact h.2 kv hkv
        · exact hf

theorem lemma_cfg_candidates (opts : List Opt) : CfgIn (mkCfg opts) (· ∈ candidates opts) := by
  apply lemma_fold_in opts defaultCfg _ _ (fun f h => h)
  refine ⟨?_, by simp [defaultCfg]⟩
  intro f hf
  simp only [defaultCfg, Option.some.injEq] at hf
  subst hf
  exact lemma_fallback_candidate opts

/-- whatever the options and whatever `Accepts` answers, the formatter used is one the configuration
    mentions or the documented RFC 9457 fallback -/
theorem select_is_candidate (opts : List Opt) (ans : Bytes) : selectFormatter (mkCfg opts) ans ∈ candidates opts :=
  lemma_select_in _ _ (· ∈ candidates opts) (lemma_cfg_candidates opts) (lemma_fallback_candidate opts)

/-- the contract of `router.Context.Accepts` (C19's subject; the driver receives its real answers), a hypothesis of
    `fail_meets_spec` and proved of C19's model for plain offers (`lemma_accepts_contract`): for a well-formed Accept
    header, the answer is empty only if the client accepts none of the offers on which its most specific ranges agree
    (`acceptAmbiguous` false), and otherwise it is an offer the client accepts -/
def AcceptsContract (offers : List Bytes) (accept : Option Bytes) (ans : Bytes) : Prop :=
  ∀ ranges, parseAcceptHdr accept = some ranges →
    (ans = [] → ∀ o ∈ offers, acceptAmbiguous ranges o = false → clientAccepts ranges o = false) ∧
    (ans ≠ [] → ans ∈ offers ∧ clientAccepts ranges ans = true)

theorem lemma_negotiated (m : List (Bytes × Fmt)) (d : Bytes) (all : List Fmt) (accept : Option Bytes) (ans : Bytes)
    (hall : ∀ kv ∈ m, kv.2 ∈ all) (hfb : fallbackFmt ∈ all)
    (hc : AcceptsContract (m.map (·.1)) accept ans) :
    selectFormatter { formatter := none, formatters := m, defaultFormat := d } ans ∈ negotiated m d all accept := by
  -- wherever the oracle leaves the outcome open (`all`) `hgen` answers; otherwise the contract decides: an empty answer
  -- means no configured type is acceptable, so the default's formatter is taken, and a non-empty answer is a configured
  -- type the client accepts, whose formatter `selectFormatter` looks up
  have hgen : selectFormatter { formatter := none, formatters := m, defaultFormat := d } ans ∈ all :=
    lemma_select_in _ _ (· ∈ all) (And.intro (fun f hf => by cases hf) hall) hfb
  unfold negotiated
  cases hp : parseAcceptHdr accept with
  | none => exact hgen
  | some ranges =>
    obtain ⟨hc1, hc2⟩ := hc ranges hp
    simp only
    by_cases hpl : (m.any fun kv => !offerPlain kv.1) = true
    · rw [if_pos hpl]; exact hgen
    rw [if_neg hpl]
    by_cases hamb : (m.any fun kv => acceptAmbiguous ranges kv.1) = true
    · rw [if_pos hamb]; exact hgen
    rw [if_neg hamb]
    by_cases ha : ans = []
    · -- no offer is acceptable: the default decides
      have hacc : m.filter (fun kv => clientAccepts ranges kv.1) = [] := by
        rw [List.filter_eq_nil_iff]
        intro kv hkv
        have hna : acceptAmbiguous ranges kv.1 = false := by
          simp only [List.any_eq_true, not_exists, not_and, Bool.not_eq_true] at hamb
          exact hamb kv hkv
        simpa using hc1 ha kv.1 (List.mem_map.mpr ⟨kv, hkv, rfl⟩) hna
      simp only [hacc, List.isEmpty_nil, Bool.not_true, Bool.false_eq_true, if_false]
      by_cases hd : d.isEmpty = true
      · simp only [hd, if_true]; exact hgen
      · simp only [hd, Bool.false_eq_true, if_false]
        cases hfind : m.find? (fun kv => kv.1 == d) with
        | none => exact hgen
        | some kv =>
          have hm : m.isEmpty = false := by
            simpa using List.ne_nil_of_mem (List.mem_of_find?_eq_some hfind)
          have hd' : d.isEmpty = false := by simpa using hd
          have hsel : selectFormatter { formatter := none, formatters := m, defaultFormat := d } ans = kv.2 := by
            unfold selectFormatter
            simp [hm, ha, hd', lookupFmt, hfind]
          simp [hsel]
    · -- `Accepts` named an offer: it is configured and the client accepts it
      obtain ⟨hmem, hok⟩ := hc2 ha
      obtain ⟨kv0, hkv0, hk0⟩ := List.mem_map.mp hmem
      have hsome : (m.find? (fun kv => kv.1 == ans)).isSome := by
        rw [List.find?_isSome]
        exact ⟨kv0, hkv0, by simp [hk0]⟩
      obtain ⟨kv, hkv⟩ := Option.isSome_iff_exists.mp hsome
      have hkvm := List.mem_of_find?_eq_some hkv
      have hkvk : kv.1 = ans := by simpa using List.find?_some hkv
      have hm : m ≠ [] := List.ne_nil_of_mem hkvm
      have hsel : selectFormatter { formatter := none, formatters := m, defaultFormat := d } ans = kv.2 := by
        unfold selectFormatter
        have : m.isEmpty = false := by simpa using hm
        have ha' : ans.isEmpty = false := by simpa using ha
        simp [this, ha', lookupFmt, hkv]
      rw [hsel]
      have hin : kv ∈ m.filter (fun kv => clientAccepts ranges kv.1) := by
        rw [List.mem_filter]
        exact ⟨hkvm, by rw [hkvk]; exact hok⟩
      have hne : (m.filter (fun kv => clientAccepts ranges kv.1)).isEmpty = false :=
        List.isEmpty_eq_false_iff_exists_mem.mpr ⟨kv, hin⟩
      simp only [hne, Bool.not_false, if_true]
      exact List.mem_map.mpr ⟨kv, hin, rfl⟩


/-- Negotiation: for every configuration shape the statement names and every Accept header, the
    formatter used is one the statement admits — a configured media type the client accepts,
    otherwise the configured default (any other option combination: a configured formatter or the
    documented fallback). Hypothesis: the `Accepts` contract. -/
theorem negotiated_is_accepted_or_default (opts : List Opt) (accept : Option Bytes) (ans : Bytes)
    (hc : AcceptsContract ((mkCfg opts).formatters.map (·.1)) accept ans) :
    selectFormatter (mkCfg opts) ans ∈ allowed opts accept := by
  have hcand := select_is_candidate opts ans
  -- options that configure exactly the map `m` and the default `d`
  have neg : ∀ (m : List (Bytes × Fmt)) (d : Bytes) (os : List Opt),
      mkCfg os = { formatter := none, formatters := m, defaultFormat := d } →
      AcceptsContract ((mkCfg os).formatters.map (·.1)) accept ans →
      selectFormatter (mkCfg os) ans ∈ negotiated m d (candidates os) accept := by
    intro m d os hcfg hc
    have hall := (lemma_cfg_candidates os).2
    rw [hcfg] at hc hall ⊢
    exact lemma_negotiated m d _ accept ans hall (lemma_fallback_candidate _) hc
  unfold allowed
  split
  · simpa [candidates] using hcand
  · simp [mkCfg, applyOpt, defaultCfg, selectFormatter]
  · rename_i m
    exact neg m [] [.formatters m] rfl hc
  · rename_i m d
    exact neg m d [.formatters m, .defaultFormat d] rfl hc
  · rename_i d m
    exact neg m d [.defaultFormat d, .formatters m] rfl hc
  · exact hcand

/-! ### the `Accepts` contract is a theorem for C19's model of `router.Context.Accepts` -/

/-- a configured media type the declarative Accept oracle can read as it stands: `type/subtype` (or a documented
    short name), no parameters -/
def PlainOffer (o : Bytes) : Prop := (AcceptSpec.mediaOffer o).isSome = true ∧ mtCore o = o

theorem lemma_specOf_plain (o : Bytes) (h : PlainOffer o) : specOf o = C19.spOf true o := by
  unfold specOf C19.spOf C19.spMedia
  rw [h.2]
  rfl

theorem lemma_plain_ne_nil (o : Bytes) (h : PlainOffer o) : o ≠ [] := by
  rintro rfl
  exact absurd h.1 (by simpa [C19.offerOK] using C19.lemma_offerOK_nil true)

/-- the `Accepts` contract holds of the modelled `c.Accepts` (C19's model of router/accept.go, via C19's
    `lemma_admits`: the answer is an offer of maximal strictly positive quality, or empty when none has one): for
    every Accept header, every list of plain configured media types in any order, and every
    `strconv.ParseFloat` satisfying C19's `PFContract` -/
theorem lemma_accepts_contract (pf : Accept.PF) (hpf : C19.PFContract pf) (accept : Option Bytes) (offers : List Bytes)
    (hpl : ∀ o ∈ offers, PlainOffer o) : AcceptsContract offers accept (acceptsOf pf accept offers) := by
  intro rs hp
  -- an absent header reads as the empty one, which denotes no range
  have hr : AcceptSpec.ranges true (accept.getD []) = some rs := by cases accept <;> exact hp
  by_cases hrs : rs = []
  · subst hrs
    rw [show acceptsOf pf accept offers = offers.headD [] from
      C19.lemma_answer_no_ranges pf hpf { kind := .accept, header := accept.getD [], offers := offers } hr]
    -- no preference stated: the first offer is the answer, and a plain first offer meets both clauses
    cases offers with
    | nil => exact ⟨fun _ _ ho => absurd ho List.not_mem_nil, fun h => absurd rfl h⟩
    | cons o rest =>
      have ho : o ≠ [] := lemma_plain_ne_nil o (hpl o (by simp))
      exact ⟨fun h => absurd h ho, fun _ => ⟨by simp, by simp [clientAccepts]⟩⟩
  · have hrel : C19.Admits (C19.spOf true) rs offers (acceptsOf pf accept offers) :=
      C19.lemma_admits pf hpf { kind := .accept, header := accept.getD [], offers := offers } rs hr hrs
        fun o ho => (hpl o ho).1
    have hrse : rs.isEmpty = false := by simpa using hrs
    rcases hrel with ⟨h0, hall⟩ | ⟨hn, hmem, hq, _⟩
    · refine ⟨fun _ o ho hna => ?_, fun hn => absurd h0 hn⟩
      -- `Admits` gives `qmin = 0` for every offer; for one that is not ambiguous (`hna`) then `qmax = 0` too: not accepted
      have hmin := hall o ho
      rw [← lemma_specOf_plain o (hpl o ho)] at hmin
      simp only [acceptAmbiguous, hmin, beq_self_eq_true, Bool.and_true, decide_eq_false_iff_not, Nat.not_lt,
        Nat.le_zero_eq] at hna
      simp [clientAccepts, hrse, hna]
    · refine ⟨fun h0 => absurd h0 hn, fun _ => ⟨hmem, ?_⟩⟩
      rw [← lemma_specOf_plain _ (hpl _ hmem)] at hq
      simp [clientAccepts, hq]

/-- `lemma_accepts_contract` stated for a non-empty list of offers, which is what `selectFormatter` hands to `c.Accepts`
    (it negotiates only when the formatter map is non-empty); `hne` is not needed, and `failN_meets_spec` goes through
    `lemma_accepts_contract` itself -/
theorem accepts_contract_plain (pf : Accept.PF) (hpf : C19.PFContract pf) (accept : Option Bytes) (offers : List Bytes)
    (hne : offers ≠ []) (hpl : ∀ o ∈ offers, PlainOffer o) :
    AcceptsContract offers accept (acceptsOf pf accept offers) :=
  lemma_accepts_contract pf hpf accept offers hpl

/-! ### the response -/

theorem lemma_overWire (w : Wire) (status : Nat) (ct : Bytes) (body : Json)
    (h : w = .recorder ∨ bodylessStatus status = false) : overWire w status ct body = (status, ct, [body]) := by
  unfold overWire
  cases w with
  | recorder => rfl
  | server =>
    rcases h with h | h
    · cases h
    · simp only [bodylessStatus, Bool.or_eq_false_iff, Bool.and_eq_false_iff, decide_eq_false_iff_not,
        beq_eq_false_iff_ne] at h
      have h1 : ¬ (100 ≤ status ∧ status ≤ 199 ∧ status ≠ 101) := by omega
      have h2 : ¬ (status = 101 ∨ status = 204) := by omega
      have h3 : ¬ status = 304 := by omega
      simp [h1, h2, h3]

theorem lemma_range_le (pos : Nat) : ∀ i ∈ List.range (pos + 1), i ≤ pos :=
  fun _ hi => Nat.le_of_lt_succ (List.mem_range.mp hi)

theorem lemma_respOK_iff (f : Fmt) (pos : Nat) (call : Call) (o : Resp) :
    respOK f pos call o = true ↔
      o.status = docStatus f call ∧ headerMediaType o.contentType = mediaTypeOf f.kind ∧
      (∃ b, o.bodies = [b] ∧ shapeOK f.kind o.status b = true) ∧ o.aborted = true ∧ ∀ i ∈ o.entered, i ≤ pos := by
  simp only [respOK, Bool.and_eq_true, beq_iff_eq, List.all_eq_true, decide_eq_true_eq, and_assoc]
  rcases o.bodies with _ | ⟨b, _ | ⟨b', t⟩⟩ <;> simp

theorem lemma_fail_respOK (env : Env) (cfg : Cfg) (ans : Bytes) (w : Wire) (pos : Nat) (call : Call)
    (hw : w = .recorder ∨ bodylessStatus (docStatus (selectFormatter cfg ans) call) = false) :
    respOK (selectFormatter cfg ans) pos call (fail env cfg ans w pos call) = true := by
  have hst := failResp_status env (selectFormatter cfg ans) call.err
  rw [lemma_determine_doc] at hst
  unfold fail
  simp only
  rw [lemma_overWire w _ _ _ (by rw [hst]; exact hw)]
  exact (lemma_respOK_iff ..).2 ⟨hst, failResp_media_type .., ⟨_, rfl, failResp_shape ..⟩, rfl, lemma_range_le pos⟩

theorem lemma_specOK_nobody (opts : List Opt) (accept : Option Bytes) (pos : Nat) (call : Call) (o : Resp)
    (h : o.bodies = []) : specOK opts accept pos call o = false := by
  refine Bool.eq_false_iff.2 fun hs => ?_
  obtain ⟨f, _, hf⟩ := List.any_eq_true.1 hs
  obtain ⟨b, hb, _⟩ := ((lemma_respOK_iff f pos call o).1 hf).2.2.1
  rw [h] at hb
  cases hb

theorem lemma_specOK_media (opts : List Opt) (accept : Option Bytes) (pos : Nat) (call : Call) (o : Resp)
    (h : ∀ f ∈ allowed opts accept, mediaTypeOf f.kind ≠ headerMediaType o.contentType) :
    specOK opts accept pos call o = false := by
  refine Bool.eq_false_iff.2 fun hs => ?_
  obtain ⟨f, hf, hr⟩ := List.any_eq_true.1 hs
  exact h f hf ((lemma_respOK_iff f pos call o).1 hr).2.1.symm

/-- Main theorem (model satisfies the whole C06 oracle): for every error value, configuration,
    Accept header, chain position, helper — outside the recorded class K06c (a status that cannot carry
    a body, observed over a real connection) and assuming the `Accepts` contract. -/
theorem fail_meets_spec (env : Env) (opts : List Opt) (accept : Option Bytes) (ans : Bytes) (w : Wire)
    (pos : Nat) (call : Call)
    (hc : AcceptsContract ((mkCfg opts).formatters.map (·.1)) accept ans)
    (hk : knownK06c w opts accept call = false) :
    specOK opts accept pos call (fail env (mkCfg opts) ans w pos call) = true := by
  unfold specOK
  rw [List.any_eq_true]
  have hal := negotiated_is_accepted_or_default opts accept ans hc
  refine ⟨selectFormatter (mkCfg opts) ans, hal, ?_⟩
  apply lemma_fail_respOK
  unfold knownK06c at hk
  cases w with
  | recorder => exact Or.inl rfl
  | server =>
    right
    simp only [beq_self_eq_true, Bool.true_and, List.any_eq_false] at hk
    simpa using hk _ hal

theorem lemma_contract_nil (accept : Option Bytes) : AcceptsContract [] accept [] :=
  fun _ _ => ⟨fun _ _ ho => absurd ho List.not_mem_nil, fun hne => absurd rfl hne⟩

/-- the contract only speaks about membership: the order in which the map iteration produced the offers is
    immaterial -/
theorem lemma_contract_perm (o₁ o₂ : List Bytes) (h : o₁.Perm o₂) (accept : Option Bytes) (ans : Bytes)
    (hc : AcceptsContract o₁ accept ans) : AcceptsContract o₂ accept ans := by
  intro rs hp
  obtain ⟨h1, h2⟩ := hc rs hp
  exact ⟨fun ha o ho => h1 ha o (h.mem_iff.mpr ho), fun hn => ⟨h.mem_iff.mp (h2 hn).1, (h2 hn).2⟩⟩

/-- Main theorem with the negotiation inside the model — no assumption about `Accepts` left: for every
    error value, option list, Accept header, iteration order of the formatter map, wire, chain position and call,
    with plain configured media types and outside K06c, the response of `failN` (whose `c.Accepts` is C19's model of
    router/accept.go) satisfies the whole C06 oracle. `PFContract` is C19's contract for `strconv.ParseFloat`. -/
theorem failN_meets_spec (pf : Accept.PF) (hpf : C19.PFContract pf) (env : Env) (opts : List Opt)
    (accept : Option Bytes) (order : List Bytes) (w : Wire) (pos : Nat) (call : Call)
    (hperm : order.Perm ((mkCfg opts).formatters.map (·.1)))
    (hpl : ∀ o ∈ order, PlainOffer o)
    (hk : knownK06c w opts accept call = false) :
    specOK opts accept pos call (failN pf env (mkCfg opts) accept order w pos call) = true := by
  unfold failN
  apply fail_meets_spec env opts accept _ w pos call _ hk
  exact lemma_contract_perm order _ hperm _ _ (lemma_accepts_contract pf hpf accept order hpl)

/-- on a recorder (and for every status that may carry a body) there is no exclusion at all -/
theorem fail_meets_spec_recorder (env : Env) (opts : List Opt) (accept : Option Bytes) (ans : Bytes)
    (pos : Nat) (call : Call) (hc : AcceptsContract ((mkCfg opts).formatters.map (·.1)) accept ans) :
    specOK opts accept pos call (fail env (mkCfg opts) ans .recorder pos call) = true :=
  fail_meets_spec env opts accept ans .recorder pos call hc (by simp [knownK06c])

/-! ### the clauses of the statement, one by one -/

/-- HTTP status = the formatter's status = the documented status of the error -/
theorem status_agree (env : Env) (cfg : Cfg) (ans : Bytes) (pos : Nat) (call : Call) :
    let f := selectFormatter cfg ans
    (fail env cfg ans .recorder pos call).status = (format env f call.err).status ∧
    (format env f call.err).status = docStatus f call := by
  intro f
  refine ⟨?_, ?_⟩
  · show (failResp env f call.err).status = _
    rw [failResp_status, format_status]
  · rw [format_status, lemma_determine_doc]

/-- … and the status member of the body says the same (RFC 9457: the number; JSON:API: the decimal
    string in every element of `errors`) -/
theorem body_status_agrees (env : Env) (cfg : Cfg) (ans : Bytes) (pos : Nat) (call : Call) :
    let f := selectFormatter cfg ans
    ∃ b, (fail env cfg ans .recorder pos call).bodies = [b] ∧
      shapeOK f.kind (fail env cfg ans .recorder pos call).status b = true := by
  intro f
  exact ⟨(failResp env f call.err).body, rfl, failResp_shape env f call.err⟩

theorem lemma_fail_ct (env : Env) (cfg : Cfg) (ans : Bytes) (pos : Nat) (call : Call) :
    (fail env cfg ans .recorder pos call).contentType = ctOf (selectFormatter cfg ans).kind :=
  failResp_contentType env _ call.err

/-- Content-Type is the formatter's media type (K06 repaired) -/
theorem media_type_is_formatters (env : Env) (cfg : Cfg) (ans : Bytes) (pos : Nat) (call : Call) :
    let f := selectFormatter cfg ans
    (fail env cfg ans .recorder pos call).contentType = (format env f call.err).contentType ∧
    headerMediaType (fail env cfg ans .recorder pos call).contentType = mediaTypeOf f.kind := by
  intro f
  rw [lemma_fail_ct, format_contentType]
  exact ⟨rfl, lemma_ctOf_media _⟩

/-- the chain is aborted: the flag is set and no position after the failing one is entered -/
theorem fail_aborts (env : Env) (cfg : Cfg) (ans : Bytes) (w : Wire) (pos : Nat) (call : Call) :
    (fail env cfg ans w pos call).aborted = true ∧ ∀ i ∈ (fail env cfg ans w pos call).entered, i ≤ pos := by
  exact ⟨rfl, lemma_range_le pos⟩

/-- even when nothing can be encoded (a custom formatter whose body never encodes) the chain is aborted -/
theorem unencodable_formatter_aborts (pos : Nat) : abortOK pos (failUnencodable pos) = true := by
  simp only [abortOK, failUnencodable, Bool.true_and, List.all_eq_true, decide_eq_true_eq]
  exact lemma_range_le pos

/-- a Content-Type that was already in the header map when the handler failed, or a chain that was
    already aborted, plays no part: the response is the one `fail` writes (`http.Header.Set` replaces,
    `Abort` is idempotent) -/
theorem earlier_content_type_replaced (pre : Option Bytes) (ab cd : Bool) (env : Env) (cfg : Cfg) (ans : Bytes)
    (w : Wire) (pos : Nat) (call : Call) : failH pre ab cd env cfg ans w pos call = fail env cfg ans w pos call := rfl

/-- exactly one response body is written -/
theorem exactly_one_response (env : Env) (cfg : Cfg) (ans : Bytes) (pos : Nat) (call : Call) :
    (fail env cfg ans .recorder pos call).bodies.length = 1 := rfl

/-! ### non-vacuity and as-shipped witnesses -/

def wEnv : Env := { path := "/f".toList, stText := fun n => if n = 404 then "Not Found".toList else [] }
def wBoom : Err := .new "boom".toList
def wNeg : List Opt :=
  [.formatters [("application/json".toList, { kind := .simple }), ("application/vnd.api+json".toList, { kind := .jsonapi })],
   .defaultFormat "application/json".toList]
def wCall : Call := .helper .notFound (some wBoom)

/-- the hypothesis `AcceptsContract` of `fail_meets_spec` is met by a non-trivial input: negotiated configuration,
    `Accept: application/vnd.api+json`, `Accepts` answering that type -/
example : AcceptsContract ((mkCfg wNeg).formatters.map (·.1)) (some "application/vnd.api+json".toList)
    "application/vnd.api+json".toList := by
  intro ranges h
  have : ranges = [{ value := "application/vnd.api+json".toList, q := 1000 }] := by
    have h' : parseAcceptHdr (some "application/vnd.api+json".toList) =
        some [{ value := "application/vnd.api+json".toList, q := 1000 }] := by
      repeat rewrite [String.toList_ofList]
      decide +kernel
    rw [h'] at h
    exact (Option.some.inj h).symm
  subst this
  dsimp only [wNeg]
  repeat rewrite [String.toList_ofList]
  exact And.intro (fun h => absurd h (by decide +kernel)) (fun _ => by decide +kernel)

theorem lemma_wNeg_select : (selectFormatter (mkCfg wNeg) "application/vnd.api+json".toList).kind = .jsonapi := by
  dsimp only [wNeg]; repeat rewrite [String.toList_ofList]
  decide +kernel

example : (fail wEnv (mkCfg wNeg) "application/vnd.api+json".toList .recorder 1 wCall).contentType = ctJSONAPI := by
  rw [lemma_fail_ct, lemma_wNeg_select]
  rfl
example : (fail wEnv (mkCfg wNeg) "application/vnd.api+json".toList .recorder 1 wCall).status = 404 := by
  dsimp only [wEnv, wNeg, wCall, wBoom]; repeat rewrite [String.toList_ofList]
  decide +kernel
example : knownK06c .server [] none (.failStatus 404 none) = false := by decide +kernel

-- non-vacuity of `failN_meets_spec`: plain offers in map order, `PFContract`, and what the modelled `Accepts` answers
def wPF : Accept.PF := fun raw => if raw = ['0', '.'] then some 0 else if raw = ['1', '.'] then some 1000000 else none
example : C19.PFContract wPF := ⟨by decide, by decide⟩
example : PlainOffer "application/json".toList ∧ PlainOffer "application/vnd.api+json".toList := by
  unfold PlainOffer; repeat rewrite [String.toList_ofList]
  decide +kernel
example : acceptsOf wPF (some "application/json;q=0, */*;q=0.5".toList) ["application/json".toList, "application/vnd.api+json".toList]
    = "application/vnd.api+json".toList := by
  repeat rewrite [String.toList_ofList]
  decide +kernel
example : (failN wPF wEnv (mkCfg wNeg) (some "application/json;q=0, */*;q=0.5".toList)
    ["application/vnd.api+json".toList, "application/json".toList] .recorder 1 wCall).contentType = ctJSONAPI := by
  rw [failN, lemma_fail_ct]
  refine (congrArg ctOf ?_).trans (rfl : ctOf .jsonapi = ctJSONAPI)
  dsimp only [wNeg]; repeat rewrite [String.toList_ofList]
  decide +kernel

/-- K06, as shipped: `NotFound(err)` with the default RFC 9457 formatter answered
    `Content-Type: application/json; charset=utf-8` -/
theorem asis_media_type_witness :
    headerMediaType (failAsIs wEnv (mkCfgAsIs []) [] .recorder 1 wCall).contentType ≠ mediaTypeOf .rfc9457 ∧
    specOK [] none 1 wCall (failAsIs wEnv (mkCfgAsIs []) [] .recorder 1 wCall) = false := by
  -- as shipped the header is `ctSimple` whatever the formatter, which has the media type of the Simple formatter
  have hk : headerMediaType (failAsIs wEnv (mkCfgAsIs []) [] .recorder 1 wCall).contentType = mediaTypeOf .simple := by
    simp only [failAsIs, overWire]
    exact lemma_ctOf_media .simple
  have hne : mediaTypeOf .simple ≠ mediaTypeOf .rfc9457 := by
    dsimp only [mediaTypeOf]; repeat rewrite [String.toList_ofList]
    decide +kernel
  rw [hk]
  refine ⟨hne, lemma_specOK_media _ _ _ _ _ fun f hf => ?_⟩
  rw [List.mem_singleton.1 hf, hk]
  exact hne.symm

/-- K06b, as shipped: with a negotiated map {application/json: Simple, application/vnd.api+json:
    JSON:API}, default application/json and `Accept: application/vnd.api+json`, the built-in RFC 9457
    formatter answered — negotiation was never reached -/
theorem asis_negotiation_witness :
    (selectFormatter (mkCfgAsIs wNeg) "application/vnd.api+json".toList).kind = .rfc9457 ∧
    (selectFormatter (mkCfg wNeg) "application/vnd.api+json".toList).kind = .jsonapi ∧
    specOK wNeg (some "application/vnd.api+json".toList) 1 wCall
      (fail wEnv (mkCfgAsIs wNeg) "application/vnd.api+json".toList .recorder 1 wCall) = false := by
  have h1 : (selectFormatter (mkCfgAsIs wNeg) "application/vnd.api+json".toList).kind = .rfc9457 := by decide +kernel
  refine ⟨h1, lemma_wNeg_select, lemma_specOK_media _ _ _ _ _ fun f hf => ?_⟩
  -- the response carries the RFC 9457 media type, the oracle admits the JSON:API formatter only
  have hf' : ((allowed wNeg (some "application/vnd.api+json".toList)).all fun f => f.kind == .jsonapi) = true := by
    dsimp only [wNeg]; repeat rewrite [String.toList_ofList]
    decide +kernel
  rw [(media_type_is_formatters ..).2, h1, eq_of_beq (List.all_eq_true.1 hf' f hf)]
  dsimp only [mediaTypeOf]; repeat rewrite [String.toList_ofList]
  decide +kernel

def wNaN : Err := .node { st := some 403, det := some .null, detBad := true } (.own "forbidden".toList) []

/-- K06d, as shipped: `Fail(err)` where `err.Details()` cannot be encoded wrote nothing — the client saw
    the implicit 200 with an empty body; the repaired `fail` answers 403 with the error text alone -/
theorem unencodable_details_asis_witness :
    bodyEncodes wNaN = false ∧
    specOK [] none 1 (.fail wNaN) (failAsIsK06d wEnv (mkCfg []) [] .recorder 1 (.fail wNaN)) = false ∧
    (fail wEnv (mkCfg []) [] .recorder 1 (.fail wNaN)).status = 403 ∧
    specOK [] none 1 (.fail wNaN) (fail wEnv (mkCfg []) [] .recorder 1 (.fail wNaN)) = true :=
  -- as shipped no body was written; the repaired `fail` is an instance of the main theorem
  ⟨by decide +kernel, lemma_specOK_nobody _ _ _ _ _ (by decide +kernel), by decide +kernel,
    fail_meets_spec_recorder wEnv [] none [] 1 (.fail wNaN) (lemma_contract_nil none)⟩

/-- K06c (recorded): over a real connection `FailStatus(204, err)` has no body and `FailStatus(100, err)`
    goes out as 200 -/
theorem bodyless_status_witness :
    (fail wEnv (mkCfg []) [] .server 1 (.failStatus 204 (some wBoom))).bodies = [] ∧
    (fail wEnv (mkCfg []) [] .server 1 (.failStatus 100 (some wBoom))).status = 200 ∧
    specOK [] none 1 (.failStatus 204 (some wBoom)) (fail wEnv (mkCfg []) [] .server 1 (.failStatus 204 (some wBoom))) = false ∧
    knownK06c .server [] none (.failStatus 204 (some wBoom)) = true := by
  have h1 : (fail wEnv (mkCfg []) [] .server 1 (.failStatus 204 (some wBoom))).bodies = [] := by decide +kernel
  exact ⟨h1, by decide +kernel, lemma_specOK_nobody _ _ _ _ _ h1, by decide +kernel⟩


/-- the statement without any exclusion (kept visible): it does *not* hold of the code as it is, because
    of K06c — `fail_meets_spec` is the partial theorem `¬ K06c → model satisfies spec` -/
def FullStatement : Prop :=
  ∀ (env : Env) (opts : List Opt) (accept : Option Bytes) (ans : Bytes) (w : Wire) (pos : Nat) (call : Call),
    AcceptsContract ((mkCfg opts).formatters.map (·.1)) accept ans →
    specOK opts accept pos call (fail env (mkCfg opts) ans w pos call) = true

theorem full_statement_needs_exclusion : ¬ FullStatement := fun h =>
  -- the 204 of `bodyless_status_witness` is an instance
  Bool.false_ne_true (bodyless_status_witness.2.2.1.symm.trans
    (h wEnv [] none [] .server 1 (.failStatus 204 (some wBoom)) (lemma_contract_nil none)))

end Rivaas.C06
