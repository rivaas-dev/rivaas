import Rivaas.Model.RouteOpts
import Rivaas.Spec.Chain
import Rivaas.Spec.Compose
import Rivaas.Lemmas.ChainStep
import Rivaas.Lemmas.ChainSim
import Rivaas.Lemmas.ComposeSound
import Rivaas.Lemmas.ComposeMount
import Rivaas.Model.ComposeAsIs
/-
C02 — Handler chains run in composition order, once per position, and stop on abort.

The clauses about chain *execution* are safety properties, hence prefix closed: they are proved as
invariants of the small-step machine `Rivaas.Chain.step` that hold after **every** number of steps
(`run cfg progs n (start cfg progs)` for all `n`), for every chain, every handler program over the
whole act alphabet (Next, Next twice, Abort, cancel, write, return, nested calls, panics) and
both settings of the cancellation check. No fuel caveat, no termination argument.

The clauses about chain *composition* compare the model of the configuration API (`Model/Compose.lean`)
with the level oracle of `Spec/Compose.lean`, for all well-formed scripts: `compose_admitted_mounts`. Last, the
per-route options of the app layer (`Model/RouteOpts.lean`): however they are nested, the chain is the listed handlers
in the order written (`route_options_in_listed_order`).
-/
namespace Rivaas.C02
open Rivaas.Chain

def entersOf (t : List Ev) : List Nat :=
  t.filterMap fun e => match e with | .enter k => some k | _ => none

theorem lemma_entersOf_append (a b : List Ev) : entersOf (a ++ b) = entersOf a ++ entersOf b := by
  simp [entersOf, List.filterMap_append]

@[simp] theorem lemma_entersOf_exit (t : List Ev) (k : Nat) : entersOf (t ++ [Ev.exit k]) = entersOf t := by
  simp [entersOf]

@[simp] theorem lemma_entersOf_unwound (t : List Ev) (k : Nat) : entersOf (t ++ [Ev.unwound k]) = entersOf t := by
  simp [entersOf]

@[simp] theorem lemma_entersOf_enter (t : List Ev) (k : Nat) : entersOf (t ++ [Ev.enter k]) = entersOf t ++ [k] := by
  simp [entersOf]

@[simp] theorem lemma_entersOf_pop (t : List Ev) (k : Nat) (fk : FK) : entersOf (t ++ popEv k fk) = entersOf t := by
  cases fk <;> simp [popEv]

@[simp] theorem lemma_write_trace (s : St) (c : Chunk) : (s.write c).trace = s.trace := rfl
@[simp] theorem lemma_write_idx (s : St) (c : Chunk) : (s.write c).idx = s.idx := rfl
@[simp] theorem lemma_write_stack (s : St) (c : Chunk) : (s.write c).stack = s.stack := rfl
@[simp] theorem lemma_write_aborted (s : St) (c : Chunk) : (s.write c).aborted = s.aborted := rfl
@[simp] theorem lemma_write_cancelled (s : St) (c : Chunk) : (s.write c).cancelled = s.cancelled := rfl

theorem lemma_unwind_enters (cfg : Cfg) (v : Nat) (st : List Frame) (s : St) :
    entersOf (unwind cfg v st s).trace = entersOf s.trace ∧ (unwind cfg v st s).idx = s.idx := by
  fun_induction unwind cfg v st s with
  | case1 s => exact ⟨rfl, rfl⟩               -- no frame left: the panic leaves `ServeHTTP`
  | case2 rest s ih => exact ih                -- a `Next` loop
  | case3 k acts rest s ih => exact ih         -- a nested function
  | case4 k acts rest s ih => simpa using ih   -- a plain handler: `unwound k`
  | case5 k acts rest s => exact ⟨rfl, rfl⟩   -- a recovering handler: `handlePanic` writes, the unwinding ends

/-! ### every position is entered at most once -/

/-- enters are strictly increasing and bounded by the cursor `c.index` -/
def Inv (s : St) : Prop :=
  (entersOf s.trace).Pairwise (· < ·) ∧ ∀ k ∈ entersOf s.trace, (k : Int) ≤ s.idx

/-- positions of the handler activations on the machine stack, innermost first -/
def openFrames : List Frame → List Nat
  | [] => []
  | Frame.fn _ .sub _ :: rest => openFrames rest
  | Frame.fn k _ _ :: rest => k :: openFrames rest
  | Frame.loop :: rest => openFrames rest

theorem lemma_openFrames_adv {stk st : List Frame} (h : Advanced stk st) : openFrames stk = openFrames st := by
  obtain ⟨k, fk, a, as, rest, rfl, rfl⟩ := h
  cases fk <;> rfl

theorem lemma_loopHead_inv (cfg : Cfg) (progs : List Prog) (s : St)
    (h1 : (entersOf s.trace).Pairwise (· < ·)) (h2 : ∀ k ∈ entersOf s.trace, (k : Int) < s.idx) :
    Inv (loopHead cfg progs s) := by
  rcases loopHead_cases cfg progs s with ⟨_, he⟩ | ⟨h0, _, _, p, _, he⟩
  · rw [he]; exact ⟨h1, fun k hk => Int.le_of_lt (h2 k hk)⟩
  · rw [he]
    constructor
    · show (entersOf (s.trace ++ [Ev.enter s.idx.toNat])).Pairwise (· < ·)
      rw [lemma_entersOf_enter, List.pairwise_append]
      refine ⟨h1, List.pairwise_singleton _ _, ?_⟩
      intro a ha b hb
      cases List.mem_singleton.mp hb
      have := h2 a ha
      omega
    · intro k hk
      have hk' : k ∈ entersOf s.trace ++ [s.idx.toNat] := by simpa using hk
      rcases List.mem_append.mp hk' with h | h
      · exact Int.le_of_lt (h2 k h)
      · cases List.mem_singleton.mp h; show ((s.idx.toNat : Nat) : Int) ≤ s.idx; omega

theorem lemma_step_inv (cfg : Cfg) (progs : List Prog) (s : St) (h : Inv s) : Inv (step cfg progs s) := by
  obtain ⟨h1, h2⟩ := h
  apply step_cases
  · exact ⟨h1, h2⟩
  · intros; exact ⟨by simpa using h1, by simpa using h2⟩
  · intros
    apply lemma_loopHead_inv
    · exact h1
    · intro k hk; have := h2 k hk; simp; omega
  · intros; rw [Inv, (lemma_unwind_enters _ _ _ _).1, (lemma_unwind_enters _ _ _ _).2]; exact ⟨h1, h2⟩
  · intro _ s' _ _ ht hi _ _; rw [Inv, ht, hi]; exact ⟨h1, h2⟩

theorem lemma_start_inv (cfg : Cfg) (progs : List Prog) : Inv (start cfg progs) := by
  unfold start callNext
  apply lemma_loopHead_inv <;> simp [init, entersOf]

theorem lemma_run_inv (cfg : Cfg) (progs : List Prog) (n : Nat) : Inv (run cfg progs n (start cfg progs)) :=
  run_ind cfg progs (lemma_step_inv cfg progs) n _ (lemma_start_inv cfg progs)

/-- **Once per position.** On every prefix of every execution of every chain, no position is
    entered twice — however often handlers call `Next()`, also from nested calls, also after
    `Abort()`, also when panics unwind through the chain. -/
theorem enter_at_most_once (cfg : Cfg) (progs : List Prog) (n : Nat) :
    (entersOf (run cfg progs n (start cfg progs)).trace).Nodup := by
  exact (lemma_run_inv cfg progs n).1.imp Nat.ne_of_lt

/-- **Composition order.** Positions are entered in increasing order: position `j` never starts
    before position `i < j` has started (and by `enter_at_most_once` never again afterwards). -/
theorem enters_increasing (cfg : Cfg) (progs : List Prog) (n : Nat) :
    (entersOf (run cfg progs n (start cfg progs)).trace).Pairwise (· < ·) :=
  (lemma_run_inv cfg progs n).1

/-! ### nothing starts after `Abort()` — or after the request context was cancelled while the
    cancellation check is on -/

theorem lemma_unwind_stopped (cfg : Cfg) (v : Nat) (st : List Frame) (s : St) (h : s.stopped cfg = true) :
    (unwind cfg v st s).stopped cfg = true := by
  fun_induction unwind cfg v st s with
  | case1 s => exact h                         -- no frame left
  | case2 rest s ih => exact ih h              -- `Next` loop
  | case3 k acts rest s ih => exact ih h       -- nested function
  | case4 k acts rest s ih => exact ih h       -- plain handler
  | case5 k acts rest s =>                     -- recovering handler: `handlePanic` can only set `aborted`
    simp only [St.stopped, lemma_write_aborted, lemma_write_cancelled, Bool.or_eq_true] at h ⊢
    exact h.imp_left .inl

theorem lemma_loopHead_stopped (cfg : Cfg) (progs : List Prog) (s : St) (h : s.stopped cfg = true) :
    (loopHead cfg progs s).stopped cfg = true ∧ entersOf (loopHead cfg progs s).trace = entersOf s.trace := by
  rcases loopHead_cases cfg progs s with ⟨_, he⟩ | ⟨_, _, hs, _⟩
  · rw [he]; exact ⟨h, rfl⟩
  · rw [h] at hs; cases hs

theorem lemma_step_stopped (cfg : Cfg) (progs : List Prog) (s : St) (h : s.stopped cfg = true) :
    (step cfg progs s).stopped cfg = true ∧ entersOf (step cfg progs s).trace = entersOf s.trace := by
  apply step_cases (P := fun s' => s'.stopped cfg = true ∧ entersOf s'.trace = entersOf s.trace)
  · exact ⟨h, rfl⟩
  · intros; exact ⟨h, by simp⟩
  · intros; exact lemma_loopHead_stopped cfg progs _ h
  · intros; exact ⟨lemma_unwind_stopped cfg _ _ s h, (lemma_unwind_enters cfg _ _ s).1⟩
  · intro _ s' _ _ ht _ hs _; rw [ht]; exact ⟨hs h, rfl⟩

/-- **Stop on abort / cancel.** Once the chain is aborted — or the request context is cancelled
    while cancellation checks are on — no position that has not started is ever started: the
    set of entered positions is frozen for every number of further steps, from *any* machine
    state (in particular from every reachable one). -/
theorem no_start_after_stop (cfg : Cfg) (progs : List Prog) (m : Nat) (s : St) (h : s.stopped cfg = true) :
    entersOf (run cfg progs m s).trace = entersOf s.trace := by
  refine (run_ind cfg progs (P := fun s' => s'.stopped cfg = true ∧ entersOf s'.trace = entersOf s.trace)
    (fun s' hs' => ?_) m s ⟨h, rfl⟩).2
  obtain ⟨h1, h2⟩ := lemma_step_stopped cfg progs s' hs'.1
  exact ⟨h1, h2.trans hs'.2⟩

/-- the two halves of the statement's wording, as instances of `no_start_after_stop` -/
theorem no_start_after_abort (cfg : Cfg) (progs : List Prog) (m : Nat) (s : St) (h : s.aborted = true) :
    entersOf (run cfg progs m s).trace = entersOf s.trace :=
  no_start_after_stop cfg progs m s (by simp [St.stopped, h])

theorem no_start_after_cancel (cfg : Cfg) (progs : List Prog) (m : Nat) (s : St)
    (hc : cfg.check = true) (h : s.cancelled = true) :
    entersOf (run cfg progs m s).trace = entersOf s.trace :=
  no_start_after_stop cfg progs m s (by simp [St.stopped, h, hc])

/-- non-vacuity: the hypothesis is reachable — `[Abort; Next]` at position 1 of a 3-chain leaves the
    machine aborted after three steps, positions 0 and 1 entered, and position 2 is never entered -/
example :
    let progs : List Prog := [{ acts := [.next] }, { acts := [.abort, .next] }, { acts := [.write] }]
    (run {} progs 3 (start {} progs)).aborted = true ∧
    entersOf (run {} progs 3 (start {} progs)).trace = [0, 1] ∧
    entersOf (run {} progs 30 (start {} progs)).trace = [0, 1] := by decide +kernel

/-- non-vacuity for cancellation, and the check really matters: with the check off the chain goes on -/
example :
    let progs : List Prog := [{ acts := [.cancel, .next] }, { acts := [.write] }]
    entersOf (run { check := true } progs 30 (start { check := true } progs)).trace = [0] ∧
    entersOf (run { check := false } progs 30 (start { check := false } progs)).trace = [0, 1] := by decide +kernel

/-! ### code after `Next()` runs after all later positions have returned, in reverse order -/

/-- replay a trace against a bracket stack: `enter` opens, `exit` / `unwound` must close the
    innermost open position -/
def replay : List Ev → List Nat → Option (List Nat)
  | [], st => some st
  | Ev.enter k :: t, st => replay t (k :: st)
  | Ev.exit k :: t, st => match st with
    | k' :: st' => if k = k' then replay t st' else none
    | [] => none
  | Ev.unwound k :: t, st => match st with
    | k' :: st' => if k = k' then replay t st' else none
    | [] => none

theorem lemma_replay_append (a b : List Ev) (st : List Nat) :
    replay (a ++ b) st = (replay a st).bind (replay b) := by
  fun_induction replay a st <;> simp [replay, *]

def Bracketed (s : St) : Prop := replay s.trace [] = some (openFrames s.stack)

theorem lemma_openFrames_prog (k : Nat) (p : Prog) (a : List Act) (rest : List Frame) :
    openFrames (Frame.fn k p.fk a :: rest) = k :: openFrames rest := by
  unfold Prog.fk; split <;> rfl

theorem lemma_loopHead_bracketed (cfg : Cfg) (progs : List Prog) (s : St) (h : Bracketed s) :
    Bracketed (loopHead cfg progs s) := by
  rcases loopHead_cases cfg progs s with ⟨_, he⟩ | ⟨_, _, _, p, _, he⟩
  · rw [he]; exact h
  · rw [he]
    show replay (s.trace ++ [Ev.enter s.idx.toNat]) [] =
      some (openFrames (Frame.fn _ p.fk p.acts :: Frame.loop :: s.stack))
    rw [lemma_replay_append, show replay s.trace [] = _ from h, lemma_openFrames_prog]
    rfl

theorem lemma_unwind_bracketed (cfg : Cfg) (v : Nat) (st : List Frame) (s : St)
    (h : replay s.trace [] = some (openFrames st)) : Bracketed (unwind cfg v st s) := by
  fun_induction unwind cfg v st s with
  | case1 s => exact h                         -- no frame left
  | case2 rest s ih => exact ih h              -- `Next` loop: no bracket
  | case3 k acts rest s ih => exact ih h       -- nested function: no bracket
  | case4 k acts rest s ih =>                  -- plain handler: `unwound k` closes its bracket, the innermost
    apply ih
    simp only [lemma_replay_append, h, openFrames, Option.bind_some, replay, if_true]
  | case5 k acts rest s => exact h             -- recovering handler: its frame stays, the bracket stays open

theorem lemma_openFrames_pop {k : Nat} {fk : FK} {acts : List Act} {rest : List Frame} {t : List Ev}
    (h : replay t [] = some (openFrames (Frame.fn k fk acts :: rest))) :
    replay (t ++ popEv k fk) [] = some (openFrames rest) := by
  rw [lemma_replay_append, h]
  -- a nested function leaves no event; a handler's `exit k` meets its own `k` on top
  cases fk with
  | sub => rfl
  | plain | recover => exact if_pos rfl

theorem lemma_step_bracketed (cfg : Cfg) (progs : List Prog) (s : St) (h : Bracketed s) :
    Bracketed (step cfg progs s) := by
  unfold Bracketed at h
  apply step_cases
  · exact h
  · intro k fk acts rest hst; rw [hst] at h; exact lemma_openFrames_pop h
  · intro st hst
    apply lemma_loopHead_bracketed
    rcases hst with hst | hst
    · rw [hst] at h; exact h
    · exact h.trans (congrArg some (lemma_openFrames_adv hst))
  · intro v st hst; exact lemma_unwind_bracketed cfg v st s (h.trans (congrArg some (lemma_openFrames_adv hst)))
  · intro st s' hst hst' ht _ _ _
    have h' := h.trans (congrArg some (lemma_openFrames_adv hst))
    -- a nested function is no handler activation
    rcases hst' with e | ⟨k, b, e⟩ <;> rw [Bracketed, ht, e] <;> exact h'

/-- **Reverse exits.** Every prefix of every execution is a prefix of a well-bracketed word whose
    open brackets are exactly the handler activations on the stack: a handler's `exit` (the code
    it placed after `Next()`) comes after the `exit`s of all positions entered after it — in
    reverse order of the enters — and when the chain has finished (`stack = []`) the trace is
    balanced. A panic closes the brackets it unwinds through (`unwound`) in the same order. -/
theorem exits_reverse (cfg : Cfg) (progs : List Prog) (n : Nat) :
    replay (run cfg progs n (start cfg progs)).trace [] =
      some (openFrames (run cfg progs n (start cfg progs)).stack) := by
  have h0 : Bracketed (start cfg progs) := by
    unfold start callNext
    apply lemma_loopHead_bracketed
    simp [Bracketed, init, replay, openFrames]
  exact run_ind cfg progs (lemma_step_bracketed cfg progs) n _ h0

theorem finished_balanced (cfg : Cfg) (progs : List Prog) (n : Nat)
    (h : (run cfg progs n (start cfg progs)).stack = []) :
    replay (run cfg progs n (start cfg progs)).trace [] = some [] := by
  rw [exits_reverse, h]; rfl

/-- non-vacuity: a chain that finishes, with nested `Next`, and its balanced trace -/
example :
    let progs : List Prog := [{ acts := [.next, .write] }, { acts := [.call [.next, .ret], .next] }, { acts := [] }]
    (run {} progs 30 (start {} progs)).stack = [] ∧
    (run {} progs 30 (start {} progs)).trace = [.enter 0, .enter 1, .enter 2, .exit 2, .exit 1, .exit 0] := by decide +kernel

/-! ### the machine computes exactly what the reference interpreter says -/

/-- **Machine trace = reference interpreter** (the statement's quantifier, as a theorem about the
    model). For every chain and every handler program over the whole alphabet — including panics,
    with the repaired recovery — the machine halts, and its final trace, abort/cancel flags,
    status, body and escaped panic are exactly those of the suffix-recursive reference
    interpreter `Rivaas.Chain.ref`, which has no index, no stack and no fuel. -/
theorem run_eq_ref (cfg : Cfg) (hab : cfg.abortOnRecover = true) (progs : List Prog) :
    ∃ n, (run cfg progs n (start cfg progs)).stack = [] ∧
         proj (run cfg progs n (start cfg progs)) = (ref cfg.check progs).1 ∧
         (run cfg progs n (start cfg progs)).escaped = (ref cfg.check progs).2 := by
  -- `start cfg progs` is the loop head at index 0 under the empty stack, by definition
  have h : Reaches cfg progs (start cfg progs) _ := chainSim cfg progs hab progs 0 (by simp) {} []
  unfold ref
  revert h
  rcases refChain cfg.check 0 progs {} with ⟨r', _ | v⟩
  · rintro ⟨n, i', h1, _⟩
    exact ⟨n, by rw [h1]; rfl, by rw [h1]; rfl, by rw [h1]; rfl⟩
  · rintro ⟨n, i', stk, h1⟩
    exact ⟨n, by rw [h1]; rfl, by rw [h1]; rfl, by rw [h1]; rfl⟩

/-- every request terminates: the machine reaches the empty stack -/
theorem halts (cfg : Cfg) (hab : cfg.abortOnRecover = true) (progs : List Prog) :
    ∃ n, (run cfg progs n (start cfg progs)).stack = [] := by
  obtain ⟨n, h, _⟩ := run_eq_ref cfg hab progs
  exact ⟨n, h⟩

/-- what the driver evaluates (`exec` = `run` with the fuel bound `fuel progs`): whenever it ends
    with an empty stack — which the driver checks on every case — its result *is* the reference
    interpreter's, so fuel can never make a case agree for the wrong reason. -/
theorem exec_eq_ref (cfg : Cfg) (hab : cfg.abortOnRecover = true) (progs : List Prog)
    (hfin : (exec cfg progs).stack = []) :
    proj (exec cfg progs) = (ref cfg.check progs).1 ∧ (exec cfg progs).escaped = (ref cfg.check progs).2 := by
  obtain ⟨n, h1, h2, h3⟩ := run_eq_ref cfg hab progs
  have heq : exec cfg progs = run cfg progs n (start cfg progs) := by
    unfold exec at *
    rcases Nat.le_total n (fuel progs) with hle | hle
    · obtain ⟨d, hd⟩ := Nat.exists_eq_add_of_le hle
      rw [hd, run_add, run_halted cfg progs d _ h1]
    · obtain ⟨d, hd⟩ := Nat.exists_eq_add_of_le hle
      rw [hd, run_add, run_halted cfg progs d _ hfin]
  rw [heq]
  exact ⟨h2, h3⟩

/-- non-vacuity of `exec_eq_ref`'s hypothesis, on a chain that exercises Next twice, nested Next,
    Abort after Next and a panic caught by an inner recovering handler -/
example :
    let progs : List Prog := [{ acts := [.next, .next, .abort] }, { recovers := true, acts := [.call [.next, .ret], .write] },
                             { acts := [.write, .panic 1] }, { acts := [.write] }]
    (exec {} progs).stack = [] ∧
    (exec {} progs).trace = [.enter 0, .enter 1, .enter 2, .unwound 2, .exit 1, .exit 0] ∧
    (exec {} progs).body = [.h 2, .rec500] := by decide +kernel

/-! ### composition: the recorded and the repaired defect -/

open Rivaas.Compose in
/-- K02 as shipped (`Rivaas.ComposeAsIs`: `app.Group` kept the caller's slice): two sibling groups
    built from one slice `mws[:1]` with capacity 2, `Use(2)` on the first, `Use(3)` on the second —
    the first group's route runs `[1, 3, 4]`: the *sibling's* middleware 3 instead of its own 2.
    The repaired model (`compose`) gives `[1, 2, 4]`, and only that is admitted by the oracle.
    Replayed on the real code by corpus/C02/witnesses.case. -/
theorem asis_sibling_alias :
    let script : List Op := [.agroup 1 [1] 1 2, .agroup 2 [1] 1 2, .aguse 0 [2], .aguse 1 [3],
                             .aroute (.agroup 0) 3 [] 4 [], .aroute (.agroup 1) 4 [] 5 []]
    let tg : Target := { mounts := [], route := 4 }
    ComposeAsIs.composeAsIs script [1, 3] = some [1, 3, 4] ∧
    compose script none [1, 3] = some [1, 2, 4] ∧
    chainOK script tg [1, 3, 4] = false ∧ chainOK script tg [1, 2, 4] = true := by decide +kernel

open Rivaas.Compose in
/-- K02b (fixed): `sub.Warmup()` before `Mount` — as shipped `Mount` read the sub-router's tree nodes, which
    already carry its middleware 2, and prepended it again: `[1, 2, 2, 3]`; the oracle rejects that chain and
    admits `[1, 2, 3]`, which is what the repaired `Mount` (from the `route.Route` objects) composes. The
    classifier `dK02b` names the inputs on which the as-shipped code failed. -/
theorem warmed_mount_doubles_witness :
    let script : List Op := [.newRouter, .use 0 [1], .use 1 [2], .route (.router 1) 1 [3], .warmup 1,
                             .mount 0 1 2 false []]
    let tg : Target := { mounts := [5], route := 3 }
    Rivaas.ComposeAsIs.composeMountAsIs script none [2, 1] = some [1, 2, 2, 3] ∧
    chainOK script tg [1, 2, 2, 3] = false ∧ chainOK script tg [1, 2, 3] = true ∧ dK02b script tg = true ∧
    compose script none [2, 1] = some [1, 2, 3] := by decide +kernel

open Rivaas.Compose in
/-- the same mount without the early warm-up composes in the documented order, with the second run of
    the parent's middleware under `InheritMiddleware` (the repository's mount tests expect it) -/
theorem mount_order_example :
    let script : List Op := [.newRouter, .use 0 [1], .use 1 [2], .route (.router 1) 1 [3],
                             .mount 0 1 2 true [4]]
    let tg : Target := { mounts := [4], route := 3 }
    compose script none [2, 1] = some [1, 1, 2, 4, 3] ∧ chainOK script tg [1, 1, 2, 4, 3] = true ∧
    dK02b script tg = false := by decide +kernel

/-! ### composition order and isolation, for all scripts without `Mount` -/

open Rivaas.Compose in
/-- **Composition order + isolation (partial: scripts without `Mount`).** For every well-formed
    configuration script (`Compose.WF`: references point to objects that exist, route segments are
    distinct) built from `Use`, `Group`, nested `Group`, `Group.Use`, `Version`, version groups,
    explicit `Warmup`, further routers and the whole app layer (`app.Use`, `app.Group` and nested
    groups with `Use`, `app.Version` groups with `Use`/`Group`, `WithBefore`/`WithAfter`), and every
    route declared on the serving router: the handler slice the model composes **exists** and is
    **admitted by the oracle** — router-global middleware first, then the groups from the outermost
    to the innermost, then the route's own handlers (before, handler, after); every middleware
    attached to an enclosing scope before the route (or nested scope) was declared is present, in
    attach order; nothing attached to any other group, version group or route occurs.
    Under `WF` alone (`compose_admitted_mounts`, the theorem with `Mount`, asks `wfB`): the record that answers the
    target is the one the declaring op hands to its router. -/
theorem compose_admitted_mountfree (script : List Op) (hnm : NoMount script) (hwf : WF script) (i : Nat)
    (ver : Option Nat) (path : Path) (ls : List Level)
    (hl : levels script { mounts := [], route := i } = some (ver, path, ls)) :
    ∃ chain, compose script ver path = some chain ∧ chainOK script { mounts := [], route := i } chain = true := by
  obtain ⟨rr, path0, gls, hs, mpre, mls, hri, hml, hp, _⟩ := levels_eq_some.mp hl
  obtain ⟨op, rec0, hop, hrec, hver, hpath⟩ := model_of_routeInfo script hwf hri
  -- there is no mount, so no two have the same segment
  have hms : SegNames mountSegOf script := by
    intro i j opi opj sg hi _ si _
    have := hnm opi (List.mem_of_getElem? hi)
    rw [isMount_of_mountSeg si] at this
    cases this
  obtain ⟨rfl, hx⟩ := mountLevels_nil hml
  cases hx
  exact admitted_of_handed script hwf hms hl ⟨op, hop, mem_handed.mpr (.inl hrec)⟩
    (hpath.trans hp.symm) hver

open Rivaas.Compose in
/-- the same with the Boolean checks the driver evaluates on every generated case (`wfB` is a
    precondition for the driver to judge a case at all, so the hypothesis of the theorem holds on
    the whole tested population without `Mount`) -/
theorem compose_admitted_checked (script : List Op) (hnm : noMountB script = true) (hwf : wfB script = true)
    (i : Nat) (ver : Option Nat) (path : Path) (ls : List Level)
    (hl : levels script { mounts := [], route := i } = some (ver, path, ls)) :
    ∃ chain, compose script ver path = some chain ∧ chainOK script { mounts := [], route := i } chain = true :=
  compose_admitted_mountfree script (noMount_of_noMountB script hnm) (wf_of_wfB script hwf) i ver path ls hl

open Rivaas.Compose in
/-- non-vacuity: a script with global `Use` before and after the route, a nested group created
    before its parent's later `Use`, `Group.Use` before and after the route, an explicit warm-up and
    an app version group — well-formed, mount-free, the route resolves, and the composed chain is
    `[1, 2, 3, 5, 6]` (7 was attached to the parent after the child existed, 8 and 9 after warm-up) -/
example :
    let script : List Op := [.use 0 [1], .group 0 1 [2], .subgroup 0 2 [3], .guse 0 [7], .guse 1 [5],
                             .route (.group 1) 3 [6], .warmup 0, .guse 1 [8], .use 0 [9], .aversion 1, .avuse 0 [10],
                             .aroute (.avgroup 0) 4 [11] 12 [13]]
    noMountB script = true ∧ noWhereB script = true ∧ wfB script = true ∧
    (levels script { mounts := [], route := 5 }).isSome = true ∧
    compose script none [1, 2, 3] = some [1, 2, 3, 5, 6] ∧
    compose script (some 1) [4] = some [1, 9, 10, 11, 12, 13] := by decide +kernel

/-! ### composition order and isolation through `Mount` -/

open Rivaas.Compose in
/-- **Composition order + isolation, `Mount` included.** For every well-formed configuration
    script (`wfB`) — `Warmup` of any router at any time, also of a sub-router before it is mounted (the code after
    the K02b fix), `Where…` on registered routes (re-registration with the middleware of that moment) included —,
    and every route reachable on the serving router through any nesting of mounts (`levels script tg` resolves):
    the handler slice the model composes exists and is admitted by the oracle — the serving router's global
    middleware, then per mount (outermost first) the parent's middleware again under `InheritMiddleware`
    (the repository's mount tests expect it), the sub-router's middleware, the `WithMiddleware` extras, then the
    groups from the outermost to the innermost, then the route's own handlers; everything attached to an enclosing
    scope before the route (or the nested scope, or the mount) came into being is present, in attach order; nothing
    from any scope outside occurs. For scripts without `Mount`: `compose_admitted_mountfree`. -/
theorem compose_admitted_mounts (script : List Op) (hwf : wfB script = true)
    (tg : Target) (ver : Option Nat) (path : Path) (ls : List Level)
    (hl : levels script tg = some (ver, path, ls)) :
    ∃ chain, compose script ver path = some chain ∧ chainOK script tg chain = true :=
  compose_admitted_mount script (wfm_of_wfB script hwf) tg ver path ls hl

open Rivaas.Compose in
/-- non-vacuity with early warm-ups: router 2 is warmed up, gets more middleware and a further route, is mounted
    into router 1, which is warmed up before it is mounted into the serving router — well-formed, not cold, both
    targets resolve, every middleware exactly once -/
example :
    let script : List Op := [.newRouter, .newRouter, .use 0 [1], .use 1 [2], .use 2 [3], .route (.router 2) 1 [5],
                             .warmup 2, .use 2 [6], .route (.router 2) 2 [7], .mount 1 2 3 false [8], .warmup 1,
                             .mount 0 1 4 true []]
    wfB script = true ∧ subsColdB script = false ∧
    (levels script { mounts := [11, 9], route := 5 }).isSome = true ∧
    compose script none [4, 3, 1] = some [1, 1, 2, 3, 6, 8, 5] ∧
    chainOK script { mounts := [11, 9], route := 5 } [1, 1, 2, 3, 6, 8, 5] = true ∧
    compose script none [4, 3, 2] = some [1, 1, 2, 3, 6, 8, 7] ∧
    chainOK script { mounts := [11, 9], route := 8 } [1, 1, 2, 3, 6, 8, 7] = true := by decide +kernel

open Rivaas.Compose in
/-- non-vacuity: a route declared in a group of router 2, router 2 mounted into router 1 (with
    extras), router 1 mounted into the serving router with `InheritMiddleware`; middleware attached
    to every router before and after — well-formed, cold, the target resolves, and the chain is
    global 1,9 · inherited 1 · router-1 middleware 2 · (inner mount:) router-2 middleware 3 · extra 7 ·
    group 4 · handler 5 (8 was attached to router 2 after its mount, 9 to the serving router after) -/
example :
    let script : List Op := [.newRouter, .newRouter, .use 0 [1], .use 1 [2], .use 2 [3], .group 2 1 [4],
                             .route (.group 0) 2 [5], .mount 1 2 3 false [7], .use 2 [8], .mount 0 1 4 true [], .use 0 [9]]
    let tg : Target := { mounts := [9, 7], route := 6 }
    wfB script = true ∧ subsColdB script = true ∧ noWhereB script = true ∧ (levels script tg).isSome = true ∧
    compose script none [4, 3, 1, 2] = some [1, 9, 1, 2, 3, 7, 4, 5] ∧
    chainOK script tg [1, 9, 1, 2, 3, 7, 4, 5] = true := by decide +kernel

open Rivaas.Compose in
/-- `Where…` after warm-up (covered by the ∀-theorems; a concrete instance): `Use(1)`, route, `Warmup()`, `WhereInt`,
    `Use(3)`, `WhereInt` again — each re-registration takes the global middleware of that moment
    exactly once: `[1, 3, 2]`, admitted by the oracle (3 is "attached later": may). A registration that
    stored its result back into the route would give `[1, 3, 1, 1, 2]` — rejected. -/
theorem where_after_warmup_example :
    let script : List Op := [.use 0 [1], .route (.router 0) 1 [2], .warmup 0, .whereOp 0 none [1], .use 0 [3],
                             .whereOp 0 none [1]]
    let tg : Target := { mounts := [], route := 1 }
    wfB script = true ∧ subsColdB script = true ∧ noMountB script = true ∧ (levels script tg).isSome = true ∧
    compose script none [1] = some [1, 3, 2] ∧ chainOK script tg [1, 3, 2] = true ∧
    chainOK script tg [1, 3, 1, 1, 2] = false := by decide +kernel

/-! ## per-route options of the app layer (`app/route_option.go`) -/
section RouteOptions
open Rivaas.RouteOpts

mutual
  theorem lemma_apply_lists (c : RouteConfig) (o : ROpt) :
      (apply c o).before = c.before ++ listedBefore o ∧ (apply c o).after = c.after ++ listedAfter o := by
    cases o with
    | before hs => simp [apply, listedBefore, listedAfter]
    | after hs => simp [apply, listedBefore, listedAfter]
    | doc => simp [apply, listedBefore, listedAfter]
    | set opts =>
      have := lemma_applyAll_lists c opts
      simpa [apply, listedBefore, listedAfter] using this
  theorem lemma_applyAll_lists (c : RouteConfig) (os : List ROpt) :
      (applyAll c os).before = c.before ++ listedBeforeAll os ∧ (applyAll c os).after = c.after ++ listedAfterAll os := by
    cases os with
    | nil => simp [applyAll, listedBeforeAll, listedAfterAll]
    | cons o os =>
      have h1 := lemma_apply_lists c o
      have h2 := lemma_applyAll_lists (apply c o) os
      simp [applyAll, listedBeforeAll, listedAfterAll, h2.1, h2.2, h1.1, h1.2, List.append_assoc]
end

/-- **Per-route options.** However the before / after handlers of an app route are spelled — one option, several
    in a row, reusable sets, sets inside sets, documentation options in between — the route's chain is the listed
    before-handlers in the order written, the handler, the listed after-handlers in the order written. -/
theorem route_options_in_listed_order (handler : Nat) (opts : List ROpt) :
    chain handler opts = listedBeforeAll opts ++ [handler] ++ listedAfterAll opts := by
  have := lemma_applyAll_lists {} opts
  simp [chain, this.1, this.2]

example :
    chain 9 [.before [1], .set [.before [2], .doc, .set [.after [5], .before [3]]], .after [6], .before [4]] =
      [1, 2, 3, 4, 9, 5, 6] := by decide +kernel
end RouteOptions

end Rivaas.C02
