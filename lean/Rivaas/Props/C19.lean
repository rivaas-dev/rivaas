import Rivaas.Lemmas.C19Accept
import Rivaas.Lemmas.C19Render
import Rivaas.Model.Headers
/-
C19 — Context helpers compute what they document, for every input and call history: the negotiation helpers
(`Accepts…`, router/accept.go), `Stringf`, `ASCIIJSON` and the other JSON variants, `Format`, and the header
setters (router/context.go, router/response.go; the header part of `fail` in app/context.go).

Property theorems; the lemmas they rest on are in Lemmas/C19Accept.lean and Lemmas/C19Render.lean (the short ones of
the cache invariant, of `Format` and of the header setters sit next to their theorems in sections 1, 4b, 5). Models: Model/Accept, Model/Render,
Model/Headers — the code after the `fix:` commits of findings K19a–K19j; `…AsIs` definitions are the code as
shipped and carry the `decide` witnesses. Oracles: Spec/Accept (RFC 9110 token-level grammar, quality = q of the
most specific matching range, a relation), Spec/Render (fmt fragment, JSON lexing to UTF-16 units).
-/
namespace Rivaas.C19
open Rivaas

/-! ## 1. Negotiation is a pure function of (header, offers), over every call history -/

/-- the cache, when filled, holds the parse of the header it is keyed on -/
def CacheOK (pf : Accept.PF) (ctx : Accept.Ctx) : Prop :=
  ∀ specs, ctx.cachedSpecs = some specs → specs = Accept.parseAccept pf ctx.cachedHeader

theorem lemma_step_pure (pf : Accept.PF) (ctx : Accept.Ctx) (c : Accept.Call) (h : CacheOK pf ctx) :
    (Accept.step pf ctx c).2 = Accept.answer pf c ∧ CacheOK pf (Accept.step pf ctx c).1 := by
  unfold Accept.step Accept.answer
  cases hk : c.kind <;> dsimp only
  · -- Accepts, the one helper with a cache: a hit returns the stored parse, which by `CacheOK` is the parse of this
    -- header; a miss parses and stores exactly that
    by_cases ho : c.offers.isEmpty = true
    · simp [ho, h]
    · by_cases hh : c.header.isEmpty = true
      · simp [ho, hh, h]
      · simp only [ho, hh, if_false, Bool.false_eq_true]
        by_cases heq : ctx.cachedHeader = c.header
        · simp only [heq, beq_self_eq_true, if_true]
          cases hs : ctx.cachedSpecs with
          | none =>
            refine ⟨rfl, ?_⟩
            intro specs hsp
            simp at hsp
            exact hsp.symm
          | some specs =>
            have := h specs hs
            dsimp only
            refine ⟨?_, h⟩
            rw [this, heq]
        · have hne : (ctx.cachedHeader == c.header) = false := by simpa using heq
          simp only [hne, Bool.false_eq_true, if_false]
          refine ⟨trivial, ?_⟩
          intro specs hsp
          simp at hsp
          exact hsp.symm
  -- the other three helpers parse afresh and touch the arena only
  all_goals
    by_cases hh : c.header.isEmpty = true
    · simp [hh, h]
    · simp only [hh, if_false, Bool.false_eq_true]
      refine ⟨trivial, ?_⟩
      intro specs hsp
      exact h specs hsp

/-- Whatever calls were made before on the same context — any mix of the four
    helpers, any header values, any arena contents — every answer is `answer (header, offers)`. -/
theorem negotiation_pure (pf : Accept.PF) (ctx : Accept.Ctx) (h : CacheOK pf ctx) (calls : List Accept.Call) :
    Accept.run pf ctx calls = calls.map (Accept.answer pf) := by
  induction calls generalizing ctx with
  | nil => rfl
  | cons c cs ih =>
    have hs := lemma_step_pure pf ctx c h
    simp only [Accept.run, List.map_cons]
    rw [hs.1, ih _ hs.2]

/-- a fresh request context satisfies the cache invariant, whatever the pooled arena holds -/
theorem fresh_cacheOK (pf : Accept.PF) (arena : List Accept.ASpec) :
    CacheOK pf { cachedHeader := [], cachedSpecs := none, arena := arena } := by
  intro specs h; simp at h

/-- repeated or interleaved calls give the same answers: a call's answer does not depend on where in
    the history it stands -/
theorem negotiation_history_independent (pf : Accept.PF) (arena : List Accept.ASpec)
    (before : List Accept.Call) (c : Accept.Call) (after : List Accept.Call) :
    (Accept.run pf { cachedHeader := [], cachedSpecs := none, arena := arena } (before ++ c :: after))[before.length]? =
      some (Accept.answer pf c) := by
  rw [negotiation_pure pf _ (fresh_cacheOK pf arena)]
  simp

-- non-vacuity: the invariant holds on a context whose cache is filled, and the history matters as shipped
example : CacheOK (fun _ => none) (Accept.step (fun _ => none) Accept.Ctx.fresh
    { kind := .accept, header := Accept.bs "text/html", offers := [Accept.bs "html"] }).1 :=
  (lemma_step_pure _ _ _ (fresh_cacheOK _ _)).2

def k19aCalls : List Accept.Call :=
  [ { kind := .accept, header := Accept.bs "text/html, application/json;q=0.9", offers := [Accept.bs "html"] },
    { kind := .encoding, header := Accept.bs "gzip", offers := [Accept.bs "gzip"] },
    { kind := .accept, header := Accept.bs "text/html, application/json;q=0.9", offers := [Accept.bs "html"] } ]

/-- K19a as shipped: Accepts ; AcceptsEncodings ; Accepts answers "html" then "" -/
theorem negotiation_asis_witness :
    Accept.runAsIs (fun _ => none) Accept.CtxAsIs.fresh k19aCalls = [Accept.bs "html", Accept.bs "gzip", []] ∧
    Accept.run (fun _ => none) Accept.Ctx.fresh k19aCalls = [Accept.bs "html", Accept.bs "gzip", Accept.bs "html"] := by
  -- `String.toList_ofList` replaces a string literal by its characters by a lemma, which spares the kernel the
  -- decoding of the literal by evaluation (dear for long literals); it is done before the evaluations below
  dsimp only [k19aCalls, Accept.bs]; repeat rewrite [String.toList_ofList]
  decide +kernel

/-! ## 2. Negotiation: never a q=0 offer, an acceptable offer of highest quality -/

section Negotiation
open Rivaas.Accept

/-- The integer q-value parser agrees with the RFC 9110 `qvalue` grammar on
    every string, except that it rejects the two forms with a bare trailing point (`0.`, `1.`), which
    the grammar admits and the code hands to the `ParseFloat` fallback (`PFContract`). -/
theorem parseQuality_correct (s : Bytes) :
    Accept.parseQuality s = (if s = ['0', '.'] ∨ s = ['1', '.'] then none else AcceptSpec.qvalue s) :=
  lemma_parseQuality s

example : Accept.parseQuality (bs "0.85") = some 850 ∧ AcceptSpec.qvalue (bs "0.85") = some 850 := by decide +kernel

/-- On every header inside the RFC 9110 grammar the character-level parser
    (index loops, manual trimming, first-`;`/first-`=` scans, integer q parser with float fallback)
    yields exactly the oracle's ranges, in order, with the same weights. -/
theorem parseAccept_correct (pf : PF) (hpf : PFContract pf) (media : Bool) (header : Bytes) (rs : List AcceptSpec.Range)
    (h : AcceptSpec.ranges media header = some rs) : parseAccept pf header = rs.map toA :=
  lemma_parseAccept pf hpf media header rs h

/-- Every answer is one of the offers or empty — for every header string. -/
theorem answer_wellFormed (pf : PF) (c : Call) : AcceptSpec.wellFormedAnswer c.offers (answer pf c) = true :=
  lemma_answer_wf pf c

/-- For every header string, offer list and kind of call, the answer satisfies
    the oracle the driver evaluates on the real code: it is an offer or empty; and when the header is
    inside the RFC 9110 grammar and the offers are well formed, it is an offer of maximal strictly
    positive quality — quality of an offer = q of the most specific matching range — or empty when no
    offer has positive quality. -/
theorem negotiation_meets_spec (pf : PF) (hpf : PFContract pf) (c : Call) :
    AcceptSpec.negotiationOK (c.kind == Kind.accept) c.header c.offers (answer pf c) = true := by
  unfold AcceptSpec.negotiationOK
  rw [lemma_answer_wf, Bool.true_and]
  cases hr : AcceptSpec.ranges (c.kind == Kind.accept) c.header with
  | none => rfl
  | some rs =>
    have key := lemma_acceptable pf hpf c rs hr
    -- either helper: when every offer is well formed the oracle asks `acceptable` of the offers' specificity functions
    cases hm : (c.kind == Kind.accept) <;> rw [hm] at key <;> simp only [Bool.false_eq_true, if_false, if_true]
    · split
      · rfl
      · exact lemma_allSome AcceptSpec.tokenOffer AcceptSpec.tokenSpecificity spToken (fun o p hp => by simp [spToken, hp])
          c.offers (AcceptSpec.acceptable rs c.offers · _ = true) key _ ‹_›
    · split
      · rfl
      · exact lemma_allSome AcceptSpec.mediaOffer AcceptSpec.mediaSpecificity spMedia (fun o p hp => by simp [spMedia, hp])
          c.offers (AcceptSpec.acceptable rs c.offers · _ = true) key _ ‹_›

/-- the same for every call of every history on one context (purity + oracle) -/
theorem history_meets_spec (pf : PF) (hpf : PFContract pf) (arena : List ASpec) (calls : List Call) :
    run pf { cachedHeader := [], cachedSpecs := none, arena := arena } calls = calls.map (answer pf) ∧
    ∀ c ∈ calls, AcceptSpec.negotiationOK (c.kind == Kind.accept) c.header c.offers (answer pf c) = true :=
  ⟨negotiation_pure pf _ (fresh_cacheOK pf arena) calls, fun c _ => negotiation_meets_spec pf hpf c⟩

/-- On a grammatical header, an offer all of whose most specific matching ranges carry q=0
    (the client excluded it) — or that no range matches — is never the answer: the answer's best
    reading has strictly positive quality. -/
theorem never_q0 (pf : PF) (hpf : PFContract pf) (c : Call) (rs : List AcceptSpec.Range)
    (hr : AcceptSpec.ranges (c.kind == Kind.accept) c.header = some rs) (hrs : rs ≠ [])
    (hoff : ∀ o ∈ c.offers, offerOK (c.kind == Kind.accept) o = true) (hans : answer pf c ≠ []) :
    AcceptSpec.qmax (spOf (c.kind == Kind.accept) (answer pf c)) rs > 0 := by
  rcases lemma_admits pf hpf c rs hr hrs hoff with ⟨h, _⟩ | ⟨_, _, h, _⟩
  · exact absurd h hans
  · exact h

/-- On a grammatical header the answer is an offer at least as good as every
    other offer (any tie-break; on an ambiguous header, under some reading), and it is empty only when
    no offer has positive quality. -/
theorem returns_max_quality (pf : PF) (hpf : PFContract pf) (c : Call) (rs : List AcceptSpec.Range)
    (hr : AcceptSpec.ranges (c.kind == Kind.accept) c.header = some rs) (hrs : rs ≠ []) (hne : c.offers ≠ [])
    (hoff : ∀ o ∈ c.offers, offerOK (c.kind == Kind.accept) o = true) :
    (answer pf c = [] → ∀ o ∈ c.offers, AcceptSpec.qmin (spOf (c.kind == Kind.accept) o) rs = 0) ∧
    (answer pf c ≠ [] → answer pf c ∈ c.offers ∧
      ∀ o ∈ c.offers, AcceptSpec.qmin (spOf (c.kind == Kind.accept) o) rs ≤
        AcceptSpec.qmax (spOf (c.kind == Kind.accept) (answer pf c)) rs) := by
  rcases lemma_rel pf hpf c rs hr hrs hne hoff with ⟨h, h0⟩ | ⟨h, hm, _, hall⟩
  · exact ⟨fun _ => h0, fun hn => absurd h hn⟩
  · exact ⟨fun he => absurd he h, fun _ => ⟨hm, hall⟩⟩

-- non-vacuity: a grammatical header with an exclusion, well-formed offers, and the answer
def exPF : PF := fun raw => if raw = ['0', '.'] then some 0 else if raw = ['1', '.'] then some 1000000 else none
example : PFContract exPF := ⟨by decide, by decide⟩
example : AcceptSpec.ranges true (bs "text/html;q=0, */*;q=0.5") =
    some [{ value := bs "text/html", q := 0 }, { value := bs "*/*", q := 500 }] := by
  dsimp only [bs]; repeat rewrite [String.toList_ofList]
  decide +kernel
example : offerOK true (bs "html") = true ∧ offerOK true (bs "json") = true := by decide +kernel
example : answer exPF ⟨.accept, bs "text/html;q=0, */*;q=0.5", [bs "html", bs "json"]⟩ = bs "json" := by
  dsimp only [bs]; repeat rewrite [String.toList_ofList]
  decide +kernel
example : AcceptSpec.qmax (spOf true (bs "html")) [{ value := bs "text/html", q := 0 }, { value := bs "*/*", q := 500 }] = 0 := by decide +kernel
example : AcceptSpec.ranges false (bs "gzip ;Q=0 , *;q=0.") = some [{ value := bs "gzip", q := 0 }, { value := bs "*", q := 0 }] := by
  dsimp only [bs]; repeat rewrite [String.toList_ofList]
  decide +kernel

/-- K19b, K19e, K19f, K19g as shipped (`decide` on the as-is model; each is replayed on the real code by
    corpus/C19): q=0 not excluded, the most specific range not deciding, a lone quote panicking, upper-case
    Q ignored, the blank before `;` kept in the value -/
theorem never_q0_asis_witness :
    acceptHeaderMatchAsIs (parseAccept exPF (bs "gzip;q=0")) [bs "gzip"] = bs "gzip" ∧
    acceptsWithAsIs (parseAccept exPF (bs "text/html;q=0, */*")) [bs "html", bs "json"] = bs "html" ∧
    acceptHeaderMatchAsIs (parseAccept exPF (bs "*;q=0.1, gzip")) [bs "br", bs "gzip"] = bs "br" ∧
    parseAcceptAsIs exPF (bs "gzip;q=\"") = none ∧
    (parseAcceptAsIs exPF (bs "gzip;Q=0")).map (acceptHeaderMatchAsIs · [bs "gzip"]) = some (bs "gzip") ∧
    (parseAcceptAsIs exPF (bs "gzip ;q=0, *")).map (acceptHeaderMatchAsIs · [bs "gzip"]) = some (bs "gzip") ∧
    AcceptSpec.negotiationOK false (bs "gzip;q=0") [bs "gzip"] (bs "gzip") = false ∧
    AcceptSpec.negotiationOK true (bs "text/html;q=0, */*") [bs "html", bs "json"] (bs "html") = false ∧
    answer exPF ⟨.encoding, bs "gzip;q=0", [bs "gzip"]⟩ = [] ∧
    answer exPF ⟨.accept, bs "text/html;q=0, */*", [bs "html", bs "json"]⟩ = bs "json" ∧
    answer exPF ⟨.encoding, bs "gzip ;q=0, *", [bs "gzip"]⟩ = [] := by
  dsimp only [bs]; repeat rewrite [String.toList_ofList]
  decide +kernel

end Negotiation

/-! ## 3. Stringf = fmt.Sprintf -/

section Stringf

/-- The fast path is taken only for one string operand and a format that is
    `pre ++ "%s" ++ post` with no other `%` anywhere; the body it writes is `pre ++ v ++ post`. -/
theorem fast_path_sound (format : Bytes) (args : List Render.Arg) (body : Bytes)
    (h : Render.fastPath format args = some body) :
    ∃ pre post v, format = pre ++ '%' :: 's' :: post ∧ '%' ∉ pre ∧ '%' ∉ post ∧
      args = [.str v] ∧ body = pre ++ v ++ post := by
  unfold Render.fastPath at h
  match args, h with
  | [.str v], h =>
    dsimp only at h
    cases hc : Render.cutPctS format with
    | none => simp [hc] at h
    | some pp =>
      obtain ⟨pre, post⟩ := pp
      simp only [hc] at h
      by_cases hn : (Render.countPct format != 1) = true
      · simp [hn] at h
      · simp only [hn, if_false, Bool.false_eq_true, Option.some.injEq] at h
        have hf := lemma_cutPctS format pre post hc
        have hcount : format.count '%' = 1 := by simpa [lemma_countPct] using hn
        rw [hf, List.count_append, List.count_cons_self, List.count_cons_of_ne (by decide)] at hcount
        exact ⟨pre, post, v, hf, List.count_eq_zero.1 (by omega), List.count_eq_zero.1 (by omega), rfl, h.symm⟩

/-- Whenever the fast path writes the body itself, the body is what fmt.Sprintf
    (reference semantics of the `%s`/`%%` fragment) produces; otherwise Stringf hands the arguments to
    fmt.Fprintf. Hence the body equals fmt.Sprintf for every format and argument list. -/
theorem stringf_eq_sprintf (format : Bytes) (args : List Render.Arg) (sprintf : Bytes)
    (hfmt : ∀ x, RenderSpec.sprintfRef format (args.map toSpecArg) = some x → sprintf = x) :
    (∀ body, Render.fastPath format args = some body → RenderSpec.sprintfRef format (args.map toSpecArg) = some body) ∧
    Render.stringfBody format args sprintf = sprintf := by
  have key : ∀ body, Render.fastPath format args = some body →
      RenderSpec.sprintfRef format (args.map toSpecArg) = some body := by
    intro body hb
    obtain ⟨pre, post, v, hf, hpre, hpost, ha, hbody⟩ := fast_path_sound format args body hb
    subst ha hf hbody
    simp only [List.map_cons, List.map_nil, toSpecArg]
    rw [lemma_sprintfRef_lit pre _ _ hpre]
    rw [lemma_sprintfRef_pcts, lemma_sprintfRef_nopct post hpost]
    simp
  refine ⟨key, ?_⟩
  unfold Render.stringfBody
  cases hb : Render.fastPath format args with
  | none => rfl
  | some body => exact (hfmt body (key body hb)).symm

-- non-vacuity
example : Render.fastPath "User: %s!".toList [.str "bob".toList] = some "User: bob!".toList := by decide +kernel
example : RenderSpec.sprintfRef "User: %s!".toList [.str "bob".toList] = some "User: bob!".toList := by decide +kernel

/-- K19c as shipped: `Stringf("%s %%", "x")` wrote `x %%` where fmt.Sprintf gives `x %`; `"100%%s"`
    took the fast path although its `%s` is the tail of `%%` followed by `s` -/
theorem fast_path_asis_witness :
    Render.fastPathAsIs "%s %%".toList [.str "x".toList] = some "x %%".toList ∧
    RenderSpec.sprintfRef "%s %%".toList [.str "x".toList] = some "x %".toList ∧
    Render.fastPath "%s %%".toList [.str "x".toList] = none ∧
    Render.fastPathAsIs "100%%s".toList [.str "x".toList] = some "100%x".toList ∧
    Render.fastPath "100%%s".toList [.str "x".toList] = none := by decide +kernel

/-- the Write calls of Stringf, concatenated, are its body -/
theorem stringf_writes_concat (format : Bytes) (args : List Render.Arg) (sprintf : Bytes) :
    (Render.stringfWrites format args sprintf).flatten = Render.stringfBody format args sprintf := by
  unfold Render.stringfWrites Render.stringfBody Render.fastPath
  match args with
  | [] => simp
  | [.other] => simp
  | [.str v] =>
    dsimp only
    cases Render.cutPctS format with
    | none => simp
    | some pp =>
      obtain ⟨pre, post⟩ := pp
      dsimp only
      split
      · simp
      · -- the fast path drops its empty writes, which does not change the concatenation
        simp [List.flatten_filter_not_isEmpty]
  | _ :: _ :: _ => simp

/-- On a response writer that fails at any Write (or never), whenever Stringf
    reports success the bytes delivered are exactly its documented body — nothing of a failed attempt,
    nothing twice. -/
theorem stringf_success_exact (k : Nat) (format : Bytes) (args : List Render.Arg) (sprintf : Bytes)
    (h : (Render.stringfOnFlaky k format args sprintf).1 = true) :
    (Render.stringfOnFlaky k format args sprintf).2 = Render.stringfBody format args sprintf := by
  unfold Render.stringfOnFlaky at h ⊢
  dsimp only at h ⊢
  split at h
  · simp at h
  · rename_i hc
    simp only [hc, if_false, Bool.false_eq_true]
    exact stringf_writes_concat format args sprintf

example : Render.stringfOnFlaky 0 "a%sb".toList [.str "x".toList] "axb".toList = (true, "axb".toList) := by decide +kernel
example : Render.stringfOnFlaky 2 "a%sb".toList [.str "x".toList] "axb".toList = (false, "a".toList) := by decide +kernel

/-- K19i as shipped: the second of the three fast-path writes fails once; Stringf reports success and
    the client has `a` followed by the whole response -/
theorem stringf_flaky_asis_witness :
    Render.stringfOnFlakyAsIs 2 "a%sb".toList [.str "x".toList] "axb".toList = (true, "aaxb".toList) ∧
    Render.stringfBody "a%sb".toList [.str "x".toList] "axb".toList = "axb".toList := by decide +kernel

end Stringf

/-! ## 4. ASCIIJSON: pure ASCII, decodes to the same value -/

section Escaper
open Rivaas.Render Rivaas.RenderSpec

/-- Whatever bytes encoding/json produced, every byte ASCIIJSON writes is below 128. -/
theorem ascii_pure (l : List Nat) : ∀ b ∈ escape l, b < 128 := lemma_escapeF_ascii _ l

theorem ascii_pure_spec (l : List Nat) : isASCII (escape l) = true := by
  simp only [isASCII, List.all_eq_true, decide_eq_true_eq]
  exact ascii_pure l

/-- For every astral code point the pair written by ASCIIJSON is a high and a
    low surrogate, is the UTF-16 encoding of the code point, and a decoder's `combine` gives it back. -/
theorem surrogate_roundtrip (r : Nat) (h1 : 0x10000 ≤ r) (h2 : r ≤ 0x10FFFF) :
    combine (hiSur r) (loSur r) = r ∧ 0xD800 ≤ hiSur r ∧ hiSur r ≤ 0xDBFF ∧ 0xDC00 ≤ loSur r ∧ loSur r ≤ 0xDFFF ∧
      utf16 r = [hiSur r, loSur r] := lemma_surrogate r h1 h2

example : hiSur 0x1F600 = 0xD83D ∧ loSur 0x1F600 = 0xDE00 := by decide

/-- If a JSON text lexes (escapes well formed, every non-ASCII byte part of
    well-formed UTF-8 — what encoding/json emits), the ASCIIJSON text lexes to the same sequence of
    UTF-16 code units: a decoder sees the same strings, keys and tokens. -/
theorem escape_decodes_same (l : List Nat) (us : List Nat) (h : units l = some us) : units (escape l) = some us := by
  rw [lemma_units_escape l (by simp [h]), h]

/-- on well-formed UTF-8 the hand-written `decodeRuneInJSON` is the RFC 3629 decoder -/
theorem decodeRune_valid (b : Nat) (rest : List Nat) (r n : Nat) (h : utf8Head (b :: rest) = some (r, n)) :
    decodeRune (b :: rest) = (r, n) :=
  (lemma_decode_valid b rest r n h).1

/-- every variant other than ASCIIJSON writes exactly the documented bytes around what encoding/json
    returned (prefix + JSON for SecureJSON, callback(JSON) for JSONP), and ASCIIJSON's body is ASCII -/
theorem json_variants_exact (variant : Nat) (extra : Option Bytes) (enc : Bytes) :
    (variant ≠ 4 → jsonBody variant extra enc = exactBody variant extra enc) ∧
    (jsonCType variant = contentTypeOf variant) ∧
    (variant = 4 → isASCII ((jsonBody variant extra enc).map (·.toNat)) = true) := by
  refine ⟨?_, ?_, ?_⟩
  · intro hv
    match variant, hv with
    | 0, _ => rfl
    | 1, _ => rfl
    | 2, _ => rfl
    | 3, _ =>
      cases extra with
      | none => rfl
      | some x => cases x <;> rfl
    | 5, _ =>
      cases extra with
      | none => rfl
      | some x => cases x <;> rfl
    | n + 6, _ => rfl
  · unfold jsonCType contentTypeOf; rfl
  · intro hv
    subst hv
    have hb : jsonBody 4 extra enc = ofNats (escape (toNats enc)) := rfl
    rw [hb]
    unfold isASCII ofNats
    rw [List.all_eq_true]
    intro x hx
    simp only [List.mem_map] at hx
    obtain ⟨c, ⟨b, hb', rfl⟩, rfl⟩ := hx
    have hlt := ascii_pure _ b hb'
    rw [lemma_toNat_ofNat b (by omega)]
    simpa using hlt

-- non-vacuity: a JSON text with a BMP and an astral character lexes, and so does its escaped form
example : units [34, 0xC3, 0xA9, 0xF0, 0x9F, 0x98, 0x80, 92, 110, 34] = some [34, 0xE9, 0xD83D, 0xDE00, 10, 34] := by decide +kernel
example : escape [0xC3, 0xA9, 0xF0, 0x9F, 0x98, 0x80] = toNats "\\u00e9\\ud83d\\ude00".toList := by decide +kernel
example : units (escape [34, 0xC3, 0xA9, 0xF0, 0x9F, 0x98, 0x80, 92, 110, 34]) = some [34, 0xE9, 0xD83D, 0xDE00, 10, 34] :=
  escape_decodes_same _ _ (by decide +kernel)

end Escaper

/-! ## 4b. Format: the negotiated representation, rendered as documented -/

section Format
open Rivaas.Render Rivaas.RenderSpec

/-- the fourth component of an observation is the harness's verdict that the real JSON body decodes to the same value as
    encoding/json's `enc`; the model's body is `enc` itself, hence the constant `true` here and in `format_meets_spec` -/
theorem lemma_formatShape (f : String) (hf : f ∈ ["json", "html", "xml", "txt", ""]) (code : Nat) (vtext : Bytes)
    (encOK : Bool) (enc : Bytes) :
    formatShape (if f == "" then "txt" else f) code vtext encOK enc
      ((formatResponse (bstr f) code vtext encOK enc).map fun r => (r.1, r.2.1, r.2.2, true)) = true := by
  simp only [List.mem_cons, List.not_mem_nil, or_false] at hf
  -- name by name: the model chooses its branch by comparing literals, and the shape asked of that name repeats the
  -- branch's literals, so both sides evaluate, `code`, `vtext`, `enc` (and `encOK` for json) staying symbolic
  rcases hf with rfl | rfl | rfl | rfl | rfl
  · dsimp only [formatShape, formatResponse, bstr, jsonCType]; repeat rewrite [String.toList_ofList]
    cases encOK <;> simp <;> decide +kernel
  · simp [formatShape, formatResponse, bstr]
  · dsimp only [formatShape, formatResponse, bstr]; repeat rewrite [String.toList_ofList]
    simp
  · simp [formatShape, formatResponse, bstr] <;> decide +kernel
  · simp [formatShape, formatResponse, bstr] <;> decide +kernel

/-- For every Accept header string, value and status, `Format` answers with the
    documented rendering (JSON / `<p>…</p>` / the XML document / plain text) of a representation that the
    negotiation oracle admits for that header over json, html, xml, txt — never one the client excluded
    with q=0, one of highest quality; plain text when nothing is acceptable. -/
theorem format_meets_spec (pf : Accept.PF) (hpf : PFContract pf) (header : Bytes) (code : Nat) (vtext : Bytes)
    (encOK : Bool) (enc : Bytes) :
    formatOK (AcceptSpec.negotiationOK true header formatOffers) code vtext encOK enc
      ((formatResponse (Accept.answer pf ⟨.accept, header, formatOffers⟩) code vtext encOK enc).map
        fun r => (r.1, r.2.1, r.2.2, true)) = true := by
  have hspec := negotiation_meets_spec pf hpf ⟨.accept, header, formatOffers⟩
  have hwf := answer_wellFormed pf ⟨.accept, header, formatOffers⟩
  simp only [beq_self_eq_true] at hspec
  generalize Accept.answer pf ⟨.accept, header, formatOffers⟩ = ans at hspec hwf
  obtain ⟨f, hf, rfl⟩ : ∃ f ∈ ["json", "html", "xml", "txt", ""], ans = bstr f := by
    simp only [AcceptSpec.wellFormedAnswer, Bool.or_eq_true, List.isEmpty_iff, formatOffers, List.contains_eq_mem,
      List.mem_cons, List.not_mem_nil, or_false, decide_eq_true_eq] at hwf
    rcases hwf with rfl | rfl | rfl | rfl | rfl
    · exact ⟨"", by simp, rfl⟩
    · exact ⟨"json", by simp, rfl⟩
    · exact ⟨"html", by simp, rfl⟩
    · exact ⟨"xml", by simp, rfl⟩
    · exact ⟨"txt", by simp, rfl⟩
  unfold formatOK
  rw [List.any_eq_true]
  exact ⟨f, hf, by rw [Bool.and_eq_true]; exact ⟨hspec, lemma_formatShape f hf ..⟩⟩

-- non-vacuity: html is excluded, xml is the best remaining representation
example : formatResponse (Accept.answer exPF ⟨.accept, Accept.bs "text/html;q=0, application/xml;q=0.3", formatOffers⟩)
    201 "u".toList true "\"u\"\n".toList =
    some (201, "application/xml".toList, "<?xml version=\"1.0\"?>\n<response>u</response>".toList) := by
  dsimp only [Accept.bs, formatOffers, formatResponse]; repeat rewrite [String.toList_ofList]
  decide +kernel

end Format

/-! ## 5. Header setters never emit CR or LF -/

section HeaderSetters
open Rivaas.Headers

def VClean (v : Bytes) : Prop := ∀ c ∈ v, isCRLF c = false
def Clean (m : HMap) : Prop := ∀ p ∈ m, ∀ v ∈ p.2, VClean v

theorem lemma_vclean_spec (v : Bytes) : VClean v ↔ RenderSpec.noCRLF v = true := by
  simp [VClean, RenderSpec.noCRLF, isCRLF]

theorem lemma_sanitize (v : Bytes) : VClean (sanitize v) := by
  intro c hc
  simp [sanitize, List.mem_filter] at hc
  simp [hc.2]

theorem lemma_hset (m : HMap) (k v : Bytes) (hm : Clean m) (hv : VClean v) : Clean (hset m k v) := by
  intro p hp w hw
  simp only [hset, List.mem_cons, List.mem_filter] at hp
  rcases hp with rfl | hp
  · simp at hw; subst hw; exact hv
  · exact hm p hp.1 w hw

theorem lemma_hvals (m : HMap) (k : Bytes) (hm : Clean m) : ∀ v ∈ hvals m k, VClean v := by
  intro v hv
  unfold hvals at hv
  cases h : m.lookup k with
  | none => simp [h] at hv
  | some vs =>
    simp [h] at hv
    exact hm _ (List.mem_of_lookup_some m k vs h) v hv

theorem lemma_hadd (m : HMap) (k v : Bytes) (hm : Clean m) (hv : VClean v) : Clean (hadd m k v) := by
  intro p hp w hw
  simp only [hadd, List.mem_cons, List.mem_filter] at hp
  rcases hp with rfl | hp
  · simp only [List.mem_append, List.mem_singleton] at hw
    rcases hw with hw | rfl
    · exact lemma_hvals m k hm w hw
    · exact hv
  · exact hm p hp.1 w hw

theorem lemma_header (m : HMap) (k v : Bytes) (hm : Clean m) : Clean (header m k v) :=
  lemma_hset m k _ hm (lemma_sanitize v)

/-- what the external parameters must satisfy: `http.SetCookie` writes a sanitised cookie line -/
def OpOK : Op → Prop
  | .setCookie s => VClean s
  | _ => True

theorem lemma_clean_ite (c : Prop) [Decidable c] (a b : HMap) (ha : Clean a) (hb : Clean b) :
    Clean (if c then a else b) := by
  split <;> assumption

theorem lemma_apply (m : HMap) (op : Op) (hm : Clean m) (hop : OpOK op) : Clean (apply m op) := by
  have hh := fun k v => lemma_header m k v hm
  cases op with
  | header ck v => exact hh _ _
  | append ck v => exact lemma_clean_ite _ _ _ (hh _ _) (hh _ _)
  | vary fs => exact hh _ _
  | link u r => exact lemma_clean_ite _ _ _ (hh _ _) (hh _ _)
  | location u => exact hh _ _
  | contentType v mr => exact lemma_clean_ite _ _ _ (hh _ _) (hh _ _)
  | download p n => exact hh _ _
  | notAllowed ms => exact lemma_header _ _ _ (hh _ _)
  | setCookie s => exact lemma_clean_ite _ _ _ hm (lemma_hadd _ _ _ hm hop)
  | data ct => exact hh _ _
  | reader ct ck v => exact lemma_header _ _ _ (lemma_clean_ite _ _ _ hm (hh _ _))
  | failHeaders ck vs ct => exact lemma_header _ _ _ (List.foldlRecOn vs _ hm fun m hm v _ => lemma_header m ck v hm)

/-- After any script of setter calls (Header, AppendHeader, Vary, Link, Redirect/Location,
    ContentType, Download, MethodNotAllowed, SetCookie, Data, DataFromReader, the header part of
    `app.Context.fail`; for SetCookie under `OpOK`: the line `http.SetCookie` writes is clean) on a response whose
    headers were clean, no header value contains CR or LF — whatever bytes the arguments contain. -/
theorem no_crlf (m : HMap) (ops : List Op) (hm : Clean m) (hops : ∀ op ∈ ops, OpOK op) :
    ∀ k, ∀ v ∈ hvals (run m ops) k, RenderSpec.noCRLF v = true := by
  have h : Clean (run m ops) := List.foldlRecOn ops apply hm fun m hm op ho => lemma_apply m op hm (hops op ho)
  intro k v hv
  exact (lemma_vclean_spec v).1 (lemma_hvals _ k h v hv)

/-- the same after every prefix of the script: nothing unclean is ever visible in between -/
theorem no_crlf_every_prefix (ops : List Op) (n : Nat) (hops : ∀ op ∈ ops, OpOK op) :
    ∀ k, ∀ v ∈ hvals (run [] (ops.take n)) k, RenderSpec.noCRLF v = true :=
  no_crlf [] (ops.take n) (by intro p hp; simp at hp) (fun o ho => hops o (List.mem_of_mem_take ho))

-- non-vacuity: a script with CR/LF in every argument, and its (clean) result
example : hvals (run [] [.append "X-A".toList "a".toList, .append "X-A".toList "b\r\nSet-Cookie: e=1".toList,
                         .vary ["Accept\r\nX: y".toList]]) "X-A".toList = ["a, bSet-Cookie: e=1".toList] := by
  repeat rewrite [String.toList_ofList]
  decide +kernel

/-- K19d / K19h as shipped: the second AppendHeader, Vary, Data and DataFromReader kept CR LF -/
theorem no_crlf_asis_witness :
    hvals (applyAsIs (applyAsIs [] (.append "X-A".toList "a".toList)) (.append "X-A".toList "b\r\nc".toList)) "X-A".toList
      = ["a, b\r\nc".toList] ∧
    hvals (applyAsIs [] (.vary ["Accept\r\nX: y".toList])) "Vary".toList = ["Accept\r\nX: y".toList] ∧
    hvals (applyAsIs [] (.data "a/b\r\nc".toList)) "Content-Type".toList = ["a/b\r\nc".toList] ∧
    hvals (apply (apply [] (.append "X-A".toList "a".toList)) (.append "X-A".toList "b\r\nc".toList)) "X-A".toList
      = ["a, bc".toList] := by
  repeat rewrite [String.toList_ofList]
  decide +kernel

end HeaderSetters

end Rivaas.C19
