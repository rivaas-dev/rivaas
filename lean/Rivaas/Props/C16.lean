import Rivaas.Lemmas.ListCore
import Rivaas.Spec.RateLimit
/-
C16 — Rate limiting conforms to its algorithm under concurrency.
Token bucket (units: 1/512 token, 1/512 s): never over-admits for *every* clock sequence
(potential argument), agrees with the reference bucket for non-decreasing clocks, keys are
independent, simultaneous calls admit at most the tokens available, `resetSeconds` / Retry-After is
the least whole number of seconds after which a retry succeeds; the cleanup loop is unobservable.
Sliding window: per key and fixed window at most `limit` admissions when requests are served one
after the other — the serial schedule of a two-call store (`GetCounts`, then `Incr`), every schedule
of a store that counts atomically; for one entry, a retry `Retry-After` seconds after a rejection
is admitted. The check-then-act race and the untruthful Retry-After of the shipped code are
`decide`-proved witnesses (K16b).
Continued in `Props/C16Retry.lean` (Retry-After on whole traces and the whole window oracle, scripted counts, the window
store's sweep, independent keys) and `Props/C16Regress.lean` (the window bound when clock readings regress).
-/
namespace Rivaas.C16
open Rivaas.RateLimit

/-! ## token bucket: the potential argument (every clock sequence) -/

theorem lemma_mul_sub (r a b : Int) : (a - b) * r = r * a - r * b := by
  rw [Int.sub_mul, Int.mul_comm a r, Int.mul_comm b r]

theorem lemma_refill_tok (r B : Int) (s : Bucket) (now : Int) :
    (refill r B s now).tok = min B (s.tok + r * now - r * s.last) := by
  unfold refill
  have := lemma_mul_sub r now s.last
  simp only
  split <;> omega

/-- `tokens − rate·lastUpdate` never increases, and an admission lowers it by one token -/
theorem lemma_allow_potential (r B : Int) (s : Bucket) (now : Int) :
    (allow r B s now).1.tok - r * (allow r B s now).1.last + 512 * (if (allow r B s now).2.allowed then 1 else 0)
      ≤ s.tok - r * s.last := by
  have h := lemma_refill_tok r B s now
  have hl : (refill r B s now).last = now := rfl
  unfold allow take
  simp only [decide_eq_true_eq, hl]
  generalize (refill r B s now).tok = x at h ⊢
  split <;> omega

theorem lemma_allow_nonneg (r B : Int) (s : Bucket) (now : Int) (h : (allow r B s now).2.allowed = true) :
    0 ≤ (allow r B s now).1.tok := by
  unfold allow take at h ⊢
  simp only [decide_eq_true_eq] at h
  simp only [h, if_true]
  omega

theorem lemma_allow_last (r B : Int) (s : Bucket) (now : Int) : (allow r B s now).1.last = now := rfl

theorem lemma_allow_refill (r B : Int) (s : Bucket) (now : Int) :
    allow r B (refill r B s now) now = allow r B s now := by
  unfold allow
  have : refill r B (refill r B s now) now = refill r B s now := by
    unfold refill; simp only [Int.sub_self, Int.zero_mul, Int.add_zero]
    split
    · simp
    · rfl
  rw [this]

theorem lemma_refill_le (r B : Int) (s : Bucket) (now : Int) : (refill r B s now).tok ≤ B := by
  rw [lemma_refill_tok]
  exact Int.min_le_left ..

theorem lemma_countTrue_cons (b : Bool) (l : List Bool) :
    (countTrue (b :: l) : Int) = (if b then 1 else 0) + countTrue l := by
  unfold countTrue
  cases b <;> simp [Int.add_comm]

/-- the admissions of a run fit under every bound `C ≥ 0` that lies above the potential brought forward to each of the
    timestamps -/
theorem lemma_run_bound (r B : Int) (s : Bucket) (ts : List Int) (C : Int) (hC : 0 ≤ C)
    (h : ∀ tk ∈ ts, s.tok - r * s.last + r * tk ≤ C) : 512 * (countTrue (run r B s ts).2 : Int) ≤ C := by
  induction ts generalizing s C with
  | nil => exact hC
  | cons t ts ih =>
    simp only [run]
    have hp := lemma_allow_potential r B s t
    have ht := h t (List.mem_cons_self ..)
    rw [lemma_countTrue_cons]
    -- what this call leaves of the bound is not negative: an admission leaves `tok ≥ 0` at `last = t`
    have hC' : 0 ≤ C - 512 * (if (allow r B s t).2.allowed then 1 else 0) := by
      split
      · next ha => have := lemma_allow_nonneg r B s t ha; rw [lemma_allow_last, if_pos ha] at hp; omega
      · omega
    have := ih (allow r B s t).1 _ hC' fun tk htk => by have := h tk (List.mem_cons_of_mem _ htk); omega
    omega

theorem lemma_run_bound_first (r B : Int) (s : Bucket) (t1 : Int) (rest : List Int) (C : Int) (hC : 0 ≤ C)
    (h : ∀ tk ∈ t1 :: rest, (refill r B s t1).tok + r * (tk - t1) ≤ C) :
    512 * (countTrue (run r B s (t1 :: rest)).2 : Int) ≤ C := by
  have hsame : run r B s (t1 :: rest) = run r B (refill r B s t1) (t1 :: rest) := by
    simp only [run, lemma_allow_refill]
  rw [hsame]
  refine lemma_run_bound r B _ _ C hC fun tk htk => ?_
  have := h tk htk
  have hlast : (refill r B s t1).last = t1 := rfl
  rw [Int.mul_sub] at this
  rw [hlast]
  omega

/-- **The limiter never over-admits, for every clock sequence** (non-decreasing, regressing, anything):
    from any entry state, calls whose timestamps all lie in an interval of length `T` (in 1/512 s)
    contain at most `burst + rate·T` admissions (in 1/512 token: `512·admitted ≤ B + r·T`). -/
theorem bucket_never_over_admits (r B : Int) (hr : 0 ≤ r) (hB : 0 ≤ B) (s : Bucket) (ts : List Int)
    (a T : Int) (hT : 0 ≤ T) (hin : ∀ t ∈ ts, a ≤ t ∧ t ≤ a + T) :
    512 * (countTrue (run r B s ts).2 : Int) ≤ B + r * T := by
  have hrT : 0 ≤ r * T := Int.mul_nonneg hr hT
  cases ts with
  | nil => simp [run, countTrue]; omega
  | cons t1 rest =>
    refine lemma_run_bound_first r B s t1 rest _ (by omega) fun tk htk => ?_
    have hle := lemma_refill_le r B s t1
    have h1 := hin t1 (List.mem_cons_self ..)
    have hk := hin tk htk
    have : r * (tk - t1) ≤ r * T := Int.mul_le_mul_of_nonneg_left (by omega) hr
    omega

/-! ## token bucket: agreement with the reference bucket (non-decreasing clocks) -/

/-- coupling between the limiter's entry and the reference bucket: the entry is the reference level
    brought forward to the entry's `lastUpdate` -/
def Coupled (r B : Int) (s : Bucket) (x : Ref) : Prop :=
  x.at_ ≤ s.last ∧ s.tok = min B (x.level + r * (s.last - x.at_))

theorem lemma_cap_add (B a d : Int) (hd : 0 ≤ d) : (if min B a + d > B then B else min B a + d) = min B (a + d) := by
  split <;> omega

theorem lemma_coupled_step (r B : Int) (hr : 0 ≤ r) (s : Bucket) (x : Ref) (now : Int)
    (hc : Coupled r B s x) (hnow : s.last ≤ now) :
    (allow r B s now).2.allowed = (x.step r B now).2 ∧
    (allow r B s now).2.remaining = (if (x.step r B now).2 then (x.step r B now).1.level / 512 else 0) ∧
    Coupled r B (allow r B s now).1 (x.step r B now).1 := by
  have hsum : x.level + r * (s.last - x.at_) + (now - s.last) * r = x.level + r * (now - x.at_) := by
    rw [lemma_mul_sub, Int.mul_sub, Int.mul_sub]; omega
  obtain ⟨h1, h2⟩ := hc
  have hav : (refill r B s now).tok = x.avail r B now := by
    unfold refill Ref.avail
    simp only
    rw [h2, ← hsum]
    exact lemma_cap_add B _ _ (Int.mul_nonneg (Int.sub_nonneg_of_le hnow) hr)
  have hle : x.avail r B now ≤ B := Int.min_le_left _ _
  have hlast : (refill r B s now).last = now := rfl
  unfold Coupled allow take Ref.step
  simp only [hav, hlast]
  by_cases h : x.avail r B now ≥ 512
  · -- admitted: both take a token at `now`, and what is left is below the burst
    simp only [h, if_true, decide_true, Int.le_refl, Int.sub_self, Int.mul_zero, Int.add_zero, true_and]
    exact (Int.min_eq_right (Int.le_trans (Int.sub_le_self _ (by decide)) hle)).symm
  · -- rejected: the entry is the refilled one, the reference bucket is unchanged
    simp only [h, if_false, decide_false, Bool.false_eq_true, true_and]
    exact ⟨Int.le_trans h1 hnow, rfl⟩

/-- **With a non-decreasing clock the limiter admits a call iff the reference bucket holds a token** -/
theorem bucket_iff_reference (r B : Int) (hr : 0 ≤ r) (s : Bucket) (x : Ref) (ts : List Int)
    (hc : Coupled r B s x) (hsorted : sorted (s.last :: ts) = true) :
    (run r B s ts).2 = Ref.run r B x ts := by
  induction ts generalizing s x with
  | nil => rfl
  | cons t ts ih =>
    simp only [sorted, Bool.and_eq_true, decide_eq_true_eq] at hsorted
    obtain ⟨h2, _, h3⟩ := lemma_coupled_step r B hr s x t hc hsorted.1
    simp only [run, Ref.run]
    rw [h2, ih (allow r B s t).1 (x.step r B t).1 h3 (by rw [lemma_allow_last]; exact hsorted.2)]

theorem lemma_coupled_new (r B now : Int) : Coupled r B { tok := B, last := now } { level := B, at_ := now } := by
  unfold Coupled; simp

/-! ## truthful reset / Retry-After -/

theorem lemma_ceil (need d : Int) (hd : 0 < d) :
    need ≤ d * ((need + d - 1) / d) ∧ d * ((need + d - 1) / d - 1) < need := by
  have h1 := Int.mul_ediv_add_emod (need + d - 1) d
  have h2 := Int.emod_nonneg (need + d - 1) (by omega : d ≠ 0)
  have h3 := Int.emod_lt_of_pos (need + d - 1) hd
  have h4 : d * ((need + d - 1) / d - 1) = d * ((need + d - 1) / d) - d := by rw [Int.mul_sub, Int.mul_one]
  constructor <;> omega

theorem lemma_allowed_iff (r B : Int) (s : Bucket) (t : Int) :
    (allow r B s t).2.allowed = decide (512 ≤ min B (s.tok + r * t - r * s.last)) := by
  unfold allow take
  rw [lemma_refill_tok]

theorem lemma_retry_threshold (r B : Int) (hr : 1 ≤ r) (hB : 512 ≤ B) (s : Bucket) (now : Int)
    (hrej : (allow r B s now).2.allowed = false) :
    1 ≤ (allow r B s now).2.reset ∧
    ∀ t', (now + 512 * (allow r B s now).2.reset ≤ t' → (allow r B (allow r B s now).1 t').2.allowed = true) ∧
      (t' ≤ now + 512 * ((allow r B s now).2.reset - 1) → (allow r B (allow r B s now).1 t').2.allowed = false) := by
  unfold allow take at hrej
  simp only [decide_eq_false_iff_not] at hrej
  have hst : (allow r B s now).1 = refill r B s now := by
    unfold allow take; simp only [hrej, if_false]
  have hR : (allow r B s now).2.reset = resetFor r (refill r B s now).tok := by
    unfold allow take; simp only [hrej, if_false]
  rw [hst, hR]
  generalize hs' : refill r B s now = s' at *
  have hlast : s'.last = now := by rw [← hs']; rfl
  have hd : 0 < 512 * r := by omega
  -- `R = ⌈need / rate⌉` with `need = 512 − tok > 0`
  obtain ⟨hc1, hc2⟩ := lemma_ceil (512 - s'.tok) (512 * r) hd
  have hq1 : 1 ≤ (512 - s'.tok + 512 * r - 1) / (512 * r) := Int.le_ediv_of_mul_le hd (by omega)
  generalize hq : (512 - s'.tok + 512 * r - 1) / (512 * r) = q at hc1 hc2 hq1
  have hRq : resetFor r s'.tok = q := by unfold resetFor; rw [hq]; omega
  rw [hRq]
  refine ⟨hq1, fun t' => ?_⟩
  rw [lemma_allowed_iff, hlast, decide_eq_true_eq, decide_eq_false_iff_not]
  have e : ∀ k, r * (now + 512 * k) = r * now + 512 * r * k := fun k => by
    rw [Int.mul_add, Int.mul_left_comm, Int.mul_assoc]
  have e2 : 512 * r * (q - 1) = 512 * r * q - 512 * r := by rw [Int.mul_sub, Int.mul_one]
  refine ⟨fun h => ?_, fun h => ?_⟩
  · have := Int.mul_le_mul_of_nonneg_left h (by omega : 0 ≤ r)
    rw [e] at this
    omega
  · have := Int.mul_le_mul_of_nonneg_left h (by omega : 0 ≤ r)
    rw [e] at this
    omega

/-- **`resetSeconds` is truthful and in seconds**: when a call at `now` is rejected with
    `resetSeconds = R`, a retry `R` seconds later (no other traffic on the key) is admitted, and
    `R` is the least positive whole number of seconds with that property. -/
theorem retry_after_truthful (r B : Int) (hr : 1 ≤ r) (hB : 512 ≤ B) (s : Bucket) (now : Int)
    (hrej : (allow r B s now).2.allowed = false) :
    1 ≤ (allow r B s now).2.reset ∧
    (allow r B (allow r B s now).1 (now + 512 * (allow r B s now).2.reset)).2.allowed = true ∧
    ((allow r B s now).2.reset = 1 ∨
     (allow r B (allow r B s now).1 (now + 512 * ((allow r B s now).2.reset - 1))).2.allowed = false) :=
  have ⟨h1, h⟩ := lemma_retry_threshold r B hr hB s now hrej
  ⟨h1, (h _).1 (Int.le_refl _), Or.inr ((h _).2 (Int.le_refl _))⟩

/-! ## simultaneous calls -/

/-- **N simultaneous requests never admit more than the tokens available.** `Allow` holds the
    entry's mutex for its whole read-modify-write, so any interleaving of N calls is some order of N
    atomic `allow` steps; with one timestamp they are N identical steps, and together they admit at
    most the whole tokens the refilled entry holds. (For calls with *different* timestamps in any
    order, `bucket_never_over_admits` applies: it quantifies over every list, hence every order.) -/
theorem concurrent_le_tokens (r B : Int) (s : Bucket) (now : Int) (N : Nat) :
    512 * (countTrue (run r B s (List.replicate N now)).2 : Int) ≤ max 0 (refill r B s now).tok := by
  cases N with
  | zero => simp [run, countTrue]; omega
  | succ n =>
    rw [List.replicate_succ]
    refine lemma_run_bound_first r B s now _ _ (by omega) fun tk htk => ?_
    have : tk = now := (List.mem_replicate.mp (List.replicate_succ ▸ htk)).2
    rw [this, Int.sub_self, Int.mul_zero]
    omega

/-! ## keys do not influence each other -/

theorem lemma_sset_cons (k' : Bytes) (v : Bucket) (rest : Store) (k : Bytes) (b : Bucket) :
    Store.set ((k', v) :: rest) k b = if (k == k') = true then (k', b) :: rest else (k', v) :: Store.set rest k b := by
  rw [Store.set]

theorem lemma_get_set (st : Store) (k k2 : Bytes) (b : Bucket) :
    (st.set k b).get k2 = if (k2 == k) = true then some b else st.get k2 :=
  List.lookup_set Store.set (fun _ _ => rfl) lemma_sset_cons st k k2 b

/-- one key's calls served on that key's entry alone (created full at the first call) -/
def runKey (r B : Int) : Option Bucket → List Int → List Out
  | _, [] => []
  | e, t :: ts =>
    (allow r B (e.getD { tok := B, last := t }) t).2 ::
      runKey r B (some (allow r B (e.getD { tok := B, last := t }) t).1) ts

theorem lemma_runKey_length (r B : Int) (e : Option Bucket) (ts : List Int) : (runKey r B e ts).length = ts.length := by
  induction ts generalizing e with
  | nil => rfl
  | cons t ts ih => simp only [runKey, List.length_cons, ih]

theorem lemma_runStore_cons (r B : Int) (st : Store) (k : Bytes) (t : Int) (rest : List (Bytes × Int)) :
    runStore r B st ((k, t) :: rest) =
      (Store.allowWith allow r B st k t).2 :: runStore r B (Store.allowWith allow r B st k t).1 rest := rfl

theorem lemma_project (r B : Int) (st : Store) (calls : List (Bytes × Int)) (k : Bytes) :
    project k calls (runStore r B st calls) =
      ((calls.filter (·.1 == k)).map (·.2)).zip (runKey r B (st.get k) ((calls.filter (·.1 == k)).map (·.2))) := by
  unfold project
  induction calls generalizing st with
  | nil => simp [runStore, runStoreWith, runKey]
  | cons c rest ih =>
    obtain ⟨key, t⟩ := c
    simp only [lemma_runStore_cons, List.zip_cons_cons, List.filterMap_cons, List.filter_cons]
    by_cases hk : (key == k) = true
    · have hkk : key = k := by simpa using hk
      subst hkk
      simp only [hk, if_true, List.map_cons, runKey, List.zip_cons_cons]
      rw [ih]
      simp only [Store.allowWith, lemma_get_set, beq_self_eq_true, if_true]
    · simp only [if_neg hk]
      rw [ih]
      have hne : k ≠ key := fun h => hk (h ▸ beq_self_eq_true k)
      simp only [Store.allowWith, lemma_get_set, beq_iff_eq, hne, if_false]

/-- **Keys are independent**: in any trace on a shared store, the answers to one key's calls are
    exactly what that key's calls get on an entry of their own — whatever the other keys do in
    between. -/
theorem keys_independent (r B : Int) (st : Store) (calls : List (Bytes × Int)) (k : Bytes) :
    ((calls.zip (runStore r B st calls)).filterMap fun co => if co.1.1 == k then some co.2 else none)
      = runKey r B (st.get k) ((calls.filter (·.1 == k)).map (·.2)) := by
  have h : ((calls.zip (runStore r B st calls)).filterMap fun co => if co.1.1 == k then some co.2 else none) =
      (project k calls (runStore r B st calls)).map (·.2) := by
    unfold project
    rw [List.map_filterMap]
    congr 1
    funext co
    split <;> rfl
  rw [h, lemma_project, List.map_snd_zip]
  rw [lemma_runKey_length]
  exact Nat.le_refl _

/-! ## middleware glue -/

/-- **429 with truthful headers**: the token-bucket middleware repeats the store's answer — the
    handler runs iff the call was admitted (or the limiter only reports), a rejection is answered 429
    with `Retry-After` = the store's `resetSeconds`, and `RateLimit-Remaining` / `RateLimit-Reset`
    are the store's values. -/
theorem mw_meets_spec (cfg : MwCfg) (txt : Bytes) (o : Out) : mwSpecOK cfg o (mwBucket cfg txt o) = true := by
  unfold mwSpecOK mwBucket
  -- the cases of the middleware: rejected without a callback (enforcing or only reporting), rejected with a
  -- callback, admitted
  cases o.allowed
  · cases cfg.hasCallback
    · cases cfg.enforce <;> cases cfg.headers <;> simp
    · cases cfg.headers <;> simp
  · cases cfg.headers <;> simp

theorem mw_rejects_with_429 (cfg : MwCfg) (txt : Bytes) (o : Out) (h : o.allowed = false)
    (he : cfg.enforce = true) (hc : cfg.hasCallback = false) :
    (mwBucket cfg txt o).status = 429 ∧ (mwBucket cfg txt o).ran = false ∧
    (mwBucket cfg txt o).retryAfter = some o.reset := by
  unfold mwBucket; simp [h, he, hc]

/-! ## the whole token-bucket oracle holds of the model -/

theorem lemma_runStore_length (r B : Int) (st : Store) (calls : List (Bytes × Int)) :
    (runStore r B st calls).length = calls.length := by
  induction calls generalizing st with
  | nil => rfl
  | cons c rest ih =>
    obtain ⟨k, t⟩ := c
    rw [lemma_runStore_cons, List.length_cons, List.length_cons, ih]

theorem lemma_runKey_none (r B : Int) (t : Int) (ts : List Int) :
    runKey r B none (t :: ts) = runKey r B (some { tok := B, last := t }) (t :: ts) := rfl

theorem lemma_runKey_allowed (r B : Int) (s : Bucket) (ts : List Int) :
    (runKey r B (some s) ts).map (·.allowed) = (run r B s ts).2 := by
  induction ts generalizing s with
  | nil => rfl
  | cons t ts ih => simp only [runKey, Option.getD_some, run, List.map_cons, ih]

theorem lemma_runKey_admitted (r B : Int) (s : Bucket) (ts : List Int) :
    ((runKey r B (some s) ts).filter (·.allowed)).length = countTrue (run r B s ts).2 := by
  rw [← lemma_runKey_allowed, countTrue, List.filter_map, List.length_map]
  rfl

theorem lemma_run_snoc (r B : Int) (s0 : Bucket) (pre : List Int) (t : Int) :
    run r B s0 (pre ++ [t]) =
      ((allow r B (run r B s0 pre).1 t).1, (run r B s0 pre).2 ++ [(allow r B (run r B s0 pre).1 t).2.allowed]) := by
  induction pre generalizing s0 with
  | nil => simp [run]
  | cons a pre ih => simp only [List.cons_append, run, ih, List.cons_append]

theorem lemma_countTrue_snoc (l : List Bool) (b : Bool) :
    (countTrue (l ++ [b]) : Int) = countTrue l + (if b then 1 else 0) := by
  unfold countTrue
  cases b <;> simp [List.filter_append]

theorem lemma_boundScan (r B : Int) (s : Bucket) (c lo hi : Int) (suf : List Int)
    (H : ∀ ts lo' hi', lo' ≤ lo → hi ≤ hi' → (∀ u ∈ ts, lo' ≤ u ∧ u ≤ hi') →
      512 * (c + countTrue (run r B s ts).2) ≤ B + r * (hi' - lo')) :
    boundScan r B c lo hi (suf.zip (runKey r B (some s) suf)) = true := by
  induction suf generalizing s c lo hi with
  | nil => rfl
  | cons t rest ih =>
    simp only [runKey, Option.getD_some, List.zip_cons_cons, boundScan, Bool.and_eq_true, decide_eq_true_eq]
    constructor
    · have := H [t] (min lo t) (max hi t) (Int.min_le_left ..) (Int.le_max_left ..) (by
        intro u hu
        rw [List.mem_singleton.mp hu]
        exact ⟨Int.min_le_right .., Int.le_max_right ..⟩)
      simp only [run, lemma_countTrue_cons, show countTrue [] = 0 from rfl, Int.natCast_zero, Int.add_zero] at this
      exact this
    · apply ih
      intro ts lo' hi' h1 h2 h3
      have := H (t :: ts) lo' hi' (Int.le_trans h1 (Int.min_le_left ..)) (Int.le_trans (Int.le_max_left ..) h2) (by
        intro u hu
        rcases List.mem_cons.mp hu with h | h
        · rw [h]; exact ⟨Int.le_trans h1 (Int.min_le_right ..), Int.le_trans (Int.le_max_right ..) h2⟩
        · exact h3 u h)
      simp only [run, lemma_countTrue_cons, ← Int.add_assoc] at this
      exact this

theorem lemma_boundFrom (r B : Int) (hr : 0 ≤ r) (hB : 0 ≤ B) (s : Bucket) (ts : List Int) :
    boundFrom r B (ts.zip (runKey r B (some s) ts)) = true := by
  cases ts with
  | nil => rfl
  | cons t rest =>
    exact lemma_boundScan r B s 0 t t (t :: rest) fun ts lo' hi' h1 h2 h3 => by
      have := bucket_never_over_admits r B hr hB s ts lo' (hi' - lo') (by omega) (fun u hu => by have := h3 u hu; omega)
      omega

theorem lemma_boundOK (r B : Int) (hr : 0 ≤ r) (hB : 0 ≤ B) (s : Bucket) (ts : List Int) :
    boundOK r B (ts.zip (runKey r B (some s) ts)) = true := by
  induction ts generalizing s with
  | nil => rfl
  | cons t ts ih =>
    have h1 := lemma_boundFrom r B hr hB s (t :: ts)
    simp only [runKey, Option.getD_some, List.zip_cons_cons] at h1 ⊢
    simp only [boundOK, h1, Bool.true_and]
    exact ih _

theorem lemma_retryHolds (r B : Int) (hr : 1 ≤ r) (hB : 512 ≤ B) (s : Bucket) (ts : List Int) :
    retryHolds (ts.zip (runKey r B (some s) ts)) = true := by
  induction ts generalizing s with
  | nil => rfl
  | cons t1 ts ih =>
    cases ts with
    | nil => rfl
    | cons t2 rest =>
      have ih' := ih (allow r B s t1).1
      simp only [runKey, Option.getD_some, List.zip_cons_cons] at ih' ⊢
      simp only [retryHolds, ih', Bool.and_true]
      split
      · next hc =>
        simp only [Bool.and_eq_true, Bool.not_eq_true', decide_eq_true_eq] at hc
        exact ((lemma_retry_threshold r B hr hB s t1 hc.1).2 t2).1 hc.2
      · rfl

theorem lemma_admits_eq (r B : Int) (hr : 0 ≤ r) (s : Bucket) (x : Ref) (now : Int)
    (hc : Coupled r B s x) (hnow : s.last ≤ now) : x.admits r B now = (allow r B s now).2.allowed := by
  obtain ⟨h2, _, _⟩ := lemma_coupled_step r B hr s x now hc hnow
  rw [h2]; unfold Ref.admits Ref.step
  by_cases h : x.avail r B now ≥ 512 <;> simp [h]

theorem lemma_refAgrees (r B : Int) (hr : 1 ≤ r) (hB : 512 ≤ B) (s : Bucket) (x : Ref) (ts : List Int)
    (hc : Coupled r B s x) (hsorted : sorted (s.last :: ts) = true) :
    refAgrees r B x (ts.zip (runKey r B (some s) ts)) = true := by
  induction ts generalizing s x with
  | nil => rfl
  | cons t ts ih =>
    simp only [sorted, Bool.and_eq_true, decide_eq_true_eq] at hsorted
    have hr0 : 0 ≤ r := by omega
    obtain ⟨hdec, hrem, hcoup⟩ := lemma_coupled_step r B hr0 s x t hc hsorted.1
    have ih' := ih (allow r B s t).1 (x.step r B t).1 hcoup (by rw [lemma_allow_last]; exact hsorted.2)
    simp only [runKey, Option.getD_some, List.zip_cons_cons, refAgrees, ih', Bool.and_true, hdec, hrem, beq_self_eq_true, Bool.true_and]
    by_cases h : x.avail r B t ≥ 512
    · have hstep : x.step r B t = ({ level := x.avail r B t - 512, at_ := t }, true) := by unfold Ref.step; rw [if_pos h]
      simp [hstep]
    · -- rejected: the reference bucket is unchanged and still coupled with the entry, so the threshold of the entry's
      -- retries is the reference's
      have hstep : x.step r B t = (x, false) := by unfold Ref.step; rw [if_neg h]
      rw [hstep] at hcoup hdec
      obtain ⟨h1, h⟩ := lemma_retry_threshold r B hr hB s t hdec
      have hl := lemma_allow_last r B s t
      generalize (allow r B s t).2.reset = R at h1 h ⊢
      have e1 := lemma_admits_eq r B hr0 (allow r B s t).1 x (t + 512 * R) hcoup (by rw [hl]; omega)
      have e2 := lemma_admits_eq r B hr0 (allow r B s t).1 x (t + 512 * (R - 1)) hcoup (by rw [hl]; omega)
      simp [hstep, resetTruthful, e1, (h _).1 (Int.le_refl _), e2, (h _).2 (Int.le_refl _), h1]

/-- **The token-bucket model satisfies the whole oracle** the driver evaluates on the real store, for
    every trace: any number of keys, any clock sequence per key (the reference agreement is demanded —
    and proved — for the keys whose clock never regresses), any rate ≥ 1 and burst ≥ 1. -/
theorem bucket_meets_spec (r B : Int) (hr : 1 ≤ r) (hB : 512 ≤ B) (calls : List (Bytes × Int)) :
    bucketSpecOK r B calls (runStore r B [] calls) = true := by
  unfold bucketSpecOK
  rw [lemma_runStore_length]
  simp only [beq_self_eq_true, Bool.true_and, List.all_eq_true]
  intro k _
  rw [lemma_project]
  have hget : Store.get [] k = none := rfl
  rw [hget]
  cases (calls.filter (·.1 == k)).map (·.2) with
  | nil => rfl
  | cons t0 ts =>
    rw [lemma_runKey_none, lemma_boundOK r B (by omega) (by omega), lemma_retryHolds r B hr hB]
    have hmap : ((t0 :: ts).zip (runKey r B (some { tok := B, last := t0 }) (t0 :: ts))).map (·.1) = t0 :: ts :=
      List.map_fst_zip (by rw [lemma_runKey_length]; exact Nat.le_refl _)
    have href := lemma_refAgrees r B hr hB { tok := B, last := t0 } { level := B, at_ := t0 } (t0 :: ts) (lemma_coupled_new r B t0)
    generalize hp : (t0 :: ts).zip (runKey r B (some { tok := B, last := t0 }) (t0 :: ts)) = p at *
    obtain ⟨o, rest, rfl⟩ : ∃ o rest, p = (t0, o) :: rest := ⟨_, _, hp.symm⟩
    simp only [hmap, Bool.true_and]
    split
    · next hs => exact href (by simp only [sorted, Int.le_refl, decide_true, Bool.true_and]; exact hs)
    · rfl

theorem lemma_runStore_one_key (r B : Int) (st : Store) (key : Bytes) (ts : List Int) :
    runStore r B st (ts.map fun t => (key, t)) = runKey r B (st.get key) ts := by
  induction ts generalizing st with
  | nil => rfl
  | cons t ts ih =>
    rw [List.map_cons, lemma_runStore_cons, ih, runKey]
    simp only [Store.allowWith, lemma_get_set, beq_self_eq_true, if_true]

/-- **Cold start**: N simultaneous first requests on a fresh limiter (one key, one instant — every
    interleaving of the atomic `Allow` calls is that sequence) admit at most `burst` -/
theorem cold_meets_spec (r burst : Int) (hb : 0 ≤ burst) (key : Bytes) (now : Int) (N : Nat) :
    coldSpecOK burst (runStore r (burst * 512) [] ((List.replicate N now).map fun t => (key, t))) = true := by
  rw [lemma_runStore_one_key]
  unfold coldSpecOK
  simp only [decide_eq_true_eq]
  cases N with
  | zero => simp [runKey]; exact hb
  | succ n =>
    have hget : Store.get [] key = none := rfl
    rw [hget, List.replicate_succ, lemma_runKey_none, lemma_runKey_admitted]
    have h := concurrent_le_tokens r (burst * 512) { tok := burst * 512, last := now } now (n + 1)
    rw [List.replicate_succ] at h
    have hrf : (refill r (burst * 512) { tok := burst * 512, last := now } now).tok = burst * 512 := by
      unfold refill; simp
    rw [hrf] at h
    omega

/-! ## the cleanup loop is unobservable -/

/-- an entry the idle time has refilled completely answers every later call exactly like a brand-new
    (full) entry — answer and entry afterwards -/
theorem lemma_full_equiv (r B : Int) (hr : 0 ≤ r) (e : Bucket) (now t : Int) (ht : now ≤ t)
    (hfull : e.tok + (now - e.last) * r ≥ B) :
    allow r B e t = allow r B { tok := B, last := t } t := by
  have h1 := lemma_mul_sub r now e.last
  have h2 := lemma_mul_sub r t e.last
  have hmono : r * now ≤ r * t := Int.mul_le_mul_of_nonneg_left ht hr
  have hrf : refill r B e t = refill r B { tok := B, last := t } t := by
    unfold refill
    simp only [Int.sub_self, Int.zero_mul, Int.add_zero]
    have : ¬ B > B := by omega
    simp only [this, if_false]
    split
    · rfl
    · simp only [Bucket.mk.injEq, and_true]; omega
  unfold allow; rw [hrf]

/-- the relation kept between the entry with cleanup ticks (`e'`) and the entry without (`e`): from instant `now` on
    every call is answered alike, with the same entry afterwards. Stated on the answers, the relation is kept by a later
    instant and by a call for free; the one fact about the model is that a dropped entry is a full one (`lemma_full_equiv`) -/
def Covers (r B : Int) (now : Int) (e e' : Option Bucket) : Prop :=
  ∀ t, now ≤ t → allow r B (e'.getD { tok := B, last := t }) t = allow r B (e.getD { tok := B, last := t }) t

theorem lemma_cleanup_covers (r B ttl : Int) (hr : 0 ≤ r) (ops : List KeyOp) (e e' : Option Bucket) (now : Int)
    (hc : Covers r B now e e') (hsorted : sorted (now :: ops.map KeyOp.time) = true) :
    runOps r B ttl e' ops = runOps r B ttl e (callsOf ops) := by
  induction ops generalizing e e' now with
  | nil => rfl
  | cons op rest ih =>
    simp only [List.map_cons, sorted, Bool.and_eq_true, decide_eq_true_eq] at hsorted
    obtain ⟨hle, hs'⟩ := hsorted
    cases op with
    | call t =>
      simp only [runOps, runOpsWith, callsOf, hc t hle]
      congr 1
      exact ih _ _ t (fun _ _ => rfl) hs'
    | cleanup cnow =>
      have hc2 : Covers r B cnow e e' := fun t ht => hc t (Int.le_trans hle ht)
      cases e' with
      | none => exact ih e none cnow hc2 hs'
      | some b' =>
        simp only [runOps, runOpsWith, callsOf]
        split
        · next hd =>
          simp only [dropsEntry, Bool.and_eq_true, decide_eq_true_eq] at hd
          exact ih e none cnow (fun t ht => (lemma_full_equiv r B hr b' cnow t ht hd.2).symm.trans (hc2 t ht)) hs'
        · exact ih e (some b') cnow hc2 hs'

/-- **Cleanup is unobservable**: on one clock (operation times non-decreasing), whatever cleanup ticks
    are interleaved with a key's calls, the calls are answered exactly as if no cleanup ever ran — a
    removed entry is indistinguishable from the full new one the next call creates. Every rate ≥ 0,
    burst, TTL, entry state and operation list. -/
theorem cleanup_unobservable (r B ttl : Int) (hr : 0 ≤ r) (e : Option Bucket) (ops : List KeyOp)
    (hsorted : sorted (ops.map KeyOp.time) = true) :
    runOps r B ttl e ops = runOps r B ttl e (callsOf ops) := by
  cases ops with
  | nil => rfl
  | cons op rest =>
    exact lemma_cleanup_covers r B ttl hr (op :: rest) e e op.time (fun _ _ => rfl)
      (by simp only [List.map_cons, sorted, Int.le_refl, decide_true, Bool.true_and] at hsorted ⊢; exact hsorted)

theorem runOps_calls (r B ttl : Int) (e : Option Bucket) (ts : List Int) :
    runOps r B ttl e (ts.map KeyOp.call) = runKey r B e ts := by
  induction ts generalizing e with
  | nil => rfl
  | cons t ts ih =>
    simp only [List.map_cons, runOps, runOpsWith, runKey]
    congr 1
    exact ih _

/-- K16d / a TTL honoured without the refill test: rate 1, burst 5, TTL 0.1 s. The key uses its burst,
    a cleanup tick 0.25 s later drops the entry, and 0.35 s after the burst five more calls are admitted —
    with the repaired test none is -/
theorem cleanup_asis_observable_witness :
    (runOpsAsIs 1 2560 51 none
      [.call 0, .call 0, .call 0, .call 0, .call 0, .cleanup 128, .call 180, .call 180, .call 180, .call 180, .call 180]).map (·.allowed)
      = [true, true, true, true, true, true, true, true, true, true] ∧
    (runOps 1 2560 51 none
      [.call 0, .call 0, .call 0, .call 0, .call 0, .cleanup 128, .call 180, .call 180, .call 180, .call 180, .call 180]).map (·.allowed)
      = [true, true, true, true, true, false, false, false, false, false] := by
  decide +kernel

/-! ## sliding window, requests served one after the other -/

/-- one request served without interruption: `GetCounts`, the decision, `Incr` -/
def serve1 (cfg : WinCfg) (txt : Bytes) (st : WinStore) (q : WinReq) : WinStore × WinObs :=
  (st.set q.key (incr cfg.W (some (getCounts cfg.W (st.lookup q.key) q.now)) q.now),
   winAnswer cfg txt (decide_ cfg.limit cfg.W (getCounts cfg.W (st.lookup q.key) q.now) q.now))

theorem lemma_wset_nil (k : Bytes) (w : Win) : WinStore.set [] k w = [(k, w)] := rfl
theorem lemma_wset_cons (k' : Bytes) (v : Win) (rest : WinStore) (k : Bytes) (w : Win) :
    WinStore.set ((k', v) :: rest) k w = if (k == k') = true then (k', w) :: rest else (k', v) :: WinStore.set rest k w := by
  rw [WinStore.set]

theorem lemma_wset_set (st : WinStore) (k : Bytes) (w w2 : Win) : (st.set k w).set k w2 = st.set k w2 := by
  induction st with
  | nil => simp [lemma_wset_nil, lemma_wset_cons]
  | cons kv rest ih =>
    obtain ⟨k', v⟩ := kv
    by_cases h : (k == k') = true
    · simp [lemma_wset_cons, h]
    · simp only [lemma_wset_cons, if_neg h, ih]

theorem lemma_wlookup_set (st : WinStore) (k k2 : Bytes) (w : Win) :
    (st.set k w).lookup k2 = if (k2 == k) = true then some w else st.lookup k2 :=
  List.lookup_set WinStore.set (fun _ _ => rfl) lemma_wset_cons st k k2 w

theorem lemma_serve1_store (cfg : WinCfg) (txt : Bytes) (st : WinStore) (q : WinReq) :
    (serve1 cfg txt st q).1 = st.set q.key (incr cfg.W (some (getCounts cfg.W (st.lookup q.key) q.now)) q.now) := rfl

theorem lemma_serve1_answer (cfg : WinCfg) (txt : Bytes) (st : WinStore) (q : WinReq) :
    (serve1 cfg txt st q).2 = winAnswer cfg txt (decide_ cfg.limit cfg.W (getCounts cfg.W (st.lookup q.key) q.now) q.now) := rfl

theorem lemma_serve1_entry (cfg : WinCfg) (txt : Bytes) (st : WinStore) (q : WinReq) :
    ((serve1 cfg txt st q).1).lookup q.key = some (incr cfg.W (some (getCounts cfg.W (st.lookup q.key) q.now)) q.now) := by
  rw [lemma_serve1_store, lemma_wlookup_set, if_pos (beq_self_eq_true _)]

theorem lemma_serve1_other (cfg : WinCfg) (txt : Bytes) (st : WinStore) (q : WinReq) (k : Bytes) (hk : k ≠ q.key) :
    ((serve1 cfg txt st q).1).lookup k = st.lookup k := by
  rw [lemma_serve1_store, lemma_wlookup_set, if_neg (fun h => hk (eq_of_beq h))]

/-! ### the schedules that serve the requests one after the other -/

/-- the requests an atomic store serves, in the order of their `IncrAndGetCounts` steps -/
def servedOf (reqs : List WinReq) (sched : List Op) : List (Nat × WinReq) :=
  sched.filterMap fun
    | .get i => (reqs[i]?).map fun q => (i, q)
    | .inc _ => none

def runSeq (cfg : WinCfg) (txt : Bytes) : WinStore → List (Nat × WinReq) → List (Nat × WinObs)
  | _, [] => []
  | st, iq :: rest => (iq.1, (serve1 cfg txt st iq.2).2) :: runSeq cfg txt (serve1 cfg txt st iq.2).1 rest

theorem lemma_step_pair (cfg : WinCfg) (txt : Bytes) (reqs : List WinReq) (s : WinState) (i : Nat) (q : WinReq)
    (ha : cfg.atomic = false) (hq : reqs[i]? = some q) :
    stepWin cfg txt reqs (stepWin cfg txt reqs s (.get i)) (.inc i) =
      { store := (serve1 cfg txt s.store q).1,
        pending := (i, decide_ cfg.limit cfg.W (getCounts cfg.W (s.store.lookup q.key) q.now) q.now) :: s.pending,
        answers := s.answers ++ [(i, (serve1 cfg txt s.store q).2)] } := by
  -- `get` stores the rolled window and remembers the verdict under `i`; `inc` finds that verdict and counts on the
  -- window just stored: the two writes to the entry are the one of `serve1` (`lemma_wset_set`)
  simp only [stepWin, ha, Bool.false_eq_true, if_false, hq, List.lookup_cons, beq_self_eq_true,
    lemma_wlookup_set, if_true, serve1]
  rw [lemma_wset_set]

theorem lemma_serial_fold (cfg : WinCfg) (txt : Bytes) (reqs : List WinReq) (ha : cfg.atomic = false)
    (is : List Nat) (s : WinState) :
    ((is.flatMap fun i => [Op.get i, Op.inc i]).foldl (stepWin cfg txt reqs) s).answers =
      s.answers ++ runSeq cfg txt s.store (servedOf reqs (is.flatMap fun i => [Op.get i, Op.inc i])) := by
  induction is generalizing s with
  | nil => simp [servedOf, runSeq]
  | cons i is ih =>
    simp only [List.flatMap_cons, List.cons_append, List.nil_append, List.foldl_cons]
    cases hq : reqs[i]? with
    | none =>
      have hs : stepWin cfg txt reqs (stepWin cfg txt reqs s (.get i)) (.inc i) = s := by simp [stepWin, hq, ha]
      rw [hs, ih]
      simp [servedOf, hq]
    | some q =>
      rw [lemma_step_pair cfg txt reqs s i q ha hq, ih]
      simp [servedOf, hq, runSeq]

theorem lemma_runWin_serial (cfg : WinCfg) (txt : Bytes) (reqs : List WinReq) (ha : cfg.atomic = false) (n : Nat) :
    runWin cfg txt reqs (serial n) = runSeq cfg txt [] (servedOf reqs (serial n)) := by
  unfold runWin serial
  simpa using lemma_serial_fold cfg txt reqs ha (List.range n) { store := [], pending := [], answers := [] }

theorem lemma_atomic_fold (cfg : WinCfg) (txt : Bytes) (reqs : List WinReq) (ha : cfg.atomic = true)
    (sched : List Op) (s : WinState) :
    (sched.foldl (stepWin cfg txt reqs) s).answers = s.answers ++ runSeq cfg txt s.store (servedOf reqs sched) := by
  induction sched generalizing s with
  | nil => simp [servedOf, runSeq]
  | cons op rest ih =>
    simp only [List.foldl_cons]
    rw [ih]
    -- on an atomic store `inc` does nothing, and `get i` is `serve1` on request `i`: it installs `serve1`'s store and
    -- appends `serve1`'s answer, which is the head of `runSeq`
    cases op with
    | inc i => simp [stepWin, ha, servedOf]
    | get i =>
      cases hq : reqs[i]? with
      | none => simp [stepWin, hq, servedOf]
      | some q => simp [stepWin, hq, ha, servedOf, runSeq, serve1, List.append_assoc]

theorem lemma_runWin_atomic (cfg : WinCfg) (txt : Bytes) (reqs : List WinReq) (ha : cfg.atomic = true) (sched : List Op) :
    runWin cfg txt reqs sched = runSeq cfg txt [] (servedOf reqs sched) := by
  unfold runWin
  simpa using lemma_atomic_fold cfg txt reqs ha sched { store := [], pending := [], answers := [] }

theorem lemma_served_mem (reqs : List WinReq) (sched : List Op) (iq : Nat × WinReq)
    (h : iq ∈ servedOf reqs sched) : reqs[iq.1]? = some iq.2 := by
  unfold servedOf at h
  rw [List.mem_filterMap] at h
  obtain ⟨op, _, hop⟩ := h
  cases op with
  | inc i => simp at hop
  | get i =>
    simp only [Option.map_eq_some_iff] at hop
    obtain ⟨q, hq, he⟩ := hop
    rw [← he]; exact hq

theorem lemma_served_serial (reqs : List WinReq) (n : Nat) : (servedOf reqs (serial n)).map (·.2) = reqs.take n := by
  induction n with
  | zero => rfl
  | succ n ih =>
    unfold serial servedOf at ih ⊢
    rw [List.range_succ, List.flatMap_append, List.filterMap_append, List.map_append, ih, List.take_add_one]
    cases h : reqs[n]? <;> simp [h]

/-! ### the counting invariant -/

/-- what a served request contributes to the admitted list: its key and window, if the handler ran -/
def adm1 (cfg : WinCfg) (q : WinReq) (o : WinObs) : List (Bytes × Nat) :=
  if o.ran then [(q.key, windowStart cfg.W q.now)] else []

def admSerial (cfg : WinCfg) (txt : Bytes) : WinStore → List WinReq → List (Bytes × Nat)
  | _, [] => []
  | st, q :: rest => adm1 cfg q (serve1 cfg txt st q).2 ++ admSerial cfg txt (serve1 cfg txt st q).1 rest

def cnt (kw : Bytes × Nat) (l : List (Bytes × Nat)) : Nat := (l.filter (· == kw)).length

theorem lemma_cnt_append (kw : Bytes × Nat) (a b : List (Bytes × Nat)) : cnt kw (a ++ b) = cnt kw a + cnt kw b := by
  simp [cnt, List.filter_append]

theorem lemma_cnt_adm1 (cfg : WinCfg) (q : WinReq) (o : WinObs) (k : Bytes) (ws : Nat) :
    cnt (k, ws) (adm1 cfg q o) = if o.ran = true ∧ k = q.key ∧ ws = windowStart cfg.W q.now then 1 else 0 := by
  unfold adm1 cnt
  by_cases h : k = q.key ∧ ws = windowStart cfg.W q.now
  · cases o.ran <;> simp [h]
  · have : ¬ (q.key = k ∧ windowStart cfg.W q.now = ws) := fun h' => h ⟨h'.1.symm, h'.2.symm⟩
    cases o.ran <;> simp [h, this]

theorem lemma_windowStart_mono (W a b : Nat) (h : a ≤ b) : windowStart W a ≤ windowStart W b := by
  unfold windowStart
  exact Nat.sub_le_sub_right (Nat.mul_le_mul_right _ (Nat.div_le_div_right (Nat.add_le_add_right h _))) _

theorem lemma_ws_div (W t : Nat) (hW : 1 ≤ W) : ∃ q, windowStart W t = q * W - zeroOffset ∧
    q * W * nsPerSec ≤ t + zeroOffset * nsPerSec ∧ t + zeroOffset * nsPerSec < q * W * nsPerSec + W * nsPerSec := by
  refine ⟨(t + zeroOffset * nsPerSec) / (W * nsPerSec), rfl, ?_, ?_⟩
  · rw [Nat.mul_assoc]
    exact Nat.div_mul_le_self ..
  · have := Nat.lt_mul_div_succ (t + zeroOffset * nsPerSec) (Nat.mul_pos hW (by decide : 0 < nsPerSec))
    rwa [Nat.mul_add, Nat.mul_one, Nat.mul_comm (W * nsPerSec), ← Nat.mul_assoc] at this

theorem lemma_ws_le (W t : Nat) (hW : 1 ≤ W) : windowStart W t * nsPerSec ≤ t := by
  obtain ⟨q, h, h1, _⟩ := lemma_ws_div W t hW
  rw [h, Nat.sub_mul]
  omega

theorem lemma_ws_next (W t : Nat) (hW : 1 ≤ W) : t < (windowStart W t + W) * nsPerSec := by
  obtain ⟨q, h, _, h2⟩ := lemma_ws_div W t hW
  rw [h, Nat.add_mul, Nat.sub_mul]
  omega

theorem lemma_cnt_zero (cfg : WinCfg) (txt : Bytes) (st : WinStore) (reqs : List WinReq) (k : Bytes) (ws : Nat)
    (h : ∀ q ∈ reqs, ws < windowStart cfg.W q.now) : cnt (k, ws) (admSerial cfg txt st reqs) = 0 := by
  induction reqs generalizing st with
  | nil => rfl
  | cons q rest ih =>
    rw [admSerial, lemma_cnt_append, lemma_cnt_adm1, ih _ (fun q' hq' => h q' (List.mem_cons_of_mem _ hq')), if_neg]
    exact fun ⟨_, _, hws⟩ => Nat.ne_of_lt (h q (List.mem_cons_self ..)) hws

theorem lemma_ran_usage_lt (cfg : WinCfg) (txt : Bytes) (d : Decision)
    (henf : cfg.enforce = true ∨ cfg.hasCallback = true) (h : (winAnswer cfg txt d).ran = true) : d.usage < cfg.limit := by
  unfold winAnswer at h
  by_cases hge : d.usage ≥ cfg.limit
  · exfalso
    simp only [hge, if_true] at h
    rcases henf with he | hc
    · by_cases hc : cfg.hasCallback = true <;> simp [he, hc] at h
    · simp [hc] at h
  · omega

/-- what an entry has already counted towards the window starting at `s`: the count of its own window, or — for the
    window right before it — everything a stale call adds up (`prev + cur`). A stale call (clock reading before the
    entry's window) needs a regressing clock (C16Regress); with a non-decreasing clock only the first case is met. -/
def usedOf (W : Nat) (e : Option Win) (s : Nat) : Nat :=
  match e with
  | some w => if w.ws = s then w.cur else if s + W = w.ws then w.prev + w.cur else 0
  | none => 0

theorem lemma_usedOf_incr (W : Nat) (w : Win) (s : Nat) :
    usedOf W (some { w with cur := w.cur + 1 }) s = usedOf W (some w) s + if w.ws = s ∨ s + W = w.ws then 1 else 0 := by
  simp only [usedOf]
  by_cases h1 : w.ws = s
  · simp [h1]
  · by_cases h2 : s + W = w.ws
    · simp [h1, h2, Nat.add_assoc]
    · simp [h1, h2]

theorem lemma_incr_same (W : Nat) (w : Win) (now : Nat) (h : w.ws = windowStart W now) :
    incr W (some w) now = { w with cur := w.cur + 1 } := by
  unfold incr
  generalize windowStart W now = ws0 at h ⊢
  have : ¬ w.ws < ws0 := by omega
  simp only [this, if_false]

section
attribute [local irreducible] windowStart

theorem lemma_getCounts_some (W : Nat) (w : Win) (t : Nat) :
    getCounts W (some w) t =
      if w.ws < windowStart W t then { cur := 0, prev := carried W w (windowStart W t), ws := windowStart W t } else w := rfl

theorem lemma_getCounts_ws (W : Nat) (e : Option Win) (t : Nat) :
    (getCounts W e t).ws = windowStart W t ∨
    ∃ w, e = some w ∧ (getCounts W e t).ws = w.ws ∧ windowStart W t ≤ w.ws := by
  cases e with
  | none => exact Or.inl rfl
  | some w =>
    rw [lemma_getCounts_some]
    split
    · exact Or.inl rfl
    · next h => exact Or.inr ⟨w, rfl, rfl, Nat.le_of_not_lt h⟩

theorem lemma_getCounts (W : Nat) (e : Option Win) (now : Nat)
    (he : ∀ w, e = some w → w.ws ≤ windowStart W now) : (getCounts W e now).ws = windowStart W now := by
  rcases lemma_getCounts_ws W e now with h | ⟨w, hw, h, hle⟩
  · exact h
  · rw [h]; exact Nat.le_antisymm (he w hw) hle

theorem lemma_getCounts_ws_ge (W : Nat) (e : Option Win) (t : Nat) : windowStart W t ≤ (getCounts W e t).ws := by
  rcases lemma_getCounts_ws W e t with h | ⟨w, _, h, hle⟩
  · exact Nat.le_of_eq h.symm
  · rw [h]; exact hle

theorem lemma_incr_getCounts (W : Nat) (e : Option Win) (t : Nat) :
    incr W (some (getCounts W e t)) t = { getCounts W e t with cur := (getCounts W e t).cur + 1 } := by
  unfold incr
  simp only [Nat.not_lt.mpr (lemma_getCounts_ws_ge W e t), if_false]

/-- `hroll`: where `GetCounts` rolls the entry out of `s`, it is by exactly one window, and then the count is carried over -/
theorem lemma_usedOf_getCounts (W : Nat) (e : Option Win) (t s : Nat) (hs : windowStart W t ≤ s + W)
    (hroll : ∀ w, e = some w → w.ws = s → s < windowStart W t → s + W ≤ windowStart W t) :
    usedOf W e s ≤ usedOf W (some (getCounts W e t)) s := by
  cases e with
  | none => exact Nat.zero_le _
  | some w =>
    rw [lemma_getCounts_some]
    split
    · next hlt =>
      have hsep := hroll w rfl
      generalize windowStart W t = x at *
      simp only [usedOf, carried]
      by_cases h1 : w.ws = s
      · have := hsep h1 (h1 ▸ hlt)
        rw [if_pos h1, if_neg (by omega : ¬ x = s), if_pos (by omega : s + W = x), if_neg (by omega : ¬ w.ws + W < x)]
        exact Nat.le_add_right _ _
      · rw [if_neg h1, if_neg (by omega : ¬ s + W = w.ws)]
        exact Nat.zero_le _
    · exact Nat.le_refl _

/-- the usage the middleware computes is at least what the reported entry has counted towards the call's window:
    for a stale call (reading before the entry's window) the elapsed time is 0 and the estimate is `prev + cur` -/
theorem lemma_usedOf_le_usage (L W : Nat) (hW : 1 ≤ W) (g : Win) (t : Nat)
    (h : g.ws = windowStart W t ∨ g.ws = windowStart W t + W) :
    usedOf W (some g) (windowStart W t) ≤ (decide_ L W g t).usage := by
  have hWn : 1 ≤ W * nsPerSec := Nat.mul_pos hW (by decide)
  have hnext := lemma_ws_next W t hW
  simp only [usedOf, decide_, elapsedNs]
  rw [Nat.le_div_iff_mul_le hWn]
  generalize windowStart W t = x at *
  rcases h with h | h
  · rw [if_pos h]
    exact Nat.le_add_right _ _
  · rw [if_neg (by omega : ¬ g.ws = x), if_pos h.symm, h, Nat.sub_eq_zero_of_le (Nat.le_of_lt hnext), Nat.zero_min,
      Nat.sub_zero, Nat.add_mul, Nat.add_comm]
    exact Nat.le_refl _

theorem lemma_step_usedOf (cfg : WinCfg) (txt : Bytes) (hW : 1 ≤ cfg.W)
    (henf : cfg.enforce = true ∨ cfg.hasCallback = true) (st : WinStore) (q : WinReq) (s : Nat)
    (hws : (getCounts cfg.W (st.lookup q.key) q.now).ws = windowStart cfg.W q.now ∨
      (getCounts cfg.W (st.lookup q.key) q.now).ws = windowStart cfg.W q.now + cfg.W)
    (hs : windowStart cfg.W q.now ≤ s + cfg.W)
    (hroll : ∀ w, st.lookup q.key = some w → w.ws = s → s < windowStart cfg.W q.now → s + cfg.W ≤ windowStart cfg.W q.now) :
    usedOf cfg.W (st.lookup q.key) s + (if (serve1 cfg txt st q).2.ran = true ∧ s = windowStart cfg.W q.now then 1 else 0)
        ≤ usedOf cfg.W ((serve1 cfg txt st q).1.lookup q.key) s ∧
    ((serve1 cfg txt st q).2.ran = true → usedOf cfg.W (st.lookup q.key) (windowStart cfg.W q.now) < cfg.limit) := by
  rw [lemma_serve1_entry, lemma_incr_getCounts, lemma_usedOf_incr]
  refine ⟨?_, fun hran => ?_⟩
  · have := lemma_usedOf_getCounts cfg.W _ q.now s hs hroll
    generalize getCounts cfg.W (st.lookup q.key) q.now = g at *
    generalize windowStart cfg.W q.now = x at *
    split
    · -- an admission: by `hws`, `Incr` counts it towards the request's window
      next h =>
      rw [if_pos (by omega)]
      omega
    · exact Nat.le_trans this (Nat.le_add_right _ _)
  · exact Nat.lt_of_le_of_lt
      (Nat.le_trans (lemma_usedOf_getCounts cfg.W _ q.now _ (Nat.le_add_right _ _) fun _ _ _ h => absurd h (Nat.lt_irrefl _))
        (lemma_usedOf_le_usage _ _ hW _ _ hws))
      (lemma_ran_usage_lt cfg txt _ henf (lemma_serve1_answer cfg txt st q ▸ hran))

end

/-- entries are not ahead of any of the requests still to be served -/
def NotAhead (W : Nat) (st : WinStore) (l : List WinReq) : Prop :=
  ∀ k w, st.lookup k = some w → ∀ q ∈ l, w.ws ≤ windowStart W q.now

theorem lemma_notAhead_nil (W : Nat) (l : List WinReq) : NotAhead W [] l := fun _ _ h => nomatch h

theorem lemma_serve1_ws (cfg : WinCfg) (txt : Bytes) (st : WinStore) (q : WinReq) (k : Bytes) (w : Win)
    (hl : ((serve1 cfg txt st q).1).lookup k = some w) :
    w.ws = windowStart cfg.W q.now ∨ ∃ w0, st.lookup k = some w0 ∧ w.ws = w0.ws := by
  by_cases hk : k = q.key
  · subst hk
    rw [lemma_serve1_entry, lemma_incr_getCounts] at hl
    cases hl
    exact (lemma_getCounts_ws cfg.W (st.lookup q.key) q.now).imp_right fun ⟨w0, hw0, h, _⟩ => ⟨w0, hw0, h⟩
  · rw [lemma_serve1_other _ _ _ _ _ hk] at hl
    exact Or.inr ⟨w, hl, rfl⟩

theorem lemma_notAhead_step (cfg : WinCfg) (txt : Bytes) (st : WinStore) (q : WinReq) (rest : List WinReq)
    (hsorted : (q :: rest).Pairwise (fun a b => a.now ≤ b.now)) (hna : NotAhead cfg.W st (q :: rest)) :
    NotAhead cfg.W (serve1 cfg txt st q).1 rest := by
  intro k w hl q' hq'
  rcases lemma_serve1_ws cfg txt st q k w hl with h | ⟨w0, hw0, h⟩
  · rw [h]
    exact lemma_windowStart_mono _ _ _ ((List.pairwise_cons.mp hsorted).1 q' hq')
  · rw [h]
    exact hna k w0 hw0 q' (List.mem_cons_of_mem _ hq')

/-- The potential argument for the per-window count (requests served one after the other). `Φ e s` is read as what
    a key's entry `e` has counted towards the window starting at `s`. -/
theorem lemma_count_potential (cfg : WinCfg) (txt : Bytes) (Φ : Option Win → Nat → Nat)
    (Inv : WinStore → List WinReq → Prop)
    (hinv : ∀ st q rest, Inv st (q :: rest) → Inv (serve1 cfg txt st q).1 rest)
    (hlive : ∀ st q rest s, Inv st (q :: rest) →
      (∀ q' ∈ q :: rest, s < windowStart cfg.W q'.now) ∨
      (Φ (st.lookup q.key) s + (if (serve1 cfg txt st q).2.ran = true ∧ s = windowStart cfg.W q.now then 1 else 0)
          ≤ Φ (((serve1 cfg txt st q).1).lookup q.key) s ∧
       ((serve1 cfg txt st q).2.ran = true → Φ (st.lookup q.key) (windowStart cfg.W q.now) < cfg.limit)))
    (st : WinStore) (reqs : List WinReq) (h : Inv st reqs) (k : Bytes) (s : Nat) :
    cnt (k, s) (admSerial cfg txt st reqs) ≤ cfg.limit - Φ (st.lookup k) s := by
  induction reqs generalizing st with
  | nil => exact Nat.zero_le _
  | cons q rest ih =>
    have ih' := ih _ (hinv st q rest h)
    by_cases hk : k = q.key
    · subst hk
      rcases hlive st q rest s h with hdead | ⟨h1, h2⟩
      · rw [lemma_cnt_zero cfg txt st (q :: rest) q.key s hdead]
        exact Nat.zero_le _
      · rw [admSerial, lemma_cnt_append, lemma_cnt_adm1]
        simp only [true_and]
        split
        · next ha =>
          have := h2 ha.1
          rw [← ha.2] at this
          rw [if_pos ha] at h1
          omega
        · next ha =>
          rw [if_neg ha] at h1
          omega
    · -- another key: the entry of `k` is untouched
      rw [lemma_serve1_other _ _ _ _ _ hk] at ih'
      rw [admSerial, lemma_cnt_append, lemma_cnt_adm1]
      simpa only [hk, false_and, and_false, if_false, Nat.zero_add] using ih'

/-- The counting invariant of the sliding window (clock non-decreasing, entries not ahead of the clock): a window
    is out of reach once the clock has left it -/
theorem lemma_window_count (cfg : WinCfg) (txt : Bytes) (hW : 1 ≤ cfg.W)
    (henf : cfg.enforce = true ∨ cfg.hasCallback = true) (st : WinStore) (reqs : List WinReq)
    (hsorted : reqs.Pairwise (fun a b => a.now ≤ b.now)) (hst : NotAhead cfg.W st reqs) (k : Bytes) (s : Nat) :
    cnt (k, s) (admSerial cfg txt st reqs) ≤ cfg.limit - usedOf cfg.W (st.lookup k) s := by
  refine lemma_count_potential cfg txt (usedOf cfg.W)
    (fun st reqs => reqs.Pairwise (fun a b => a.now ≤ b.now) ∧ NotAhead cfg.W st reqs)
    (fun st q rest h => ⟨(List.pairwise_cons.mp h.1).2, lemma_notAhead_step cfg txt st q rest h.1 h.2⟩)
    (fun st q rest s h => ?_) st reqs ⟨hsorted, hst⟩ k s
  by_cases hold : s < windowStart cfg.W q.now
  · left
    intro q' hq'
    rcases List.mem_cons.mp hq' with h' | h'
    · rw [h']; exact hold
    · exact Nat.lt_of_lt_of_le hold (lemma_windowStart_mono _ _ _ ((List.pairwise_cons.mp h.1).1 q' h'))
  · exact Or.inr (lemma_step_usedOf cfg txt hW henf st q s
      (Or.inl (lemma_getCounts cfg.W _ q.now fun w hw => h.2 q.key w hw q (List.mem_cons_self ..)))
      (Nat.le_trans (Nat.le_of_not_lt hold) (Nat.le_add_right _ _)) fun _ _ _ hlt => absurd hlt hold)

theorem lemma_admitted_seq (cfg : WinCfg) (txt : Bytes) (reqs : List WinReq) (l : List (Nat × WinReq)) (st : WinStore)
    (hl : ∀ iq ∈ l, reqs[iq.1]? = some iq.2) :
    (runSeq cfg txt st l).filterMap (admittedOf cfg reqs) = admSerial cfg txt st (l.map (·.2)) := by
  induction l generalizing st with
  | nil => rfl
  | cons iq rest ih =>
    rw [List.map_cons, admSerial, ← ih _ (fun x hx => hl x (List.mem_cons_of_mem _ hx)), runSeq, List.filterMap_cons]
    unfold admittedOf adm1
    simp only [hl iq (List.mem_cons_self ..)]
    cases (serve1 cfg txt st iq.2).2.ran <;> rfl

theorem lemma_bound_of_count (cfg : WinCfg) (txt : Bytes) (reqs : List WinReq) (sched : List Op)
    (hseq : runWin cfg txt reqs sched = runSeq cfg txt [] (servedOf reqs sched))
    (h : (cfg.enforce = true ∨ cfg.hasCallback = true) →
      ∀ k ws, cnt (k, ws) (admSerial cfg txt [] ((servedOf reqs sched).map (·.2))) ≤ cfg.limit) :
    windowBoundOK cfg reqs (runWin cfg txt reqs sched) = true := by
  rw [hseq]
  unfold windowBoundOK
  split
  · rfl
  · next hrep =>
    have henf : cfg.enforce = true ∨ cfg.hasCallback = true := by
      cases he : cfg.enforce <;> cases hc : cfg.hasCallback <;> simp [he, hc] at hrep ⊢
    rw [lemma_admitted_seq cfg txt reqs _ _ (lemma_served_mem reqs sched), List.all_eq_true]
    intro kw _
    exact decide_eq_true (h henf kw.1 kw.2)

/-- the per-window bound of every schedule that amounts to serving the requests one after the other, the clock
    readings non-decreasing in the order of service; the serial schedule of a two-call store and every schedule of an
    atomic store are such schedules -/
theorem lemma_window_bound (cfg : WinCfg) (txt : Bytes) (reqs : List WinReq) (sched : List Op) (hW : 1 ≤ cfg.W)
    (hseq : runWin cfg txt reqs sched = runSeq cfg txt [] (servedOf reqs sched))
    (hsorted : ((servedOf reqs sched).map (·.2)).Pairwise (fun a b => a.now ≤ b.now)) :
    windowBoundOK cfg reqs (runWin cfg txt reqs sched) = true :=
  lemma_bound_of_count cfg txt reqs sched hseq fun henf k ws =>
    lemma_window_count cfg txt hW henf [] _ hsorted (lemma_notAhead_nil _ _) k ws

/-- **Sliding window, sequential bound**: when requests are served one after the other (the serial
    schedule: each request's `GetCounts` and `Incr` back to back) on a non-decreasing clock, then per
    key and fixed window no more than `limit` requests reach the handler — any number of keys, any
    number of windows, rejected requests and carried-over counts included. -/
theorem window_sequential_bound (cfg : WinCfg) (txt : Bytes) (reqs : List WinReq) (hW : 1 ≤ cfg.W)
    (ha : cfg.atomic = false) (hsorted : reqs.Pairwise (fun a b => a.now ≤ b.now)) :
    windowBoundOK cfg reqs (runWin cfg txt reqs (serial reqs.length)) = true := by
  refine lemma_window_bound cfg txt reqs _ hW (lemma_runWin_serial cfg txt reqs ha _) ?_
  rw [lemma_served_serial, List.take_length]
  exact hsorted

theorem lemma_winAnswer_reject (cfg : WinCfg) (txt : Bytes) (d : Decision) :
    ((winAnswer cfg txt d).status != 429 || ((winAnswer cfg txt d).retryAfter.isSome && !(winAnswer cfg txt d).ran)) = true := by
  unfold winAnswer
  by_cases h : d.usage ≥ cfg.limit
  · cases cfg.hasCallback <;> cases cfg.enforce <;> simp [h]
  · simp [h]

/-- **429 always comes with `Retry-After`** — every schedule, serial or not, either kind of store:
    whenever the sliding-window middleware answers 429 it sends a `Retry-After` and the handler does
    not run -/
theorem window_reject_has_retry_after (cfg : WinCfg) (txt : Bytes) (reqs : List WinReq) (sched : List Op) :
    rejectOK (runWin cfg txt reqs sched) = true := by
  unfold runWin
  refine List.foldlRecOn sched _ (motive := fun s : WinState => rejectOK s.answers = true) rfl fun s h op _ => ?_
  -- either kind of step leaves the answers alone or appends one `winAnswer`
  have hadd : ∀ (i : Nat) (d : Decision), rejectOK (s.answers ++ [(i, winAnswer cfg txt d)]) = true := by
    intro i d
    unfold rejectOK at h ⊢
    simp only [List.all_append, h, Bool.true_and, List.all_cons, List.all_nil, Bool.and_true]
    exact lemma_winAnswer_reject cfg txt d
  cases op with
  | get i =>
    simp only [stepWin]
    split
    · exact h
    · split
      · exact hadd _ _
      · exact h
  | inc i =>
    simp only [stepWin]
    split
    · exact h
    · split
      · exact hadd _ _
      · exact h

/-- **Sliding window over an atomic store, every interleaving**: whatever the schedule — any number
    of requests in flight at once, their steps interleaved in any way — per key and fixed window no
    more than `limit` requests reach the handler. (Hypothesis: the clock readings are non-decreasing
    in the order in which the store serves the calls.) -/
theorem window_atomic_bound (cfg : WinCfg) (txt : Bytes) (reqs : List WinReq) (sched : List Op) (hW : 1 ≤ cfg.W)
    (ha : cfg.atomic = true)
    (hsorted : ((servedOf reqs sched).map (·.2)).Pairwise (fun a b => a.now ≤ b.now)) :
    windowBoundOK cfg reqs (runWin cfg txt reqs sched) = true :=
  lemma_window_bound cfg txt reqs sched hW (lemma_runWin_atomic cfg txt reqs ha sched) hsorted

/-! ## sliding window: `Retry-After` is truthful -/

/-- `e'` into a window with `c` counted and `p` carried over: once `e'` is past `Wn·(p − (L − c))/p`, where the estimate
    `c + p·(1 − e'/Wn)` equals `L`, it is below `L`. (The window after a rejection is the case `c = 0`, the entry's count as `p`.) -/
theorem lemma_retry_same (Wn c p L e' : Nat) (hWn : 0 < Wn) (hp : 0 < p) (hcL : c < L) (he : e' ≤ Wn)
    (h : Wn * (p - (L - c)) / p < e') : c * Wn + p * (Wn - e') < L * Wn := by
  have h := Nat.lt_of_lt_of_le (Nat.lt_mul_div_succ _ hp) (Nat.mul_le_mul_left _ h)
  have e1 : p * (Wn - e') = Wn * p - p * e' := by rw [Nat.mul_sub, Nat.mul_comm p Wn]
  have e2 : Wn * (p - (L - c)) = Wn * p - (Wn * L - Wn * c) := by rw [Nat.mul_sub, Nat.mul_sub]
  rw [e1, Nat.mul_comm c Wn, Nat.mul_comm L Wn]
  rw [e2] at h
  have h1 : p * e' ≤ Wn * p := by rw [Nat.mul_comm Wn p]; exact Nat.mul_le_mul_left _ he
  have h2 : Wn * c < Wn * L := Nat.mul_lt_mul_of_pos_left hcL hWn
  omega

section
-- kept folded: the `▸` in `window_retry_truthful` otherwise unfolds `windowStart` and its division while unifying,
-- and stops at the maximum recursion depth
attribute [local irreducible] windowStart

/-- what the advertised wait buys: an entry whose window starts at `x` holds `c` counted requests and `p` carried
    over; a request at `t`, `el` into the window, is rejected and counted. At any `t'` at least the advertised wait
    later the sliding estimate is below the limit — while `t'` is still in the entry's window, and, seen from any
    window start `x'` up to the next window's, once the entry's count is what is carried over -/
theorem lemma_retry_estimate (L Wn c p el x t t' : Nat) (hL : 1 ≤ L) (hWn : 1 ≤ Wn) (hx : x + el ≤ t)
    (hrej : L * Wn ≤ c * Wn + p * (Wn - el))
    (hlate : t + ((if c + 1 < L then (if 0 < p then Wn * (p - (L - (c + 1))) / p - el else 0)
        else Wn - el + Wn * (c + 1 - L) / (c + 1)) / nsPerSec + 1) * nsPerSec ≤ t') :
    (t' < x + Wn → (c + 1) * Wn + p * (Wn - (t' - x)) < L * Wn) ∧
    (∀ x', x' ≤ x + Wn → (c + 1) * (Wn - min (t' - x') Wn) < L * Wn) := by
  -- the advertised wait, rounded up to whole seconds, ends strictly after the instant at which the estimate equals the limit
  have hdiv : ∀ wait, t + (wait / nsPerSec + 1) * nsPerSec ≤ t' → t + wait < t' := by
    intro wait h
    have := Nat.lt_mul_div_succ wait (by decide : 0 < nsPerSec)
    rw [Nat.mul_comm] at this
    exact Nat.lt_of_lt_of_le (Nat.add_lt_add_left this t) h
  by_cases hcl : c + 1 < L
  · rw [if_pos hcl] at hlate
    by_cases hp : 0 < p
    · rw [if_pos hp] at hlate
      have hlt : x + Wn * (p - (L - (c + 1))) / p < t' := by have := hdiv _ hlate; clear hlate hdiv hrej; omega
      refine ⟨fun h => ?_, fun x' _ => ?_⟩
      · exact lemma_retry_same Wn (c + 1) p L (t' - x) hWn hp hcl (Nat.sub_le_of_le_add (Nat.add_comm x Wn ▸ Nat.le_of_lt h))
          (Nat.le_sub_of_add_le' hlt)
      · -- a count below the limit is carried over
        exact Nat.lt_of_le_of_lt (Nat.mul_le_mul_left _ (Nat.sub_le _ _)) (Nat.mul_lt_mul_of_pos_right hcl hWn)
    · -- nothing carried over and the count below the limit: the request was not rejected
      rw [Nat.eq_zero_of_not_pos hp, Nat.zero_mul, Nat.add_zero] at hrej
      exact absurd (Nat.le_of_mul_le_mul_right hrej hWn) (Nat.not_le.mpr (Nat.lt_of_succ_lt hcl))
  · rw [if_neg hcl] at hlate
    have hlt : x + Wn + Wn * (c + 1 - L) / (c + 1) < t' := by have := hdiv _ hlate; clear hlate hdiv hrej; omega
    refine ⟨fun h => absurd h (Nat.not_lt.mpr (Nat.le_trans (Nat.le_add_right _ _) (Nat.le_of_lt hlt))), fun x' hx' => ?_⟩
    -- the next window's estimate is the same-window one with nothing counted yet and the entry's count carried over
    have := lemma_retry_same Wn 0 (c + 1) L (min (t' - x') Wn) hWn (Nat.succ_pos c) hL (Nat.min_le_right _ _)
    rw [Nat.zero_mul, Nat.zero_add, Nat.sub_zero] at this
    have hx' : x' + (Wn * (c + 1 - L) / (c + 1) + 1) ≤ t' := Nat.le_trans (Nat.add_le_add_right hx' _) hlt
    -- the retry comes after the crossing point, and the crossing point lies inside the window
    exact this (Nat.lt_min.2 ⟨Nat.le_sub_of_add_le' hx', Nat.div_lt_of_lt_mul
      (Nat.mul_comm Wn _ ▸ Nat.mul_lt_mul_of_pos_left (Nat.sub_lt (Nat.succ_pos c) hL) hWn)⟩)

/-- **Sliding window, truthful `Retry-After`** (any entry that is not ahead of the clock, any counts,
    `limit ≥ 1`, window ≥ 1 s): a request served at `t` and rejected is told `Retry-After: R`; the
    key's next request, at any instant `t' ≥ t + R` seconds — in the same window, in the next one
    or after an idle gap — sees a sliding estimate strictly below the limit, i.e. it is admitted.
    `serve1` is the one-step service of an atomic store (and of a two-call store without a context
    switch). -/
theorem window_retry_truthful (cfg : WinCfg) (hW : 1 ≤ cfg.W) (hL : 1 ≤ cfg.limit) (e : Option Win) (t t' : Nat)
    (he : ∀ w, e = some w → w.ws ≤ windowStart cfg.W t)
    (hrej : cfg.limit ≤ (decide_ cfg.limit cfg.W (getCounts cfg.W e t) t).usage)
    (hlate : t + (decide_ cfg.limit cfg.W (getCounts cfg.W e t) t).retry * nsPerSec ≤ t') :
    (decide_ cfg.limit cfg.W
      (getCounts cfg.W (some (incr cfg.W (some (getCounts cfg.W e t)) t)) t') t').usage < cfg.limit := by
  have hws := lemma_getCounts cfg.W e t he
  rw [lemma_incr_getCounts]
  generalize getCounts cfg.W e t = w at hws hrej hlate
  have hWn : 1 ≤ cfg.W * nsPerSec := Nat.mul_pos hW (by decide)
  have hle : w.ws * nsPerSec ≤ t := by rw [hws]; exact lemma_ws_le cfg.W t hW
  have htt : w.ws ≤ windowStart cfg.W t' :=
    hws ▸ lemma_windowStart_mono cfg.W t t' (Nat.le_trans (Nat.le_add_right _ _) hlate)
  simp only [decide_, retryAfter, elapsedNs] at hrej hlate
  -- `retryAfter` treats `limit = 0` apart; that branch is not taken
  rw [if_neg (Nat.ne_of_gt hL)] at hlate
  rw [Nat.le_div_iff_mul_le hWn] at hrej
  obtain ⟨hA, hB⟩ := lemma_retry_estimate cfg.limit (cfg.W * nsPerSec) w.cur w.prev _ (w.ws * nsPerSec) t t' hL hWn
    (Nat.add_le_of_le_sub' hle (Nat.min_le_left _ _)) hrej hlate
  -- the estimate the retry sees, by where `t'` falls: in the entry's window, in the window right after it, or after
  -- an idle gap (then nothing is carried over)
  rw [lemma_getCounts_some]
  simp only [decide_, elapsedNs]
  rw [Nat.div_lt_iff_lt_mul hWn]
  split
  · next hroll =>
    simp only [Nat.zero_mul, Nat.zero_add, carried]
    split
    · rw [Nat.zero_mul]
      exact Nat.mul_pos hL hWn
    · next hgap =>
      refine hB _ ?_
      rw [← Nat.add_mul]
      exact Nat.mul_le_mul_right _ (Nat.le_of_not_lt hgap)
  · next hroll =>
    dsimp only at hroll ⊢
    have hnext := lemma_ws_next cfg.W t' hW
    rw [← Nat.le_antisymm htt (Nat.le_of_not_lt hroll), Nat.add_mul] at hnext
    rw [Nat.min_eq_left (by omega)]
    exact hA hnext

end

/-- non-vacuity of `window_retry_truthful`, and the least-ness of the advertised wait on an example:
    limit 2, window 2 s, three requests 0.1 s into a window; the third is told `Retry-After: 3`, the
    retry 3 s later is admitted, a retry 2.003 s later (what the shipped code advertised) is not -/
example :
    let cfg : WinCfg := { limit := 2, W := 2, headers := true, enforce := true, hasCallback := false, atomic := true }
    let w : Win := { cur := 2, prev := 0, ws := 10 }
    cfg.limit ≤ (decide_ cfg.limit cfg.W (getCounts cfg.W (some w) 10102000000) 10102000000).usage ∧
    (decide_ cfg.limit cfg.W (getCounts cfg.W (some w) 10102000000) 10102000000).retry = 3 ∧
    (decide_ cfg.limit cfg.W (getCounts cfg.W (some { w with cur := 3 }) 13102000000) 13102000000).usage = 1 ∧
    (decide_ cfg.limit cfg.W (getCounts cfg.W (some { w with cur := 3 }) 12105000000) 12105000000).usage = 2 := by
  decide +kernel

/-! ## sliding window: the whole oracle, and where the shipped code fails it -/

/-- what `window_meets_spec_partial` leaves out. The class of inputs the open finding lives in, as the driver
    computes it (`DriverC16.winClass`): a store that only has the two-call interface (`GetCounts`, then `Incr`)
    driven by a schedule that is not serial — the check-then-act race is inherent to that interface (K16b). And,
    not part of that class, the cases that contain a marked retry (`window_retry_truthful` is about a single entry;
    C16Retry lifts it to whole traces for a store that counts atomically, `window_meets_spec_atomic`) -/
def Excluded (cfg : WinCfg) (reqs : List WinReq) (sched : List Op) (retries : List (Nat × Nat)) : Prop :=
  (cfg.atomic = false ∧ sched ≠ serial reqs.length) ∨ retries ≠ []

/-- **the sliding-window oracle holds outside the recorded class**: for an atomic store every
    schedule, for a two-call store the serial one -/
theorem window_meets_spec_partial (cfg : WinCfg) (txt : Bytes) (reqs : List WinReq) (sched : List Op)
    (retries : List (Nat × Nat)) (hW : 1 ≤ cfg.W)
    (hsorted : ((servedOf reqs sched).map (·.2)).Pairwise (fun a b => a.now ≤ b.now))
    (hD : ¬ Excluded cfg reqs sched retries) :
    (windowBoundOK cfg reqs (runWin cfg txt reqs sched) && retryOK reqs (runWin cfg txt reqs sched) retries &&
      rejectOK (runWin cfg txt reqs sched)) = true := by
  unfold Excluded at hD
  have h2 : retries = [] := Decidable.byContradiction fun h => hD (Or.inr h)
  subst h2
  have hseq : runWin cfg txt reqs sched = runSeq cfg txt [] (servedOf reqs sched) := by
    cases ha : cfg.atomic with
    | true => exact lemma_runWin_atomic cfg txt reqs ha sched
    | false =>
      rw [Decidable.byContradiction fun h => hD (Or.inl ⟨ha, h⟩)]
      exact lemma_runWin_serial cfg txt reqs ha _
  rw [lemma_window_bound cfg txt reqs sched hW hseq hsorted, window_reject_has_retry_after]
  rfl

/-- K16b, the race on a store that only has the two-call interface: limit 1, both requests read the
    count before either increments it — both reach the handler, the oracle fails; the same requests
    and the same schedule over a store that counts atomically: 200, 429 -/
theorem window_race_witness :
    let cfg : WinCfg := { limit := 1, W := 3600, headers := true, enforce := true, hasCallback := false, atomic := false }
    let reqs : List WinReq := [{ key := ['a'], now := 7200000000007 }, { key := ['a'], now := 7200000000008 }]
    let sched := [Op.get 0, Op.get 1, Op.inc 0, Op.inc 1]
    (runWin cfg [] reqs sched).map (fun a => a.2.ran) = [true, true] ∧
    windowBoundOK cfg reqs (runWin cfg [] reqs sched) = false ∧
    (runWin cfg [] reqs (serial 2)).map (fun a => a.2.status) = [200, 429] ∧
    (runWin { cfg with atomic := true } [] reqs sched).map (fun a => a.2.status) = [200, 429] ∧
    windowBoundOK { cfg with atomic := true } reqs (runWin { cfg with atomic := true } [] reqs sched) = true := by
  decide +kernel

/-- one-step service as shipped (no idle-gap test in the roll, `Retry-After` = time to the end of the
    fixed window) -/
def serve1AsIs (cfg : WinCfg) (txt : Bytes) (st : WinStore) (q : WinReq) : WinStore × WinObs :=
  (st.set q.key (incrAsIs cfg.W (some (getCountsAsIs cfg.W (st.lookup q.key) q.now)) q.now),
   winAnswerAsIs cfg txt (decide_ cfg.limit cfg.W (getCountsAsIs cfg.W (st.lookup q.key) q.now) q.now))

def runSerialAsIs (cfg : WinCfg) (txt : Bytes) : WinStore → Nat → List WinReq → List (Nat × WinObs)
  | _, _, [] => []
  | st, i, q :: rest => (i, (serve1AsIs cfg txt st q).2) :: runSerialAsIs cfg txt (serve1AsIs cfg txt st q).1 (i + 1) rest

/-- K16b, Retry-After as shipped: limit 2, window 2 s. The third request is rejected with
    `Retry-After: 2`; the retry 2.003 s later (no other traffic) falls 0.103 s into the next window,
    where the three counted requests carry over with weight 0.9485 — usage 2.8 — and is rejected again.
    Repaired: the third request is told `Retry-After: 3`, and the retry 3 s later is admitted. -/
theorem window_retry_untruthful_witness :
    let cfg : WinCfg := { limit := 2, W := 2, headers := true, enforce := true, hasCallback := false }
    let reqs : List WinReq := [{ key := ['a'], now := 10100000000 }, { key := ['a'], now := 10101000000 },
                               { key := ['a'], now := 10102000000 }, { key := ['a'], now := 12105000000 }]
    let reqs' : List WinReq := [{ key := ['a'], now := 10100000000 }, { key := ['a'], now := 10101000000 },
                               { key := ['a'], now := 10102000000 }, { key := ['a'], now := 13102000000 }]
    (runSerialAsIs cfg [] [] 0 reqs).map (fun a => (a.2.status, a.2.retryAfter)) =
      [(200, none), (200, none), (429, some 2), (429, some 2)] ∧
    retryOK reqs (runSerialAsIs cfg [] [] 0 reqs) [(2, 3)] = false ∧
    (runWin cfg [] reqs' (serial 4)).map (fun a => (a.2.status, a.2.retryAfter)) =
      [(200, none), (200, none), (429, some 3), (200, none)] ∧
    retryOK reqs' (runWin cfg [] reqs' (serial 4)) [(2, 3)] = true := by
  decide +kernel

/-- the idle-gap part of the repair: as shipped, an entry that had been idle for many windows still
    carried its old count into the window of the next request (limit 2, window 2 s, three requests,
    then one 20 s later: rejected); repaired, it is admitted -/
theorem window_idle_gap_witness :
    let cfg : WinCfg := { limit := 2, W := 2, headers := true, enforce := true, hasCallback := false }
    let reqs : List WinReq := [{ key := ['a'], now := 10100000000 }, { key := ['a'], now := 10101000000 },
                               { key := ['a'], now := 10102000000 }, { key := ['a'], now := 30000000000 }]
    (runSerialAsIs cfg [] [] 0 reqs).map (fun a => a.2.status) = [200, 200, 429, 429] ∧
    (runWin cfg [] reqs (serial 4)).map (fun a => a.2.status) = [200, 200, 429, 200] := by
  decide +kernel

/-! ## token bucket: `resetSeconds` as shipped (K16a), non-vacuity -/

/-- K16a: as shipped, a call rejected for half a token at one token per second reported
    `resetSeconds = 500000000` (nanoseconds); the repaired code says 1 -/
theorem bucket_asis_reset_witness :
    (allowAsIs 1 512 { tok := 0, last := 0 } 256).2 = { allowed := false, remaining := 0, reset := 500000000 } ∧
    (allow 1 512 { tok := 0, last := 0 } 256).2 = { allowed := false, remaining := 0, reset := 1 } := by
  decide

/-- burst 3 at one token per second: four calls at once admit three; half a second later still
    nothing; a full second after the rejection the retry succeeds (hypotheses of the theorems are met) -/
example : (runStore 1 (3 * 512) [] [("k".toList, 0), ("k".toList, 0), ("k".toList, 0), ("k".toList, 0),
                                     ("k".toList, 256), ("k".toList, 512)]).map (·.allowed)
          = [true, true, true, false, false, true] := by decide +kernel
example : bucketSpecOK 1 (3 * 512) [("k".toList, 0), ("k".toList, 0), ("k".toList, 0), ("k".toList, 0), ("k".toList, 256), ("k".toList, 512)]
            (runStore 1 (3 * 512) [] [("k".toList, 0), ("k".toList, 0), ("k".toList, 0), ("k".toList, 0), ("k".toList, 256), ("k".toList, 512)]) = true := by
  decide +kernel
/-- a regressing clock takes tokens away (under-admission, which the statement allows) and never adds any -/
example : (run 5 (2 * 512) { tok := 1024, last := 1000 } [1000, 400, 400, 1000, 1000]).2 = [true, false, false, true, false] := by decide +kernel

end Rivaas.C16
