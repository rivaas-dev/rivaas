import Rivaas.Props.C16
/-
C16, sliding window: the truthful `Retry-After` lifted from one entry (`window_retry_truthful`) to whole traces —
any number of keys, requests of other keys in between — and with it the complete window oracle for a store with the
one-call interface (`window_meets_spec_atomic`, no exclusion left for that kind of store). Then: the advertised wait
against the oracle's estimate for scripted counts, the window store's cleanup loop is unobservable, keys of the
window store are independent, and `ratelimit.New` always builds a bucket with rate ≥ 1 and burst ≥ 1.
-/
namespace Rivaas.C16
open Rivaas.RateLimit

def storeAfter (cfg : WinCfg) (txt : Bytes) (st : WinStore) (l : List WinReq) : WinStore :=
  l.foldl (fun s q => (serve1 cfg txt s q).1) st

theorem lemma_notAhead_after (cfg : WinCfg) (txt : Bytes) (l rest : List WinReq) (st : WinStore)
    (hsorted : (l ++ rest).Pairwise (fun a b => a.now ≤ b.now)) (hna : NotAhead cfg.W st (l ++ rest)) :
    NotAhead cfg.W (storeAfter cfg txt st l) rest := by
  induction l generalizing st with
  | nil => exact hna
  | cons q l ih =>
    simp only [storeAfter, List.foldl_cons]
    exact ih _ (List.pairwise_cons.mp hsorted).2 (lemma_notAhead_step cfg txt st q (l ++ rest) hsorted hna)

theorem lemma_storeAfter_other (cfg : WinCfg) (txt : Bytes) (k : Bytes) (mid : List WinReq) (st : WinStore)
    (hmid : ∀ q ∈ mid, q.key ≠ k) : (storeAfter cfg txt st mid).lookup k = st.lookup k :=
  List.foldlRecOn mid _ (motive := fun s : WinStore => s.lookup k = st.lookup k) rfl fun s h q hq =>
    (lemma_serve1_other cfg txt s q k fun e => hmid q hq e.symm).trans h

theorem lemma_retryAfter_some (cfg : WinCfg) (txt : Bytes) (d : Decision) (R : Nat)
    (h : (winAnswer cfg txt d).retryAfter = some R) : cfg.limit ≤ d.usage ∧ R = d.retry := by
  unfold winAnswer at h
  by_cases hge : d.usage ≥ cfg.limit
  · refine ⟨hge, ?_⟩
    simp only [hge, if_true] at h
    cases hc : cfg.hasCallback <;> cases he : cfg.enforce <;> simp [hc, he] at h
    exact h.symm
  · simp [hge] at h

theorem lemma_ran_of_lt (cfg : WinCfg) (txt : Bytes) (d : Decision) (h : d.usage < cfg.limit) :
    (winAnswer cfg txt d).ran = true := by
  unfold winAnswer
  have : ¬ d.usage ≥ cfg.limit := by omega
  simp [this]

theorem lemma_retry_in_run (cfg : WinCfg) (txt : Bytes) (hW : 1 ≤ cfg.W) (hL : 1 ≤ cfg.limit)
    (st : WinStore) (qi : WinReq) (mid : List WinReq) (qj : WinReq)
    (hkey : qj.key = qi.key) (hmid : ∀ q ∈ mid, q.key ≠ qi.key)
    (hna : NotAhead cfg.W st [qi])
    (R : Nat) (hR : (serve1 cfg txt st qi).2.retryAfter = some R) (hlate : qi.now + R * nsPerSec ≤ qj.now) :
    (serve1 cfg txt (storeAfter cfg txt (serve1 cfg txt st qi).1 mid) qj).2.ran = true := by
  obtain ⟨hrej, hRr⟩ := lemma_retryAfter_some cfg txt _ R hR
  have hl : (storeAfter cfg txt (serve1 cfg txt st qi).1 mid).lookup qj.key =
      some (incr cfg.W (some (getCounts cfg.W (st.lookup qi.key) qi.now)) qi.now) := by
    rw [hkey, lemma_storeAfter_other cfg txt qi.key mid _ hmid, lemma_serve1_entry]
  rw [lemma_serve1_answer, hl]
  apply lemma_ran_of_lt
  apply window_retry_truthful cfg hW hL (st.lookup qi.key) qi.now qj.now
  · intro w hw; exact hna qi.key w hw qi (List.mem_cons_self ..)
  · exact hrej
  · rw [← hRr]; exact hlate

/-! ### the oracle's `retryOK` on a whole run -/

theorem lemma_storeAfter_append (cfg : WinCfg) (txt : Bytes) (st : WinStore) (a b : List WinReq) :
    storeAfter cfg txt st (a ++ b) = storeAfter cfg txt (storeAfter cfg txt st a) b := by
  simp [storeAfter, List.foldl_append]

theorem lemma_lookup_runSeq (cfg : WinCfg) (txt : Bytes) (st : WinStore) (pre rest : List (Nat × WinReq)) (i : Nat)
    (q : WinReq) (hpre : ∀ x ∈ pre, x.1 ≠ i) :
    (runSeq cfg txt st (pre ++ (i, q) :: rest)).lookup i =
      some (serve1 cfg txt (storeAfter cfg txt st (pre.map (·.2))) q).2 := by
  induction pre generalizing st with
  | nil => simp [runSeq, storeAfter]
  | cons x pre ih =>
    have hx : (i == x.1) = false := beq_eq_false_iff_ne.mpr fun e => hpre x (List.mem_cons_self ..) e.symm
    simp only [List.cons_append, runSeq, List.lookup_cons, hx]
    exact ih _ fun y hy => hpre y (List.mem_cons_of_mem _ hy)

/-- a marked retry `(i, j)`: in the order of service, request `i`, then only requests of other keys, then `j` — the
    same key — and the indices before them are other requests -/
structure RetryPair (served : List (Nat × WinReq)) (i j : Nat) : Prop where
  split : ∃ pre qi mid qj post, served = pre ++ (i, qi) :: mid ++ (j, qj) :: post ∧
      (∀ x ∈ pre, x.1 ≠ i ∧ x.1 ≠ j) ∧ (∀ x ∈ mid, x.1 ≠ j ∧ x.2.key ≠ qi.key) ∧ i ≠ j ∧ qj.key = qi.key

/-- **`retryOK` holds on every run over an atomic store** (clock non-decreasing in service order, `limit ≥ 1`,
    window ≥ 1 s): whenever a request was answered 429 with `Retry-After: R` and the key's next request comes at
    least `R` seconds later, that request reaches the handler -/
theorem window_retry_ok (cfg : WinCfg) (txt : Bytes) (reqs : List WinReq) (served : List (Nat × WinReq))
    (hW : 1 ≤ cfg.W) (hL : 1 ≤ cfg.limit)
    (hreq : ∀ x ∈ served, reqs[x.1]? = some x.2)
    (hsorted : (served.map (·.2)).Pairwise (fun a b => a.now ≤ b.now))
    (retries : List (Nat × Nat)) (hret : ∀ ij ∈ retries, RetryPair served ij.1 ij.2) :
    retryOK reqs (runSeq cfg txt [] served) retries = true := by
  unfold retryOK
  rw [List.all_eq_true]
  intro ij hij
  obtain ⟨pre, qi, mid, qj, post, hs, hpre, hmid, hne, hkey⟩ := (hret ij hij).split
  have hqi : reqs[ij.1]? = some qi := hreq (ij.1, qi) (by rw [hs]; simp)
  have hqj : reqs[ij.2]? = some qj := hreq (ij.2, qj) (by rw [hs]; simp)
  generalize hstPre : storeAfter cfg txt [] (pre.map (·.2)) = stPre
  have hli : (runSeq cfg txt [] served).lookup ij.1 = some (serve1 cfg txt stPre qi).2 := by
    rw [hs, List.append_assoc, List.cons_append, lemma_lookup_runSeq cfg txt [] pre _ ij.1 qi (fun x hx => (hpre x hx).1), hstPre]
  have hlj : (runSeq cfg txt [] served).lookup ij.2 =
      some (serve1 cfg txt (storeAfter cfg txt (serve1 cfg txt stPre qi).1 (mid.map (·.2))) qj).2 := by
    rw [hs, lemma_lookup_runSeq cfg txt [] _ post ij.2 qj (by
      intro x hx
      rcases List.mem_append.mp hx with hx | hx
      · exact (hpre x hx).2
      · rcases List.mem_cons.mp hx with hx | hx
        · rw [hx]; exact hne
        · exact (hmid x hx).1)]
    simp only [List.map_append, List.map_cons, lemma_storeAfter_append, hstPre]
    rfl
  -- entries are behind the clock when `qi` is served
  have hna1 : NotAhead cfg.W stPre [qi] := by
    have hsorted' : (pre.map (·.2) ++ qi :: (mid.map (·.2) ++ qj :: post.map (·.2))).Pairwise (fun a b => a.now ≤ b.now) := by
      have := hsorted; rw [hs] at this; simpa using this
    have hna := lemma_notAhead_after cfg txt (pre.map (·.2)) _ [] hsorted' (lemma_notAhead_nil _ _)
    rw [hstPre] at hna
    exact fun k w hl q hq => hna k w hl q (List.mem_cons.mpr (Or.inl (List.mem_singleton.mp hq)))
  have hrun := lemma_retry_in_run cfg txt hW hL stPre qi (mid.map (·.2)) qj hkey
    (by intro q hq; obtain ⟨x, hx, rfl⟩ := List.mem_map.mp hq; exact (hmid x hx).2) hna1
  generalize (serve1 cfg txt stPre qi).2 = A at hli hrun
  generalize (serve1 cfg txt (storeAfter cfg txt (serve1 cfg txt stPre qi).1 (mid.map (·.2))) qj).2 = B at hlj hrun
  rw [hli, hlj, hqi, hqj]
  simp only
  cases hR : A.retryAfter with
  | none => rfl
  | some R =>
    simp only
    split
    · next hlate => exact hrun R hR (of_decide_eq_true hlate)
    · rfl

/-- **the whole sliding-window oracle over a store with the one-call interface** — every schedule (any
    interleaving of the requests' steps), any keys and windows, marked retries included: per key and window at
    most `limit` requests reach the handler, a 429 carries `Retry-After` and its handler does not run, and a retry
    at least `Retry-After` seconds later (the key's next request) is admitted. Nothing is excluded for this kind of
    store; the clock readings are non-decreasing in the order in which the store serves the calls. -/
theorem window_meets_spec_atomic (cfg : WinCfg) (txt : Bytes) (reqs : List WinReq) (sched : List Op)
    (retries : List (Nat × Nat)) (hW : 1 ≤ cfg.W) (hL : 1 ≤ cfg.limit) (ha : cfg.atomic = true)
    (hsorted : ((servedOf reqs sched).map (·.2)).Pairwise (fun a b => a.now ≤ b.now))
    (hret : ∀ ij ∈ retries, RetryPair (servedOf reqs sched) ij.1 ij.2) :
    (windowBoundOK cfg reqs (runWin cfg txt reqs sched) && retryOK reqs (runWin cfg txt reqs sched) retries &&
      rejectOK (runWin cfg txt reqs sched)) = true := by
  rw [window_atomic_bound cfg txt reqs sched hW ha hsorted, window_reject_has_retry_after, lemma_runWin_atomic cfg txt reqs ha,
    window_retry_ok cfg txt reqs _ hW hL (lemma_served_mem reqs sched) hsorted retries hret]
  rfl

/-- non-vacuity: limit 2, window 2 s, key `a` rejected at its third request, a request of key `b` in between, the
    retry 3 s later — a `RetryPair`, and the retry is admitted -/
example :
    let cfg : WinCfg := { limit := 2, W := 2, headers := true, enforce := true, hasCallback := false, atomic := true }
    let reqs : List WinReq := [{ key := ['a'], now := 10100000000 }, { key := ['a'], now := 10101000000 },
                               { key := ['a'], now := 10102000000 }, { key := ['b'], now := 11000000000 },
                               { key := ['a'], now := 13102000000 }]
    let sched := [Op.get 0, Op.get 1, Op.inc 0, Op.get 2, Op.inc 2, Op.inc 1, Op.get 3, Op.get 4, Op.inc 4, Op.inc 3]
    (runWin cfg [] reqs sched).map (fun a => (a.1, a.2.status, a.2.retryAfter)) =
      [(0, 200, none), (1, 200, none), (2, 429, some 3), (3, 200, none), (4, 200, none)] ∧
    retryOK reqs (runWin cfg [] reqs sched) [(2, 4)] = true := by decide +kernel

/-! ### scripted counts: the advertised wait against the declarative estimate, for any counts and window length -/

/-- **the middleware's `Retry-After` is truthful against the oracle's own estimate** — any counts (however large),
    any window length ≥ 1 s, `limit ≥ 1`, a store that reports the window the request falls into: if the request is
    answered `Retry-After: R`, then `R` seconds later the sliding estimate (this request counted, no other traffic)
    is strictly below the limit. This is the predicate the driver evaluates on the real code for scripted-count
    cases (`scriptedRetryOK`). -/
theorem scripted_retry_truthful (cfg : WinCfg) (txt : Bytes) (hW : 1 ≤ cfg.W) (hL : 1 ≤ cfg.limit)
    (cur prev ws now : Nat) (h0 : ws * nsPerSec ≤ now) (h1 : now < (ws + cfg.W) * nsPerSec) :
    scriptedRetryOK cfg.limit cfg.W cur prev ws now
      (winAnswer cfg txt (decide_ cfg.limit cfg.W { cur := cur, prev := prev, ws := ws } now)) = true := by
  unfold scriptedRetryOK
  cases hR : (winAnswer cfg txt (decide_ cfg.limit cfg.W { cur := cur, prev := prev, ws := ws } now)).retryAfter with
  | none => rfl
  | some R =>
    obtain ⟨hrej, hRr⟩ := lemma_retryAfter_some cfg txt _ R hR
    simp only [decide_eq_true_eq]
    have hWn : 1 ≤ cfg.W * nsPerSec := Nat.mul_pos hW (by decide)
    simp only [decide_, retryAfter, elapsedNs] at hrej hRr
    -- `retryAfter` treats `limit = 0` apart; that branch is not taken
    rw [if_neg (Nat.ne_of_gt hL)] at hRr
    rw [Nat.le_div_iff_mul_le hWn] at hrej
    -- (`h1` is not needed: the middleware truncates the elapsed time at one window)
    obtain ⟨hA, hB⟩ := lemma_retry_estimate cfg.limit (cfg.W * nsPerSec) cur prev _ (ws * nsPerSec) now (now + R * nsPerSec)
      hL hWn (Nat.add_le_of_le_sub' h0 (Nat.min_le_left _ _)) hrej (by rw [hRr]; exact Nat.le_refl _)
    unfold estimateNum
    simp only
    rw [Nat.add_mul ws, Nat.add_mul ws, Nat.mul_assoc]
    split
    · exact hA ‹_›
    · split
      · -- the retry falls into the next window, which starts at `ws + W`
        have := hB _ (Nat.le_refl _)
        rwa [Nat.min_eq_left (by omega)] at this
      · exact Nat.mul_pos hL hWn

/-- non-vacuity, with numbers no real-time test reaches: a 30-day window, a million requests carried over — the
    advertised wait is 1 296 003 s (15 days), and it is truthful; a wait of 4731 s (what an overflowing
    `window*num/den` yields) is not -/
example :
    let cfg : WinCfg := { limit := 500000, W := 2592000, headers := true, enforce := true, hasCallback := false, atomic := true }
    let now := 2592000 * 700 * nsPerSec + 1000
    (winAnswer cfg [] (decide_ cfg.limit cfg.W { cur := 0, prev := 1000000, ws := 2592000 * 700 } now)).retryAfter = some 1296003 ∧
    scriptedRetryOK cfg.limit cfg.W 0 1000000 (2592000 * 700) now
      { status := 429, ran := false, limit := none, remaining := none, reset := none, retryAfter := some 4731 } = false := by
  decide +kernel

/-! ### the sliding-window store's cleanup loop is unobservable -/

/-- **an entry the cleanup loop drops answers every later call like no entry at all** (window ≥ 1 s, any counts):
    for every call at or after the sweep, `GetCounts`, `Incr` and `IncrAndGetCounts` report and store the same with
    the entry as without it — the entry's window is at least two windows back, so nothing of it is carried over.
    (It rests on the idle-gap test of the roll; the roll as shipped carried the old count over however long the entry
    had been idle: `window_idle_gap_witness`.) -/
theorem window_cleanup_unobservable (W : Nat) (hW : 1 ≤ W) (w : Win) (nowSec t : Nat)
    (hdrop : dropsWin W nowSec w = true) (ht : nowSec * nsPerSec ≤ t) :
    getCounts W (some w) t = getCounts W none t ∧ incr W (some w) t = incr W none t := by
  have hnext := lemma_ws_next W t hW
  unfold dropsWin at hdrop
  simp only [Bool.and_eq_true, decide_eq_true_eq] at hdrop
  have hns : (1 : Nat) ≤ nsPerSec := by unfold nsPerSec; omega
  have h2 : (w.ws + 2 * W) * nsPerSec ≤ t := Nat.le_trans (Nat.mul_le_mul_right _ hdrop.2) ht
  have hgap : w.ws + W < windowStart W t := by
    have : (w.ws + 2 * W) * nsPerSec < (windowStart W t + W) * nsPerSec := Nat.lt_of_le_of_lt h2 hnext
    have := Nat.lt_of_mul_lt_mul_right this
    omega
  have hroll : w.ws < windowStart W t := by omega
  unfold getCounts incr carried
  simp only [hroll, hgap, if_true, and_self]

/-- as shipped (before the idle-gap test) the sweep was observable: it made the store forget a count that a roll
    would have carried over — limit 2, window 2 s, an entry with 5 counted requests dropped after 3 hours -/
example :
    dropsWin 2 20000 { cur := 5, prev := 0, ws := 10 } = true ∧
    (getCountsAsIs 2 (some { cur := 5, prev := 0, ws := 10 }) (20000 * nsPerSec)).prev = 5 ∧
    (getCounts 2 (some { cur := 5, prev := 0, ws := 10 }) (20000 * nsPerSec)).prev = 0 ∧
    (getCounts 2 none (20000 * nsPerSec)).prev = 0 := by decide

/-! ### sliding window: keys do not influence each other -/

def answersOf (cfg : WinCfg) (txt : Bytes) : WinStore → List WinReq → List WinObs
  | _, [] => []
  | st, q :: rest => (serve1 cfg txt st q).2 :: answersOf cfg txt (serve1 cfg txt st q).1 rest

/-- the requests of key `k` in a trace over a store are answered as when they are served alone, over any store that
    holds the same entry for `k` -/
theorem lemma_answers_of_key (cfg : WinCfg) (txt : Bytes) (k : Bytes) (l : List WinReq) (st1 st2 : WinStore)
    (hst : st1.lookup k = st2.lookup k) :
    ((l.zip (answersOf cfg txt st1 l)).filter (fun p => p.1.key == k)).map (·.2) =
      answersOf cfg txt st2 (l.filter (fun q => q.key == k)) := by
  induction l generalizing st1 st2 with
  | nil => rfl
  | cons q rest ih =>
    simp only [answersOf, List.zip_cons_cons, List.filter_cons]
    by_cases hk : q.key = k
    · have hb : (q.key == k) = true := by simp [hk]
      simp only [hb, if_true, List.map_cons, answersOf]
      rw [ih _ (serve1 cfg txt st2 q).1 (by rw [← hk, lemma_serve1_entry, lemma_serve1_entry, hk, hst]),
        lemma_serve1_answer, lemma_serve1_answer, hk, hst]
    · have hb : (q.key == k) = false := by simp [hk]
      simp only [hb, Bool.false_eq_true, if_false]
      exact ih _ _ ((lemma_serve1_other cfg txt st1 q k fun h => hk h.symm).trans hst)

/-- **sliding window, keys are independent** (store with the one-call interface, any clock): in a trace over any
    number of keys, the answers to the requests of key `k` are exactly the answers the same requests get when they
    are served alone — the traffic of other keys changes nothing, neither verdicts nor header values -/
theorem window_keys_independent (cfg : WinCfg) (txt : Bytes) (k : Bytes) (l : List WinReq) (st : WinStore) :
    ((l.zip (answersOf cfg txt st l)).filter (fun p => p.1.key == k)).map (·.2) =
      answersOf cfg txt st (l.filter (fun q => q.key == k)) :=
  lemma_answers_of_key cfg txt k l st st rfl

/-- non-vacuity: key `a` (limit 1) is rejected at its second request whether or not key `b` is busy in between -/
example :
    let cfg : WinCfg := { limit := 1, W := 3600, headers := true, enforce := true, hasCallback := false, atomic := true }
    let a1 : WinReq := { key := ['a'], now := 7200000000007 }
    let b1 : WinReq := { key := ['b'], now := 7200000000008 }
    let a2 : WinReq := { key := ['a'], now := 7200000000009 }
    (answersOf cfg [] [] [a1, b1, b1, a2]).map (·.status) = [200, 200, 429, 429] ∧
    (answersOf cfg [] [] [a1, a2]).map (·.status) = [200, 429] := by decide +kernel

/-! ### `ratelimit.New`: the configuration is always positive -/

theorem lemma_fold_positive (opts : List Int) (c : Int) (hc : 1 ≤ c) : 1 ≤ opts.foldl applyPositive c :=
  List.foldlRecOn opts applyPositive hc fun b hb o _ => by unfold applyPositive; split <;> omega

/-- **whatever options `New` is given** (none, several, zero or negative values), the bucket is built with
    rate ≥ 1 and burst ≥ 1 — the hypotheses of `retry_after_truthful` / `bucket_meets_spec` hold for every limiter
    `New` can return -/
theorem new_config_positive (rateOpts burstOpts : List Int) :
    1 ≤ (newConfig rateOpts burstOpts).1 ∧ 1 ≤ (newConfig rateOpts burstOpts).2 :=
  ⟨lemma_fold_positive rateOpts 100 (by omega), lemma_fold_positive burstOpts 20 (by omega)⟩

example : newConfig [] [] = (100, 20) ∧ newConfig [50, 0, -3] [10, -1] = (50, 10) ∧ newConfig [0] [7, 9] = (100, 9) := by decide

end Rivaas.C16
