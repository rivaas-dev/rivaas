import Rivaas.Props.C03
import Rivaas.Props.C03Conc
/-
C03, composition: `fresh_view` is about histories of atomic serves, `interleaving_exclusive` about
ids without fields. Here the two are put together: the objects of the interleaved system carry the fields of
router.Context (`store`), a borrow gets an object, prepares it (the steps of its serve path, `covers`), lets handlers
change it arbitrarily, and hands it back through `reset` — interleaved in any way with any number of other borrows, with
any choice of pooled or new objects by sync.Pool. Theorem `interleaved_fresh_view`: the view every handler starts with
equals the view on a brand-new context prepared the same way.
-/
namespace Rivaas.C03
open Rivaas.Pool

inductive CEv
  | get (pick : Option Nat)
  | prepare (steps : List Step)          -- the serve path's preparation; the first handler then looks at the context
                                         -- (once per borrow, while `pending`: a reset and second preparation inside a borrow is no action here)
  | dirty (f : Ctx → Ctx)                -- handlers change any field in any way
  | release                              -- reset + Put
  | drop                                 -- panic exit without a deferred release

structure CAct where
  b : Nat
  ev : CEv

structure CSys where
  base : Sys := {}
  store : Nat → Ctx := fun _ => brandNew       -- the fields of every object
  pending : List Nat := []                     -- borrows that got an object and have not prepared / changed it yet
  views : List (View × View) := []             -- (what the first handler saw, what it would see on a brand-new context)

def setStore (st : Nat → Ctx) (o : Nat) (c : Ctx) : Nat → Ctx := fun x => if x = o then c else st x

def CSys.step (s : CSys) (a : CAct) : Option CSys :=
  match a.ev with
  | .get pick =>
    match s.base.step ⟨a.b, .get pick⟩ with
    | some b' => some { s with base := b', pending := a.b :: s.pending }
    | none => none
  | .prepare steps =>
    if !(s.pending.contains a.b) || !(covers {} steps) then none else
    match holderOf s.base.held a.b, s.base.step ⟨a.b, .touch⟩ with
    | some o, some b' =>
      some { base := b', store := setStore s.store o (prepare steps (s.store o)), pending := s.pending.filter (· != a.b),
             views := s.views ++ [(view (prepare steps (s.store o)), view (prepare steps brandNew))] }
    | _, _ => none
  | .dirty f =>
    if s.pending.contains a.b then none else
    match holderOf s.base.held a.b, s.base.step ⟨a.b, .touch⟩ with
    | some o, some b' => some { s with base := b', store := setStore s.store o (f (s.store o)) }
    | _, _ => none
  | .release =>
    match holderOf s.base.held a.b, s.base.step ⟨a.b, .release⟩ with
    | some o, some b' =>
      some { s with base := b', store := setStore s.store o (reset (s.store o)), pending := s.pending.filter (· != a.b) }
    | _, _ => none
  | .drop =>
    match s.base.step ⟨a.b, .drop⟩ with
    | some b' => some { s with base := b', pending := s.pending.filter (· != a.b) }
    | none => none

def CSys.run (s : CSys) : List CAct → Option CSys
  | [] => some s
  | a :: rest => (s.step a).bind fun s' => s'.run rest

structure CInv (s : CSys) : Prop where
  own : OwnInv s.base
  freeClean : ∀ o ∈ s.base.free, Clean (s.store o)
  newClean : ∀ o, s.base.fresh ≤ o → s.store o = brandNew
  pendClean : ∀ b ∈ s.pending, ∃ o, holderOf s.base.held b = some o ∧ Clean (s.store o)
  viewsOK : ∀ v ∈ s.views, v.1 = v.2

theorem lemma_holderOf_cons_ne (held : List (Nat × Nat)) (b b' o : Nat) (h : b' ≠ b) :
    holderOf ((b, o) :: held) b' = holderOf held b' := by
  unfold holderOf
  have : ((b, o).1 == b') = false := by simpa using fun he => h he.symm
  simp [this]

theorem lemma_holderOf_filter_ne (held : List (Nat × Nat)) (b b' : Nat) (h : b' ≠ b) :
    holderOf (held.filter (·.1 != b)) b' = holderOf held b' := by
  have hp : ∀ a : Nat × Nat, decide ((a.1 != b) = true ∧ (a.1 == b') = true) = (a.1 == b') := by
    intro a
    by_cases h1 : a.1 = b' <;> simp [h1, h]
  simp only [holderOf, List.find?_filter, hp]

theorem lemma_other_object (s : Sys) (h : OwnInv s) (b b' o o' : Nat) (hb : holderOf s.held b = some o)
    (hb' : holderOf s.held b' = some o') (hne : b' ≠ b) : o' ≠ o := by
  intro he
  subst he
  have h1 := lemma_holderOf hb
  have h2 := lemma_holderOf hb'
  have hP : s.held.Pairwise fun p q => p.2 ≠ q.2 := List.pairwise_map.1 h.heldO
  exact hne (Prod.mk.inj (List.eq_of_key_eq hP h1 h2 rfl)).1.symm

theorem lemma_setStore_ne (st : Nat → Ctx) (o x : Nat) (c : Ctx) (h : x ≠ o) : setStore st o c x = st x := by
  simp [setStore, h]

/-- borrow `b` acts on what it holds: every object it does not hold keeps its fields, the pool gains at most clean
    objects, the other borrows hold what they held, and `b` itself no longer waits for its preparation -/
theorem cinv_act (s s' : CSys) (b : Nat) (h : CInv s) (hown : OwnInv s'.base)
    (hst : ∀ x, holderOf s.base.held b ≠ some x → s'.store x = s.store x)
    (hfree : ∀ x ∈ s'.base.free, x ∈ s.base.free ∨ Clean (s'.store x))
    (hfresh : s'.base.fresh = s.base.fresh)
    (hheld : ∀ b', b' ≠ b → holderOf s'.base.held b' = holderOf s.base.held b')
    (hpend : ∀ b' ∈ s'.pending, b' ∈ s.pending ∧ b' ≠ b)
    (hviews : ∀ v ∈ s'.views, v ∈ s.views ∨ v.1 = v.2) : CInv s' := by
  refine ⟨hown, ?_, ?_, ?_, fun v hv => (hviews v hv).elim (h.viewsOK v) id⟩
  · intro x hx
    rcases hfree x hx with hx | hc
    · rw [hst x fun ho => h.own.disj x hx (List.mem_map.mpr ⟨(b, x), lemma_holderOf ho, rfl⟩)]
      exact h.freeClean x hx
    · exact hc
  · intro x hx
    rw [hst x fun ho => by have := h.own.bound.2 _ (lemma_holderOf ho); simp only at this; omega]
    exact h.newClean x (hfresh ▸ hx)
  · intro b' hb'
    obtain ⟨hp, hne⟩ := hpend b' hb'
    obtain ⟨o', ho', hc⟩ := h.pendClean b' hp
    refine ⟨o', (hheld b' hne).trans ho', ?_⟩
    rw [hst o' fun ho => lemma_other_object s.base h.own b b' o' o' ho ho' hne rfl]
    exact hc

/-- a borrow starts: what `get` hands out is a pooled object or a new one, clean either way -/
theorem cinv_get (s : CSys) (h : CInv s) (b : Nat) (pick : Option Nat) (b' : Sys)
    (hb : s.base.step ⟨b, .get pick⟩ = some b') : CInv { s with base := b', pending := b :: s.pending } := by
  obtain ⟨hnb, o, free', fresh', rfl, hsub, _, _, _, hle, hcase⟩ := step_get h.own hb
  have hoClean : Clean (s.store o) := by
    rcases hcase with hof | rfl
    · exact h.freeClean o hof
    · rw [h.newClean _ (Nat.le_refl _)]; exact brandNew_clean
  refine ⟨inv_step _ _ _ h.own hb, fun x hx => h.freeClean x (hsub.subset hx),
    fun x hx => h.newClean x (Nat.le_trans hle hx), ?_, h.viewsOK⟩
  intro b' hbm
  rcases List.mem_cons.mp hbm with rfl | hbm
  · exact ⟨o, by simp [holderOf], hoClean⟩
  · obtain ⟨o', ho', hc⟩ := h.pendClean b' hbm
    have hne : b' ≠ b := fun he => hnb (List.mem_map.mpr ⟨(b', o'), lemma_holderOf ho', he⟩)
    exact ⟨o', (lemma_holderOf_cons_ne _ _ _ _ hne).trans ho', hc⟩

theorem cinv_step (s s' : CSys) (a : CAct) (h : CInv s) (hs : s.step a = some s') : CInv s' := by
  obtain ⟨b, ev⟩ := a
  -- a write to the object `b` holds leaves the others alone
  have hst (o : Nat) (c : Ctx) (ho : holderOf s.base.held b = some o) :
      ∀ x, holderOf s.base.held b ≠ some x → setStore s.store o c x = s.store x :=
    fun x hx => lemma_setStore_ne _ _ _ _ fun he => hx (he ▸ ho)
  -- every event but `get` is `b` acting on the object it holds (`cinv_act`); left to show is what the event adds: the
  -- view of a clean object that was prepared with `covers`, the `reset` object that goes into the pool
  cases ev with
  | get pick =>
    simp only [CSys.step] at hs
    split at hs
    · rename_i b' hb
      cases hs
      exact cinv_get s h b pick b' hb
    · cases hs
  | prepare steps =>
    simp only [CSys.step] at hs
    split at hs
    · cases hs
    · rename_i hcond
      simp only [Bool.or_eq_true, Bool.not_eq_true', not_or, Bool.not_eq_false] at hcond
      split at hs
      · rename_i o b' ho hb
        cases hs
        obtain ⟨_, _, rfl⟩ := step_touch hb
        -- `b` has not touched its object since `get`: it is still clean
        obtain ⟨o2, ho2, hc2⟩ := h.pendClean b (by simpa using hcond.1)
        cases ho.symm.trans ho2
        refine cinv_act s _ b h (inv_step _ _ _ h.own hb) (hst o _ ho) (fun x hx => Or.inl hx) rfl (fun _ _ => rfl)
          (fun b' hb' => by simpa using hb') fun v hv => ?_
        rcases List.mem_append.mp hv with hv | hv
        · exact Or.inl hv
        · rw [List.mem_singleton.mp hv]
          exact Or.inr (prepare_fresh steps {} _ brandNew hc2 hcond.2)
      · cases hs
  | dirty f =>
    simp only [CSys.step] at hs
    split at hs
    · cases hs
    · rename_i hnp
      split at hs
      · rename_i o b' ho hb
        cases hs
        obtain ⟨_, _, rfl⟩ := step_touch hb
        exact cinv_act s _ b h (inv_step _ _ _ h.own hb) (hst o _ ho) (fun x hx => Or.inl hx) rfl (fun _ _ => rfl)
          (fun b' hb' => ⟨hb', fun he => hnp (by simpa [he] using hb')⟩) fun v hv => Or.inl hv
      · cases hs
  | release =>
    simp only [CSys.step] at hs
    split at hs
    · rename_i o b' ho hb
      cases hs
      obtain ⟨o', ho', rfl⟩ := step_release hb
      cases ho.symm.trans ho'
      refine cinv_act s _ b h (inv_step _ _ _ h.own hb) (hst o _ ho) ?_ rfl
        (fun b' hne => lemma_holderOf_filter_ne _ _ _ hne) (fun b' hb' => by simpa using hb') fun v hv => Or.inl hv
      intro x hx
      rcases List.mem_cons.mp hx with rfl | hx
      · exact Or.inr (by simp only [setStore, if_true]; exact reset_clean _)
      · exact Or.inl hx
    · cases hs
  | drop =>
    simp only [CSys.step] at hs
    split at hs
    · rename_i b' hb
      cases hs
      obtain rfl := step_drop hb
      exact cinv_act s _ b h (inv_step _ _ _ h.own hb) (fun _ _ => rfl) (fun x hx => Or.inl hx) rfl
        (fun b' hne => lemma_holderOf_filter_ne _ _ _ hne) (fun b' hb' => by simpa using hb') fun v hv => Or.inl hv
    · cases hs

theorem cinv_init : CInv {} :=
  ⟨lemma_inv_init, by intro o ho; simp at ho, by intro o _; rfl, by intro b hb; simp at hb, by intro v hv; simp at hv⟩

theorem cinv_run (acts : List CAct) : ∀ (s s' : CSys), CInv s → s.run acts = some s' → CInv s' := by
  induction acts with
  | nil => exact fun s s' h hr => Option.some.inj hr ▸ h
  | cons a rest ih =>
    intro s s' h hr
    obtain ⟨s1, hs, hr⟩ := Option.bind_eq_some_iff.mp hr
    exact ih s1 s' (cinv_step s s1 a h hs) hr

/-- **however requests are interleaved, a handler observes only the state of its own request**: in every interleaving
    of borrows (get, prepare with `covers`, arbitrary changes by handlers, release through reset — or a drop), with any
    choice of pooled or new objects by sync.Pool, the view every first handler had equals the view on a brand-new
    context prepared by the same serve path; and every object in the pool is clean. -/
theorem interleaved_fresh_view (acts : List CAct) (s : CSys) (h : CSys.run {} acts = some s) :
    (∀ v ∈ s.views, v.1 = v.2) ∧ (∀ o ∈ s.base.free, Clean (s.store o)) := by
  have hi := cinv_run acts {} s cinv_init h
  exact ⟨hi.viewsOK, hi.freeClean⟩

/-- non-vacuity: two requests in flight at once; the second one gets the object the first released, after a handler
    that dirtied everything -/
example : ∃ s, CSys.run {} [⟨1, .get none⟩, ⟨2, .get none⟩, ⟨1, .prepare (stepsTree 1 "42".toList)⟩,
    ⟨2, .prepare (stepsStatic 2)⟩, ⟨1, .dirty dirtyAll⟩, ⟨1, .release⟩, ⟨3, .get (some 0)⟩,
    ⟨3, .prepare (stepsTree 3 "7".toList)⟩, ⟨2, .dirty dirtyAll⟩, ⟨2, .release⟩, ⟨3, .release⟩] = some s ∧ s.views.length = 3 := by
  refine ⟨_, rfl, rfl⟩

end Rivaas.C03
