import Rivaas.Lemmas.VersionSel
import Rivaas.Lemmas.VersionCfg
import Rivaas.Lemmas.ListCore
import Rivaas.Model.VersionChain
/-
C13 — API-version routing follows the configured detection order.

The theorems quantify over every configuration (detection options in any number and order, patterns,
default, valid list, lifecycles, clock), every route table and every request. Hypotheses:
`ValidCfg` (what `version.NewConfig` enforces), `ValidReq` (the path begins with `/`, Accept values are
free of control characters — what `net/http` delivers) and `libAgrees` (the shipped `url.Values`
results are what standard parsing says; the driver checks it on every case).
-/
namespace Rivaas.C13
open Rivaas Rivaas.Version Rivaas.Version.Spec

/-- `setLifecycleHeaders` in the oracle's terms: the flag it returns is `gone`; `Deprecation` is set only for a version
    that is not gone; for such a version `Deprecation` and `Sunset` are there exactly as `isDeprecated` and
    `hasSunsetDate` say, `Link` and `Warning` only if it is deprecated; the version header, where sent, names `v` -/
theorem lemma_lifecycle (cfg : Cfg) (v : Bytes) (r : Hdrs × Bool) (hr : setLifecycleHeaders cfg v = r) :
    r.2 = gone cfg v ∧
    (r.1.deprecation.isSome = true → r.2 = false) ∧
    (r.2 = false →
      r.1.deprecation.isSome = isDeprecated cfg v ∧
      r.1.sunset.isSome = (isDeprecated cfg v && hasSunsetDate cfg v) ∧
      (isDeprecated cfg v || (r.1.link.isNone && r.1.warning.isNone)) = true) ∧
    (r.1.xapi.isNone || r.1.xapi == some v) = true := by
  have hx : ∀ b : Bool, ((if b = true then some v else none).isNone || (if b = true then some v else none) == some v) = true := by
    intro b; cases b <;> simp
  unfold setLifecycleHeaders at hr
  unfold gone isDeprecated hasSunsetDate
  rw [lemma_getLifecycle_eq] at hr
  revert hr
  cases lifecycleOf cfg v with
  | none => rintro rfl; exact ⟨rfl, fun _ => rfl, fun _ => ⟨rfl, rfl, rfl⟩, hx _⟩
  | some lc =>
    obtain ⟨dep, sun, mig⟩ := lc
    cases sun with
    | none => cases dep <;> rintro rfl <;> exact ⟨rfl, fun _ => rfl, fun _ => ⟨rfl, rfl, rfl⟩, hx _⟩
    | some d =>
      obtain ⟨t, http, rfc⟩ := d
      simp only [gt_iff_lt]
      cases hpast : (cfg.enforceSunset && decide (t < cfg.now))
      · cases dep <;> rintro rfl <;> exact ⟨rfl, fun _ => rfl, fun _ => ⟨rfl, rfl, rfl⟩, hx _⟩
      · rintro rfl; exact ⟨rfl, nofun, nofun, hx _⟩

theorem lemma_notFound (routes : List Route) (req : Req) : isNotFound (notFound routes req) = true := by
  unfold isNotFound notFound
  simp only
  split <;> simp

/-! ### the main theorem: its two clauses, then the whole -/

/-- unversioned routes always win and report no version -/
theorem unversioned_wins (cfg : Cfg) (routes : List Route) (req : Req) (p : Bytes)
    (h : routed routes none req.method req.path = some p) :
    (serve cfg routes req).status = 200 ∧ (serve cfg routes req).handler = some (none, p) ∧
    (serve cfg routes req).version = some [] ∧ noLifecycleHeaders (serve cfg routes req) = true := by
  unfold serve
  rw [lemma_treeLookup_eq, h]
  simp [noLifecycleHeaders]

theorem lemma_outcome {cfg : Cfg} (routes : List Route) {req : Req}
    (hc : ValidCfg cfg) (hr : ValidReq cfg req) (hlib : libAgrees cfg req = true)
    (hmain : routed routes none req.method req.path = none) :
    ∃ rp ∈ routingPaths cfg req.path, outcomeOK cfg routes req rp (serve cfg routes req) = true := by
  obtain ⟨rp, hrp, hpv⟩ := lemma_processVersioning cfg routes req hc hr hlib
  refine ⟨rp, hrp, ?_⟩
  unfold serve outcomeOK
  rw [lemma_treeLookup_eq, hmain]
  simp only [hpv]
  cases servingTree cfg routes req.method (selected cfg req) with
  | none => exact lemma_notFound routes req
  | some tv =>
    simp only [lemma_treeLookup_eq]
    cases routed routes (some tv) req.method rp with
    | none => exact lemma_notFound routes req
    | some p =>
      obtain ⟨hg, -, hh, hx⟩ := lemma_lifecycle cfg (selected cfg req) _ rfl
      cases hgone : gone cfg (selected cfg req) with
      | true =>
        -- past sunset: `serve` answers 410 and names no handler, which is all the oracle asks
        rw [hgone] at hg
        simp [hg]
      | false =>
        -- the handler of the tree runs; the header clauses are those of `lemma_lifecycle`
        rw [hgone] at hg
        obtain ⟨h1, h2, h3⟩ := hh hg
        simp [hg, h1, h2, h3, hx]

/-- C13. For every configuration, route table and request, what the model of `ServeHTTP` does
    satisfies the whole oracle: unversioned routes win and report no version; otherwise the version is the
    first candidate in the order "custom first, then configuration order" that the valid list accepts,
    else the default (query and Accept candidates as standard parsing defines them); it is served from
    that version's tree (the default's when it has none) at the path with the version segment removed;
    `Version()` reports it; past sunset under enforcement the answer is 410 and no handler runs;
    deprecation / sunset headers appear exactly for deprecated versions. -/
theorem serve_meets_spec (cfg : Cfg) (routes : List Route) (req : Req)
    (hc : ValidCfg cfg) (hr : ValidReq cfg req) (hlib : libAgrees cfg req = true) :
    specOK cfg routes req (serve cfg routes req) = true := by
  unfold specOK
  cases hmain : routed routes none req.method req.path with
  | some p => simpa [and_assoc] using unversioned_wins cfg routes req p hmain
  | none => exact List.any_eq_true.2 (lemma_outcome routes hc hr hlib hmain)

/-! ### the clauses of the statement, one by one -/

/-- detector order: custom detectors first (each `WithCustomDetection` inserts at the front), then path,
    header, query and Accept detectors in configuration order -/
theorem custom_first {α} (opts : List (DetOpt × α)) :
    buildDetectors opts =
      ((opts.filter (fun o => isCustom o.1)).reverse ++ opts.filter (fun o => !isCustom o.1)).map
        fun x => (toDet x.1, x.2) :=
  lemma_buildDetectors opts

/-- version selection: the first candidate in that order which the valid-versions list accepts, else the
    default — with query and Accept candidates as standard parsing defines them -/
theorem detect_first_valid (cfg : Cfg) (req : Req) (hc : ValidCfg cfg) (hr : ValidReq cfg req)
    (hlib : libAgrees cfg req = true) :
    detectVersion cfg req =
      (((detectionOrder (cfg.opts.zip req.lib)).filterMap (candidate req)).find? (accepted cfg.valid)).getD
        cfg.dflt :=
  lemma_detectVersion_eq cfg req hc hr hlib

/-- what "first accepted candidate, else the default" means, position by position (DESIGN-appendix.md, sketch U) -/
theorem first_accepted_spec (valid : List Bytes) (dflt : Bytes) (cs : List Bytes) :
    (∃ (i : Nat) (v : Bytes), cs[i]? = some v ∧ accepted valid v = true ∧ (cs.find? (accepted valid)).getD dflt = v ∧
        ∀ j : Nat, j < i → ∀ w, cs[j]? = some w → accepted valid w = false) ∨
    ((∀ (i : Nat) (v : Bytes), cs[i]? = some v → accepted valid v = false) ∧ (cs.find? (accepted valid)).getD dflt = dflt) := by
  cases hf : cs.find? (accepted valid) with
  | none =>
    refine Or.inr ⟨fun i v hv => ?_, rfl⟩
    simpa using List.find?_eq_none.1 hf v (List.mem_of_getElem? hv)
  | some v =>
    obtain ⟨hv, i, hi, rfl, hlt⟩ := List.find?_eq_some_iff_getElem.1 hf
    refine Or.inl ⟨i, _, List.getElem?_eq_getElem hi, hv, rfl, fun j hj w hw => ?_⟩
    obtain ⟨hj', rfl⟩ := List.getElem?_eq_some_iff.1 hw
    simpa using hlt j hj

/-- Accept detection agrees with standard parsing of the header: media ranges split on `,`, parameters
    cut at `;`, optional white space trimmed, first media type of the shape `prefix version suffix` -/
theorem accept_scan_eq_std (pattern accept : Bytes) (i : Nat)
    (hp : index pattern versionPlaceholder = some i) (hs : HeaderSafe accept) :
    extractFromAccept (acceptParts pattern).1 (acceptParts pattern).2 accept =
      (mediaTypes accept).findSome?
        (middle (pattern.take i) (pattern.drop (i + versionPlaceholder.length))) := by
  rw [lemma_accept_scan_eq_std pattern accept i hp hs]
  unfold acceptVersion
  simp only [hp]

/-- `middle`, in terms of which `accept_scan_eq_std` is stated: the non-empty `v` with `mt = pfx ++ v ++ sfx` -/
theorem middle_spec (pfx sfx mt v : Bytes) :
    middle pfx sfx mt = some v ↔ v ≠ [] ∧ mt = pfx ++ v ++ sfx := by
  unfold middle
  constructor
  · intro h
    simp only at h
    split at h
    · rename_i hc
      simp only [Option.some.injEq] at h
      subst h
      exact ⟨hc.2, hc.1⟩
    · simp at h
  · rintro ⟨hv, rfl⟩
    have : (List.drop pfx.length (pfx ++ v ++ sfx)).take ((pfx ++ v ++ sfx).length - pfx.length - sfx.length) = v := by
      simp [List.append_assoc]
    simp only [this]
    simp [hv]

/-- query detection agrees with standard parsing of the query string (the detector goes through
    `url.Values`; the shipped result is checked against the Lean parser by `libAgrees`) -/
theorem query_detect_eq_std (req : Req) (q : Bytes) (has : Bool) (get : Bytes)
    (h : agreesOne req (.query q, .query has get) = true) :
    detectOne req.path req.rawQuery (.query q, .query has get) = queryFirst req.rawQuery q :=
  lemma_detectOne_eq req (.query q) (.query has get) h (fun _ hp => by cases hp) (fun _ hv => by cases hv)

theorem lemma_versioned_arm {cfg : Cfg} {routes : List Route} {req : Req} {tv p : Bytes}
    (h : (serve cfg routes req).handler = some (some tv, p)) : routed routes none req.method req.path = none := by
  cases hm : routed routes none req.method req.path with
  | none => rfl
  | some p' => rw [(unversioned_wins cfg routes req p' hm).2.1] at h; cases h

theorem lemma_outcome_served {cfg : Cfg} {routes : List Route} {req : Req} {rp : Bytes} {o : Obs} {tv p : Bytes}
    (hok : outcomeOK cfg routes req rp o = true) (h : o.handler = some (some tv, p)) :
    o.version = some (selected cfg req) ∧ o.hDeprecation.isSome = isDeprecated cfg (selected cfg req) ∧
    o.hSunset.isSome = (isDeprecated cfg (selected cfg req) && hasSunsetDate cfg (selected cfg req)) ∧
    (isDeprecated cfg (selected cfg req) = true ∨ o.hLink.isNone = true ∧ o.hWarning.isNone = true) := by
  unfold outcomeOK at hok
  simp only at hok
  split at hok
  · simp [isNotFound, h] at hok
  · split at hok
    · simp [isNotFound, h] at hok
    · split at hok
      · simp [h] at hok
      · simp only [Bool.and_eq_true, beq_iff_eq, Bool.or_eq_true] at hok
        exact ⟨hok.1.1.1.1.2, hok.1.1.1.2, hok.1.1.2, hok.1.2⟩

/-- the handler's `Version()` reports the selected version -/
theorem version_reported (cfg : Cfg) (routes : List Route) (req : Req)
    (hc : ValidCfg cfg) (hr : ValidReq cfg req) (hlib : libAgrees cfg req = true)
    (tv p : Bytes) (h : (serve cfg routes req).handler = some (some tv, p)) :
    (serve cfg routes req).version = some (selected cfg req) := by
  obtain ⟨rp, -, hok⟩ := lemma_outcome routes hc hr hlib (lemma_versioned_arm h)
  exact (lemma_outcome_served hok h).1

/-- a version past its sunset date under enforcement answers 410 without running a handler -/
theorem sunset_410_no_handler (cfg : Cfg) (routes : List Route) (req : Req)
    (hc : ValidCfg cfg) (hr : ValidReq cfg req) (hlib : libAgrees cfg req = true)
    (hmain : routed routes none req.method req.path = none)
    (hgone : gone cfg (selected cfg req) = true) :
    (serve cfg routes req).handler = none ∧
    ((serve cfg routes req).status = 410 ∨ isNotFound (serve cfg routes req) = true) := by
  obtain ⟨rp, -, hok⟩ := lemma_outcome routes hc hr hlib hmain
  have hnf : isNotFound (serve cfg routes req) = true → (serve cfg routes req).handler = none := by
    intro h; unfold isNotFound at h; simp only [Bool.and_eq_true] at h; simpa using h.1
  unfold outcomeOK at hok
  simp only [hgone, if_true] at hok
  split at hok
  · exact ⟨hnf hok, Or.inr hok⟩
  · split at hok
    · exact ⟨hnf hok, Or.inr hok⟩
    · simp only [Bool.and_eq_true, decide_eq_true_eq] at hok
      exact ⟨by simpa using hok.2, Or.inl hok.1⟩

/-- deprecation / sunset headers are emitted exactly for versions configured as deprecated -/
theorem deprecation_headers_iff (cfg : Cfg) (routes : List Route) (req : Req)
    (hc : ValidCfg cfg) (hr : ValidReq cfg req) (hlib : libAgrees cfg req = true)
    (tv p : Bytes) (h : (serve cfg routes req).handler = some (some tv, p)) :
    ((serve cfg routes req).hDeprecation.isSome = isDeprecated cfg (selected cfg req)) ∧
    ((serve cfg routes req).hSunset.isSome =
      (isDeprecated cfg (selected cfg req) && hasSunsetDate cfg (selected cfg req))) ∧
    (isDeprecated cfg (selected cfg req) = false →
      (serve cfg routes req).hLink = none ∧ (serve cfg routes req).hWarning = none) := by
  obtain ⟨rp, -, hok⟩ := lemma_outcome routes hc hr hlib (lemma_versioned_arm h)
  obtain ⟨-, hd, hs, hl⟩ := lemma_outcome_served hok h
  refine ⟨hd, hs, fun hnd => ?_⟩
  rcases hl with hl | hl
  · rw [hnd] at hl; cases hl
  · simpa using hl

/-- with one path pattern (the documented configuration) the routing path is the path with prefix and
    version segment removed when the pattern finds a segment, and the path itself otherwise -/
theorem path_strip_correct (cfg : Cfg) (path pat : Bytes) (h : pathPatterns cfg = [pat]) :
    routingPaths cfg path =
      (match versionSegment pat path with
       | some (_, rest) => [if rest = [] then ['/'] else rest]
       | none => [path]) := by
  unfold routingPaths
  rw [h]
  simp only [List.any_cons, List.any_nil, Bool.or_false, List.filterMap_cons, List.filterMap_nil]
  cases hseg : versionSegment pat path with
  | none => rfl
  | some sr => rw [(lemma_stripBy_of_segment hseg).1]; rfl

/-! ### the code as shipped: witnesses of K13a–K13d (also replayed on the implementation, corpus/C13) -/

/-- K13a: two earlier keys that merely end in the parameter name exhaust the scanner's two probes -/
theorem query_scan_asis_witness :
    extractFromQueryAsIs vb!"v" vb!"xv=v1&yv=v9&v=v2" = .notFound ∧
    queryFirst vb!"xv=v1&yv=v9&v=v2" vb!"v" = some vb!"v2" := by decide +kernel

/-- K13a: the shipped scanner decoded neither key nor value -/
theorem query_scan_asis_no_decoding :
    extractFromQueryAsIs vb!"v" vb!"%76=v2" = .notFound ∧ queryFirst vb!"%76=v2" vb!"v" = some vb!"v2" ∧
    extractFromQueryAsIs vb!"v" vb!"v=v%32" = .found vb!"v%32" ∧
    queryFirst vb!"v=v%32" vb!"v" = some vb!"v2" := by decide +kernel

/-- K13b: a media type shorter than prefix+suffix that has both: slice bounds out of range -/
theorem accept_scan_asis_panics :
    extractFromAcceptAsIs vb!"application/vnd.api+" vb!"+json" vb!"application/vnd.api+json" = .panic ∧
    extractFromAccept vb!"application/vnd.api+" vb!"+json" vb!"application/vnd.api+json" = none := by decide +kernel

/-- K13d: optional white space before the parameter separator hid the version -/
theorem accept_scan_asis_ows :
    extractFromAcceptAsIs vb!"application/vnd.api." vb!"+json" vb!"application/vnd.api.v2+json ;q=0.9" = .notFound ∧
    extractFromAccept vb!"application/vnd.api." vb!"+json" vb!"application/vnd.api.v2+json ;q=0.9" = some vb!"v2" := by
  decide +kernel

def cfgSunset : Cfg :=
  { opts := [.query vb!"v"], dflt := vb!"v1", valid := [], sendVersionHeader := true, sendWarning299 := false,
    enforceSunset := true, now := 1750000000,
    lifecycles := [(vb!"v1", { deprecated := false, sunset := some (1749913600, vb!"Sat, 14 Jun 2025 15:06:40 GMT", vb!"2025-06-14T15:06:40Z"), migration := [] })] }

/-- K13c: past its sunset date under enforcement, but not marked deprecated: the shipped code served it -/
theorem sunset_asis_witness : isSunsetAsIs cfgSunset vb!"v1" = false ∧ gone cfgSunset vb!"v1" = true ∧
    (setLifecycleHeaders cfgSunset vb!"v1").2 = true := by decide +kernel

/-! ### non-vacuity: the hypotheses of the theorems are met by concrete non-trivial inputs -/

def cfgEx : Cfg :=
  { opts := [.path vb!"/v{version}/", .header vb!"X-API-Version", .query vb!"v",
             .accept vb!"application/vnd.api.v{version}+json", .custom 0],
    dflt := vb!"v1", valid := [vb!"v1", vb!"v2"], sendVersionHeader := true, sendWarning299 := true,
    enforceSunset := true, now := 1750000000,
    lifecycles := [(vb!"v2", { deprecated := true, sunset := some (1760000000, vb!"H", vb!"R"), migration := vb!"https://m" })] }

def routesEx : List Route :=
  [{ ver := some vb!"v1", method := vb!"GET", path := vb!"/users" },
   { ver := some vb!"v2", method := vb!"GET", path := vb!"/users" },
   { ver := none, method := vb!"GET", path := vb!"/health" }]

/-- path says v9 (invalid), header says v3 (invalid), query says v2 (valid): v2 wins, `/v9/users` is stripped -/
def reqEx : Req :=
  { method := vb!"GET", path := vb!"/v9/users", rawQuery := vb!"xv=v1&v=v2",
    lib := [.none, .header vb!"v3", .query true vb!"v2", .accept vb!"application/vnd.api.v1+json ;q=0.9", .custom []] }

theorem cfgEx_valid : ValidCfg cfgEx := by
  refine ⟨by decide, ?_⟩
  intro p hp
  simp [cfgEx] at hp
  subst hp
  exact ⟨21, by decide⟩

theorem reqEx_valid : ValidReq cfgEx reqEx := by
  refine ⟨by decide, ?_⟩
  intro v hv
  simp [reqEx] at hv
  subst hv
  intro c hc
  revert c
  decide +kernel

theorem libEx_agrees : libAgrees cfgEx reqEx = true := by decide +kernel

example : libAgrees cfgEx reqEx = true := libEx_agrees

/-- the example exercises precedence, rejection by the valid list, stripping and deprecation headers -/
example : (serve cfgEx routesEx reqEx).handler = some (some vb!"v2", vb!"/users") ∧
    (serve cfgEx routesEx reqEx).version = some vb!"v2" ∧
    (serve cfgEx routesEx reqEx).hDeprecation = some vb!"true" ∧
    selected cfgEx reqEx = vb!"v2" := by decide +kernel

example : specOK cfgEx routesEx reqEx (serve cfgEx routesEx reqEx) = true :=
  serve_meets_spec cfgEx routesEx reqEx cfgEx_valid reqEx_valid libEx_agrees

/-- `sunset_410_no_handler` is not vacuous -/
example : routed ([{ ver := some vb!"v1", method := vb!"GET", path := vb!"/users" }] : List Route) none vb!"GET" vb!"/users" = none ∧
    gone cfgSunset vb!"v1" = true := by decide +kernel

/-- `unversioned_wins` is not vacuous -/
example : routed routesEx none vb!"GET" vb!"/health" = some vb!"/health" := by decide +kernel

/-! ### observer callbacks -/

/-- The detection callbacks tell the story of the detection: `OnDetected(v, method)` is called only with the
    version `DetectVersion` returns (and the method name of the detector that produced it), `OnMissing` only when
    it returns the default because no detector produced an acceptable version, and every `OnInvalid(v)` reports a
    non-empty candidate that the valid-versions list rejects; `OnDeprecatedUse` is not one of them. -/
theorem detect_events_sound (valid : List Bytes) (dflt path rawQuery : Bytes) (dets : List (Det × LibVal)) :
    (∀ v m, ObsEv.detected v m ∈ detectLoopEv valid path rawQuery dets →
        detectLoop valid dflt path rawQuery dets = v ∧ ∃ d ∈ dets, d.1.method = m ∧ detectOne path rawQuery d = some v) ∧
    (ObsEv.missing ∈ detectLoopEv valid path rawQuery dets → detectLoop valid dflt path rawQuery dets = dflt) ∧
    (∀ v, ObsEv.invalid v ∈ detectLoopEv valid path rawQuery dets → v ≠ [] ∧ validateVersion valid v = none) ∧
    (∀ v r, ObsEv.deprecatedUse v r ∉ detectLoopEv valid path rawQuery dets) := by
  induction dets with
  | nil => simp [detectLoopEv, detectLoop]
  | cons d rest ih =>
    obtain ⟨ih1, ih2, ih3, ih4⟩ := ih
    have ih1' : ∀ v m, ObsEv.detected v m ∈ detectLoopEv valid path rawQuery rest →
        detectLoop valid dflt path rawQuery rest = v ∧ ∃ d' ∈ d :: rest, d'.1.method = m ∧ detectOne path rawQuery d' = some v :=
      fun v m h => (ih1 v m h).imp_right fun ⟨d', hd', hm⟩ => ⟨d', List.mem_cons_of_mem _ hd', hm⟩
    cases hd : detectOne path rawQuery d with
    | none =>
      simp only [detectLoopEv, detectLoop, hd]
      exact ⟨ih1', ih2, ih3, ih4⟩
    | some c =>
      cases hv : validateVersion valid c with
      | some ok =>
        obtain rfl : c = ok := by
          rw [lemma_validate_accepted] at hv
          split at hv <;> cases hv
          rfl
        simp only [detectLoopEv, detectLoop, hd, hv, List.mem_singleton, ObsEv.detected.injEq, reduceCtorEq,
          false_implies, implies_true, not_false_eq_true, and_true]
        rintro v m ⟨rfl, rfl⟩
        exact ⟨rfl, d, by simp, rfl, hd⟩
      | none =>
        simp only [detectLoopEv, detectLoop, hd, hv, List.mem_append, lemma_mem_validateEv, reduceCtorEq, false_and,
          false_or]
        exact ⟨ih1', ih2, fun v h => h.elim (fun ⟨e, hc, _⟩ => by cases e; exact ⟨hc, hv⟩) (ih3 v), ih4⟩

theorem lemma_deprecation_not_gone (cfg : Cfg) (v : Bytes)
    (h : (setLifecycleHeaders cfg v).1.deprecation.isSome = true) : (setLifecycleHeaders cfg v).2 = false :=
  (lemma_lifecycle cfg v _ rfl).2.1 h

/-- `OnDeprecatedUse(v, r)` is called exactly when a version-tree handler registered at `r` runs for version `v` and
    the response carries the `Deprecation` header -/
theorem deprecated_use_iff (cfg : Cfg) (routes : List Route) (req : Req) (v r : Bytes) :
    ObsEv.deprecatedUse v r ∈ serveEvents cfg routes req ↔
      (serve cfg routes req).hDeprecation.isSome = true ∧ (serve cfg routes req).version = some v ∧
      ∃ tv, (serve cfg routes req).handler = some (some tv, r) := by
  have hnot := (detect_events_sound cfg.valid cfg.dflt req.path req.rawQuery (detectors cfg req)).2.2.2 v r
  unfold serveEvents serve
  cases hm : treeLookup (treeRoutes routes none req.method) req.path with
  | some p => simp
  | none =>
    -- the detection callbacks are never `OnDeprecatedUse`: what is left is the last summand of `serveEvents`
    simp only [List.mem_append, List.mem_ite_nil_right, hnot, and_false, false_or]
    cases ht : (processVersioning cfg routes req).tree with
    | none => simp [hnot, notFound]
    | some tv =>
      simp only
      cases hl : treeLookup (treeRoutes routes (some tv) req.method) (processVersioning cfg routes req).routingPath with
      | none => simp [hnot, notFound]
      | some p =>
        simp only
        cases hdep : (setLifecycleHeaders cfg (processVersioning cfg routes req).version).1.deprecation.isSome with
        | true => simp [lemma_deprecation_not_gone cfg _ hdep, hdep, eq_comm]
        | false => cases (setLifecycleHeaders cfg (processVersioning cfg routes req).version).2 <;> simp [hdep]

/-- `OnDeprecatedUse` is called exactly for the requests that get the `Deprecation` header from a version-tree
    handler (with the version and the route pattern that was matched) -/
theorem deprecated_use_iff_header (cfg : Cfg) (routes : List Route) (req : Req) (v r : Bytes)
    (h : ObsEv.deprecatedUse v r ∈ serveEvents cfg routes req) :
    (serve cfg routes req).hDeprecation.isSome = true ∧ (serve cfg routes req).version = some v :=
  let ⟨h1, h2, _⟩ := (deprecated_use_iff cfg routes req v r).1 h
  ⟨h1, h2⟩

/-- not vacuous: two candidates rejected by the valid list, the third accepted -/
example : detectLoopEv [vb!"v1", vb!"v2"] vb!"/x" vb!"v=v9"
      [(.header vb!"X-V", .header vb!"v7"), (.query vb!"v", .query true vb!"v9"), (.custom 1, .custom vb!"v2")] =
    [.invalid vb!"v7", .invalid vb!"v9", .detected vb!"v2" vb!"custom"] := by decide +kernel

/-! ### lifecycle options: `r.Version(v, opts…)` and `vr.Configure(opts…)` -/

/-- `r.Version(v)` without options registers no lifecycle (and never touches one that is registered) -/
theorem version_without_options_registers_nothing (s : LSt) (id : Nat) (ver : Bytes) :
    (s.step (.version id ver [])).engine = s.engine := by
  simp [LSt.step]

/-- `r.Version(v, opts…)` registers a fresh configuration built from the options alone -/
theorem version_with_options_is_fresh (s : LSt) (id : Nat) (ver : Bytes) (opts : List LOpt) (h : opts ≠ []) :
    (s.step (.version id ver opts)).engine = s.engine ++ [(ver, id)] ∧
    (s.step (.version id ver opts)).vrs.lookup id = some (ver, some (opts.foldl applyLOpt LC.zero)) := by
  simp [LSt.step, h]

/-- `vr.Configure(opts…)` applies the options on top of what the object already holds and registers the object
    (again) for its version -/
theorem configure_merges (s : LSt) (id : Nat) (ver : Bytes) (lc : Option LC) (opts : List LOpt) (h : opts ≠ [])
    (hv : s.vrs.lookup id = some (ver, lc)) :
    (s.step (.configure id opts)).engine = s.engine ++ [(ver, id)] ∧
    (s.step (.configure id opts)).vrs.lookup id = some (ver, some (opts.foldl applyLOpt (lc.getD LC.zero))) := by
  simp [LSt.step, h, hv]

/-- options only ever switch on / overwrite: once deprecated always deprecated, the last `Sunset` / `MigrationDocs` counts -/
theorem lifecycle_options_monotone (lc : LC) (o : LOpt) :
    (lc.deprecated = true → (applyLOpt lc o).deprecated = true) ∧
    (∀ s, o = .sunset s → (applyLOpt lc o).sunset = some s) ∧
    (∀ u, o = .migration u → (applyLOpt lc o).migration = u) ∧
    ((applyLOpt lc .deprecatedSince).deprecated = true) := by
  refine ⟨?_, ?_, ?_, rfl⟩
  · intro h; cases o <;> simp [applyLOpt, h]
  · rintro s rfl; rfl
  · rintro u rfl; rfl

/-- not vacuous, and the surprising case: an older object for the version that is configured once more after a newer
    one was registered replaces the newer one's lifecycle (the engine holds the pointer that was set last) -/
example :
    getLifecycle (lifecyclesOf [.version 1 vb!"v1" [.migration vb!"old"], .version 2 vb!"v1" [.deprecated, .sunset (5, [], [])],
                                .configure 1 [.successor]]) vb!"v1" =
      some { deprecated := false, sunset := none, migration := vb!"old" } ∧
    getLifecycle (lifecyclesOf [.version 1 vb!"v1" [], .configure 1 [.sunset (3, [], [])], .configure 1 [.deprecatedSince, .sunset (7, [], [])]])
        vb!"v1" = some { deprecated := true, sunset := some (7, [], []), migration := [] } := by decide +kernel

def lastRegistered (s : LSt) (v : Bytes) : Option Nat := (s.engine.reverse.find? (fun p => p.1 == v)).map (·.2)

def heldBy (s : LSt) (id : Nat) : Option LC := (s.vrs.lookup id).bind (·.2)

/-- every `r.Version(…)` statement of the script creates an object under a new id -/
def freshIds : List LOp → List Nat → Bool
  | [], _ => true
  | .version id _ _ :: rest, seen => !seen.contains id && freshIds rest (id :: seen)
  | .configure _ _ :: rest, seen => freshIds rest seen

/-- every registered object exists and holds a configuration -/
def Registered (s : LSt) : Prop := ∀ p ∈ s.engine, ∃ ver lc, s.vrs.lookup p.2 = some (ver, some lc)

/-- a statement does nothing, or it binds one id and registers it when the bound object holds a configuration; the id
    is that of a `Version` statement, or it was bound before and the new object holds a configuration -/
theorem step_cases (s : LSt) (op : LOp) :
    s.step op = s ∨ ∃ id ver x,
      s.step op = { vrs := (id, ver, x) :: s.vrs, engine := s.engine ++ (x.map fun _ => (ver, id)).toList } ∧
      ((∃ opts, op = .version id ver opts) ∨ (s.vrs.lookup id ≠ none ∧ x ≠ none)) := by
  cases op with
  | version id ver opts =>
    refine Or.inr ⟨id, ver, if opts = [] then none else some (opts.foldl applyLOpt LC.zero), ?_, Or.inl ⟨opts, rfl⟩⟩
    simp only [LSt.step]
    split <;> simp
  | configure id opts =>
    simp only [LSt.step]
    split
    · exact Or.inl rfl
    · split
      · exact Or.inl rfl
      · rename_i ver lc0 h
        exact Or.inr ⟨id, ver, _, rfl, Or.inr ⟨by rw [h]; nofun, nofun⟩⟩

theorem lemma_registered_step (s : LSt) (op : LOp) (h : Registered s)
    (hfresh : ∀ id ver opts, op = .version id ver opts → s.vrs.lookup id = none) : Registered (s.step op) := by
  rcases step_cases s op with he | ⟨id, ver, x, he, hid⟩
  · rwa [he]
  · rw [he]
    intro p hp
    rw [List.lookup_cons_ite]
    rcases List.mem_append.1 hp with hp | hp
    · obtain ⟨v, lc, hlc⟩ := h p hp
      split
      · rename_i e
        rcases hid with ⟨opts, rfl⟩ | ⟨-, hx⟩
        · rw [e, hfresh id ver opts rfl] at hlc
          cases hlc
        · obtain ⟨lc', rfl⟩ := Option.ne_none_iff_exists'.1 hx
          exact ⟨ver, lc', rfl⟩
      · exact ⟨v, lc, hlc⟩
    · cases x with
      | none => cases hp
      | some lc =>
        obtain rfl := List.mem_singleton.1 hp
        exact ⟨ver, lc, if_pos rfl⟩

theorem lemma_dom_step (s : LSt) (op : LOp) (id' : Nat) (h : (s.step op).vrs.lookup id' ≠ none) :
    s.vrs.lookup id' ≠ none ∨ ∃ ver opts, op = .version id' ver opts := by
  rcases step_cases s op with he | ⟨id, ver, x, he, hid⟩
  · exact Or.inl (he ▸ h)
  · rw [he, List.lookup_cons_ite] at h
    split at h
    · rename_i e
      subst e
      rcases hid with ⟨opts, rfl⟩ | ⟨hl, -⟩
      · exact Or.inr ⟨ver, opts, rfl⟩
      · exact Or.inl hl
    · exact Or.inl h

/-- `Registered` holds after a script with fresh ids; the induction carries `hseen`: the ids seen so far cover the
    objects that exist -/
theorem lemma_registered_run (ops : List LOp) (s : LSt) (seen : List Nat) (h : Registered s)
    (hseen : ∀ id, s.vrs.lookup id ≠ none → id ∈ seen) (hf : freshIds ops seen = true) :
    Registered (ops.foldl LSt.step s) := by
  induction ops generalizing s seen with
  | nil => exact h
  | cons op rest ih =>
    rw [List.foldl_cons]
    cases op with
    | version id ver opts =>
      simp only [freshIds, Bool.and_eq_true, Bool.not_eq_true', List.contains_eq_mem, decide_eq_false_iff_not] at hf
      have hnone : s.vrs.lookup id = none := Decidable.byContradiction fun hl => hf.1 (hseen id hl)
      refine ih _ (id :: seen) (lemma_registered_step s _ h ?_) ?_ hf.2
      · intro id' ver' opts' he; cases he; exact hnone
      · intro id' hne
        rcases lemma_dom_step _ _ _ hne with h | ⟨_, _, he⟩
        · exact List.mem_cons_of_mem _ (hseen id' h)
        · cases he; exact List.mem_cons_self
    | configure id opts =>
      refine ih _ seen (lemma_registered_step s _ h nofun) ?_ hf
      intro id' hne
      rcases lemma_dom_step _ _ _ hne with h | ⟨_, _, he⟩
      · exact hseen id' h
      · cases he

/-- the lifecycle a version is served with is the one held — at serving time — by the object that was registered
    last for it (`r.Version(v, opts…)` with options, or `Configure` on any object of that version), for every script
    whose `Version` statements create fresh objects -/
theorem lifecycle_last_registration_wins (ops : List LOp) (v : Bytes) (hf : freshIds ops [] = true) :
    let s := ops.foldl LSt.step { vrs := [], engine := [] }
    getLifecycle (lifecyclesOf ops) v = (lastRegistered s v).bind (heldBy s) := by
  have hreg := lemma_registered_run ops { vrs := [], engine := [] } [] nofun (by intro id h; simp [List.lookup] at h) hf
  unfold lifecyclesOf
  generalize ops.foldl LSt.step { vrs := [], engine := [] } = s at hreg ⊢
  simp only [getLifecycle, lastRegistered]
  -- every registered object holds a configuration, so the `filterMap` of `lifecyclesOf` drops nothing
  rw [lemma_filterMap_congr _ (fun p => some (p.1, (heldBy s p.2).getD LC.zero)) s.engine, List.filterMap_eq_map',
    ← List.map_reverse, List.find?_map]
  · show ((s.engine.reverse.find? fun a => a.1 == v).map _).map _ = _
    cases hfind : s.engine.reverse.find? (fun a => a.1 == v) with
    | none => rfl
    | some p =>
      obtain ⟨ver, lc, hlc⟩ := hreg p (List.mem_reverse.1 (List.mem_of_find?_eq_some hfind))
      simp [heldBy, hlc]
  · intro p hp
    obtain ⟨ver, lc, hlc⟩ := hreg p hp
    simp [heldBy, hlc]

/-- not vacuous: a script with fresh ids whose last registration for `v1` is the old object -/
example : freshIds [.version 1 vb!"v1" [.migration vb!"old"], .version 2 vb!"v1" [.deprecated], .configure 1 [.successor]] [] = true ∧
    lastRegistered ([LOp.version 1 vb!"v1" [.migration vb!"old"], .version 2 vb!"v1" [.deprecated], .configure 1 [.successor]].foldl
      LSt.step { vrs := [], engine := [] }) vb!"v1" = some 1 := by decide +kernel

/-! ### the handler chain of a version-group route (app layer) -/

section Chain
open Rivaas.VersionChain

/-- order of a version-group route's chain: group middleware, then the `WithBefore` handlers, the handler, the
    `WithAfter` handlers — composed from the group's list as it is when the route is registered -/
theorem chain_shape (s : GSt) (g r : Nat) (before after mw : List Nat) (h : s.groups.lookup g = some mw) :
    (s.step (.route g r before after)).routes = s.routes ++ [(r, mw ++ before ++ [0] ++ after)] := by
  simp [GSt.step, h]

/-- a route's chain is fixed at registration: no later operation changes it -/
theorem chain_fixed_at_registration (s : GSt) (op : GOp) : ∃ more, (s.step op).routes = s.routes ++ more := by
  cases op with
  | use g ids => refine ⟨[], ?_⟩; simp only [GSt.step]; split <;> simp
  | sub p c ids => refine ⟨[], ?_⟩; simp only [GSt.step]; split <;> simp
  | route g r b a =>
    simp only [GSt.step]
    split
    · exact ⟨_, rfl⟩
    · exact ⟨[], by simp⟩
  | appUse ids => exact ⟨[], by simp [GSt.step]⟩

/-- a nested group copies its parent's middleware when it is created: `Use` on the parent afterwards does not
    reach the child -/
theorem sub_group_is_snapshot (s : GSt) (p c : Nat) (more : List Nat) (hpc : p ≠ c) :
    (s.step (.use p more)).groups.lookup c = s.groups.lookup c := by
  simp only [GSt.step]
  split
  · simp [List.lookup, beq_eq_false_iff_ne.2 (Ne.symm hpc)]
  · rfl

/-- … and the child starts from the parent's list followed by its own -/
theorem sub_group_inherits (s : GSt) (p c : Nat) (ids mw : List Nat) (h : s.groups.lookup p = some mw) :
    (s.step (.sub p c ids)).groups.lookup c = some (mw ++ ids) := by
  simp [GSt.step, h]

def appIds : GOp → List Nat
  | .appUse ids => ids
  | _ => []

theorem lemma_global_fold (ops : List GOp) (s : GSt) :
    (ops.foldl GSt.step s).global = s.global ++ (ops.map appIds).flatten := by
  rw [← List.foldl_append_eq_append]
  refine (List.foldl_hom GSt.global fun s o => ?_).symm
  cases o with
  | use g ids => simp only [GSt.step]; split <;> simp [appIds]
  | sub p c ids => simp only [GSt.step]; split <;> simp [appIds]
  | route g r b a => simp only [GSt.step]; split <;> simp [appIds]
  | appUse ids => simp [GSt.step, appIds]

/-- global middleware first, all of it: every `app.Use` of the script — before or after the route was registered —
    runs in front of the route's own chain, in call order -/
theorem global_middleware_first (ops : List GOp) (r : Nat) (c : List Nat) (h : (r, c) ∈ chains ops) :
    ∃ own, c = (ops.map appIds).flatten ++ own ∧ (r, own) ∈ (runOps ops).routes := by
  unfold chains at h
  simp only [List.mem_map] at h
  obtain ⟨⟨r', own⟩, hmem, heq⟩ := h
  simp only [Prod.mk.injEq] at heq
  obtain ⟨rfl, rfl⟩ := heq
  refine ⟨own, ?_, hmem⟩
  unfold runOps
  rw [lemma_global_fold]
  rfl

/-- not vacuous: parent `Use` after the child was created, `app.Use` after the route was registered -/
example : chains [.sub 0 1 [1], .use 0 [2], .route 1 7 [3] [4], .route 0 8 [] [5], .appUse [9]] =
    [(7, [9, 1, 3, 0, 4]), (8, [9, 2, 0, 5])] := by decide +kernel

end Chain

/-! ### the configuration step (`version.NewConfig` and the option functions) -/

theorem lemma_newPathDetector_pattern (p : Bytes) : (newPathDetector p).pattern = p := by
  unfold newPathDetector
  split <;> rfl

/-- a well-formed option keeps what `validate` tests: a non-empty default (`WithDefault` rejects the empty one) and
    no path detector without the placeholder (`WithPathDetection` rejects such a pattern) -/
theorem lemma_upd_validate (b : Built) (o : Opt) (hw : wellFormed o = true)
    (hb : b.dflt ≠ [] ∧ b.dets.any Det.lacksPlaceholder = false) :
    (upd b o).dflt ≠ [] ∧ (upd b o).dets.any Det.lacksPlaceholder = false := by
  cases o with
  | det d =>
    have hd : (toDet d).lacksPlaceholder = false := by
      cases d with
      | path p =>
        simp only [wellFormed, Bool.and_eq_true] at hw
        simp only [toDet, Det.lacksPlaceholder, lemma_newPathDetector_pattern, Bool.not_eq_false']
        exact hw.2
      | _ => rfl
    refine ⟨hb.1, ?_⟩
    simp only [upd]
    split <;> simp [hd, hb.2]
  | dflt v => exact ⟨by simpa [wellFormed, upd] using hw, hb.2⟩
  | _ => exact hb

theorem lemma_fold_validate (opts : List Opt) (hw : opts.all wellFormed = true) :
    (opts.foldl upd Built.init).dflt ≠ [] ∧ (opts.foldl upd Built.init).dets.any Det.lacksPlaceholder = false :=
  List.foldlRecOn (motive := fun b => b.dflt ≠ [] ∧ b.dets.any Det.lacksPlaceholder = false) opts upd
    ⟨by decide, rfl⟩ fun b hb o ho => lemma_upd_validate b o (List.all_eq_true.1 hw o ho) hb

/-- `Config.validate` can never fail after the option functions have succeeded: both of its tests repeat what
    `WithDefault` / `WithPathDetection` already enforce (and `NewConfig` starts from the default `v1`) -/
theorem validate_redundant (opts : List Opt) (b : Built) (h : applyAll Built.init opts = .ok b) :
    validate b = .ok b := by
  obtain ⟨hw, rfl⟩ := (lemma_applyAll opts _ b).1 h
  obtain ⟨hd, hp⟩ := lemma_fold_validate opts hw
  unfold validate
  rw [if_neg hd, if_neg (by rw [hp]; exact Bool.false_ne_true)]

/-- an accepted configuration in closed form -/
theorem newConfig_ok (opts : List Opt) (b : Built) :
    newConfig opts = .ok b ↔ opts.all wellFormed = true ∧ opts.foldl upd Built.init = b := by
  rw [← lemma_applyAll]
  unfold newConfig
  cases h : applyAll Built.init opts with
  | error e => exact Iff.rfl
  | ok b0 =>
    simp only
    rw [validate_redundant opts b0 h]

/-- Configuration is accepted exactly when every option is well-formed (empty names / patterns, a pattern
    without `{version}`, a nil custom detector, an empty default, an empty valid list or entry are rejected — by the
    first offending option) -/
theorem newConfig_accepts_iff (opts : List Opt) :
    (∃ b, newConfig opts = .ok b) ↔ opts.all wellFormed = true :=
  ⟨fun ⟨b, hb⟩ => ((newConfig_ok opts b).1 hb).1, fun hw => ⟨_, (newConfig_ok opts _).2 ⟨hw, rfl⟩⟩⟩

/-- The detectors of an accepted configuration are consulted in the order of the statement: custom detectors
    first (the one configured last first), then path / header / query / Accept in configuration order — for an
    arbitrary list of options (any number of detectors of any kind, duplicates included) -/
theorem newConfig_detection_order (opts : List Opt) (b : Built) (h : newConfig opts = .ok b) :
    b.dets = (detectionOrder ((opts.filterMap detOf).map fun d => (d, ()))).map fun p => toDet p.1 := by
  rw [← ((newConfig_ok opts b).1 h).2, lemma_upd_dets]
  simp [Built.init, detectionOrder, List.filter_map, Function.comp_def, List.map_reverse]

/-- an accepted configuration satisfies the hypothesis `ValidCfg` of `serve_meets_spec` -/
theorem newConfig_valid_cfg (opts : List Opt) (b : Built) (h : newConfig opts = .ok b) (now : Nat)
    (lcs : List (Bytes × LC)) :
    ValidCfg { opts := opts.filterMap detOf, dflt := b.dflt, valid := b.valid,
               sendVersionHeader := b.sendVersionHeader, sendWarning299 := b.sendWarning299,
               enforceSunset := b.enforceSunset, now := now, lifecycles := lcs } := by
  obtain ⟨hw, rfl⟩ := (newConfig_ok opts b).1 h
  refine ⟨(lemma_fold_validate opts hw).1, ?_⟩
  · intro p hp
    simp only [List.mem_filterMap] at hp
    obtain ⟨o, ho, hdo⟩ := hp
    have hwo : wellFormed o = true := (List.all_eq_true.1 hw) o ho
    cases o with
    | det d' =>
      simp only [detOf, Option.some.injEq] at hdo
      subst hdo
      simp only [wellFormed, Bool.and_eq_true] at hwo
      exact Option.isSome_iff_exists.1 hwo.2
    | _ => simp [detOf] at hdo

/-- C13 (configuration). What the public API shows of `version.New(opts…)` satisfies the configuration oracle:
    accepted exactly for well-formed options, detectors in the order of the statement, non-empty default (last
    `WithDefault`, else `v1`), valid list of the last `WithValidVersions`, response behaviours as switched on. -/
theorem newConfig_meets_spec (opts : List Opt) : cfgSpecOK opts (observeCfg opts) = true := by
  unfold observeCfg
  cases h : newConfig opts with
  | error e =>
    simp only [cfgSpecOK]
    cases hall : opts.all wellFormed with
    | true =>
      obtain ⟨b, hb⟩ := (newConfig_accepts_iff opts).2 hall
      rw [hb] at h; cases h
    | false =>
      simp only [List.all_eq_false] at hall
      obtain ⟨o, ho, hwo⟩ := hall
      exact List.any_eq_true.2 ⟨o, ho, by simpa using hwo⟩
  | ok b =>
    have hord := newConfig_detection_order opts b h
    obtain ⟨hw, rfl⟩ := (newConfig_ok opts b).1 h
    have hd := (lemma_fold_validate opts hw).1
    simp only [cfgSpecOK, hw, Bool.true_and, Bool.and_eq_true, beq_iff_eq, bne_iff_ne, ne_eq]
    refine ⟨⟨⟨⟨⟨⟨⟨hd, ?_⟩, lemma_upd_last (·.dflt) _ (fun b o => by cases o <;> rfl) opts _⟩,
      lemma_upd_last (·.valid) _ (fun b o => by cases o <;> rfl) opts _⟩,
      lemma_upd_flag (·.sendVersionHeader) _ (fun b o => by cases o <;> rfl) opts _⟩,
      lemma_upd_flag (·.sendWarning299) _ (fun b o => by cases o <;> rfl) opts _⟩,
      lemma_upd_flag (·.enforceSunset) _ (fun b o => by cases o <;> rfl) opts _⟩,
      lemma_upd_flag (·.hasObserver) _ (fun b o => by cases o <;> rfl) opts _⟩
    rw [hord, List.map_map]
    apply List.map_congr_left
    rintro ⟨d, u⟩ _
    cases d <;> rfl

/-- not vacuous: an ill-formed option in the middle, and an accepted configuration with two custom detectors -/
example : observeCfg [.det (.header vb!"X-V"), .det (.path vb!"/api/"), .dflt vb!"v2"] = .rejected .missingPlaceholder ∧
    observeCfg [.det (.path vb!"/v{version}/"), .det (.custom 1), .valid [vb!"v1", vb!"v2"], .det (.query vb!"v"),
                .det (.custom 2), .dflt vb!"v3", .warning299, .dflt vb!"v2"] =
      .accepted [vb!"custom", vb!"custom", vb!"path", vb!"query"] vb!"v2" [vb!"v1", vb!"v2"] false true false false ∧
    observeCfg [.valid [vb!"v1", [], vb!"v3"]] = .rejected (.emptyVersionEntry 1) ∧
    observeCfg [] = .accepted [] vb!"v1" [] false false false false := by decide +kernel

end Rivaas.C13
