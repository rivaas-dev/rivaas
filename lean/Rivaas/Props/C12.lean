import Rivaas.Lemmas.PhasesSim
import Rivaas.Lemmas.PhasesLive
import Rivaas.Lemmas.ReverseRT
/-
C12 — Configuration and serving are separate phases.

Quantifiers: every list of goroutines (requests, Freeze, Warmup, registrations through router / group /
mount / version router, WhereInt, SetName, URLFor) and **every schedule** — a list of goroutine indices,
each entry releasing that goroutine until its next yield point. `sync.Once` is modelled by its contract.
Helper lemmas: `Lemmas/PhasesCore.lean` (invariant of the shared state), `Lemmas/PhasesSim.lean`
(the shared state against the trace monitor), `Lemmas/PhasesLive.lean` (what a scheduler step can do, the invariant along
every schedule, progress), `Lemmas/ReverseRT.lean`.
-/
namespace Rivaas.C12
open Rivaas Rivaas.Phases Rivaas.Phases.Spec

/-! ### the shared state, for every sequence of atomic operations -/

/-- The invariant holds after every sequence of operations (any interleaving of any number of
    goroutines is such a sequence). -/
theorem inv_all_schedules (ops : List Op) : Inv (ops.foldl Core.step Core.init) :=
  lemma_inv_run ops Core.init lemma_inv_init

/-- **No request observes a partially registered table.** Once `freezeOnce` is done — and a request
    consults the tree only after its `Freeze()` returned — a lookup answers exactly as the set of all
    accepted registrations and accepted constraints says, whatever the interleaving was: routes registered
    before `Warmup()`, between `Warmup()` and the freeze, while `doWarmup` was half-way. -/
theorem requests_see_full_table (ops : List Op) (t : RouteId) (valInt : Bool)
    (hd : (ops.foldl Core.step Core.init).fpc = .done) :
    lookup (ops.foldl Core.step Core.init) t valInt =
      (if (ops.foldl Core.step Core.init).objs.contains t &&
          (!(ops.foldl Core.step Core.init).cons.contains t || valInt) then some t else none) :=
  lemma_lookup_done _ (inv_all_schedules ops) hd t valInt

/-- **A late mutation is rejected and changes nothing**: once the flags are set, a registration
    (through any registrar), a constraint change and a naming attempt leave the whole shared state as it
    was. -/
theorem late_mutation_rejected (c : Core) (h : c.frozen = true) (r : RouteId) :
    c.step (.register r) = c ∧ c.step (.whereInt r) = c ∧ c.step (.setName r) = c ∧
    (¬ c.objs.contains r → registerRes c r = .rejected) ∧
    (c.objs.contains r → mutateRes c r = .rejected) := by
  refine ⟨?_, ?_, ?_, ?_, ?_⟩
  · simp only [Core.step, h, Bool.or_true, ↓reduceIte]; split <;> rfl
  · simp only [Core.step, h, ↓reduceIte]; split <;> rfl
  · simp only [Core.step, h, ↓reduceIte]; split <;> rfl
  · intro hn
    have : c.objs.contains r = false := by simpa using hn
    simp only [registerRes, this, h, Bool.or_true, ↓reduceIte, Bool.false_eq_true]
  · intro hn
    simp only [mutateRes, hn, h, Bool.not_true, ↓reduceIte, Bool.false_eq_true]

/-- the freeze is for ever: no operation clears the flag -/
theorem frozen_forever (c : Core) (op : Op) (h : c.frozen = true) : (c.step op).frozen = true := by
  have body : ∀ op : Op, op.isBody = true → op ≠ .enterFreeze → (c.step op).frozen = true := fun op hb hne =>
    (congrArg Mon.servingBegun (lemma_mon_body c op hb hne)).trans h
  cases op with
  | enterFreeze =>
    simp only [Core.step]
    split
    · rfl
    · exact h
  | register r => rw [(late_mutation_rejected c h r).1]; exact h
  | whereInt r => rw [(late_mutation_rejected c h r).2.1]; exact h
  | setName r => rw [(late_mutation_rejected c h r).2.2.1]; exact h
  | _ => exact body _ rfl nofun

/-- **Freeze is idempotent**: once `freezeOnce` is done, every operation of the two `Once` bodies is a
    no-op on the shared state (a second `Freeze()` or `Warmup()` does not even enter them). -/
theorem freeze_idempotent (c : Core) (h : Inv c) (hd : c.fpc = .done) (op : Op) (hb : op.isBody = true) :
    c.step op = c := by
  have hw : c.wpc = .done := h.tail_done (Or.inr hd)
  cases op with
  | enterFreeze => simp [Core.step, hd]
  | freezeCallWarmup => simp [Core.step, hd]
  | enterWarmup => simp [Core.step, hw]
  | warmupStep => simp [Core.step, hw]
  | freezeFinish => simp [Core.step, hd]
  | register r => simp [Op.isBody] at hb
  | whereInt r => simp [Op.isBody] at hb
  | setName r => simp [Op.isBody] at hb

/-- **Warmup is idempotent**: once `warmupOnce` is done its body cannot be entered or advanced again -/
theorem warmup_idempotent (c : Core) (hw : c.wpc = .done) :
    c.step .enterWarmup = c ∧ c.step .warmupStep = c := by
  constructor <;> simp [Core.step, hw]

/-! ### goroutines and schedules -/

/-- **For every schedule** the observable trace of the model — where each released goroutine is
    afterwards, what it reported — is accepted by the oracle: mutations are accepted exactly before
    serving began and rejected afterwards, every request answers as the accepted registrations and
    constraints say, `URLFor` succeeds exactly for accepted names once serving began. -/
theorem trace_accepted (kinds : List Kind) (sched : List Nat) (hv : ∀ i ∈ sched, i < kinds.length) :
    ∃ m, monitor kinds Mon.init (run kinds sched).2 = some m ∧ Rel (run kinds sched).1 m := by
  obtain ⟨h1, hG⟩ := lemma_run_good kinds sched _ (lemma_good_init kinds) hv
  exact ⟨_, h1, lemma_good_rel hG⟩

/-- **C12 (phases).** For every schedule after which every goroutine has finished, the whole observation
    of the model — trace, final positions, probe requests for every route id — satisfies the oracle. -/
theorem run_meets_spec (kinds : List Kind) (sched ids : List Nat) (hv : ∀ i ∈ sched, i < kinds.length)
    (hfin : ∀ st ∈ (run kinds sched).1.status, st = .finished) :
    specOK kinds ids (run kinds sched).2 ((run kinds sched).1.status.map (vis (run kinds sched).1))
      (probes (run kinds sched).1.core ids) = true := by
  obtain ⟨m, h1, h2⟩ := trace_accepted kinds sched hv
  unfold specOK
  rw [h1]
  unfold finalOK
  rw [lemma_rel_mon h2, lemma_probes _ h2.inv ids]
  simp only [beq_self_eq_true, Bool.and_true, List.all_eq_true, List.mem_map, decide_eq_true_eq]
  rintro v ⟨st, hst, rfl⟩
  rw [hfin st hst]
  rfl

/-- **Freeze and Warmup are safe to call from many goroutines: no deadlock.** After every schedule, if some
    goroutine has not finished, some goroutine can be released and changes the state (it reaches its next
    yield point, finishes, or — the first time — blocks). A `Once` body that has been entered is owned by
    exactly one live goroutine (`Own`), goroutines blocked on a `Once` exist only while it is running. -/
theorem no_deadlock (kinds : List Kind) (sched : List Nat) (hv : ∀ i ∈ sched, i < kinds.length)
    (h : ∃ (i : Nat) (st : Status), (run kinds sched).1.status[i]? = some st ∧ st ≠ .finished) :
    ∃ i, Effective kinds (run kinds sched).1 i := by
  exact lemma_progress kinds _ (lemma_run_good kinds sched _ (lemma_good_init kinds) hv).2 h

/-- `no_deadlock` is not vacuous: a Freeze owner blocked on an explicit Warmup, a request blocked on the
    Freeze owner, and the explicit Warmup owner is the one that can go on -/
example : let s := (run [.register 1, .warmup, .freeze, .request 1 true] [0, 0, 1, 2, 2, 3, 3, 2, 3]).1
    s.status = [.finished, .inWarmup, .inFreeze, .blockedF] ∧ s.core.fpc = .inWarmup ∧ s.wByFreeze = false ∧
    (step [.register 1, .warmup, .freeze, .request 1 true] s 2).1 = s ∧
    (step [.register 1, .warmup, .freeze, .request 1 true] s 1).1 ≠ s := by decide +kernel

/-- **A request whose context is already done is a request all the same**: in every reachable state, when
    `ServeHTTP` returns for it (`Out.gone`) the router is frozen and `freezeOnce` is done — so by
    `late_mutation_rejected` every registration / constraint / naming attempt from then on is rejected. (A
    `ServeHTTP` that returned for such a request in front of `Freeze()` would not have this: `seeded/C12-14`.) -/
theorem gone_request_begins_serving (kinds : List Kind) (sched : List Nat) (hv : ∀ i ∈ sched, i < kinds.length)
    (i : Nat) (h : (step kinds (run kinds sched).1 i).2 = .gone) :
    (run kinds sched).1.core.frozen = true ∧ (run kinds sched).1.core.fpc = .done := by
  obtain ⟨m, _, hR⟩ := trace_accepted kinds sched hv
  generalize (run kinds sched).1 = s at h hR
  unfold step at h
  split at h
  · rename_i k st _ hs
    have hd : s.core.fpc = .done := hR.frozenPt ⟨i, lemma_out_gone kinds s i k st h ▸ hs⟩
    exact ⟨hR.inv.frozen_iff.2 (by simp [hd]), hd⟩
  · cases h

/-- not vacuous: the first request arrives with its context done, goes through the whole freeze alone and returns;
    the registration and the constraint that follow are rejected, the name set before is reversible -/
example :
    ((run [.register 1, .setName 1, .request 1 true true, .register 2, .whereInt 1, .urlFor 1, .request 2 true]
        [0, 0, 1, 2, 2, 2, 2, 2, 2, 2, 2, 2, 3, 4, 5, 6, 6, 6]).2.filterMap
        fun e => match e.out with | .none => none | o => some (e.actor, o)) =
      [(0, .mut .accepted), (1, .mut .accepted), (2, .gone), (3, .mut .rejected), (4, .mut .rejected), (5, .url .ok),
       (6, .hit none)] := by decide +kernel

/-! ### reverse routing -/

open Rivaas.Reverse in
/-- **URLFor round trip (parameter routes).** For a pattern with parameters and values that are valid
    single path segments (non-empty, no `/`), the path the router sees when the URL is requested matches
    the route and binds every parameter to its value, left to right. -/
theorem urlfor_roundtrip (pattern : Bytes) (vals : Vals)
    (hp : (parseReversePattern pattern).any Seg.isParam = true)
    (hv : ∀ n, Seg.param n ∈ parseReversePattern pattern →
      ∃ v, valOf vals n = some v ∧ v.1 ≠ [] ∧ '/' ∉ v.1) :
    ∃ path, seenPath pattern vals = some path ∧
      matchRoute pattern path = some (boundParams vals (parseReversePattern pattern)) := by
  -- every rendered part is non-empty and slash-free: splitting the joined path gives the parts back, and neither the
  -- root case nor the trailing-slash case of the matcher applies
  obtain ⟨parts, h1, h2, h3, hgood⟩ := lemma_match_render vals (parseReversePattern pattern)
    (fun x => x ≠ [] ∧ '/' ∉ x) (lemma_parse_static pattern) hv
  have hne : parts ≠ [] := by
    intro he
    rw [he] at h3
    have : parseReversePattern pattern = [] := List.length_eq_zero_iff.1 h3.symm
    rw [this] at hp
    simp at hp
  refine ⟨'/' :: joinSlash parts, ?_, ?_⟩
  · simp [seenPath, buildWith, hp, h1]
  · have hsplit := lemma_split_join parts hne (fun x hx => (hgood x hx).2)
    have hjoin_ne : joinSlash parts ≠ [] := by
      intro he
      rw [he] at hsplit
      exact (hgood [] (hsplit ▸ List.mem_singleton_self ([] : Bytes))).1 rfl
    unfold matchRoute
    simp only [hp, Bool.not_true, Bool.false_eq_true, if_false]
    have h1' : ('/' :: joinSlash parts = ['/']) = False := by
      simp [hjoin_ne]
    simp only [h1', decide_false, Bool.false_or, List.cons_ne_nil, reqSegments, List.head?_cons,
      if_true, List.drop_succ_cons, List.drop_zero, hsplit]
    have hlast : parts.getLast? ≠ some [] := by
      intro hl
      exact (hgood [] (List.mem_of_getLast? hl)).1 rfl
    simp only [hlast, if_false]
    exact h2

open Rivaas.Reverse in
/-- **URLFor round trip (routes without parameters).** The route reverses to its own path, which it
    matches (finding K12c, `urlfor_trailing_slash_asis`: as shipped `"/docs/"` reversed to `"/docs"`). -/
theorem urlfor_static (pattern : Bytes) (vals : Vals)
    (hp : (parseReversePattern pattern).any Seg.isParam = false) :
    buildURL pattern vals = some pattern ∧ seenPath pattern vals = some pattern ∧
    matchRoute pattern pattern = some [] := by
  refine ⟨by simp [buildURL, buildWith, hp], by simp [seenPath, buildWith, hp], ?_⟩
  unfold matchRoute
  simp only [hp, Bool.not_false, if_true]
  split
  · rename_i h; simp [h]
  · simp

open Rivaas.Reverse in
theorem lemma_roundTrip (pattern : Bytes) (vals : Vals)
    (hv : ∀ n, Seg.param n ∈ parseReversePattern pattern → ∃ v, valOf vals n = some v ∧ v.1 ≠ [] ∧ '/' ∉ v.1) :
    ∃ url, roundTrip pattern vals = .routedBack url (boundParams vals (parseReversePattern pattern)) := by
  by_cases hp : (parseReversePattern pattern).any Seg.isParam = true
  · obtain ⟨path, hseen, hmatch⟩ := urlfor_roundtrip pattern vals hp hv
    obtain ⟨parts, hparts⟩ := lemma_render_some vals true (parseReversePattern pattern)
      (fun n hn => let ⟨v, h, _⟩ := hv n hn; ⟨v, h⟩)
    exact ⟨'/' :: joinSlash parts, by simp [roundTrip, buildURL, buildWith, hp, hparts, hseen, hmatch]⟩
  · have hp' : (parseReversePattern pattern).any Seg.isParam = false := by simpa using hp
    obtain ⟨h1, h2, h3⟩ := urlfor_static pattern vals hp'
    exact ⟨pattern, by simp [roundTrip, h1, h2, h3, lemma_bound_static vals _ hp']⟩

open Rivaas.Reverse in
/-- **C12 (URLFor).** For every pattern and every parameter assignment the model's round trip — `URLFor`,
    then the request for the URL it returned — satisfies the oracle: whenever the pattern is well-formed and
    every parameter has a value that is a valid single path segment, the route is reached again with the
    same parameters. -/
theorem roundtrip_meets_spec (pattern : Bytes) (vals : List (Bytes × Bytes × Bytes × Bool)) :
    Reverse.Spec.specOK pattern vals (roundTrip pattern (vals.map strip)) = true := by
  unfold Reverse.Spec.specOK
  simp only
  split
  · rename_i happ
    simp only [Bool.and_eq_true, List.all_eq_true] at happ
    obtain ⟨_, hvals⟩ := happ
    -- the shipped assignment, read by the model and by the oracle
    have hfind : ∀ n, n ∈ Spec.paramNames pattern → ∃ q, vals.find? (fun e => e.1 == n) = some q ∧
        valOf (vals.map strip) n = some (q.2.1, q.2.2.1) ∧ q.2.1 ≠ [] ∧ '/' ∉ q.2.1 := by
      intro n hn
      have h := hvals n hn
      cases hf : vals.find? (fun e => e.1 == n) with
      | none => rw [hf] at h; cases h
      | some q =>
        rw [hf] at h
        simp only [Bool.and_eq_true, Spec.validSegment, bne_iff_ne, ne_eq, Bool.not_eq_true',
          List.contains_eq_mem, decide_eq_false_iff_not] at h
        exact ⟨q, rfl, by rw [lemma_valOf_map, hf]; rfl, h.1.1, h.1.2⟩
    have hnames := lemma_paramNames_eq pattern
    have hseg : ∀ n, Seg.param n ∈ parseReversePattern pattern → n ∈ Spec.paramNames pattern := by
      intro n hn
      rw [hnames, List.mem_filterMap]
      exact ⟨_, hn, rfl⟩
    obtain ⟨url, h⟩ := lemma_roundTrip pattern (vals.map strip)
      (fun n hn => let ⟨q, _, h1, h3, h4⟩ := hfind n (hseg n hn); ⟨_, h1, h3, h4⟩)
    simp only [h, hnames, beq_iff_eq]
    refine lemma_bound_eq (vals.map strip) (parseReversePattern pattern) _ fun n hn => ?_
    obtain ⟨q, hq, h1, _⟩ := hfind n (hseg n hn)
    exact ⟨_, h1, by rw [hq]⟩
  · rfl

/-! ### the code as shipped: witnesses of K12, K12b, K12e, K12f, K12c (replayed on the implementation, corpus/C12) -/

def servedOps : List Op :=
  [.register 1, .enterFreeze, .freezeCallWarmup, .warmupStep, .warmupStep, .warmupStep, .freezeFinish]

/-- K12: `WhereInt` on a served route after the freeze changed routing (200 → 404), no panic -/
theorem where_after_freeze_asis :
    let c := servedOps.foldl (Core.stepAsIs fun _ => false) Core.init
    lookup c 1 false = some 1 ∧ lookup (Core.stepAsIs (fun _ => false) c (.whereInt 1)) 1 false = none ∧
    lookup (c.step (.whereInt 1)) 1 false = some 1 := by decide +kernel

/-- K12b: a route registered through a `VersionRouter` after the freeze became routable -/
theorem late_version_route_asis :
    let c := servedOps.foldl (Core.stepAsIs fun r => r = 2) Core.init
    lookup c 2 true = none ∧ lookup (Core.stepAsIs (fun r => r = 2) c (.register 2)) 2 true = some 2 ∧
    lookup (c.step (.register 2)) 2 true = none := by decide +kernel

/-- K12e: a registration that had passed the unlocked flag test before the first request went on after it
    was served: as shipped it was written into the live tree (warm-up being over); `enqueueRoute` tests the flags
    again under the mutex under which `Freeze` stores them, and the registration is refused -/
theorem late_enqueue_asis :
    let c := servedOps.foldl Core.step Core.init
    lookup c 2 true = none ∧ lookup (enqueueAsIs c 2) 2 true = some 2 ∧ c.step (.register 2) = c := by decide +kernel

/-- the same at goroutine level: goroutine 1 (the registration of route 2) parks at `register.checked`, goroutine 2
    (a request) freezes the router and is served, the registration continues — and is rejected, the table stays as
    the request saw it -/
example :
    ((run [.register 1, .register 2, .request 1 true] [0, 0, 1, 2, 2, 2, 2, 2, 2, 2, 2, 1]).2.filterMap
        fun e => match e.out with | .none => none | o => some (e.actor, o)) =
      [(0, .mut .accepted), (2, .hit (some 1)), (1, .mut .rejected)] := by decide +kernel

/-- K12f (open finding): a direct call of the exported registrar-bridge method `Router.AddRouteToTree` /
    `AddVersionRoute` after the first request is not rejected and the route is served. The goroutine kinds of the
    model (`Kind`) contain no such call — every theorem above is the `¬D` half: for cases without a direct bridge call the
    model meets the oracle. Witness of the as-is behaviour: -/
theorem late_bridge_call_asis :
    let c := servedOps.foldl Core.step Core.init
    c.frozen = true ∧ lookup c 2 true = none ∧ bridgeProbeAsIs c 2 = (false, true) ∧
    -- … whereas the guarded registration of the same route is rejected without effect
    c.step (.register 2) = c := by decide +kernel

open Rivaas.Reverse in
/-- K12c: a static route with a trailing slash reversed to a path it does not match -/
theorem urlfor_trailing_slash_asis :
    buildURLAsIs rb!"/api/" [] = some rb!"/api" ∧ matchRoute rb!"/api/" rb!"/api" = none ∧
    buildURL rb!"/api/" [] = some rb!"/api/" ∧ matchRoute rb!"/api/" rb!"/api/" = some [] := by decide +kernel

/-! ### non-vacuity -/

/-- two requests racing to freeze, a late registration, a late constraint, Warmup and Freeze from other
    goroutines, URLFor: a schedule with context switches inside both `Once` bodies -/
def kindsEx : List Kind :=
  [.register 1, .setName 1, .request 1 false, .request 1 true, .warmup, .freeze, .register 2, .whereInt 1,
   .urlFor 1, .request 2 true]

def schedEx : List Nat :=
  [0, 0, 1, 2, 3, 2, 3, 2, 4, 6, 7, 8, 2, 5, 2, 3, 2, 2, 3, 3, 9, 9, 9, 4, 5, 2]

theorem schedEx_valid : ∀ i ∈ schedEx, i < kindsEx.length := by decide +kernel
theorem schedEx_finishes : ∀ st ∈ (run kindsEx schedEx).1.status, st = .finished := by decide +kernel

example : ∀ i ∈ schedEx, i < kindsEx.length := schedEx_valid
example : ∀ st ∈ (run kindsEx schedEx).1.status, st = .finished := schedEx_finishes

/-- the late registration and the late constraint are rejected, both racing requests are served -/
example : (run kindsEx schedEx).2.filterMap (fun e => match e.out with | .none => none | o => some (e.actor, o)) =
    [(0, .mut .accepted), (1, .mut .accepted), (6, .mut .rejected), (7, .mut .rejected), (8, .url .ok),
     (3, .hit (some 1)), (9, .hit none), (2, .hit (some 1))] := by decide +kernel

example : specOK kindsEx [1, 2] (run kindsEx schedEx).2
    ((run kindsEx schedEx).1.status.map (vis (run kindsEx schedEx).1)) (probes (run kindsEx schedEx).1.core [1, 2]) = true :=
  run_meets_spec kindsEx schedEx [1, 2] schedEx_valid schedEx_finishes

open Rivaas.Reverse in
example : (parseReversePattern rb!"/users/:id/posts/:pid").any Seg.isParam = true ∧
    seenPath rb!"/users/:id/posts/:pid" [(rb!"id", rb!"a b", rb!"a%20b"), (rb!"pid", rb!"7", rb!"7")] =
      some rb!"/users/a b/posts/7" ∧
    matchRoute rb!"/users/:id/posts/:pid" rb!"/users/a b/posts/7" = some [(rb!"id", rb!"a b"), (rb!"pid", rb!"7")] := by
  decide +kernel

end Rivaas.C12
