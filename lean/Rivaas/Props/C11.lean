import Rivaas.Lemmas.CompilerStage1
import Rivaas.Lemmas.CompilerEngine
/-
C11 — Route compilation is a transparent optimisation.

Model   : Model/Compiler.lean (`serveCompiled`, `serveVersioned`, `serveWith`: compiled static table with
          bloom filter, specificity-sorted dynamic list with first-segment index, `matchAndExtract`,
          per-tree tables, version cache) on top of Model/Radix.lean (the tree engine)
Oracle  : the tree engine itself (`serve`), both engines built from the same registration script
Classes : Spec/CompiledClass.lean (`dOrder1` K11a, `normal` K11e) and the tree-side class of C01 (K01c
          `overwrite`: `dSameShape1`, `dReplaced1`). K11b, K11c, K11d, K11f are repaired in /repo and have no class;
          where the model keeps the as-shipped code behind a flag, a witness below shows both behaviours

`hash` (FNV-1a in the code) is an arbitrary function; the theorems state as a hypothesis that it
separates the keys in play.
-/
namespace Rivaas.C11
open Rivaas.Route Rivaas.Radix Rivaas.Compiler Rivaas.Match Rivaas.MatchL Rivaas.RadixL Rivaas.CompilerL Rivaas.C01

/-! ### bloom filter -/

/-- adding keys one after the other (`Add` in a loop) -/
def addAll (b : Bloom) : List Nat → Bloom
  | [] => b
  | h :: hs => addAll (b.add h) hs

theorem lemma_addAll_has (b : Bloom) (hs : List Nat) (h : Nat) (hb : Bloom.has b h ∨ h ∈ hs) : Bloom.has (addAll b hs) h := by
  induction hs generalizing b with
  | nil => exact hb.resolve_right List.not_mem_nil
  | cons x xs ih =>
    refine ih _ (hb.elim (fun hb => Or.inl (Bloom.has_add_mono b h x hb)) fun hm => ?_)
    rcases List.mem_cons.mp hm with rfl | hm
    · exact Or.inl (Bloom.has_add_self b h)
    · exact Or.inr hm

/-- **No false negatives**: a key that was added tests positive — for every filter size (1..4096 and
beyond, 0 included), every number of hash functions, every set of keys and every hash value. -/
theorem bloom_no_false_negative (b : Bloom) (hs : List Nat) (h : Nat) (hh : h ∈ hs) :
    (addAll b hs).test h = true :=
  Bloom.test_of_has _ _ (lemma_addAll_has b hs h (Or.inr hh))

example : (addAll (Bloom.new 1 8) [12345, 99]).test 99 = true := by decide

/-- the texts the hash has to separate for one request: the request's own keys and every registered
(method, pattern) and pattern -/
def hashKeys (R : List Route) (req : Req) : List Bytes :=
  (req.method ++ req.path) :: req.path :: ((R.map fun r => r.method ++ r.text) ++ R.map (·.text))

theorem lemma_injOn_methodKeys (hash : Bytes → Nat) (R : List Route) (req : Req) (h : InjOn hash (hashKeys R req)) :
    InjOn hash ((req.method ++ req.path) :: R.map fun r => r.method ++ r.text) := h.mono fun _ ha =>
  (List.mem_cons.mp ha).elim (fun e => e ▸ List.mem_cons_self ..) fun hm =>
    List.mem_cons_of_mem _ (List.mem_cons_of_mem _ (List.mem_append_left _ hm))

theorem lemma_injOn_pathKeys (hash : Bytes → Nat) (R : List Route) (req : Req) (h : InjOn hash (hashKeys R req)) :
    InjOn hash (req.path :: R.map (·.text)) := h.mono fun _ ha =>
  List.mem_cons_of_mem _ <| (List.mem_cons.mp ha).elim (fun e => e ▸ List.mem_cons_self ..) fun hm =>
    List.mem_cons_of_mem _ (List.mem_append_right _ hm)

/-! ### the engines -/

/-- **C11, main tree.** For every script of the vocabulary with its constraints on declared names (`normal`: outside
`undeclared`), every constraint table, every bloom filter size and number of hash functions, and every request whose
path starts with `/` (empty and trailing segments included): unless the request is in the class `order` or in the
same-shape part of `overwrite`, the engine with route compilation answers exactly like the plain tree engine — same
status, same handler, same route pattern, same parameter bindings, same `Allow`. The order of the compiled candidate list, the first-segment index
and the ten-route thresholds do not enter. The replaced part of `overwrite` (`dReplaced1`) is not excluded: a
registration that replaces a route in the tree has its pattern, hence its (method, pattern) key, and replaces its
template in the compiler too. -/
theorem compiled_eq_tree_live (hash : Bytes → Nat) (sat : Nat → Bytes → Bool) (o : Opts) (noRoute : Bool)
    (script : List Reg) (R : List Route) (hR : specRoutes script = some R) (hN : normal R = true)
    (hstd : ∀ g ∈ script, g.method ∈ stdMethods)
    (req : Req) (hp : req.path.head? = some '/') (hmeth : '/' ∉ req.method)
    (hinj : InjOn hash (hashKeys R req))
    (hNm : dSameShape1 sat R req.method (cutAny req.path) = false)
    (hO : dOrder1 sat R req.method (cutAny req.path) = false) :
    serveCompiled hash sat o script noRoute req = serve sat (build noRoute script) req := by
  unfold serveCompiled
  simp only
  cases h1 : (rcBuild hash script).lookupStatic hash req.method req.path with
  | some cr =>
    exact stage1_live hash sat noRoute script R hR hN hstd req hp hmeth
      (lemma_injOn_methodKeys hash R req hinj) cr h1
  | none =>
    simp only
    cases h2 : (rcBuild hash script).matchDynamic sat req.method req.path with
    | some res =>
      obtain ⟨cr, e⟩ := res
      exact stage2_live hash sat noRoute script R hR hN hstd req hp hNm hO cr e h2
    | none =>
      simp only
      cases ht : treeOf (build noRoute script) req.method with
      | none => unfold serve; rw [ht]
      | some t =>
        simp only
        cases h3 : (mainTable hash o.size o.k t).get hash req.path with
        | some x =>
          exact stage3_eq hash sat noRoute script R hR (fun r hr => (lemma_normalR R hN r hr).1) o.size o.k req
            (lemma_injOn_pathKeys hash R req hinj) t ht
            x.1 x.2 h3
        | none => unfold serve; rw [ht]; rfl

/-- C11, main tree, outside all recorded classes: the instance of `compiled_eq_tree_live` with the replaced part of
`overwrite` excluded as well (`hOw`, which is not used) -/
theorem compiled_eq_tree_partial (hash : Bytes → Nat) (sat : Nat → Bytes → Bool) (o : Opts) (noRoute : Bool)
    (script : List Reg) (R : List Route) (hR : specRoutes script = some R) (hN : normal R = true)
    (hstd : ∀ g ∈ script, g.method ∈ stdMethods)
    (req : Req) (hp : req.path.head? = some '/') (hmeth : '/' ∉ req.method)
    (hinj : InjOn hash (hashKeys R req))
    (hNm : dSameShape1 sat R req.method (cutAny req.path) = false)
    (hOw : dReplaced1 sat R req.method (cutAny req.path) = false)
    (hO : dOrder1 sat R req.method (cutAny req.path) = false) :
    serveCompiled hash sat o script noRoute req = serve sat (build noRoute script) req :=
  compiled_eq_tree_live hash sat o noRoute script R hR hN hstd req hp hmeth hinj hNm hO

/-- **C11, version tree.** Inside a version tree the answer does not depend on the options: `serveVersioned`
never reads `o.compiled` (as serve.go: the version cache is used whatever the flag says), so what is proved is
independence of the bloom configuration (size, number of hash functions) for every placement of `Warmup()`.
No recorded class is needed (`order`, `overwrite`). The hypotheses on the route set (`normal`: vocabulary, declared
constraint names) and on the hash (separating the keys in play) are not used: the cache is filled without looking at
its filter, whatever the routes and the hash (`versioned_transparent`). That the version cache answers like the version
tree's walk is not a theorem (the main-tree analogue is `stage1_eq` / `stage3_eq`): correspondence only. -/
theorem versioned_eq (hash : Bytes → Nat) (sat : Nat → Bytes → Bool) (o o' : Opts) (hw : o.warmAt = o'.warmAt) (noRoute : Bool)
    (script : List Reg) (R : List Route) (hR : specRoutes script = some R) (hN : normal R = true)
    (hstd : ∀ g ∈ script, g.method ∈ stdMethods) (req : Req) (hinj : InjOn hash (hashKeys R req)) :
    serveVersioned hash sat o script noRoute req = serveVersioned hash sat o' script noRoute req :=
  versioned_transparent hash sat o o' hw noRoute script req

/-- **C11, as the harness observes it**: the engine selected by any options against the plain engine
in the same placement (main tree or version tree). -/
theorem C11_partial (hash : Bytes → Nat) (sat : Nat → Bytes → Bool) (o : Opts) (noRoute : Bool)
    (script : List Reg) (R : List Route) (hR : specRoutes script = some R) (hN : normal R = true)
    (hstd : ∀ g ∈ script, g.method ∈ stdMethods)
    (req : Req) (hp : req.path.head? = some '/') (hmeth : '/' ∉ req.method)
    (hinj : InjOn hash (hashKeys R req))
    (hNm : dSameShape1 sat R req.method (cutAny req.path) = false)
    (hOw : dReplaced1 sat R req.method (cutAny req.path) = false)
    (hO : dOrder1 sat R req.method (cutAny req.path) = false) :
    serveWith hash sat o script noRoute req =
      serveWith hash sat { compiled := false, bloomSize := 0, bloomK := 0, versioned := o.versioned, warmAt := o.warmAt } script noRoute req := by
  unfold serveWith
  by_cases hv : o.versioned = true
  · simp only [hv, if_true]
    exact versioned_eq hash sat o { compiled := false, bloomSize := 0, bloomK := 0, versioned := true, warmAt := o.warmAt } rfl noRoute script R hR hN hstd req hinj
  · simp only [hv, Bool.false_eq_true, if_false]
    by_cases hc : o.compiled = true
    · simp only [hc, if_true]
      exact compiled_eq_tree_partial hash sat o noRoute script R hR hN hstd req hp hmeth hinj hNm hOw hO
    · simp [hc]

/-- **Every difference between the two engines is classified**: where the driver prints `-` the
engines agree. -/
theorem classify11_dash (hash : Bytes → Nat) (sat : Nat → Bytes → Bool) (o : Opts) (noRoute : Bool)
    (script : List Reg) (R : List Route) (hR : specRoutes script = some R)
    (hstd : ∀ g ∈ script, g.method ∈ stdMethods)
    (req : Req) (hp : req.path.head? = some '/') (hmeth : '/' ∉ req.method)
    (hinj : InjOn hash (hashKeys R req))
    (hcls : classify11 sat R req (cutAny req.path) = "-") :
    serveWith hash sat o script noRoute req =
      serveWith hash sat { compiled := false, bloomSize := 0, bloomK := 0, versioned := o.versioned, warmAt := o.warmAt } script noRoute req := by
  unfold classify11 at hcls
  simp only at hcls
  cases hN : normal R with
  | false => simp [hN] at hcls
  | true =>
    cases hNm : dSameShape1 sat R req.method (cutAny req.path) with
    | true => simp [hN, hNm] at hcls
    | false =>
      cases hOw : dReplaced1 sat R req.method (cutAny req.path) with
      | true => simp [hN, hNm, hOw] at hcls
      | false =>
        cases hO : dOrder1 sat R req.method (cutAny req.path) with
        | true => simp [hN, hNm, hOw, hO] at hcls
        | false =>
          exact C11_partial hash sat o noRoute script R hR hN hstd req hp hmeth hinj hNm hOw hO

/-! ### witnesses of the recorded findings (replayed on the implementation: corpus/C11) and of the
repaired ones -/

def B (s : String) : Bytes := s.toList
def G : Bytes := B "GET"
def anySat : Nat → Bytes → Bool := fun _ _ => true
def reg (m p : String) (cons : List (Bytes × Nat) := []) : Reg := ⟨B m, [], B p, cons, none⟩
/-- a hash that separates all byte strings (base-257 reading) -/
def polyHash (bs : Bytes) : Nat := bs.foldl (fun h c => h * 257 + c.toNat + 1) 0
def onOpts : Opts := ⟨true, 0, 0, false, none⟩

/-- K11a — the compiled matcher scans by number of static segments, then registration order -/
def k11aScript : List Reg := [reg "GET" "/:kind/list", reg "GET" "/users/:id"]
def k11aReq : Req := ⟨G, B "/users/list", [B "kind", B "id"]⟩

theorem K11a_witness : ∃ R, specRoutes k11aScript = some R ∧
    (serveCompiled polyHash anySat onOpts k11aScript false k11aReq).ran = some 0 ∧
    (serve anySat (build false k11aScript) k11aReq).ran = some 1 ∧
    classify11 anySat R k11aReq (cutAny k11aReq.path) = "order" := by
  refine ⟨(specRoutes k11aScript).getD [], ?_⟩
  -- string literals become character lists by rewriting with `toList_ofList`: the kernel evaluates `toList` on a
  -- literal in time quadratic in its length
  dsimp only [k11aScript, k11aReq, reg, G, B]
  repeat rewrite [String.toList_ofList]
  decide +kernel

/-- K11b (repaired in dc644f8) — as shipped, the two-segment fast path accepted an empty parameter -/
theorem K11b_asIs_witness :
    (matchAndExtractGen true anySat (compileRoute G (B "/users/:id") [] 0) (B "/users/") []).1 = true ∧
    (matchAndExtractGen false anySat (compileRoute G (B "/users/:id") [] 0) (B "/users/") []).1 = false ∧
    (serve anySat (build false [reg "GET" "/users/:id"]) ⟨G, B "/users/", []⟩).status = 404 := by
  dsimp only [reg, G, B]
  repeat rewrite [String.toList_ofList]
  decide +kernel

/-- K11c (repaired in 1f65990) — a nine-parameter route: nine writes, eight inline slots. As shipped
`paramCount` was set to 9 and `Param` indexed past the array; the model has the repaired code only (eight slots and
one map entry), and that is all the witness shows. -/
def k11cRoute : CRoute := compileRoute G (B "/:p1/:p2/:p3/:p4/:p5/:p6/:p7/:p8/:p9") [] 0

theorem K11c_witness :
    k11cRoute.params.length = 9 ∧
    (matchAndExtract anySat k11cRoute (B "/1/2/3/4/5/6/7/8/9") []).1 = true ∧
    (matchAndExtract anySat k11cRoute (B "/1/2/3/4/5/6/7/8/9") []).2.slots.length = 8 ∧
    (matchAndExtract anySat k11cRoute (B "/1/2/3/4/5/6/7/8/9") []).2.over = [(B "p9", B "9")] := by
  dsimp only [k11cRoute, G, B]
  repeat rewrite [String.toList_ofList]
  decide +kernel

/-- K11d (repaired in 6caf0d2) — as shipped only the first constraint of a parameter was compiled:
constraint 0 accepts everything, constraint 1 nothing -/
def k11dSat : Nat → Bytes → Bool := fun cid _ => cid == 0
def k11dCons : List (Bytes × Nat) := [(B "id", 0), (B "id", 1)]

theorem K11d_asIs_witness :
    (matchAndExtract k11dSat (compileRouteGen false true G (B "/u/:id") k11dCons 0) (B "/u/07") []).1 = true ∧
    (matchAndExtract k11dSat (compileRoute G (B "/u/:id") k11dCons 0) (B "/u/07") []).1 = false ∧
    (serve k11dSat (build false [reg "GET" "/u/:id" k11dCons]) ⟨G, B "/u/07", []⟩).status = 404 := by
  dsimp only [k11dCons, reg, G, B]
  repeat rewrite [String.toList_ofList]
  decide +kernel

/-- K11e — a constraint on a name the pattern does not declare -/
def k11eScript : List Reg := [reg "GET" "/u/:id" [(B "uid", 0)]]
def k11eReq : Req := ⟨G, B "/u/7", [B "id"]⟩

theorem K11e_witness : ∃ R, specRoutes k11eScript = some R ∧
    (serveCompiled polyHash anySat onOpts k11eScript false k11eReq).ran = some 0 ∧
    (serve anySat (build false k11eScript) k11eReq).status = 404 ∧
    classify11 anySat R k11eReq (cutAny k11eReq.path) = "undeclared" := by
  refine ⟨(specRoutes k11eScript).getD [], ?_⟩
  dsimp only [k11eScript, k11eReq, reg, G, B]
  repeat rewrite [String.toList_ofList]
  decide +kernel

/-- K11f (repaired in 59d7821) — as shipped `CompileRoute` trimmed white space from the pattern, the
tree registers it as written -/
theorem K11f_asIs_witness :
    (compileRouteGen true false G (B "/a/:x ") [] 0).pattern = B "/a/:x" ∧
    (compileRoute G (B "/a/:x ") [] 0).pattern = B "/a/:x " ∧
    (serve anySat (build false [reg "GET" "/a/:x "]) ⟨G, B "/a/1", [B "x "]⟩).pattern = B "/a/:x " ∧
    (serveCompiled polyHash anySat onOpts [reg "GET" "/a/:x "] false ⟨G, B "/a/1", [B "x "]⟩).lookups = [(B "x ", B "1")] := by
  dsimp only [reg, G, B]
  repeat rewrite [String.toList_ofList]
  decide +kernel

/-! ### non-vacuity -/

def exSat : Nat → Bytes → Bool := fun _ v => v == B "42"
def exScript : List Reg :=
  [reg "GET" "/users/:id" [(B "id", 0)], reg "GET" "/users/list", reg "GET" "/health", reg "POST" "/users/:id",
   reg "GET" "/files/*", reg "GET" "/"]
def exReq : Req := ⟨G, B "/users/42", [B "id"]⟩
def exOpts : Opts := ⟨true, 7, 5, false, none⟩

/-- the hypotheses of `compiled_eq_tree_partial` hold for a script with a constrained parameter route,
static siblings, a second method, a wildcard and the root, the bloom options set to size 7 and 5 hash
functions (`mainTable` raises the size to `tableBloomMinSize`; the compiler's own filter does not read the
options), and a hash that separates the keys; the compiled dynamic stage is the one that answers -/
example : ∃ R, specRoutes exScript = some R ∧ normal R = true ∧
    (∀ g ∈ exScript, g.method ∈ stdMethods) ∧ exReq.path.head? = some '/' ∧ '/' ∉ exReq.method ∧
    dSameShape1 exSat R exReq.method (cutAny exReq.path) = false ∧
    dReplaced1 exSat R exReq.method (cutAny exReq.path) = false ∧ dOrder1 exSat R exReq.method (cutAny exReq.path) = false ∧
    InjOn polyHash (hashKeys R exReq) ∧
    ((rcBuild polyHash exScript).matchDynamic exSat exReq.method exReq.path).isSome = true ∧
    (serveCompiled polyHash exSat exOpts exScript false exReq).lookups = [(B "id", B "42")] := by
  refine ⟨(specRoutes exScript).getD [], ?_⟩
  -- the literals of the script are rewritten inside its definition, where the term is small; the short ones of the
  -- request are left to the kernel
  have hS : exScript = ?S := ?hs
  case hs =>
    unfold exScript reg B
    repeat rewrite [String.toList_ofList]
    exact rfl
  rw [hS]
  dsimp only [InjOn, exReq, exSat, G, B, String.reduceToList]
  decide +kernel

/-- the placement of the explicit `Warmup()` is part of the versioned engine: the version cache keeps the
static routes as they were at warm-up (registered before it: answered from the cache, handler 0; the
re-registration after it only reaches the tree), while a route registered after warm-up is served by the tree -/
example :
    (serveVersioned polyHash anySat ⟨true, 0, 0, true, some 1⟩ [reg "GET" "/a", reg "GET" "/a", reg "GET" "/b/:x"] false ⟨G, B "/a", []⟩).ran = some 0 ∧
    (serveVersioned polyHash anySat ⟨true, 0, 0, true, none⟩ [reg "GET" "/a", reg "GET" "/a", reg "GET" "/b/:x"] false ⟨G, B "/a", []⟩).ran = some 1 ∧
    (serveVersioned polyHash anySat ⟨true, 0, 0, true, some 1⟩ [reg "GET" "/a", reg "GET" "/a", reg "GET" "/b/:x"] false ⟨G, B "/b/7", []⟩).ran = some 2 := by
  dsimp only [reg, G, B]
  repeat rewrite [String.toList_ofList]
  decide +kernel

end Rivaas.C11
