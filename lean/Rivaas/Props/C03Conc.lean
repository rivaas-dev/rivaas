import Rivaas.Lemmas.ListCore
/-
C03, schedules: ownership of pooled contexts under arbitrary interleavings.

`Tie.C03.ownership` / `get_release_exactly_once` / `panic_paths_ownership` establish, on every path of the regenerated
skeleton, the local discipline of one borrow: `get`, then mentions, then at most one `release`, nothing afterwards.
This file proves what that discipline buys globally: for every interleaving of any number of borrows (requests on any
number of goroutines; a request may borrow several contexts — each borrow has its own id) and whatever object sync.Pool
decides to hand out (any pooled object, or a brand-new one), an object is never held by two borrows at once, never sits
in the pool while it is held, and every access goes to an object the accessing borrow holds alone. That sync.Pool may
also drop pooled objects is not an action of `Sys.run`: `inv_gc` shows separately that it keeps the invariant.
Exclusive ownership is what excludes data races on the fields of a pooled context; the Go memory model statement itself
(sync.Pool's Put/Get happens-before edge) is outside Lean.
-/
namespace Rivaas.C03

inductive BEv
  | get (pick : Option Nat)   -- sync.Pool.Get: the `pick`-th pooled object, or a new one
  | touch                     -- any read or write of the borrowed context
  | release                   -- reset + sync.Pool.Put
  | drop                      -- the borrow ends without handing the object back (panic exit without a deferred release)
  deriving DecidableEq, Repr

structure Act where
  b : Nat        -- borrow id
  ev : BEv
  deriving DecidableEq, Repr

structure Sys where
  free : List Nat := []                 -- objects in the pool
  held : List (Nat × Nat) := []         -- (borrow, object)
  fresh : Nat := 0                      -- next brand-new object
  phase : Nat → Nat := fun _ => 0       -- of a borrow: 0 not started, 1 holding, 2 finished
  log : List (Nat × Nat × List Nat) := []   -- every touch: borrow, object, all borrows that held that object then

def holderOf (held : List (Nat × Nat)) (b : Nat) : Option Nat := (held.find? (·.1 == b)).map (·.2)

/-- one action; `none` when the borrow breaks its own (local) discipline get · touch* · (release | drop) -/
def Sys.step (s : Sys) (a : Act) : Option Sys :=
  match a.ev with
  | .get pick =>
    if s.phase a.b != 0 then none else
    let (o, free', fresh') :=
      match pick.bind (fun i => s.free[i]?.map fun o => (o, i)) with
      | some (o, i) => (o, s.free.eraseIdx i, s.fresh)
      | none => (s.fresh, s.free, s.fresh + 1)
    some { s with free := free', fresh := fresh', held := (a.b, o) :: s.held,
                  phase := fun x => if x = a.b then 1 else s.phase x }
  | .touch =>
    if s.phase a.b != 1 then none else
    match holderOf s.held a.b with
    | none => none
    | some o => some { s with log := (a.b, o, (s.held.filter (·.2 == o)).map (·.1)) :: s.log }
  | .release =>
    if s.phase a.b != 1 then none else
    match holderOf s.held a.b with
    | none => none
    | some o => some { s with free := o :: s.free, held := s.held.filter (·.1 != a.b),
                              phase := fun x => if x = a.b then 2 else s.phase x }
  | .drop =>
    if s.phase a.b != 1 then none else
    some { s with held := s.held.filter (·.1 != a.b), phase := fun x => if x = a.b then 2 else s.phase x }

/-- sync.Pool may forget pooled objects at any time -/
def Sys.gc (s : Sys) (i : Nat) : Sys := { s with free := s.free.eraseIdx i }

def Sys.run (s : Sys) : List Act → Option Sys
  | [] => some s
  | a :: rest => (s.step a).bind fun s' => s'.run rest

structure OwnInv (s : Sys) : Prop where
  heldB : (s.held.map (·.1)).Nodup                      -- a borrow holds at most one object
  heldO : (s.held.map (·.2)).Nodup                      -- an object is held by at most one borrow
  freeN : s.free.Nodup                                  -- the pool holds an object at most once
  disj : ∀ o ∈ s.free, o ∉ s.held.map (·.2)             -- a held object is not in the pool
  bound : (∀ o ∈ s.free, o < s.fresh) ∧ ∀ p ∈ s.held, p.2 < s.fresh
  phase1 : ∀ b, s.phase b = 1 ↔ b ∈ s.held.map (·.1)    -- exactly the borrows in their holding phase hold something
  logOK : ∀ e ∈ s.log, e.2.2 = [e.1]                    -- every touch so far: the toucher was the only holder

theorem lemma_inv_init : OwnInv {} :=
  ⟨List.nodup_nil, List.nodup_nil, List.nodup_nil, nofun, ⟨nofun, nofun⟩, fun b => by simp, nofun⟩

theorem lemma_holderOf {held : List (Nat × Nat)} {b o : Nat} (h : holderOf held b = some o) : (b, o) ∈ held := by
  obtain ⟨p, hf, rfl⟩ := Option.map_eq_some_iff.mp h
  have hb := List.find?_some hf
  obtain rfl : p.1 = b := eq_of_beq hb
  exact List.mem_of_find?_eq_some hf

theorem lemma_not_mem_eraseIdx (l : List Nat) (i o : Nat) (hn : l.Nodup) (h : l[i]? = some o) : o ∉ l.eraseIdx i := by
  intro hm
  obtain ⟨j, hj, hjo⟩ := List.mem_eraseIdx_iff_getElem?.mp hm
  exact hj ((List.getElem?_inj (List.getElem?_eq_some_iff.mp hjo).1 hn).mp (hjo.trans h.symm))

theorem lemma_only_holder {held : List (Nat × Nat)} {b o : Nat} (hm : (b, o) ∈ held) (hO : (held.map (·.2)).Nodup) :
    (held.filter (·.2 == o)).map (·.1) = [b] := by
  induction held with
  | nil => cases hm
  | cons x r ih =>
    have hO' := List.nodup_cons.mp hO
    by_cases hx : x = (b, o)
    · have hno : r.filter (·.2 == o) = [] :=
        List.filter_eq_nil_iff.mpr fun y hy he => hO'.1 (List.mem_map.mpr ⟨y, hy, hx ▸ eq_of_beq he⟩)
      simp [hx, hno]
    · have hr : (b, o) ∈ r := (List.mem_cons.mp hm).resolve_left (Ne.symm hx)
      have hxo : (x.2 == o) = false :=
        beq_eq_false_iff_ne.mpr fun he => hx (List.eq_of_key_eq (List.pairwise_map.1 hO) List.mem_cons_self hm he)
      rw [List.filter_cons, hxo]
      exact ih hr hO'.2

/-! what each action does, read off `Sys.step` -/

theorem step_get {s s' : Sys} {b : Nat} {pick : Option Nat} (h : OwnInv s) (hs : s.step ⟨b, .get pick⟩ = some s') :
    b ∉ s.held.map (·.1) ∧ ∃ o free' fresh',
      s' = { s with free := free', fresh := fresh', held := (b, o) :: s.held,
                    phase := fun x => if x = b then 1 else s.phase x } ∧
      free'.Sublist s.free ∧ o ∉ free' ∧ o ∉ s.held.map (·.2) ∧ o < fresh' ∧ s.fresh ≤ fresh' ∧
      (o ∈ s.free ∨ o = s.fresh) := by
  simp only [Sys.step] at hs
  split at hs
  · cases hs
  · rename_i hph
    refine ⟨fun hm => hph (by rw [(h.phase1 b).mpr hm]; rfl), ?_⟩
    cases hp : pick.bind (fun i => s.free[i]?.map fun o => (o, i)) with
    | none =>
      simp only [hp, Option.some.injEq] at hs
      exact ⟨_, _, _, hs.symm, List.Sublist.refl _, fun hm => Nat.lt_irrefl _ (h.bound.1 _ hm),
        fun hm => by obtain ⟨p, hp, he⟩ := List.mem_map.mp hm; have := h.bound.2 p hp; omega,
        Nat.lt_succ_self _, Nat.le_succ _, Or.inr rfl⟩
    | some oi =>
      simp only [hp, Option.some.injEq] at hs
      have hoi : s.free[oi.2]? = some oi.1 := by
        cases pick with
        | none => cases hp
        | some j =>
          simp only [Option.bind_some, Option.map_eq_some_iff] at hp
          obtain ⟨o', ho', rfl⟩ := hp
          exact ho'
      have hmem : oi.1 ∈ s.free := List.mem_of_getElem? hoi
      exact ⟨_, _, _, hs.symm, List.eraseIdx_sublist _ _,
        lemma_not_mem_eraseIdx s.free oi.2 oi.1 h.freeN hoi, h.disj _ hmem, h.bound.1 _ hmem, Nat.le_refl _, Or.inl hmem⟩

theorem step_touch {s s' : Sys} {b : Nat} (hs : s.step ⟨b, .touch⟩ = some s') :
    ∃ o, holderOf s.held b = some o ∧
      s' = { s with log := (b, o, (s.held.filter (·.2 == o)).map (·.1)) :: s.log } := by
  simp only [Sys.step] at hs
  split at hs
  · cases hs
  · split at hs
    · cases hs
    · next o ho => exact ⟨o, ho, (Option.some.inj hs).symm⟩

theorem step_release {s s' : Sys} {b : Nat} (hs : s.step ⟨b, .release⟩ = some s') :
    ∃ o, holderOf s.held b = some o ∧
      s' = { s with free := o :: s.free, held := s.held.filter (·.1 != b),
                    phase := fun x => if x = b then 2 else s.phase x } := by
  simp only [Sys.step] at hs
  split at hs
  · cases hs
  · split at hs
    · cases hs
    · next o ho => exact ⟨o, ho, (Option.some.inj hs).symm⟩

theorem step_drop {s s' : Sys} {b : Nat} (hs : s.step ⟨b, .drop⟩ = some s') :
    s' = { s with held := s.held.filter (·.1 != b), phase := fun x => if x = b then 2 else s.phase x } := by
  simp only [Sys.step] at hs
  split at hs
  · cases hs
  · exact (Option.some.inj hs).symm

/-- a borrow ends: it gives up what it holds; `free'` is the pool afterwards -/
theorem inv_leave (s : Sys) (h : OwnInv s) (b : Nat) (free' : List Nat) (hn : free'.Nodup)
    (hd : ∀ o ∈ free', o ∉ (s.held.filter (·.1 != b)).map (·.2)) (hbd : ∀ o ∈ free', o < s.fresh) :
    OwnInv { s with free := free', held := s.held.filter (·.1 != b),
                    phase := fun x => if x = b then 2 else s.phase x } := by
  refine ⟨h.heldB.sublist (List.filter_sublist.map _), h.heldO.sublist (List.filter_sublist.map _), hn, hd,
    ⟨hbd, fun p hp => h.bound.2 p (List.mem_filter.mp hp).1⟩, ?_, h.logOK⟩
  intro x
  simp only [List.mem_map, List.mem_filter, bne_iff_ne, ne_eq]
  by_cases hx : x = b
  · simp only [hx, if_true]
    exact ⟨nofun, fun ⟨p, ⟨_, hp2⟩, hp3⟩ => absurd hp3 hp2⟩
  · simp only [hx, if_false, h.phase1 x, List.mem_map]
    exact ⟨fun ⟨p, hp1, hp2⟩ => ⟨p, ⟨hp1, hp2 ▸ hx⟩, hp2⟩, fun ⟨p, ⟨hp1, _⟩, hp2⟩ => ⟨p, hp1, hp2⟩⟩

theorem inv_step (s s' : Sys) (a : Act) (h : OwnInv s) (hs : s.step a = some s') : OwnInv s' := by
  have hheld : ∀ b x, x ∈ (s.held.filter (·.1 != b)).map (·.2) → x ∈ s.held.map (·.2) :=
    fun b x hx => (List.filter_sublist.map _).subset hx
  obtain ⟨b, ev⟩ := a
  cases ev with
  | get pick =>
    obtain ⟨hnb, o, free', fresh', rfl, hsub, hof, hoh, hlt, hle, _⟩ := step_get h hs
    -- the holes: `disj`, the half of `bound` on the held pairs, `phase1`
    refine ⟨List.nodup_cons.mpr ⟨hnb, h.heldB⟩, List.nodup_cons.mpr ⟨hoh, h.heldO⟩, h.freeN.sublist hsub, ?_,
      ⟨fun x hx => Nat.lt_of_lt_of_le (h.bound.1 x (hsub.subset hx)) hle, ?_⟩, ?_, h.logOK⟩
    · intro x hx hm
      rcases List.mem_cons.mp hm with rfl | hm
      · exact hof hx
      · exact h.disj x (hsub.subset hx) hm
    · intro p hp
      rcases List.mem_cons.mp hp with rfl | hp
      · exact hlt
      · exact Nat.lt_of_lt_of_le (h.bound.2 p hp) hle
    · intro x
      simp only [List.map_cons, List.mem_cons]
      by_cases hx : x = b
      · simp [hx]
      · simp only [hx, if_false, false_or]; exact h.phase1 x
  | touch =>
    obtain ⟨o, hh, rfl⟩ := step_touch hs
    refine ⟨h.heldB, h.heldO, h.freeN, h.disj, h.bound, h.phase1, ?_⟩
    intro e he
    rcases List.mem_cons.mp he with rfl | he
    · exact lemma_only_holder (lemma_holderOf hh) h.heldO
    · exact h.logOK e he
  | release =>
    obtain ⟨o, hh, rfl⟩ := step_release hs
    have hm := lemma_holderOf hh
    have hofree : o ∉ s.free := fun hf => h.disj o hf (List.mem_map.mpr ⟨(b, o), hm, rfl⟩)
    -- whoever else held `o` would be the same pair as `(b, o)`: every object is held at most once
    have honot : o ∉ (s.held.filter (·.1 != b)).map (·.2) := by
      intro hx
      obtain ⟨p, hp, hp3⟩ := List.mem_map.mp hx
      obtain ⟨hp1, hp2⟩ := List.mem_filter.mp hp
      rw [List.eq_of_key_eq (List.pairwise_map.1 h.heldO) hp1 hm hp3] at hp2
      simp at hp2
    refine inv_leave s h b (o :: s.free) (List.nodup_cons.mpr ⟨hofree, h.freeN⟩) ?_ ?_
    · intro x hx
      rcases List.mem_cons.mp hx with rfl | hx
      · exact honot
      · exact fun hmx => h.disj x hx (hheld b x hmx)
    · intro x hx
      rcases List.mem_cons.mp hx with rfl | hx
      · exact h.bound.2 _ hm
      · exact h.bound.1 x hx
  | drop =>
    obtain rfl := step_drop hs
    exact inv_leave s h b s.free h.freeN (fun x hx hmx => h.disj x hx (hheld b x hmx)) h.bound.1

theorem inv_gc (s : Sys) (i : Nat) (h : OwnInv s) : OwnInv (s.gc i) := by
  have hsub : ∀ x ∈ s.free.eraseIdx i, x ∈ s.free := fun x hx => List.mem_of_mem_eraseIdx hx
  exact ⟨h.heldB, h.heldO, List.Nodup.sublist (List.eraseIdx_sublist _ _) h.freeN,
    fun o ho => h.disj o (hsub o ho), ⟨fun o ho => h.bound.1 o (hsub o ho), h.bound.2⟩, h.phase1, h.logOK⟩

theorem inv_run (acts : List Act) : ∀ (s s' : Sys), OwnInv s → s.run acts = some s' → OwnInv s' := by
  induction acts with
  | nil => exact fun s s' h hr => Option.some.inj hr ▸ h
  | cons a rest ih =>
    intro s s' h hr
    obtain ⟨s1, hs, hr⟩ := Option.bind_eq_some_iff.mp hr
    exact ih s1 s' (inv_step s s1 a h hs) hr

theorem lemma_holderOf_some {held : List (Nat × Nat)} {b : Nat} (h : b ∈ held.map (·.1)) : ∃ o, holderOf held b = some o := by
  obtain ⟨p, hp, rfl⟩ := List.mem_map.mp h
  apply Option.isSome_iff_exists.mp
  rw [holderOf, Option.isSome_map, List.find?_isSome]
  exact ⟨p, hp, beq_self_eq_true _⟩

/-- an action is rejected only for a reason that is local to its borrow: the borrow's own earlier events are not
    `get · touch*` (for touch / release / drop) or not empty (for get) — which is exactly the per-context shape the Tie
    obligations establish on every path of the skeleton. Nothing another borrow does can make an action fail. -/
theorem step_defined_iff_phase (s : Sys) (a : Act) (h : OwnInv s) :
    (s.step a).isSome = (match a.ev with | .get _ => s.phase a.b == 0 | _ => s.phase a.b == 1) := by
  unfold Sys.step
  cases hev : a.ev with
  | get pick => by_cases hp : s.phase a.b = 0 <;> simp [hp]
  | drop => by_cases hp : s.phase a.b = 1 <;> simp [hp]
  | touch | release =>
    by_cases hp : s.phase a.b = 1
    · obtain ⟨o, ho⟩ := lemma_holderOf_some ((h.phase1 a.b).mp hp)
      simp [hp, ho]
    · simp [hp]

/-! ### the shape the Tie obligations establish is accepted, whatever the others do

`Tie.C03.ownership` / `panic_paths_ownership` say: the events of one pooled context on every path of the skeleton are
`get`, then mentions, then one `release` (normal exit) or nothing more (panic exit without a deferred release). The
next lemmas show, one action at a time, that the `get`, a mention and the `release` of such a borrow are accepted in any
state with the invariant in which the borrow is in the corresponding phase, whatever the other borrows have done
(`step_defined_iff_phase` says the same of `drop`). No theorem here puts the steps together into `Sys.run … = some _`
for a whole schedule of such borrows. -/

theorem get_accepted (s : Sys) (b : Nat) (pick : Option Nat) (h : OwnInv s) (hp : s.phase b = 0) :
    ∃ s', s.step ⟨b, .get pick⟩ = some s' ∧ s'.phase b = 1 ∧ ∀ x, x ≠ b → s'.phase x = s.phase x := by
  have hd := step_defined_iff_phase s ⟨b, .get pick⟩ h
  simp only [hp, beq_self_eq_true] at hd
  obtain ⟨s', hs⟩ := Option.isSome_iff_exists.mp hd
  obtain ⟨_, o, free', fresh', rfl, _⟩ := step_get h hs
  exact ⟨_, hs, by simp, fun x hx => by simp [hx]⟩

theorem touch_accepted (s : Sys) (b : Nat) (h : OwnInv s) (hp : s.phase b = 1) :
    ∃ s', s.step ⟨b, .touch⟩ = some s' ∧ ∀ x, s'.phase x = s.phase x := by
  obtain ⟨o, ho⟩ := lemma_holderOf_some ((h.phase1 b).mp hp)
  simp only [Sys.step, hp, ho, bne_self_eq_false, Bool.false_eq_true, if_false]
  exact ⟨_, rfl, fun _ => rfl⟩

theorem release_accepted (s : Sys) (b : Nat) (h : OwnInv s) (hp : s.phase b = 1) :
    ∃ s', s.step ⟨b, .release⟩ = some s' ∧ s'.phase b = 2 := by
  obtain ⟨o, ho⟩ := lemma_holderOf_some ((h.phase1 b).mp hp)
  simp only [Sys.step, hp, ho, bne_self_eq_false, Bool.false_eq_true, if_false]
  exact ⟨_, rfl, by simp⟩

/-- **exclusive ownership under every interleaving**: for every schedule of borrows that each follow
    get · touch* · (release | drop) — in any interleaving, with any choice of pooled or new objects by sync.Pool — every
    access went to an object that the accessing borrow held alone, no object is held twice, and no held object is in
    the pool (so the next Get cannot hand it to someone else). -/
theorem interleaving_exclusive (acts : List Act) (s : Sys) (h : Sys.run {} acts = some s) :
    (∀ e ∈ s.log, e.2.2 = [e.1]) ∧ (s.held.map (·.2)).Nodup ∧ (∀ o ∈ s.free, o ∉ s.held.map (·.2)) ∧ s.free.Nodup := by
  have hi := inv_run acts {} s lemma_inv_init h
  exact ⟨hi.logOK, hi.heldO, hi.disj, hi.freeN⟩

/-- non-vacuity: three borrows interleaved, the third reuses the object the first released while the second still
    holds another one -/
example : ∃ s, Sys.run {} [⟨1, .get none⟩, ⟨2, .get none⟩, ⟨1, .touch⟩, ⟨2, .touch⟩, ⟨1, .release⟩, ⟨3, .get (some 0)⟩,
    ⟨3, .touch⟩, ⟨2, .touch⟩, ⟨2, .release⟩, ⟨3, .drop⟩] = some s ∧ s.log.length = 4 ∧ s.free = [1] := by
  refine ⟨_, rfl, ?_, ?_⟩ <;> rfl

/-- what the discipline excludes: a double release would put the object into the pool twice and the next two borrows
    would share it — such a schedule is not a run (the second release is rejected: the borrow is finished) -/
example : Sys.run {} [⟨1, .get none⟩, ⟨1, .release⟩, ⟨1, .release⟩] = none := by rfl

end Rivaas.C03
