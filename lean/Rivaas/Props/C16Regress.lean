import Rivaas.Props.C16Retry
/-
C16, sliding window over a store with the one-call interface: the per-window bound without the hypothesis that the
clock readings are non-decreasing in service order. Go reads the clock before it takes the
entry lock, so a call can be served with a reading older than the entry's window. Here the readings may regress, as
long as no call is served more than one window behind a call served before it (`ws a ≤ ws b + W` for `a` served
before `b`) — any regression shorter than a window. (A regression over two windows breaks the bound: notes/C16.md
records it from an evaluation; no witness is stated here.)
-/
namespace Rivaas.C16
open Rivaas.RateLimit

/-- window starts lie on a grid of step `W` (anchored at Go's zero time) -/
def OnGrid (W x : Nat) : Prop := (x + zeroOffset) % W = 0

theorem lemma_ws_onGrid (W t : Nat) (hW : 1 ≤ W) (ht : W * nsPerSec ≤ t) : OnGrid W (windowStart W t) := by
  obtain ⟨q, h, _, h2⟩ := lemma_ws_div W t hW
  unfold OnGrid
  -- a reading at least one window after the epoch: the subtraction of the offset is not truncated
  rw [h, Nat.sub_add_cancel (Nat.le_of_mul_le_mul_right (by omega) (by decide : 0 < nsPerSec))]
  exact Nat.mul_mod_left q W

theorem lemma_grid_sep (W a b : Nat) (ha : OnGrid W a) (hb : OnGrid W b) (hlt : a < b) : a + W ≤ b := by
  unfold OnGrid at ha hb
  obtain ⟨m, hm⟩ := Nat.dvd_of_mod_eq_zero ha
  obtain ⟨n, hn⟩ := Nat.dvd_of_mod_eq_zero hb
  have hmn : W * m < W * n := by omega
  have hlt' : m < n := Nat.lt_of_mul_lt_mul_left hmn
  have : W * (m + 1) ≤ W * n := Nat.mul_le_mul_left W hlt'
  rw [Nat.mul_add, Nat.mul_one] at this
  omega

def used (W : Nat) (st : WinStore) (k : Bytes) (s : Nat) : Nat := usedOf W (st.lookup k) s

section
attribute [local irreducible] windowStart

theorem lemma_getCounts_ws_grid (W : Nat) (e : Option Win) (t : Nat) (hgrid : ∀ w, e = some w → OnGrid W w.ws)
    (hgq : OnGrid W (windowStart W t)) (hahead : ∀ w, e = some w → w.ws ≤ windowStart W t + W) :
    (getCounts W e t).ws = windowStart W t ∨ (getCounts W e t).ws = windowStart W t + W := by
  rcases lemma_getCounts_ws W e t with h | ⟨w, hw, h, hle⟩
  · exact Or.inl h
  · rw [h]
    have := hahead w hw
    rcases Nat.eq_or_lt_of_le hle with heq | hlt
    · exact Or.inl heq.symm
    · have := lemma_grid_sep W _ _ hgq (hgrid w hw) hlt
      exact Or.inr (by omega)

theorem lemma_step_used (cfg : WinCfg) (txt : Bytes) (hW : 1 ≤ cfg.W)
    (henf : cfg.enforce = true ∨ cfg.hasCallback = true) (st : WinStore) (q : WinReq)
    (hq : cfg.W * nsPerSec ≤ q.now)
    (hgrid : ∀ w, st.lookup q.key = some w → OnGrid cfg.W w.ws)
    (hahead : ∀ w, st.lookup q.key = some w → w.ws ≤ windowStart cfg.W q.now + cfg.W) (s : Nat)
    (hs : windowStart cfg.W q.now ≤ s + cfg.W) :
    used cfg.W st q.key s + (if (serve1 cfg txt st q).2.ran = true ∧ s = windowStart cfg.W q.now then 1 else 0)
        ≤ used cfg.W (serve1 cfg txt st q).1 q.key s ∧
    ((serve1 cfg txt st q).2.ran = true → used cfg.W st q.key (windowStart cfg.W q.now) < cfg.limit) :=
  have hgq := lemma_ws_onGrid cfg.W q.now hW hq
  lemma_step_usedOf cfg txt hW henf st q s (lemma_getCounts_ws_grid cfg.W _ q.now hgrid hgq hahead) hs
    fun w hw h1 hlt => lemma_grid_sep cfg.W _ _ (h1 ▸ hgrid w hw) hgq hlt

theorem lemma_grid_step (cfg : WinCfg) (txt : Bytes) (hW : 1 ≤ cfg.W) (st : WinStore) (q : WinReq) (rest : List WinReq)
    (hq : cfg.W * nsPerSec ≤ q.now)
    (hnear : ∀ q' ∈ rest, windowStart cfg.W q.now ≤ windowStart cfg.W q'.now + cfg.W)
    (hst : ∀ k w, st.lookup k = some w → OnGrid cfg.W w.ws ∧ ∀ q' ∈ q :: rest, w.ws ≤ windowStart cfg.W q'.now + cfg.W)
    (k : Bytes) (w : Win) (hl : ((serve1 cfg txt st q).1).lookup k = some w) :
    OnGrid cfg.W w.ws ∧ ∀ q' ∈ rest, w.ws ≤ windowStart cfg.W q'.now + cfg.W := by
  rcases lemma_serve1_ws cfg txt st q k w hl with h | ⟨w0, hw0, h⟩
  · rw [h]
    exact ⟨lemma_ws_onGrid cfg.W q.now hW hq, hnear⟩
  · rw [h]
    exact ⟨(hst k w0 hw0).1, fun q' hq' => (hst k w0 hw0).2 q' (List.mem_cons_of_mem _ hq')⟩

/-- the counting invariant under bounded clock regression: entries on the grid and at most one window ahead of
    every call still to come, calls pairwise at most one window behind the calls served before them -/
theorem lemma_window_count_regress (cfg : WinCfg) (txt : Bytes) (hW : 1 ≤ cfg.W)
    (henf : cfg.enforce = true ∨ cfg.hasCallback = true) (st : WinStore) (reqs : List WinReq)
    (hq : ∀ q ∈ reqs, cfg.W * nsPerSec ≤ q.now)
    (hpair : reqs.Pairwise (fun a b => windowStart cfg.W a.now ≤ windowStart cfg.W b.now + cfg.W))
    (hgrid : ∀ k w, st.lookup k = some w → OnGrid cfg.W w.ws)
    (hahead : ∀ k w, st.lookup k = some w → ∀ q ∈ reqs, w.ws ≤ windowStart cfg.W q.now + cfg.W)
    (k : Bytes) (s : Nat) :
    cnt (k, s) (admSerial cfg txt st reqs) ≤ cfg.limit - used cfg.W st k s := by
  refine lemma_count_potential cfg txt (usedOf cfg.W)
    (fun st reqs => (∀ q ∈ reqs, cfg.W * nsPerSec ≤ q.now) ∧
      reqs.Pairwise (fun (a b : WinReq) => windowStart cfg.W a.now ≤ windowStart cfg.W b.now + cfg.W) ∧
      ∀ k w, st.lookup k = some w → OnGrid cfg.W w.ws ∧ ∀ q ∈ reqs, w.ws ≤ windowStart cfg.W q.now + cfg.W)
    (fun st q rest ⟨hq, hpair, hst⟩ => ⟨fun x hx => hq x (List.mem_cons_of_mem _ hx), (List.pairwise_cons.mp hpair).2,
      lemma_grid_step cfg txt hW st q rest (hq q (List.mem_cons_self ..)) (List.pairwise_cons.mp hpair).1 hst⟩)
    (fun st q rest s ⟨hq, hpair, hst⟩ => ?_) st reqs ⟨hq, hpair, fun k w h => ⟨hgrid k w h, hahead k w h⟩⟩ k s
  by_cases hold : s + cfg.W < windowStart cfg.W q.now
  · -- a window no call can fall into any more
    left
    intro q' hq'
    rcases List.mem_cons.mp hq' with h | h
    · rw [h]; exact Nat.lt_of_le_of_lt (Nat.le_add_right _ _) hold
    · exact Nat.lt_of_add_lt_add_right (Nat.lt_of_lt_of_le hold ((List.pairwise_cons.mp hpair).1 q' h))
  · exact Or.inr (lemma_step_used cfg txt hW henf st q (hq q (List.mem_cons_self ..)) (fun w hw => (hst q.key w hw).1)
      (fun w hw => (hst q.key w hw).2 q (List.mem_cons_self ..)) s (Nat.le_of_not_lt hold))

end

/-- **Sliding window over an atomic store, every interleaving, clock readings that may regress by less than a
    window**: whatever the schedule and however the clock readings are ordered, as long as no call is served more
    than one window behind a call served before it (all readings after 1970-01-01 plus one window), per key and
    fixed window no more than `limit` requests reach the handler. -/
theorem window_atomic_bound_regress (cfg : WinCfg) (txt : Bytes) (reqs : List WinReq) (sched : List Op) (hW : 1 ≤ cfg.W)
    (ha : cfg.atomic = true)
    (hq : ∀ x ∈ servedOf reqs sched, cfg.W * nsPerSec ≤ x.2.now)
    (hpair : ((servedOf reqs sched).map (·.2)).Pairwise
      (fun a b => windowStart cfg.W a.now ≤ windowStart cfg.W b.now + cfg.W)) :
    windowBoundOK cfg reqs (runWin cfg txt reqs sched) = true :=
  lemma_bound_of_count cfg txt reqs sched (lemma_runWin_atomic cfg txt reqs ha sched) fun henf k s =>
    lemma_window_count_regress cfg txt hW henf [] _
      (by intro q hq'; obtain ⟨x, hx, rfl⟩ := List.mem_map.mp hq'; exact hq x hx) hpair
      (fun _ _ h => nomatch h) (fun _ _ h => nomatch h) k s

/-- non-vacuity: limit 1, window 1 s; a call whose reading lies 2 ms before a window boundary is served after a call
    of the new window — the hypotheses hold, the stale call is rejected, the bound holds -/
example :
    let cfg : WinCfg := { limit := 1, W := 1, headers := true, enforce := true, hasCallback := false, atomic := true }
    let reqs : List WinReq := [{ key := ['a'], now := 5000000000 + 500000000 }, { key := ['a'], now := 7000000000 + 3000000 },
                               { key := ['a'], now := 7000000000 - 2000000 }]
    let sched := [Op.get 0, Op.inc 0, Op.get 1, Op.inc 1, Op.get 2, Op.inc 2]
    (runWin cfg [] reqs sched).map (fun a => a.2.status) = [200, 200, 429] ∧
    windowBoundOK cfg reqs (runWin cfg [] reqs sched) = true := by decide +kernel

end Rivaas.C16
