import Rivaas.Lemmas.LifecycleIndep
import Rivaas.Lemmas.ReloadMutex
import Rivaas.Model.LifecycleWhole
/-
C09 — Application lifecycle is ordered and shutdown is graceful. Property theorems.

The statement, clause by clause, for the model of the code as it is in /repo now (`current = repaired`,
after the fix commits for K09a–e and K09g), for *every* scenario: arbitrary lists of hooks of each kind, every
assignment of behaviours (ok / error / panic / blocks until the context ends / signal arrives during the
hook), listen faults, in-flight requests released at arbitrary points or never, arbitrary reload rounds
(programmatic or SIGHUP, failing, panicking, with the signal arriving inside), and both outcomes of
net/http's one-shot idle check. Helper lemmas live in `Lemmas/Lifecycle*.lean`.
-/
namespace Rivaas.C09
open Rivaas.Lifecycle Rivaas.Lifecycle.Spec

/-- the code in /repo carries all six repairs of `Fixes` (K09a–e, K09g) -/
theorem current_is_repaired : current = repaired := rfl

/-- The main theorem by the repairs it rests on. A scenario whose start-up fails needs K09a (no OnReady hook before the
    listener is bound), K09b (observability is shut down again) and K09g (the startup logs are written out); a scenario
    that is served needs K09c (a drain timeout does not end the sequence), K09d (a panicking OnReload hook stays inside
    `Reload`) and K09e (telemetry is flushed also when the budget is used up). The condition is the oracle's own. -/
theorem lemma_run_in_language (fx : Fixes) (sc : Scenario) (race : Bool)
    (hfail : ((sc.starts.find? startFails).isNone && sc.listen == Listen.ok) = false →
      fx.a = true ∧ fx.b = true ∧ fx.g = true)
    (hserve : ((sc.starts.find? startFails).isNone && sc.listen == Listen.ok) = true →
      fx.c = true ∧ fx.d = true ∧ fx.e = true) : holds sc (run fx sc race) = true := by
  have hout := startHooks_out sc.metrics 0 false sc.starts
  have hcan := startHooks_cancelled sc.metrics 0 sc.starts
  unfold run runSegs
  simp only []
  cases ho : (startHooks sc.metrics 0 false sc.starts).out with
  | panicked =>
    rw [ho] at hout
    exact lemma_failed sc false .panic sc.metrics true false (by rw [hout]; rfl) (.inl ⟨hout, rfl⟩)
  | failed =>
    rw [ho] at hout
    have hcond : ((sc.starts.find? startFails).isNone && sc.listen == Listen.ok) = false := by rw [hout]; rfl
    obtain ⟨_, hb, hg⟩ := hfail hcond
    exact lemma_failed sc false .errStartup (sc.metrics && !fx.b) (!fx.g) (fx.b && sc.tracing) hcond
      (.inr ⟨rfl, ⟨by rw [hb]; exact Bool.and_false _, by rw [hg]; rfl⟩, by rw [hb]; rfl⟩)
  | done =>
    rw [ho] at hout
    by_cases hl : sc.listen = Listen.ok
    · obtain ⟨hc, hd, he⟩ := hserve (by rw [hout, hl]; rfl)
      simp only [hl, bne_self_eq_false, Bool.false_eq_true, if_false]
      by_cases hcc : (startHooks sc.metrics 0 false sc.starts).cancelled = true
      · -- the signal arrived during start-up
        simp only [hcc, if_true]
        apply lemma_shutdown fx hc he sc race false _ _ _ hout hl (lemma_naRounds sc)
        -- `Before`, field by field: starts, readies, reqIns; the kinds of reloads, sig, post; postEnv, sorted, hasSig
        -- (the hole); the four segments of the shutdown sequence are still empty
        refine ⟨⟨false, rfl⟩, rfl, rfl, kindsIn_nil _, kindsIn_nil _, kindsIn_nil _, rfl, by simp [ids_nil], ?_,
          rfl, rfl, rfl, rfl⟩
        simp only [Segs.before, List.append_nil, List.any_append, hcan hcc, Bool.true_or]
      · -- the environment sends its requests, reloads, and then the signal
        simp only [hcc, Bool.false_eq_true, if_false]
        obtain ⟨r', inv⟩ := LoopInv.rounds fx sc.nReload _ 0 sc.rounds (LoopInv.init fx)
        have hdead := inv.dead hd
        simp only [hdead, Bool.false_eq_true, if_false]
        apply lemma_shutdown fx hc he sc race true _ _ _ hout hl (inv.res hd)
        refine ⟨⟨false, rfl⟩, rfl, rfl, inv.preK, kindsIn_sigIf _ _ (by simp), inv.postK,
          roundsFrom_post_env fx sc.nReload sc _ 0 sc.rounds rfl rfl, inv.sorted, ?_,
          rfl, rfl, rfl, rfl⟩
        simp only [Segs.before, List.any_append, Bool.or_eq_true]
        cases hcl : (roundsFrom fx sc.nReload ⟨[], [], false, false, []⟩ 0 sc.rounds).cancelled
        · right; simp [sigIf, isSig]
        · left; right; exact inv.sig hcl
    · have hl' : (sc.listen != Listen.ok) = true := by simpa using hl
      have hcond : ((sc.starts.find? startFails).isNone && sc.listen == Listen.ok) = false := by simp [hl]
      obtain ⟨ha, hb, hg⟩ := hfail hcond
      simp only [hl', ha, if_true]
      exact lemma_failed sc false .errListen (sc.metrics && !fx.b) (true && !fx.g) (fx.b && sc.tracing) hcond
        (.inr ⟨rfl, ⟨by rw [hb]; exact Bool.and_false _, by rw [hg]; rfl⟩, by rw [hb]; rfl⟩)

/-- C09, main theorem. For every scenario — arbitrary lists of hooks of each kind with arbitrary fault
    assignments, listen faults, in-flight requests with arbitrary release points, arbitrary reload rounds
    and signal positions — and either outcome of net/http's one-shot idle check, what the model of the
    repaired code does is in the lifecycle language. -/
theorem run_in_language (sc : Scenario) (race : Bool) : holds sc (run repaired sc race) = true :=
  lemma_run_in_language repaired sc race (fun _ => ⟨rfl, rfl, rfl⟩) (fun _ => ⟨rfl, rfl, rfl⟩)

theorem current_run_in_language (sc : Scenario) (race : Bool) : holds sc (run current sc race) = true :=
  run_in_language sc race

/-! ### the clauses of the statement, read off the main theorem -/

theorem lemma_unpack {sc : Scenario} {o : Obs} (h : holds sc o = true) :
    returnsOnce sc o.log = true ∧ startsOk sc o.log = true ∧ readiesOk sc o.log = true ∧ reloadsOk o = true ∧
    (if (sc.starts.find? startFails).isNone && sc.listen == Listen.ok then shutdownOk sc o
     else failedStartOk sc o (sc.starts.find? startFails)) = true := by
  simpa only [holds, Bool.and_eq_true, and_assoc] using h

theorem lemma_find_none {hs : List HB} (h : hs.any startFails = false) : hs.find? startFails = none :=
  List.find?_eq_none.mpr fun x hx => by simpa using List.any_eq_false.mp h x hx

theorem lemma_lastPanic_none (hs : List HB) (i : Nat) (h : hs.all (· != .panic) = true) : lastPanic hs i = none := by
  induction hs generalizing i with
  | nil => rfl
  | cons b rest ih =>
    simp only [List.all_cons, Bool.and_eq_true, bne_iff_ne, ne_eq] at h
    simp only [lastPanic, ih (i + 1) h.2]
    have : (b == HB.panic) = false := by simpa using h.1
    simp [this]

theorem shutdown_of_holds {sc : Scenario} {o : Obs} (h : holds sc o = true) (hs : sc.starts.any startFails = false)
    (hl : sc.listen = Listen.ok) (hp : sc.shuts.all (· != .panic) = true) :
    (guardedBy isSig isShut o.log = true ∧ guardedBy isSig isRet o.log = true ∧ o.log.all (shutProbeOk sc) = true) ∧
    (o.res = .ok ∨ o.res = .errDrain) ∧ o.log.filterMap shutTag = seqDown sc.shuts.length 0 ∧
    requestsOk sc o = true ∧ flushStopOk sc o = true ∧ orderOk o.log = true := by
  obtain ⟨_, _, _, _, h5⟩ := lemma_unpack h
  have hc : ((sc.starts.find? startFails).isNone && sc.listen == Listen.ok) = true := by
    simp [lemma_find_none hs, hl]
  rw [hc, if_pos rfl] at h5
  simp only [shutdownOk, Bool.and_eq_true] at h5
  obtain ⟨⟨⟨g1, g2⟩, pr⟩, h6⟩ := h5
  rw [lemma_lastPanic_none sc.shuts 0 hp] at h6
  have tail : (o.res = .ok ∨ o.res = .errDrain) ∧ tailOk sc o = true := by
    split at h6
    · exact ⟨.inl ‹_›, h6⟩
    · exact ⟨.inr ‹_›, h6⟩
    · cases h6
    · cases h6
  obtain ⟨hres, h7⟩ := tail
  simp only [tailOk, Bool.and_eq_true, beq_iff_eq] at h7
  obtain ⟨⟨⟨tags, rq⟩, fs⟩, ord⟩ := h7
  exact ⟨⟨g1, g2, pr⟩, hres, tags, rq, fs, ord⟩

/-- **OnStart hooks run sequentially, in registration order, and the first failure aborts start-up**:
    the OnStart events of the log are enter 0, leave 0, enter 1, leave 1, … up to and including the
    first hook that returns an error, panics, or is interrupted by the signal — and nothing after it. -/
theorem start_hooks_sequential_until_first_failure (sc : Scenario) (race : Bool) :
    (run repaired sc race).log.filterMap startTag = seqUp (runCount sc.starts) 0 := by
  obtain ⟨_, h2, _⟩ := lemma_unpack (run_in_language sc race)
  simp only [startsOk, Bool.and_eq_true, beq_iff_eq] at h2
  exact h2.1

/-- **… before the listener opens**: no OnStart hook finds the application serving. -/
theorem start_hooks_before_listener (sc : Scenario) (race : Bool) (i : Nat) (app met frozen : Bool)
    (h : Ev.startIn i app met frozen ∈ (run repaired sc race).log) : app = false := by
  obtain ⟨_, h2, _⟩ := lemma_unpack (run_in_language sc race)
  simp only [startsOk, Bool.and_eq_true] at h2
  have := List.all_eq_true.mp h2.2 _ h
  simpa [startProbeOk] using this

/-- **… the first failure aborts startup leaving nothing running**: when an OnStart hook fails or the
    listen fails, no OnReady hook runs, `Start` does not return nil, and — unless a panicking OnStart
    hook takes the process down — the server is not serving, the metrics server is closed again, the
    startup log buffer has been written out and the tracer has flushed (exactly once, before `Start`
    returns). -/
theorem failed_startup_clean (sc : Scenario) (race : Bool)
    (hf : sc.starts.any startFails = true ∨ sc.listen ≠ Listen.ok) :
    let o := run repaired sc race
    o.log.any isReady = false ∧ o.res ≠ .ok ∧
    (o.res ≠ .panic → o.finApp = false ∧ (o.finMet = false ∧ o.finHeld = false) ∧
      (sc.tracing = true → o.log.count .flush = 1 ∧ precedes isFlush isRet o.log = true)) := by
  intro o
  obtain ⟨_, _, _, _, h5⟩ := lemma_unpack (run_in_language sc race)
  have hc : ((sc.starts.find? startFails).isNone && sc.listen == Listen.ok) = false := by
    rcases hf with hf | hf
    · rw [Option.isNone_eq_false_iff.mpr (List.find?_isSome.mpr (List.any_eq_true.mp hf))]; rfl
    · rw [beq_false_of_ne hf, Bool.and_false]
  rw [hc] at h5
  simp only [Bool.false_eq_true, if_false, failedStartOk, Bool.and_eq_true] at h5
  obtain ⟨h6, h7⟩ := h5
  -- either the panic of an OnStart hook left Start, or the error path ran
  have alt : o.res = .panic ∨ (isError o.res && !o.finApp && telemetryClean sc o) = true := by
    split at h7
    · simpa only [Bool.or_eq_true, beq_iff_eq] using h7
    · exact .inr h7
  refine ⟨by simpa using h6, ?_⟩
  rcases alt with h | h
  · exact ⟨by rw [h]; exact Res.noConfusion, fun hnp => absurd h hnp⟩
  · simp only [Bool.and_eq_true, beq_iff_eq, Bool.not_eq_true', telemetryClean, Bool.or_eq_true] at h
    obtain ⟨⟨h1, h2⟩, h3, h4⟩ := h
    exact ⟨fun hok => (by rw [hok] at h1; cases h1),
      fun _ => ⟨h2, h3, fun ht => h4.resolve_left (by rw [ht]; exact Bool.noConfusion)⟩⟩

/-- **OnReady runs only once the server accepts connections**: every OnReady event was logged by a
    registered hook that found the application serving; no hook runs twice. -/
theorem ready_only_when_accepting (sc : Scenario) (race : Bool) :
    (∀ i app met frozen, Ev.ready i app met frozen ∈ (run repaired sc race).log →
      app = true ∧ i < sc.readies.length) ∧
    ((run repaired sc race).log.filterMap readyIdx).Nodup := by
  obtain ⟨_, _, h3, _⟩ := lemma_unpack (run_in_language sc race)
  simp only [readiesOk, Bool.and_eq_true, nodupNat_iff] at h3
  refine ⟨?_, h3.2⟩
  intro i app met frozen h
  have := List.all_eq_true.mp h3.1 _ h
  simpa [readyProbeOk] using this

/-- **On shutdown the OnShutdown hooks run in reverse registration order**, each exactly once: enter n-1,
    leave n-1, …, enter 0, leave 0 — while the server still serves and telemetry is still up, with a
    context that has not ended unless a hook registered later used up the budget, and never before the
    stop signal. -/
theorem shutdown_hooks_lifo (sc : Scenario) (race : Bool) (hs : sc.starts.any startFails = false)
    (hl : sc.listen = Listen.ok) (hp : sc.shuts.all (· != .panic) = true) :
    let o := run repaired sc race
    o.log.filterMap shutTag = seqDown sc.shuts.length 0 ∧
    o.log.all (shutProbeOk sc) = true ∧ guardedBy isSig isShut o.log = true := by
  obtain ⟨⟨g1, _, pr⟩, _, tags, _⟩ := shutdown_of_holds (run_in_language sc race) hs hl hp
  exact ⟨tags, pr, g1⟩

/-- **… then OnStop hooks run, each exactly once** — whether or not the drain timed out, whatever the
    hooks do (panics included) — when the server and telemetry are down. -/
theorem stop_hooks_exactly_once (sc : Scenario) (race : Bool) (hs : sc.starts.any startFails = false)
    (hl : sc.listen = Listen.ok) (hp : sc.shuts.all (· != .panic) = true) (i : Nat) (hi : i < sc.stops.length) :
    let o := run repaired sc race
    (o.log.filterMap stopTag).count (true, i) = 1 ∧ (o.log.filterMap stopTag).count (false, i) = 1 ∧
    o.log.all (stopProbeOk sc.stops.length) = true := by
  obtain ⟨_, _, _, _, fs, _⟩ := shutdown_of_holds (run_in_language sc race) hs hl hp
  simp only [flushStopOk, eachOnce, List.all_eq_true, List.mem_range, Bool.and_eq_true, beq_iff_eq] at fs
  exact ⟨(fs.1.1.1.2 i hi).1, (fs.1.1.1.2 i hi).2, List.all_eq_true.mpr fs.1.1.2⟩

/-- **… OnShutdown hooks, then the drain, then the telemetry flush, then OnStop hooks, and Start returns
    only afterwards**: every OnShutdown event and every finishing request precedes the flush, every
    OnStop event and the return; the flush (exactly one when a tracer is configured) precedes every OnStop
    event and the return; every OnStop event precedes the return; after the return the server is not
    serving and the metrics server is closed. Drain timeout or not. -/
theorem drain_flush_stop_return_order (sc : Scenario) (race : Bool) (hs : sc.starts.any startFails = false)
    (hl : sc.listen = Listen.ok) (hp : sc.shuts.all (· != .panic) = true) :
    let o := run repaired sc race
    orderOk o.log = true ∧ (sc.tracing = true → o.log.count .flush = 1) ∧ o.finApp = false ∧ o.finMet = false ∧
    guardedBy isSig isRet o.log = true := by
  obtain ⟨⟨_, g2, _⟩, _, _, _, fs, ord⟩ := shutdown_of_holds (run_in_language sc race) hs hl hp
  simp only [flushStopOk, Bool.and_eq_true, Bool.not_eq_true'] at fs
  exact ⟨ord, fun ht => by simpa [ht] using fs.1.1.1.1, fs.1.2, fs.2, g2⟩

/-- **Every request accepted before the signal receives its complete response unless the shutdown
    timeout expires** — and the timeout expires only for a reason (a request that cannot finish, or an
    OnShutdown hook that used up the budget); no released request ever gets a broken response. -/
theorem requests_complete_unless_timeout (sc : Scenario) (race : Bool) (hs : sc.starts.any startFails = false)
    (hl : sc.listen = Listen.ok) (hp : sc.shuts.all (· != .panic) = true) :
    let o := run repaired sc race
    (o.res = .ok ∨ o.res = .errDrain) ∧ (o.res = .ok → allComplete o = true) ∧
    (o.res = .errDrain → timeoutLegit sc = true) ∧ (o.res = .ok → o.reqs.all (· != .incomplete) = true) := by
  obtain ⟨_, hres, _, rq, _⟩ := shutdown_of_holds (run_in_language sc race) hs hl hp
  simp only [requestsOk, Bool.and_eq_true] at rq
  exact ⟨hres, fun hr => by simpa [hr] using rq.1.1.2, fun hr => by simpa [hr] using rq.1.1.1,
    fun hr => by simpa [hr] using rq.1.2⟩

/-- **Start returns only afterwards**: `Start` returns exactly once, and the only things that can follow
    in the log are hooks of reload calls the environment made itself (never of a reload the lifecycle
    started on SIGHUP: that is finished before the shutdown sequence begins). -/
theorem start_returns_last (sc : Scenario) (race : Bool) : returnsOnce sc (run repaired sc race).log = true :=
  (lemma_unpack (run_in_language sc race)).1

/-- **Reloads are serialised** (in the lifecycle model): the reload events of different rounds never
    interleave, and no `Reload` call panics into its caller. -/
theorem reload_rounds_never_interleave (sc : Scenario) (race : Bool) :
    noInterleave ((run repaired sc race).log.filterMap reloadRound) = true ∧
    (run repaired sc race).rounds.all (· != .panic) = true := by
  obtain ⟨_, _, _, h4, _⟩ := lemma_unpack (run_in_language sc race)
  simpa [reloadsOk] using h4

/-- **Reloads are serialised** (interleaving semantics): whatever the programs of the concurrent `Reload`
    calls and whatever the schedule, with `reloadMu` as the atomic region the emitted hook events of
    different calls never interleave. -/
theorem reload_mutex_serialises {α : Type} (progs : List (List α)) (sched : List Nat) :
    noInterleave ((ReloadMutex.exec progs sched).log.map (·.1)) = true :=
  ReloadMutex.Inv.serialised _ (ReloadMutex.Inv.exec progs sched)

/-- … and within its block every `Reload` call runs its hooks in their order: what call `t` has emitted is
    a prefix of its hook sequence, under every schedule. -/
theorem reload_mutex_program_order {α : Type} (progs : List (List α)) (sched : List Nat) (t : Nat) (p : List α)
    (hp : progs[t]? = some p) : ReloadMutex.emitted (ReloadMutex.exec progs sched) t <+: p :=
  ReloadMutex.emitted_prefix progs sched t p hp

/-- … and that is the mutex's doing: without it two calls interleave under the schedule 0 0 1 1 0 1 -/
theorem reload_without_mutex_interleaves :
    noInterleave ((ReloadMutex.execNoMutex [["a0", "a1"], ["b0", "b1"]] [0, 0, 1, 1, 0, 1]).log.map (·.1)) = false := by
  decide

/-- Independence of the reload rounds and of what the OnStop hooks do rests on one repair only: K09d (a panicking
    OnReload hook stays inside `Reload`, so that no reload round keeps `Start` from reaching the shutdown sequence). -/
theorem lemma_faults_leave_sequence_intact (fx : Fixes) (hd : fx.d = true) (sc : Scenario) (rounds' : List Round)
    (stops' : List HB) (hlen : stops'.length = sc.stops.length) (race : Bool) :
    nonReload (run fx { sc with rounds := rounds', stops := stops' } race) = nonReload (run fx sc race) := by
  have ht := lemma_tail_indep sc rounds' stops' hlen fx race
  unfold run runSegs
  simp only []
  cases hout : (startHooks sc.metrics 0 false sc.starts).out with
  | panicked => rfl
  | failed => rfl
  | done =>
    simp only []
    by_cases hl : (sc.listen != Listen.ok) = true
    · rw [if_pos hl, if_pos hl]; rfl
    · rw [if_neg hl, if_neg hl]
      by_cases hc : (startHooks sc.metrics 0 false sc.starts).cancelled = true
      · simp only [hc, if_true]
        exact lemma_nonReload_shutdownSeq fx race false _ _ (ht false) rfl rfl rfl rfl (kindsIn_nil _) (kindsIn_nil _)
      · simp only [hc, Bool.false_eq_true, if_false]
        obtain ⟨r1, inv1⟩ := LoopInv.rounds fx sc.nReload _ 0 rounds' (LoopInv.init fx)
        obtain ⟨r2, inv2⟩ := LoopInv.rounds fx sc.nReload _ 0 sc.rounds (LoopInv.init fx)
        simp only [inv1.dead hd, inv2.dead hd, Bool.false_eq_true, if_false]
        exact lemma_nonReload_shutdownSeq fx race true _ _ (ht true) rfl rfl rfl
          ((lemma_loop_rest inv1).trans (lemma_loop_rest inv2).symm) inv2.postK inv1.postK

/-- **"a failing or panicking reload or OnStop hook leaves the remaining sequence intact".**
    Replace the reload rounds of a scenario by any others (other hooks failing or panicking, none at all)
    and the behaviours of the OnStop hooks by any others: apart from the reload events themselves the
    log, the result of `Start`, the final probes and the client results are the same. -/
theorem reload_and_stop_faults_leave_sequence_intact (sc : Scenario) (rounds' : List Round) (stops' : List HB)
    (hlen : stops'.length = sc.stops.length) (race : Bool) :
    nonReload (run repaired { sc with rounds := rounds', stops := stops' } race) =
      nonReload (run repaired sc race) :=
  lemma_faults_leave_sequence_intact repaired rfl sc rounds' stops' hlen race

/-! ### the call order in the source: obligations on every path of the regenerated skeletons

The harness extracts the control-flow skeletons of `Start`, `StartTLS`, `StartMTLS` and `runServer` from
the Go source on every run; the driver evaluates `LifecycleSkel.check` on them. What a passed check
means for every valuation of the branch conditions: -/

section skeletons
open Rivaas.LifecycleSkel

theorem exec_mem_outs (ρ : Nat → Bool) (s : Stmt) : exec ρ s ∈ outs s := by
  induction s with
  | call n q => simp [exec, outs]
  | ret ok => simp [exec, outs]
  | «try» c s t e ihs iht ihe =>
    simp only [exec, outs, List.mem_flatMap]
    refine ⟨exec ρ s, ihs, exec ρ t, iht, exec ρ e, ihe, ?_⟩
    cases ρ c <;> simp
  | tail n => simp [exec, outs]
  | goto l => simp [exec, outs]
  | skip => simp [exec, outs]
  | seq a b iha ihb =>
    simp only [exec, outs, List.mem_flatMap]
    refine ⟨exec ρ a, iha, ?_⟩
    by_cases h : ((exec ρ a).fin == End.fall) = true
    · simp only [h, if_true, List.mem_map]
      exact ⟨exec ρ b, ihb, rfl⟩
    · simp [h]
  | ite c t e iht ihe =>
    simp only [exec, outs, List.mem_append]
    by_cases h : ρ c = true
    · simp only [h, if_true]; exact Or.inl iht
    · simp only [h, Bool.false_eq_true, if_false]; exact Or.inr ihe
  | scope s ih =>
    simp only [exec, outs, List.mem_map]
    exact ⟨exec ρ s, ih, rfl⟩

theorem onAll_sound (P : Out → Bool) (s : Stmt) (h : onAll P s = true) (ρ : Nat → Bool) :
    P (exec ρ s) = true :=
  List.all_eq_true.mp h _ (exec_mem_outs ρ s)

/-- after the label, on every path: the four steps of the shutdown sequence, each exactly once, in the
    order the lifecycle model follows, and only then the return — there is no early exit (K09c) -/
theorem skel_after_every_path (l : Name) (s : Stmt) (h : onAll (afterOk l) s = true) (ρ : Nat → Bool) :
    keep shutdownOrder (exec ρ s) = shutdownOrder ∧ ∃ ok, (exec ρ s).fin = .ret ok := by
  have := onAll_sound _ s h ρ
  simp only [afterOk, Bool.and_eq_true, Bool.or_eq_true, beq_iff_eq] at this
  obtain ⟨⟨_, h2⟩, h3⟩ := this
  refine ⟨?_, by rcases h2 with h2 | h2 <;> exact ⟨_, h2⟩⟩
  -- filtering with the smaller core is filtering the filtered list
  have hsub : keep shutdownOrder (exec ρ s) =
      (keep (nm "abortStartup" :: nm "Reload" :: nm "executeReadyHooks" :: nm "Listen" :: shutdownOrder)
        (exec ρ s)).filter (fun n => shutdownOrder.contains n) := by
    simp only [keep, List.filter_filter]
    congr 1
    funext n
    by_cases hn : n ∈ shutdownOrder <;> simp [hn]
  rw [hsub, h3]
  exact List.filter_eq_self.mpr fun n hn => by simpa using hn

/-- entry points, on every path: once `startObservability` has been called the path either tail-calls
    `runServer` after the whole prologue in order (and without `abortStartup`), or ends with
    `abortStartup; return` — there is no exit that leaves observability running (K09b) -/
theorem skel_entry_every_path (s : Stmt) (h : onAll entryOk s = true) (ρ : Nat → Bool)
    (hs : (names (exec ρ s)).contains (nm "startObservability") = true) :
    ((exec ρ s).fin = .tail (nm "runServer") ∧ keep (nm "abortStartup" :: prologue) (exec ρ s) = prologue) ∨
    ((∃ ok, (exec ρ s).fin = .ret ok) ∧ (names (exec ρ s)).getLast? = some (nm "abortStartup")) := by
  have := onAll_sound _ s h ρ
  simp only [entryOk, hs, if_true] at this
  cases hf : (exec ρ s).fin with
  | fall => rw [hf] at this; cases this
  | goto l => rw [hf] at this; cases this
  | tail n =>
    rw [hf] at this
    simp only [Bool.and_eq_true, beq_iff_eq] at this
    left; exact ⟨by rw [this.1], this.2⟩
  | ret ok =>
    rw [hf] at this
    simp only [Bool.and_eq_true, beq_iff_eq] at this
    right; exact ⟨⟨ok, rfl⟩, this.1.1⟩

/-- the event loop: an arm that returns has called `abortStartup` and nothing else of interest; an arm that
    falls through goes back into the loop having at most reloaded; the only other way out is the `goto`
    to the label after the loop — no arm "just returns" -/
theorem skel_arm_every_path (l : Name) (s : Stmt) (h : onAll (armOk l) s = true) (ρ : Nat → Bool) :
    match (exec ρ s).fin with
    | .ret _ => keep loopCore (exec ρ s) = [nm "abortStartup"]
    | .fall => keep loopCore (exec ρ s) = [nm "Reload"] ∨ keep loopCore (exec ρ s) = []
    | .goto l' => l' = l ∧ keep loopCore (exec ρ s) = []
    | .tail _ => False := by
  have := onAll_sound _ s h ρ
  simp only [armOk] at this
  cases hf : (exec ρ s).fin with
  | fall => rw [hf] at this; simpa using this
  | goto l' => rw [hf] at this; simpa using this
  | tail n => rw [hf] at this; cases this
  | ret ok => rw [hf] at this; simpa using this

/-! ### the skeletons of the source as it is now (what the harness extracts), and as it was shipped -/

def c (s : String) : Stmt := .call (nm s) []
def cq (s q : String) : Stmt := .call (nm s) (nm q)
def bail : Stmt := .seq (c "abortStartup") (.ret false)

def skStart : Stmt :=
  .seq (.seq (c "startObservability") (.ite 0 bail .skip))
    (.seq (.seq (c "executeStartHooks") (.ite 1 bail .skip))
      (.seq (c "registerOpenAPIEndpoints") (.seq (c "Freeze") (.tail (nm "runServer")))))

def skStartMTLS : Stmt := .seq (.seq (c "validate") (.ite 2 (.ret false) .skip)) skStart

def skStartTLS : Stmt :=
  .seq (.seq (c "startObservability") (.ite 0 bail .skip))
    (.seq (.seq (c "executeStartHooks") (.ite 1 bail .skip))
      (.seq (c "registerOpenAPIEndpoints") (.seq (c "Freeze")
        (.seq (c "LoadX509KeyPair") (.seq (.ite 2 bail .skip) (.tail (nm "runServer")))))))

def skPre : Stmt :=
  .seq (c "Listen") (.seq (.ite 0 bail .skip) (.seq (c "go") (.seq (cq "recv" "serverReady") (c "executeReadyHooks"))))

def skGo : Stmt :=
  .seq (c "printStartupBanner") (.seq (c "flushStartupLogs") (.seq (c "logStartupInfo")
    (.seq (cq "close" "serverReady") (.seq (cq "startFunc" "listener") (cq "Close" "listener")))))

def skAfter : Stmt :=
  .seq (cq "label" "shutdown") (.seq (c "executeShutdownHooks") (.seq (cq "Shutdown" "server")
    (.seq (c "shutdownObservability") (.seq (c "executeStopHooks") (.ret false)))))

def skNow : Skels :=
  { entries := [skStart, skStartTLS, skStartMTLS], pre := skPre, go := skGo,
    arms := [bail, c "Reload", .goto (nm "shutdown")], after := skAfter }

/-- the shared prologue moved into a helper (`if err := a.prepare(ctx); err != nil { return err }`): the
    inlined callee's way of returning selects the branch, so the obligations are still met -/
def skStartRefactored : Stmt :=
  .seq (.try 0
      (.seq (.seq (c "startObservability") (.ite 1 bail .skip))
        (.seq (.seq (c "executeStartHooks") (.ite 2 bail .skip))
          (.seq (c "registerOpenAPIEndpoints") (.seq (c "Freeze") (.ret true)))))
      (.ret false) .skip)
    (.tail (nm "runServer"))

/-- as shipped: a failing OnStart hook returned without `abortStartup` (K09b) -/
def skStartAsShipped : Stmt :=
  .seq (.seq (c "startObservability") (.ite 0 (.ret false) .skip))
    (.seq (.seq (c "executeStartHooks") (.ite 1 (.ret false) .skip))
      (.seq (c "registerOpenAPIEndpoints") (.seq (c "Freeze") (.tail (nm "runServer")))))

/-- as shipped: `if err := server.Shutdown(ctx); err != nil { return … }` (K09c) -/
def skAfterAsShipped : Stmt :=
  .seq (cq "label" "shutdown") (.seq (c "executeShutdownHooks") (.seq (cq "Shutdown" "server")
    (.seq (.ite 0 (.ret false) .skip) (.seq (c "shutdownObservability") (.seq (c "executeStopHooks") (.ret true))))))

/-- What the three theorems below say — and, for `Props/C09Whole.lean`, that the same literal skeletons pass the checks
    on the assembled program, and the fixed words with which a run leaves the event loop or `runServer` — in one
    evaluation: nearly all of the kernel's work is turning the string literals of the call names into character lists
    (`nm`), and within one evaluation each literal is converted once. -/
theorem skel_evaluated :
    ((check skNow).ok = true ∧ onAll entryOk skStartRefactored = true ∧
      onAll entryOk skStartAsShipped = false ∧ onAll (afterOk (nm "shutdown")) skAfterAsShipped = false ∧
      onAll (armOk (nm "shutdown")) (.seq (c "Reload") (.ite 0 (.ret false) .skip)) = false ∧
      onAll preOk (.seq (c "go") (.seq (cq "recv" "serverReady") (.seq (c "executeReadyHooks") (c "Listen")))) = false) ∧
    (checkWhole skNow = true ∧ liveness skNow = true ∧ modelPathsPresent skNow 2 = true) ∧
    (inLoopLang [nm "abortStartup"] = true ∧ inLoopLang shutdownOrder = true ∧
      inRunLang [nm "Listen", nm "abortStartup"] = true) := by
  decide +kernel

/-- the obligations are met by the source as it is now (the harness re-extracts and re-checks on every run) -/
theorem skel_now_ok : (check skNow).ok = true := skel_evaluated.1.1

theorem skel_refactored_ok : onAll entryOk skStartRefactored = true := skel_evaluated.1.2.1

theorem skel_asis_rejected :
    onAll entryOk skStartAsShipped = false ∧ onAll (afterOk (nm "shutdown")) skAfterAsShipped = false ∧
    -- a `return` added to the SIGHUP arm of the event loop
    onAll (armOk (nm "shutdown")) (.seq (c "Reload") (.ite 0 (.ret false) .skip)) = false ∧
    -- OnReady dispatched before the listener is bound
    onAll preOk (.seq (c "go") (.seq (cq "recv" "serverReady") (.seq (c "executeReadyHooks") (c "Listen")))) = false :=
  skel_evaluated.1.2.2

end skeletons

/-! ### non-vacuity: the hypotheses `hs`, `hl`, `hp` of the shutdown theorems are met by a non-trivial scenario, the conclusions say something -/

/-- three OnStart, OnShutdown and OnStop hooks and two OnReady hooks; the signal arrives during the second OnStart hook;
    a panicking OnReady and a panicking OnStop hook, an OnShutdown hook that holds on until the deadline, three requests
    in flight (released in a hook, during the drain, never), a panicking reload via SIGHUP and a failing programmatic
    one -/
def wFull : Scenario :=
  { metrics := true, tracing := true, listen := .ok, starts := [.ok, .cancelOk, .ok], readies := [.ok, .panic],
    nReload := 2, shuts := [.ok, .block, .ok], stops := [.ok, .panic, .ok],
    reqs := [.hook 2, .drain, .never],
    rounds := [⟨.hup, [.ok, .panic], none, false⟩, ⟨.prog, [.err], none, false⟩] }

/-- the same with two OnStart hooks and no early signal, so that requests and reloads happen -/
def wFull2 : Scenario := { wFull with starts := [.ok, .ok] }

example : wFull2.starts.any startFails = false ∧ wFull2.listen = Listen.ok ∧
    wFull2.shuts.all (· != .panic) = true := by decide

example : (run repaired wFull2 false).log.filterMap shutTag =
    [(true, 2), (false, 2), (true, 1), (false, 1), (true, 0), (false, 0)] := by decide +kernel

example : (run repaired wFull2 false).res = .errDrain ∧ (run repaired wFull2 false).reqs = [.complete, .na, .na] ∧
    (run repaired wFull2 false).rounds = [.na, .err] := by decide +kernel

example : (run repaired wFull2 false).log.filterMap stopTag =
    [(true, 0), (false, 0), (true, 1), (false, 1), (true, 2), (false, 2)] := by decide +kernel

example : ((run repaired wFull2 false).log.filterMap reloadRound) = [0, 0, 0, 0, 1, 1] := by decide +kernel

/-- a failing start-up that is not vacuous: the third of four OnStart hooks fails, with telemetry on -/
def wFail : Scenario :=
  { metrics := true, tracing := true, listen := .ok, starts := [.ok, .ok, .err, .ok], readies := [.ok],
    nReload := 0, shuts := [.ok], stops := [.ok], reqs := [], rounds := [] }

example : wFail.starts.any startFails = true := by decide
example : (run repaired wFail false).log =
    [.startIn 0 false true false, .startOut 0, .startIn 1 false true false, .startOut 1,
     .startIn 2 false true false, .startOut 2,
     .flush, .ret] := by decide +kernel
example : (run repaired wFail false).res = .errStartup ∧ (run repaired wFail false).finMet = false ∧
    (run repaired wFail false).finHeld = false ∧ (run asShipped wFail false).finHeld = true := by decide

/-- the independence theorem is not vacuous: the reload rounds of `wFull2` do leave traces in the log -/
example : (run repaired wFull2 false).log ≠ (run repaired { wFull2 with rounds := [] } false).log := by decide +kernel
example : ((ReloadMutex.exec [["a0", "a1"], ["b0", "b1"]] [0, 0, 1, 1, 0, 1, 0, 0, 1, 1, 1, 1]).log.map (·.1)) =
    [0, 0, 1, 1] := by decide

/-! ### witnesses: the code as shipped breaks the oracle (K09a–g), the repaired code does not -/

/-- K09a: the port is taken; as shipped the OnReady hook has run although the listen failed -/
def wK09a : Scenario :=
  { metrics := true, tracing := false, listen := .busy, starts := [.ok], readies := [.ok], nReload := 0,
    shuts := [], stops := [.ok], reqs := [], rounds := [] }

/-- K09b: the second OnStart hook fails; as shipped the metrics server keeps running -/
def wK09b : Scenario :=
  { metrics := true, tracing := true, listen := .ok, starts := [.ok, .err], readies := [.ok], nReload := 0,
    shuts := [], stops := [.ok], reqs := [], rounds := [] }

/-- K09c: a request never finishes; as shipped the drain timeout skips flush and OnStop -/
def wK09c : Scenario :=
  { metrics := true, tracing := true, listen := .ok, starts := [], readies := [.ok], nReload := 0,
    shuts := [.ok, .ok], stops := [.ok], reqs := [.never], rounds := [] }

/-- K09d: an OnReload hook panics on SIGHUP; as shipped the panic unwinds Start -/
def wK09d : Scenario :=
  { metrics := false, tracing := false, listen := .ok, starts := [], readies := [], nReload := 1,
    shuts := [.ok], stops := [.ok], reqs := [], rounds := [⟨.hup, [.panic], none, false⟩] }

/-- K09e: an OnShutdown hook uses up the budget; as shipped telemetry is not flushed before OnStop -/
def wK09e : Scenario :=
  { metrics := false, tracing := true, listen := .ok, starts := [], readies := [], nReload := 0,
    shuts := [.block], stops := [.ok], reqs := [], rounds := [] }

theorem asis_ready_before_listen : holds wK09a (run asShipped wK09a false) = false := by decide
theorem asis_start_fail_leaks_metrics : holds wK09b (run asShipped wK09b false) = false := by decide
theorem asis_drain_timeout_skips_stop : holds wK09c (run asShipped wK09c false) = false := by decide +kernel
theorem asis_reload_panic_escapes : holds wK09d (run asShipped wK09d false) = false := by decide
theorem asis_expired_budget_skips_flush : holds wK09e (run asShipped wK09e false) = false := by decide +kernel

/-- K09g: a failing OnStart hook; as shipped the startup log buffer is never written out -/
def wK09g : Scenario :=
  { metrics := false, tracing := false, listen := .ok, starts := [.err], readies := [], nReload := 0,
    shuts := [], stops := [], reqs := [], rounds := [] }

theorem asis_failed_start_keeps_logs_buffered :
    holds wK09g (run asShipped wK09g false) = false ∧
    holds wK09g (run { repaired with g := false } wK09g false) = false ∧
    holds wK09g (run repaired wK09g false) = true := ⟨by decide, by decide, run_in_language _ _⟩

/-- K09f: StartTLS with a key pair that cannot be loaded; as shipped the OnReady hook has run -/
def wK09f : Scenario := { wK09a with listen := .cert }

theorem asis_tls_cert_after_ready :
    holds wK09f (run asShipped wK09f false) = false ∧ holds wK09f (run repaired wK09f false) = true :=
  ⟨by decide, run_in_language _ _⟩

theorem repaired_witnesses :
    holds wK09a (run repaired wK09a false) = true ∧ holds wK09b (run repaired wK09b false) = true ∧
    holds wK09c (run repaired wK09c false) = true ∧ holds wK09d (run repaired wK09d false) = true ∧
    holds wK09e (run repaired wK09e false) = true ∧ holds wK09e (run repaired wK09e true) = true :=
  ⟨run_in_language _ _, run_in_language _ _, run_in_language _ _, run_in_language _ _, run_in_language _ _,
    run_in_language _ _⟩

end Rivaas.C09
