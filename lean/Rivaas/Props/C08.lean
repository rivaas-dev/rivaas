/- C08 — Observability lifecycle is exactly-once with bounded labels: theorems about the model of
   ServeHTTP (`Model/Serve.lean`) against the oracle (`Spec/Obs.lean`). The obligations on the
   *regenerated* skeleton of the real code are in `Tie/C08.lean`. -/
import Rivaas.Spec.Obs

namespace Rivaas.C08
open Rivaas.Serve Rivaas.Obs

/-- the lookups return registered routes (C01/C11/C13 are about that); the static table is keyed by the path -/
def RoutesIn (f : Facts) (pats : List Bytes) : Prop :=
  (∀ rt, f.lookupStatic = some rt → rt.pattern ∈ pats) ∧
  (∀ rt, f.matchDynamic = some rt → rt.pattern ∈ pats) ∧
  (∀ rt, f.treeStatic = some rt → f.path ∈ pats) ∧
  (∀ rt, f.treeRoute = some rt → rt.pattern ∈ pats) ∧
  (∀ rt, f.vCache = some rt → rt.pattern ∈ pats) ∧
  (∀ rt, f.vRoute = some rt → rt.pattern ∈ pats)

/-- what a faithful wrapper lets the end callback read (see `status_size_truthful` below) -/
def seen (f : Facts) (o : Out) : Seen :=
  ⟨o.log, o.status, o.size, if f.obs && f.live then some (o.status, o.size) else none⟩

def isHandler : MEv → Bool | .handler .. => true | _ => false

theorem lemma_chainLog_handlers (rt : Route) (c v : Bytes) (p : Prog) : ∀ e ∈ chainLog rt c v p, isHandler e = true := by
  intro e he
  unfold chainLog at he
  -- either part of the chain's log is one handler event or nothing
  rcases List.mem_append.mp he with h | h <;> split at h
  · exact List.mem_singleton.mp h ▸ rfl
  · cases h
  · exact List.mem_singleton.mp h ▸ rfl
  · cases h

theorem lemma_notFound_handlers (f : Facts) (p : Prog) (l : Option Bytes) :
    ∀ e ∈ (notFound f p l).hs, isHandler e = true := by
  unfold notFound
  cases f.allowed
  · cases f.noRoute
    · exact nofun
    · exact List.forall_mem_singleton.mpr rfl
  · exact nofun

theorem notFound_label (f : Facts) (p : Prog) (l l' : Option Bytes) :
    { notFound f p l with label := l' } = notFound f p l' := by
  unfold notFound
  cases f.allowed
  · cases f.noRoute <;> simp only [Bool.false_eq_true, if_false, if_true]
  · simp only [if_true]

theorem lemma_q1 (f : Facts) (rt : Route) (h : f.q1 = some rt) : f.lookupStatic = some rt :=
  (Option.ite_none_right_eq_some.mp (Option.ite_none_right_eq_some.mp h).2).2
theorem lemma_q2 (f : Facts) (rt : Route) (h : f.q2 = some rt) : f.matchDynamic = some rt :=
  (Option.ite_none_right_eq_some.mp h).2
theorem lemma_q3 (f : Facts) (rt : Route) (h : f.q3 = some rt) : f.treeStatic = some rt :=
  (Option.ite_none_right_eq_some.mp (Option.ite_none_right_eq_some.mp h).2).2
theorem lemma_q4 (f : Facts) (rt : Route) (h : f.q4 = some rt) : f.treeRoute = some rt :=
  (Option.ite_none_right_eq_some.mp h).2

/-- the three kinds of exit of `versioned`: a matched route runs its chain, a version past its sunset is answered 410,
    or the not-found responder answers; a label that comes from a lookup is one of the registered patterns -/
theorem versioned_cases (f : Facts) (p : Prog) (P : Disp → Prop)
    (hm : ∀ rt c v l pre, (∀ pats, RoutesIn f pats → l ∈ pats) → (pre = [] ∨ pre = [ROp.lifecycle]) →
      P (matched rt c v l p pre))
    (hg : ∀ rt, (∀ pats, RoutesIn f pats → rt.pattern ∈ pats) → P (gone false f rt))
    (hn : P (notFound f p (some sNotFound))) :
    P (versioned false f p) := by
  unfold versioned
  cases hc : f.vCache with
  | some rt =>
    simp only
    split
    · exact hg rt fun _ h => h.2.2.2.2.1 rt hc
    · exact hm rt _ _ _ _ (fun _ h => h.2.2.2.2.1 rt hc) (by split <;> simp)
  | none =>
    simp only
    cases hr : f.vRoute with
    | none => exact hn
    | some rt =>
      simp only
      split
      · exact hg rt fun _ h => h.2.2.2.2.2 rt hr
      · exact hm rt _ _ _ _ (fun _ h => h.2.2.2.2.2 rt hr) (by split <;> simp)

/-- the same three kinds for the whole dispatch; on the static-table exit the label is the path -/
theorem dispatch_cases (f : Facts) (p : Prog) (P : Disp → Prop)
    (hm : ∀ rt c v l pre, (∀ pats, RoutesIn f pats → l ∈ pats) → (pre = [] ∨ pre = [ROp.lifecycle]) →
      P (matched rt c v l p pre))
    (hg : ∀ rt, (∀ pats, RoutesIn f pats → rt.pattern ∈ pats) → P (gone false f rt))
    (hn : P (notFound f p (some sNotFound))) :
    P (dispatch false f p) := by
  unfold dispatch
  -- `h.1`, `h.2.1`, …: the conjuncts of `RoutesIn`, which stand in the order in which the lookups are tried
  cases h1 : f.q1 with
  | some rt => exact hm rt _ _ _ _ (fun _ h => h.1 rt (lemma_q1 f rt h1)) (Or.inl rfl)
  | none =>
  simp only
  cases h2 : f.q2 with
  | some rt => exact hm rt _ _ _ _ (fun _ h => h.2.1 rt (lemma_q2 f rt h2)) (Or.inl rfl)
  | none =>
  simp only
  cases h3 : f.q3 with
  | some rt => exact hm rt _ _ _ _ (fun _ h => h.2.2.1 rt (lemma_q3 f rt h3)) (Or.inl rfl)
  | none =>
  simp only
  cases h4 : f.q4 with
  | some rt => exact hm rt _ _ _ _ (fun _ h => h.2.2.2.1 rt (lemma_q4 f rt h4)) (Or.inl rfl)
  | none =>
  simp only
  split
  · exact versioned_cases f p P hm hg hn
  · exact hn

/-- the exits of the model: router-level response operations per dispatch path -/
def modelExits : List (List ROp) :=
  [[.next], [.lifecycle, .next], [.lifecycle, .writeHeader, .writeBody], [.methodNotAllowed], [.noRoute], [.notFound]]

theorem lemma_dispatch_ops (f : Facts) (p : Prog) : (dispatch false f p).ops ∈ modelExits := by
  refine dispatch_cases f p (fun d => d.ops ∈ modelExits) (fun rt c v l pre _ hpre => ?_) (fun rt _ => ?_) ?_
  · rcases hpre with rfl | rfl <;> simp [matched, modelExits]
  · simp [gone, modelExits]
  · unfold notFound
    cases f.allowed <;> cases f.noRoute <;> simp [modelExits]

theorem lemma_dispatch_handlers (f : Facts) (p : Prog) : ∀ e ∈ (dispatch false f p).hs, isHandler e = true :=
  dispatch_cases f p (fun d => ∀ e ∈ d.hs, isHandler e = true) (fun _ _ _ _ _ _ _ => lemma_chainLog_handlers _ _ _ _)
    (fun _ _ => nofun) (lemma_notFound_handlers _ _ _)

theorem handler_inert (e : MEv) (h : isHandler e = true) :
    (Obs.isStart e = false ∧ Obs.isWrap e = false ∧ Obs.isEnd e = false) ∧ (e == MEv.start true) = false ∧
    ∀ t : Tele, t.step e = t :=
  match e, h with
  | .handler .., _ => ⟨⟨rfl, rfl, rfl⟩, rfl, fun _ => rfl⟩

theorem lemma_filter_handlers (hs : List MEv) (h : ∀ e ∈ hs, isHandler e = true) :
    hs.filter Obs.isStart = [] ∧ hs.filter Obs.isWrap = [] ∧ hs.filter Obs.isEnd = [] ∧
    hs.filter (· == MEv.start true) = [] := by
  simp only [List.filter_eq_nil_iff, Bool.not_eq_true]
  exact ⟨fun e he => (handler_inert e (h e he)).1.1, fun e he => (handler_inert e (h e he)).1.2.1,
    fun e he => (handler_inert e (h e he)).1.2.2, fun e he => (handler_inert e (h e he)).2.1⟩

/-- **the log of a request**: the start and wrap idioms, then handler events only, then the guarded end callback —
    after the fix on every dispatch path — with a registered pattern or a sentinel as label -/
theorem serve_log (f : Facts) (p : Prog) :
    ∃ hs l, (∀ e ∈ hs, isHandler e = true) ∧ (∀ pats, RoutesIn f pats → labelOK pats l = true) ∧
      (serve f p).log = pre f ++ hs ++ endG f (some l) := by
  have hm (l : Bytes) (hl : ∀ pats, RoutesIn f pats → l ∈ pats) :
      ∀ pats, RoutesIn f pats → labelOK pats l = true := by intro pats h; simp [labelOK, hl pats h]
  obtain ⟨l, hl, hlab⟩ := dispatch_cases f p
      (fun d => ∃ l, d.label = some l ∧ ∀ pats, RoutesIn f pats → labelOK pats l = true)
    (fun rt c v l pre hl _ => ⟨l, rfl, hm l hl⟩)
    (fun rt hl => ⟨rt.pattern, rfl, hm _ hl⟩)
    ⟨_, (congrArg Disp.label (notFound_label f p none _)).symm, fun pats _ => by
      simp [labelOK, show sNotFound ∈ sentinels from List.mem_cons_self]⟩
  exact ⟨_, l, lemma_dispatch_handlers f p, hlab, by rw [← hl]; rfl⟩

/-- **Main theorem (model level).** For every answer of the lookups (every configuration: compilation on/off,
    versioning on/off, sunset, NoRoute set or not; every request class) and every handler program, the
    repaired ServeHTTP satisfies the whole per-request oracle: callbacks only when a recorder is installed, exactly
    one start first, no wrap/end for an excluded request, otherwise exactly one wrap right after the start and
    exactly one end callback, last, with a registered pattern or a sentinel as label, on the wrapped writer. -/
theorem serve_meets_spec (f : Facts) (p : Prog) (pats : List Bytes) (h : RoutesIn f pats) :
    specOK f.obs f.live pats (seen f (serve f p)) = true := by
  obtain ⟨hs, l, hh, hlab, hlog⟩ := serve_log f p
  obtain ⟨f1, f2, f3, _⟩ := lemma_filter_handlers hs hh
  have f4 (e : MEv) (he : e ∈ hs) := (handler_inert e (hh e he)).1
  simp only [specOK, seen, hlog, pre, endG]
  -- the log is `pre f ++ hs ++ endG f l`, and `hs` holds no start, wrap or end (`f1`–`f4`): for each value of the two
  -- flags `pre` and `endG` are literal lists, and the clauses of `specOK` are read off them
  cases f.obs <;> cases f.live
  · simpa [and_assoc] using f4
  · simpa [and_assoc] using f4
  · simpa [Obs.isStart, Obs.isWrap, Obs.isEnd, List.filter_cons, f1] using fun e he => (f4 e he).2
  · simp [Obs.isStart, Obs.isWrap, Obs.isEnd, List.filter_append, f1, f2, f3, List.filter_cons, hlab pats h,
      List.getLast?_cons]

/-- `#OnRequestEnd == #OnRequestStart(state != nil)`, per request -/
theorem end_count_eq_live_starts (f : Facts) (p : Prog) :
    ((serve f p).log.filter Obs.isEnd).length = ((serve f p).log.filter (· == MEv.start true)).length := by
  obtain ⟨hs, l, hh, _, hlog⟩ := serve_log f p
  obtain ⟨_, _, f3, f5⟩ := lemma_filter_handlers hs hh
  simp only [hlog, pre, endG]
  cases f.obs <;> cases f.live <;> simp [Obs.isEnd, List.filter_append, f3, f5, List.filter_cons]

theorem run_handlers (hs : List MEv) (h : ∀ e ∈ hs, isHandler e = true) (t : Tele) : t.run hs = t :=
  List.foldlRecOn (motive := (· = t)) hs _ rfl fun _ ht e he => ht ▸ (handler_inert e (h e he)).2.2 t

/-- **Gauge and spans over histories.** Whatever sequence of requests was served (any configurations, any
    classes), a recorder that opens a span and increments the active-requests counter when a request starts with
    a state and closes/decrements in the end callback is balanced when the server is idle. -/
theorem gauge_zero_spans_balanced (hist : List (Facts × Prog)) :
    (hist.foldl (fun t (fp : Facts × Prog) => t.run (serve fp.1 fp.2).log) ({} : Tele)).quiescent = true := by
  have step (t : Tele) (f : Facts) (p : Prog) (ht : t.quiescent = true) : (t.run (serve f p).log).quiescent = true := by
    obtain ⟨hs, l, hh, _, hlog⟩ := serve_log f p
    simp only [hlog, Tele.run, List.foldl_append]
    rw [← Tele.run, ← Tele.run, run_handlers hs hh]
    simp only [Tele.quiescent, Bool.and_eq_true, beq_iff_eq] at ht ⊢
    simp only [pre, endG]
    cases f.obs <;> cases f.live <;> simp [Tele.run, Tele.step, ht.1, ht.2]
  exact List.foldlRecOn (motive := (·.quiescent = true)) hist _ (b := {}) rfl fun t ht fp _ => step t fp.1 fp.2 ht

/-! ### the shipped code (before commit 91ac4e5): finding K08 -/

/-- the requests on which the shipped code differs: nothing in the main tree, a version tree selected, and
    either no route in it or a version past its sunset date -/
def D_K08 (f : Facts) : Bool :=
  f.q1.isNone && f.q2.isNone && f.q3.isNone && f.q4.isNone && f.versionEngine && f.vcTree &&
  ((f.vCache.isNone && f.vRoute.isNone) || f.sunset)

/-- what the shipped code did differently: on the class `D_K08`, and only there, the request left `ServeHTTP` without
    reaching an end callback -/
theorem dispatch_asIs (f : Facts) (p : Prog) :
    dispatch true f p = if D_K08 f then { dispatch false f p with label := none } else dispatch false f p := by
  unfold dispatch D_K08
  cases h1 : f.q1 with
  | some _ => rfl
  | none =>
  cases h2 : f.q2 with
  | some _ => rfl
  | none =>
  cases h3 : f.q3 with
  | some _ => rfl
  | none =>
  cases h4 : f.q4 with
  | some _ => rfl
  | none =>
  cases he : f.versionEngine with
  | false => rfl
  | true =>
  cases f.vcTree with
  | false => rfl
  | true =>
    -- nothing in the main tree and a version tree selected: `versioned` answers; the two differ in its 404 and 410
    unfold versioned gone
    rw [he]
    cases f.vCache with
    | some rt => cases f.sunset <;> rfl
    | none =>
      cases f.vRoute with
      | some rt => cases f.sunset <;> rfl
      | none => exact (notFound_label f p _ none).symm

/-- outside the K08 class the shipped code and the repaired code behave the same -/
theorem asIs_partial (f : Facts) (p : Prog) (h : D_K08 f = false) : serveAsIs f p = serve f p := by
  unfold serveAsIs serve serveWith
  rw [dispatch_asIs, h]
  rfl

/-- on the K08 class the shipped code starts a live request and never ends it: the oracle rejects every such request -/
theorem asIs_rejected (f : Facts) (p : Prog) (pats : List Bytes) (hd : D_K08 f = true) (ho : f.obs = true)
    (hl : f.live = true) : specOK true true pats (seen f (serveAsIs f p)) = false := by
  have hlog : (serveAsIs f p).log = pre f ++ (dispatch false f p).hs := by
    unfold serveAsIs serveWith
    rw [dispatch_asIs, hd]
    exact List.append_nil _
  obtain ⟨_, _, f3, _⟩ := lemma_filter_handlers _ (lemma_dispatch_handlers f p)
  simp [specOK, seen, hlog, pre, ho, hl, List.filter_cons, Obs.isEnd, f3]

def fVerMiss : Facts :=
  { obs := true, live := true, useCompiled := false, hasStatic := false, lookupStatic := none,
    matchDynamic := none, tree := true, treeCompiled := false, treeStatic := none, treeRoute := none,
    versionEngine := true, vcTree := true, version := "v1".toList, vCache := none, vRoute := none, sunset := false,
    allowed := false, noRoute := false, detected := "v1".toList, path := "/vmiss".toList }

def fSunsetStatic : Facts :=
  { fVerMiss with version := "v0".toList, vCache := some ⟨24, "/vs".toList⟩, sunset := true, path := "/vs".toList }
def fSunsetParam : Facts :=
  { fVerMiss with version := "v0".toList, vRoute := some ⟨25, "/vd/:id".toList⟩, sunset := true, path := "/vd/7".toList }

/-- non-vacuity of `RoutesIn` (hypothesis of `serve_meets_spec`): the three K08 requests satisfy it -/
example : RoutesIn fVerMiss ["/vs".toList] ∧ RoutesIn fSunsetStatic ["/vs".toList] ∧ RoutesIn fSunsetParam ["/vd/:id".toList] := by
  simp [RoutesIn, fVerMiss, fSunsetStatic, fSunsetParam]

/-! K08 witnesses (replayed on the implementation: corpus/C08/k08.case): start without end on the three exits -/

theorem asIs_witness_not_found : specOK true true ["/vs".toList] (seen fVerMiss (serveAsIs fVerMiss (.explicit 200 5))) = false :=
  asIs_rejected _ _ _ rfl rfl rfl
theorem asIs_witness_sunset_static : specOK true true ["/vs".toList] (seen fSunsetStatic (serveAsIs fSunsetStatic (.explicit 200 5))) = false :=
  asIs_rejected _ _ _ rfl rfl rfl
theorem asIs_witness_sunset_param : specOK true true ["/vd/:id".toList] (seen fSunsetParam (serveAsIs fSunsetParam (.explicit 200 5))) = false :=
  asIs_rejected _ _ _ rfl rfl rfl
/-- …and the gauge drifts: after the three witnesses one span per request is still open -/
theorem asIs_gauge_drifts :
    ([fVerMiss, fSunsetStatic, fSunsetParam].foldl (fun t f => t.run (serveAsIs f (.explicit 200 5)).log) ({} : Tele)).active = 3 := by decide

/-! ### the wrapper reports what the client received -/

/-- what the wrapper's fields say about the writer underneath: untouched before the first write; afterwards the
    committed status is the recorded one; the sizes agree -/
def RWInv (rw : RW) : Prop :=
  (rw.written = false → rw.under = {} ∧ rw.statusCode = 0) ∧
  (rw.written = true → rw.under.status = some rw.StatusCode) ∧
  rw.under.size = rw.size

theorem rw_inv_step (rw : RW) (op : WOp) (hinv : RWInv rw) (hc : ∀ c, op = .header c → c ≠ 0) :
    RWInv (rw.step op) ∧ (rw.step op).under = rw.under.step op := by
  obtain ⟨h1, h2, h3⟩ := hinv
  cases hw : rw.written
  · -- nothing committed yet and the writer underneath untouched: the operation commits there the status the wrapper
    -- records (an informational code commits nothing in either; `c ≠ 0` keeps the recorded code from reading as 200)
    obtain ⟨hu, hz⟩ := h1 hw
    cases op with
    | header c =>
      by_cases hi : isInfo c = true <;> simp [RWInv, RW.step, hw, hu, ← h3, hz, Wire.step, RW.StatusCode, hi, hc c rfl]
    | _ => simp [RWInv, RW.step, hw, hu, ← h3, hz, Wire.step, RW.StatusCode]
  · -- committed in both: a later WriteHeader changes neither, a write adds the same bytes to both
    have hst := h2 hw
    cases op <;> simp [RWInv, RW.step, hw, Wire.step, hst, h3, RW.StatusCode] at *

theorem rw_inv_run (ops : List WOp) (rw : RW) (hinv : RWInv rw) (hvalid : ∀ c, WOp.header c ∈ ops → c ≠ 0) :
    RWInv (rw.run ops) ∧ (rw.run ops).under = ops.foldl Wire.step rw.under :=
  List.foldl_rel (r := fun rw' u => RWInv rw' ∧ rw'.under = u) ⟨hinv, rfl⟩ fun op hop rw' _ h =>
    h.2 ▸ rw_inv_step rw' op h.1 fun c hc => hvalid c (hc ▸ hop)

theorem rw_inv_init : RWInv {} := ⟨by simp, by simp, rfl⟩

/-- **status and size truthful**: for every sequence of WriteHeader/Write calls with valid status codes (net/http
    panics on code 0) the wrapper's StatusCode()/Size() equal the status and the number of body bytes the client
    received — first WriteHeader wins, implicit 200 on a bare Write, 200 and 0 bytes when nothing is written -/
theorem status_size_truthful (ops : List WOp) (hvalid : ∀ c, WOp.header c ∈ ops → c ≠ 0) :
    (({} : RW).run ops).StatusCode = (({} : RW).run ops).under.clientStatus ∧
    (({} : RW).run ops).size = (({} : RW).run ops).under.size := by
  obtain ⟨h1, h2, h3⟩ := (rw_inv_run ops {} rw_inv_init hvalid).1
  refine ⟨?_, h3.symm⟩
  cases hw : (({} : RW).run ops).written
  · obtain ⟨hu, hz⟩ := h1 hw
    simp [RW.StatusCode, hz, hu, Wire.clientStatus]
  · simp [Wire.clientStatus, h2 hw]

/-- informational responses included: 103 Early Hints, then the final status -/
example : (({} : RW).run [.header 103, .header 404, .write 4]).StatusCode = 404 ∧
    (({} : RW).run [.header 103, .header 404, .write 4]).under.clientStatus = 404 := by decide

/-- K08g, as shipped: the wrapper took the 103 for the final status and swallowed the 404 — it recorded 103, and the
    client received 200 (the implied status of the first Write) instead of 404 -/
theorem asIs_k08g_informational :
    (({} : RW).runAsIs [.header 103, .header 404, .write 4]).StatusCode = 103 ∧
    (({} : RW).runAsIs [.header 103, .header 404, .write 4]).under.clientStatus = 200 ∧
    (({} : RW).run [.header 103, .header 404, .write 4]).under.clientStatus = 404 := by decide

/-- K08h, as shipped: Flush committed an implied 200 underneath, the wrapper did not notice and recorded the 500 of a
    later WriteHeader that never reached the client -/
theorem asIs_k08h_flush :
    (({} : RW).runAsIs [.flush, .header 500, .write 4]).StatusCode = 500 ∧
    (({} : RW).runAsIs [.flush, .header 500, .write 4]).under.clientStatus = 200 ∧
    (({} : RW).run [.flush, .header 500, .write 4]).StatusCode = 200 := by decide

/-! ### the probe programs: what the model says the client receives is what the wrapper records

`Prog.resp` (used by `dispatch` for the status / size of a matched route) is not an independent assumption: it is what
net/http's writer (`Wire`) shows after the program's writer operations, and — by `status_size_truthful` — what the
wrapper `RW` reports to the end callback. -/

/-- a final, valid status code: not 0 (net/http panics) and not informational -/
def finalCode (c : Nat) : Prop := c ≠ 0 ∧ isInfo c = false

/-- the status codes a program passes to WriteHeader are final and valid; after a Flush any non-zero code will do (it
    reaches neither the client nor the wrapper's record) -/
def progValid : Prog → Prop
  | .explicit st _ | .twice st _ | .abort st _ | .copy st _ => finalCode st
  | .flushed st _ => st ≠ 0
  | _ => True

theorem lemma_valid_ops (p : Prog) (hv : progValid p) : ∀ c, WOp.header c ∈ p.ops → c ≠ 0 := by
  intro c hc
  -- a program passes to WriteHeader its own `st` (not 0 by `hv`) and the literal 500, nothing else
  cases p <;> simp [Prog.ops] at hc <;> simp [progValid, finalCode] at hv <;> omega

theorem prog_resp_is_wire (p : Prog) (hv : progValid p) :
    (p.ops.foldl Wire.step {}).clientStatus = p.resp.1 ∧ (p.ops.foldl Wire.step {}).size = p.resp.2.1 := by
  -- nine programs of at most three operations: both sides are computed; `hv` answers the `isInfo` test on `st`
  cases p <;> simp [progValid, finalCode] at hv <;>
    simp [Prog.ops, Prog.resp, Wire.step, Wire.clientStatus, hv, show isInfo 500 = false by decide]

/-- **recorded = received for every probe program**: the status and size the wrapper hands to the end callback after
    the program ran are what the client received, and both are `Prog.resp` — the status / size of the model's `Out` for
    a matched route -/
theorem prog_recorded_is_received (p : Prog) (hv : progValid p) :
    (({} : RW).run p.ops).StatusCode = p.resp.1 ∧ (({} : RW).run p.ops).size = p.resp.2.1 ∧
    (({} : RW).run p.ops).under.clientStatus = p.resp.1 ∧ (({} : RW).run p.ops).under.size = p.resp.2.1 := by
  obtain ⟨h1, h2⟩ := status_size_truthful p.ops (lemma_valid_ops p hv)
  obtain ⟨w1, w2⟩ := prog_resp_is_wire p hv
  rw [← (rw_inv_run p.ops {} rw_inv_init (lemma_valid_ops p hv)).2] at w1 w2
  exact ⟨h1.trans w1, h2.trans w2, w1, w2⟩

/-- the status / size the model's dispatch reports for a matched route are what the wrapper records after the route's
    program (so the `recd` component of `seen` is the wrapper's reading, not an independent stipulation) -/
theorem matched_status_is_recorded (rt : Route) (c v l : Bytes) (p : Prog) (pre : List ROp) (hv : progValid p) :
    (matched rt c v l p pre).status = (({} : RW).run p.ops).StatusCode ∧
    (matched rt c v l p pre).size = (({} : RW).run p.ops).size := by
  obtain ⟨h1, h2, _, _⟩ := prog_recorded_is_received p hv
  exact ⟨h1.symm, h2.symm⟩

/-- the not-found exit answers like some valid writer program: the NoRoute handler's own program, or the router's
    responders `WriteHeader(404|405); Write(body)` -/
theorem lemma_notFound_prog (f : Facts) (p : Prog) (l : Option Bytes) (hv : progValid p) :
    ∃ q : Prog, progValid q ∧ (notFound f p l).status = q.resp.1 ∧ (notFound f p l).size = q.resp.2.1 := by
  unfold notFound
  cases f.allowed
  · cases f.noRoute
    · exact ⟨.explicit 404 "Not Found\n".length, ⟨by decide, by decide⟩, rfl, rfl⟩
    · exact ⟨p, hv, rfl, rfl⟩
  · exact ⟨.explicit 405 "Method Not Allowed\n".length, ⟨by decide, by decide⟩, rfl, rfl⟩

/-- **recorded = received on every exit of the dispatch**: whatever path the request takes, the status / size the model
    reports are those of a valid writer program, hence (by `prog_recorded_is_received`) exactly what the wrapper reads
    for the end callback and what net/http sent -/
theorem dispatch_status_is_recorded (f : Facts) (p : Prog) (hv : progValid p) :
    ∃ q : Prog, progValid q ∧
      (dispatch false f p).status = (({} : RW).run q.ops).StatusCode ∧ (dispatch false f p).size = (({} : RW).run q.ops).size ∧
      (dispatch false f p).status = (({} : RW).run q.ops).under.clientStatus ∧
      (dispatch false f p).size = (({} : RW).run q.ops).under.size := by
  obtain ⟨q, hq, h1, h2⟩ := dispatch_cases f p
      (fun d => ∃ q : Prog, progValid q ∧ d.status = q.resp.1 ∧ d.size = q.resp.2.1)
    (fun _ _ _ _ _ _ _ => ⟨p, hv, rfl, rfl⟩)
    (fun _ _ => ⟨.explicit 410 (sunsetBody f.version), ⟨by decide, by decide⟩, rfl, rfl⟩)
    (lemma_notFound_prog f p _ hv)
  obtain ⟨r1, r2, r3, r4⟩ := prog_recorded_is_received q hq
  exact ⟨q, hq, h1.trans r1.symm, h2.trans r2.symm, h1.trans r3.symm, h2.trans r4.symm⟩

/-- non-vacuity: the probe programs are valid; below, what the wrapper reports for two of them -/
example : progValid (Prog.twice 201 17) ∧ progValid (Prog.flushed 500 4) ∧ progValid Prog.silent := by
  refine ⟨by simp [progValid, finalCode, isInfo], by simp [progValid], by simp [progValid]⟩

example : (({} : RW).run (Prog.twice 201 17).ops).StatusCode = 201 ∧ (({} : RW).run (Prog.twice 201 17).ops).size = 17 := by decide
example : (({} : RW).run Prog.silent.ops).StatusCode = 200 := by decide

end Rivaas.C08
