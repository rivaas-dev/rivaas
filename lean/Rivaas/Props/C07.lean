import Rivaas.Lemmas.OpenAPIWF
import Rivaas.Lemmas.OpenAPIProv
import Rivaas.Lemmas.OpenAPIEval
/-
C07 — property theorems (generated OpenAPI documents are valid, closed, complete and deterministic).

`Generate` (`generate`, `Model/OpenAPIBuild.lean`) against the oracle `docOK` of `Spec/OpenAPI.lean`, which the
driver evaluates on the documents the real code produces: one theorem per conjunct, each read off `generate_ok`
and the invariant of `Lemmas/OpenAPI*` (`build_post`, `build_item`, `OpShape`), then the whole
(`generate_meets_spec`). The validator is a parameter (`validation_transparent`); determinism is invariance under
the order in which the two Go maps are ranged over; the behaviour as shipped (K07b, K07c, K07h) has a witness
each.
-/
namespace Rivaas.C07
open Rivaas.OpenAPI

/-! ### `$ref` closure -/

/-- Whatever the type environment (recursive, mutually recursive, generic, colliding
    names), the operations, the version and the validator: every `$ref` of a produced document — in a
    parameter, a request body, a response or inside a component — is `#/components/schemas/<k>` for a
    key `k` of `components.schemas`, and resolves as a JSON pointer. -/
theorem refs_closed (cfg : ApiCfg) (v : Version) (strict : Bool) (V : Option (Doc Schema → Bool)) (env : Env) (ops : List OpIn)
    (d : Doc Schema) (h : generate cfg v strict V env ops = .ok d) : refsClosed d = true := by
  obtain ⟨paths, comps, hb, rfl, _⟩ := generate_ok h
  obtain ⟨hops, hcomps, _⟩ := build_post env ops paths comps hb
  show refsClosed (projDoc v paths comps) = true
  simp only [refsClosed, List.all_eq_true, Doc.allRefs, List.mem_flatMap]
  rintro r ⟨x, hx, hr⟩
  rw [projDoc_keys]
  apply resolves_of_inNames (fun k hk => by
    simp only [List.mem_map] at hk
    obtain ⟨ks, hks, rfl⟩ := hk
    exact (hcomps ks hks).1)
  have hgood : ∃ y : IR, Good (comps.map (·.1)) y ∧ x = projSchema v y := by
    rcases mem_projDoc_allSchemas hx with ⟨pi, hpi, mo, hmo, y, hy, rfl⟩ | ⟨ks, hks, rfl⟩
    · exact ⟨y, hops pi hpi mo hmo y hy, rfl⟩
    · exact ⟨ks.2, (hcomps ks hks).2, rfl⟩
  obtain ⟨y, hy, rfl⟩ := hgood
  have : Tree.All (fun _ : Attrs => True) (InNames (comps.map (·.1))) (projSchema v y) := by
    cases v <;> exact Tree.All.project (fun _ _ => trivial) y hy
  exact Tree.All.refs _ this r hr

/-- non-vacuity of the hypothesis `generate … = .ok d`: a route with a parameter generates a document
    (3.1, validation on with a validator that accepts) -/
example :
    (match generate {} .v31 true (some fun _ => true) []
        [{ method := s "GET", path := s "/n/:id", summary := [], description := [], opID := [], req := none, resps := [] }] with
     | .ok d => d.opIds == [s "getNById"] && d.paths.map (·.1) == [s "/n/{id}"]
     | .error _ => false) = true := by decide +kernel

/-- non-vacuity on a recursive type (`type Node struct{ Next *Node }`): generation terminates, returns a
    reference, and the registered component refers to itself — the situation the invariant of
    `refs_closed` is about (evaluated with the equations of Lemmas/OpenAPIEval: `decide` does not unfold
    well-founded recursion) -/
example : gen envR [] [] (.named 0) [] =
    (refTo (s "pa.Node"), [(s "pa.Node", objNode [] (.cons (s "next") (refTo (s "pa.Node")) .nil))]) := envR_eval

/-! ### component names (K07c) -/

/-- Every key of `components.schemas` matches `^[a-zA-Z0-9._-]+$`. -/
theorem names_wellformed (cfg : ApiCfg) (v : Version) (strict : Bool) (V : Option (Doc Schema → Bool)) (env : Env) (ops : List OpIn)
    (d : Doc Schema) (h : generate cfg v strict V env ops = .ok d) : namesOK d = true := by
  obtain ⟨paths, comps, hb, rfl, _⟩ := generate_ok h
  obtain ⟨_, hcomps, _⟩ := build_post env ops paths comps hb
  show namesOK (projDoc v paths comps) = true
  simp only [namesOK, List.all_eq_true, projDoc, List.mem_map]
  rintro ks' ⟨ks, hks, rfl⟩
  exact (hcomps ks hks).1

/-- the name function itself: empty (anonymous struct, never registered) or well formed -/
theorem schemaName_ok (name pkgPath : B) : schemaName name pkgPath = [] ∨ nameOK (schemaName name pkgPath) = true :=
  schemaName_wellformed name pkgPath

/-! ### operation ids -/

theorem lemma_opIds_perm (v : Version) (paths : List (B × PathItem IR)) (comps : List (B × IR)) :
    List.Perm (projDoc v paths comps).opIds (pathsIds paths) := by
  simp only [Doc.opIds, Doc.operations, projDoc, List.flatMap_map, List.map_flatMap, pathsIds]
  apply perm_flatMap_congr
  intro pi _
  simp only [List.map_map]
  refine ((sortByKey_perm _).map _).trans ?_
  simp only [List.map_map, itemIds]
  exact List.Perm.of_eq (List.map_congr_left fun mo _ => rfl)

/-- `Generate` returns an error (`duplicate operation ID`) or a document whose
    operationIds are pairwise different — for generated and custom ids, for operations that are dropped
    (TRACE, custom methods) or overwritten (same method and path twice). -/
theorem opids_unique_or_error (cfg : ApiCfg) (v : Version) (strict : Bool) (V : Option (Doc Schema → Bool)) (env : Env)
    (ops : List OpIn) (d : Doc Schema) (h : generate cfg v strict V env ops = .ok d) : opIdsUnique d = true := by
  obtain ⟨paths, comps, hb, rfl, _⟩ := generate_ok h
  obtain ⟨_, _, hnd⟩ := build_post env ops paths comps hb
  show opIdsUnique (projDoc v paths comps) = true
  rw [opIdsUnique, nodupB_iff]
  exact (lemma_opIds_perm v paths comps).nodup_iff.2 hnd

/-- the error does occur: two routes whose generated ids coincide -/
example :
    (match generate {} .v30 false none []
        [{ method := s "GET", path := s "/users/:id", summary := [], description := [], opID := [], req := none, resps := [] },
         { method := s "GET", path := s "/user/:id", summary := [], description := [], opID := [], req := none, resps := [] }] with
     | .ok _ => false
     | .error e => e == .dupOp) = true := by decide +kernel

/-! ### path parameters -/

/-- For every operation handed in whose route passed `ValidatePath` (the
    constructors panic otherwise) and that is not overwritten by a later one with the same key and
    method: the route's path with every `:name` written `{name}` is a key of `paths`; under it, the
    operation has, for every `:name`, `{name}` as a segment of the key and exactly one parameter with
    `in: path` and that name, and it is `required` — whether the request struct declares the parameter
    (once or several times, in an embedded struct or not) or not. -/
theorem path_params_complete (cfg : ApiCfg) (v : Version) (strict : Bool) (V : Option (Doc Schema → Bool)) (env : Env)
    (ops : List OpIn) (d : Doc Schema) (henv : EnvNamed env) (hvalid : ∀ op ∈ ops, validatePath op.path = true)
    (h : generate cfg v strict V env ops = .ok d) : pathParamsOK ops d = true := by
  obtain ⟨paths, comps, hb, rfl, _⟩ := generate_ok h
  show pathParamsOK ops (projDoc v paths comps) = true
  simp only [pathParamsOK, List.all_eq_true]
  intro op0 hs
  have hop0 : op0 ∈ ops := survives_sub ops op0 hs
  have hkey : specPathKey op0.path ∈ paths.map (·.1) := (build_keys hb _).2 ⟨op0, hop0, convertPath_eq_spec _⟩
  cases hl : paths.lookup (specPathKey op0.path) with
  | none => exact absurd hkey ((List.lookup_eq_none_iff_not_mem paths _).1 hl)
  | some item =>
    -- both lookups of the oracle, read in the builder's path item
    obtain ⟨hnd, hlk⟩ := build_item hb (List.mem_of_lookup_some _ _ _ hl)
    have hm := hlk (specMember op0.method)
    rw [projDoc_lookup, hl]
    dsimp only [Option.map_some]
    rw [projItem_lookup _ hnd]
    by_cases hstd : storedMembers.contains (specMember op0.method) = true
    · rw [lastStored_survivor hs (List.contains_iff_mem.1 hstd)] at hm
      obtain ⟨o, ho, st, so, st', so', hbo⟩ := hm
      rw [ho]
      exact opPathParamsOK_of_shape ((buildOperation_shape env henv op0 st so o st' so' (hvalid op0 hop0) hbo).map (projSchema v))
    · -- TRACE and custom methods: nothing is stored under the member, and the oracle asks nothing
      cases hls : lastStored (specMember op0.method) (ops.filter fun x => convertPath x.path = specPathKey op0.path) with
      | some op => exact absurd (List.contains_iff_mem.2 (methodMember_some (lastStored_some hls).2).2.1) hstd
      | none =>
        rw [hls] at hm
        rw [hm]
        exact Bool.or_eq_true_iff.2 (Or.inr (by rw [Bool.not_eq_true', Bool.eq_false_iff]; exact hstd))

/-- non-vacuity: `/n/:id/:k` gives two required path parameters -/
example :
    (match generate {} .v30 false none []
        [{ method := s "GET", path := s "/n/:id/:k", summary := [], description := [], opID := [], req := none, resps := [] }] with
     | .ok d => pathParamsOK [{ method := s "GET", path := s "/n/:id/:k", summary := [], description := [], opID := [], req := none, resps := [] }] d &&
                d.operations.map (fun o => o.params.map (·.name)) == [[s "id", s "k"]]
     | .error _ => false) = true := by decide +kernel

/-! ### WF: the transcribed fragment of the meta-schemas (partial) -/

/-- Every produced document satisfies `wfDoc` — the fragment of the 3.0 / 3.1 meta-schema
    transcribed in Spec/OpenAPI.lean: the `openapi` pattern, and in 3.0 no `jsonSchemaDialect` and no `info.summary`;
    path keys start with `/`; path item members are operation members; parameters have a name,
    `in` ∈ {query, header, path, cookie}, `required: true` when `in: path`, a `style` the location admits (K07l), and are
    unique by (in, name) (uniqueItems — K07g); `responses` is not empty, its keys match `[1-5](\d\d|XX)` (K07e), every
    response has a description and not both `example` and `examples`; every Schema Object — in a
    parameter, body, response or component, at any depth — carries only members the version admits, with
    admissible values (`type` names, `required` non-empty without duplicates — K07d, `enum` non-empty,
    `nullable`/boolean `exclusive…` only in 3.0, `type` arrays / numeric `exclusive…` / `examples` /
    `contentEncoding` only in 3.1, non-negative integer `minLength`/`maxLength`).
    This is not the whole meta-schema: see notes/C07.md; full validity is checked per case against
    the repository's embedded meta-schema (differential evidence). -/
theorem wf_doc (cfg : ApiCfg) (v : Version) (strict : Bool) (V : Option (Doc Schema → Bool)) (env : Env)
    (ops : List OpIn) (d : Doc Schema) (henv : EnvNamed env) (hvalid : ∀ op ∈ ops, validatePath op.path = true)
    (h : generate cfg v strict V env ops = .ok d) : wfDoc v d = true := by
  obtain ⟨paths, comps, hb, rfl, _⟩ := generate_ok h
  obtain ⟨hgood, hcomps, _⟩ := build_post env ops paths comps hb
  simp only [wfDoc, Bool.and_eq_true, List.all_eq_true]
  refine ⟨⟨?_, ?_⟩, ?_⟩
  · -- the version members do not depend on `cfg`: `projDoc` writes the `openapi` string and the dialect of the version,
    -- `applyCfg` the literal `[]` as the summary of a 3.0 document; what is left to evaluate is closed
    cases v <;> simp only [projDoc, applyCfg] <;> decide +kernel
  · intro pi'' hpi''
    simp only [applyCfg, projDoc, List.mem_map] at hpi''
    obtain ⟨pi, hpi, rfl⟩ := hpi''
    constructor
    · obtain ⟨op, hop, e⟩ := (build_keys hb pi.1).1 (List.mem_map.2 ⟨pi, hpi, rfl⟩)
      simp only []
      rw [← e]
      exact validatePath_slash (hvalid op hop)
    · intro mo'' hmo''
      have hm := mem_sortByKey.1 hmo''
      obtain ⟨mo, hmo, rfl⟩ := List.mem_map.1 hm
      obtain ⟨op, hlast, st, so, st', so', hbo⟩ := build_prov hb hpi hmo
      obtain ⟨hopf, hmem⟩ := lastStored_some hlast
      have hop : op ∈ ops := (List.mem_filter.1 hopf).1
      have hshape := buildOperation_shape env henv op st so mo.2 st' so' (hvalid op hop) hbo
      constructor
      · exact (methodMember_some hmem).2.2
      · apply wfOperation_of_shape v (hshape.map (projSchema v))
        intro x hx
        obtain ⟨y, hy, rfl⟩ := mem_schemas_map hx
        exact wfSchema_proj v _ y (hgood pi hpi mo hmo y hy)
  · intro ks' hks'
    simp only [applyCfg, projDoc, List.mem_map] at hks'
    obtain ⟨ks, hks, rfl⟩ := hks'
    exact wfSchema_proj v _ ks.2 (hcomps ks hks).2

/-! ### the whole oracle, and the validator -/

/-- `Generate` returns an error or a document on which the whole oracle
    `docOK` holds (references closed, path parameters complete, operation ids unique, component names
    well formed, WF) — for every type environment (recursive, generic, colliding names), every operation
    set, both versions, strict on or off, and every validator. Hypotheses: the routes passed
    `ValidatePath` (otherwise no operation exists: the constructors panic) and struct fields have names
    (a fact about `reflect`). -/
theorem generate_meets_spec (cfg : ApiCfg) (v : Version) (strict : Bool) (V : Option (Doc Schema → Bool)) (env : Env)
    (ops : List OpIn) (d : Doc Schema) (henv : EnvNamed env) (hvalid : ∀ op ∈ ops, validatePath op.path = true)
    (h : generate cfg v strict V env ops = .ok d) : docOK v ops d = true := by
  simp only [docOK, Bool.and_eq_true]
  exact ⟨⟨⟨⟨refs_closed cfg v strict V env ops d h, path_params_complete cfg v strict V env ops d henv hvalid h⟩,
    opids_unique_or_error cfg v strict V env ops d h⟩, names_wellformed cfg v strict V env ops d h⟩,
    wf_doc cfg v strict V env ops d henv hvalid h⟩

/-- non-vacuity of `generate_meets_spec`: hypotheses met, a document is produced, the oracle evaluates to
    true (kept small: kernel evaluation duplicates `let`-bound recursive results; no response type:
    `decide` cannot run the well-founded `gen`) -/
example :
    let ops : List OpIn :=
      [{ method := s "POST", path := s "/o/:id", summary := s "s", description := [], opID := [], req := none,
         resps := [(201, s "Created", none)] }]
    (ops.all (fun op => validatePath op.path) &&
     (match generate {} .v30 true none [] ops with
      | .ok d => docOK .v30 ops d && d.opIds == [s "createOById"]
      | .error _ => false)) = true := by decide +kernel

/-- Switching on the built-in validation never rejects a document the
    validator accepts, and never changes it: with validation on the result is the document generated
    with validation off when the validator accepts it, and the `validation` error otherwise. (The
    validator is a parameter: the jsonschema library on the embedded meta-schema; that the real wiring
    behaves like this model is what the correspondence run checks — K07a.) -/
theorem validation_transparent (cfg : ApiCfg) (v : Version) (strict : Bool) (ok : Doc Schema → Bool) (env : Env) (ops : List OpIn) :
    generate cfg v strict (some ok) env ops =
      match generate cfg v strict none env ops with
      | .ok d => if ok d then .ok d else .error .validation
      | .error e => .error e := by
  unfold generate
  cases build env ops with
  | error e => rfl
  | ok r =>
    simp only []
    cases project cfg strict v r.1 r.2 <;> rfl

/-! ### determinism: map iteration order (K07h) -/

/-- `Build` ranges over the Go map `byPath`. Whatever order the runtime
    iterates it in — every permutation of its entries — the result (path items, component schemas,
    error) is the same: the keys are visited in sorted order. -/
theorem deterministic_path_order (env : Env) (g g' : List (B × List OpIn)) (hp : List.Perm g g')
    (hk : (g.map (·.1)).Nodup) : buildFromGroups env g' = buildFromGroups env g := by
  unfold buildFromGroups
  rw [sortByKey_perm_invariant hp hk]

/-- the hypothesis of `deterministic_path_order` is met by the map `Build` constructs, for all operations -/
theorem deterministic (env : Env) (ops : List OpIn) (g' : List (B × List OpIn)) (hp : List.Perm (groupByPath ops) g') :
    buildFromGroups env g' = build env ops :=
  deterministic_path_order env _ _ hp (groupByPath_keys_nodup ops)

/-- `buildOperation` ranges over the Go map `doc.ResponseTypes`;
    every iteration order gives the same operation, registry and error. -/
theorem deterministic_status_order (env : Env) (op : OpIn) (resps' : List (Nat × B × Option Ty)) (st : Schemas)
    (so : List B) (hp : List.Perm op.resps resps') (hk : (op.resps.map (·.1)).Nodup) :
    buildOperation env { op with resps := resps' } st so = buildOperation env op st so := by
  have hempty : resps'.isEmpty = op.resps.isEmpty := hp.isEmpty_eq.symm
  have hdoc : OpIn.hasDoc { op with resps := resps' } = op.hasDoc := by simp only [OpIn.hasDoc, hempty]
  have hid : opIdOf { op with resps := resps' } = opIdOf op := by simp only [opIdOf, hdoc]
  unfold buildOperation
  simp only [hdoc, hid, sortStatuses_perm_invariant hp hk]

/-- non-vacuity of the determinism theorems: a permuted map with distinct keys -/
example : List.Perm [(s "/b", ([] : List OpIn)), (s "/a", [])] [(s "/a", []), (s "/b", [])] ∧
    ([(s "/b", ([] : List OpIn)), (s "/a", [])].map (·.1)).Nodup := by
  refine ⟨List.Perm.swap _ _ _, by decide⟩

/-- as shipped (before K07h) the paths were visited in map iteration order, and with two types that
    share a component name the registry depends on that order: visiting `a/dup.I` then `b/dup.I`
    registers a different `dup.I` than the other way round -/
theorem asIs_iteration_order_witness :
    (gen envW [] [] (.named 1) (gen envW [] [] (.named 0) []).2).2 ≠
    (gen envW [] [] (.named 0) (gen envW [] [] (.named 1) []).2).2 := by
  have hk : ∀ x : IR, hasKey [(s "dup.I", x)] (s "dup.I") = true := fun x => by simp [hasKey]
  rw [envW_first, envW_second]
  rw [gen_struct_known (n := s "I") (p := s "b/dup") (fs := [.field (fmW "B" "b") (.prim .bool)]) rfl (by simp)
    schemaName_dupI.2.2 (by rw [schemaName_dupI.2.1]; exact hk _)]
  rw [gen_struct_known (n := s "I") (p := s "a/dup") (fs := [.field (fmW "A" "a") (.prim .string)]) rfl (by simp)
    schemaName_dupI.1.2 (by rw [schemaName_dupI.1.1]; exact hk _)]
  simp [objNode, s]

/-- first writer wins (the mechanism behind the witness) -/
theorem first_writer_wins {env : Env} {id : Nat} {n p : B} {fs : List Field} {st : Schemas}
    (hl : env.lookup id = some (.struct n p fs)) (hn : schemaName n p ≠ [])
    (hk : hasKey st (schemaName n p) = true) :
    gen env [] [] (.named id) st = (refTo (schemaName n p), st) :=
  gen_struct_known hl (by simp) hn hk

/-- as shipped (before K07c) an instantiated generic type gives a key outside the pattern -/
theorem schemaNameAsIs_witness :
    nameOK (schemaNameAsIs (s "Page[example.com/api.Item]") (s "example.com/api")) = false := by decide +kernel

theorem schemaName_fixed_on_witness :
    schemaName (s "Page[example.com/api.Item]") (s "example.com/api") = s "api.Page_example.com_api.Item_" := by decide +kernel

/-! ### time.Time example (K07b) -/

theorem lemma_timeSchemaAsIs_inj {a b : B} (h : timeSchemaAsIs a = timeSchemaAsIs b) : a = b :=
  congrArg Head.exampleV (Tree.node.inj h).1

/-- as shipped the schema of `time.Time` depended on the clock -/
theorem timeSchemaAsIs_witness :
    timeSchemaAsIs (s "2026-09-26T10:00:00Z") ≠ timeSchemaAsIs (s "2026-09-26T10:00:01Z") :=
  fun h => absurd (s_inj.1 (lemma_timeSchemaAsIs_inj h)) (by simp only [String.reduceEq, not_false_eq_true])

/-! ### API options that reach the document: servers, info.summary, StrictDownlevel -/

/-- `StrictDownlevel`: with a 3.0 target and an `info.summary` configured, strict mode never produces a document
    (the error the option exists for), whatever the validator -/
theorem strict_summary_is_error (cfg : ApiCfg) (V : Option (Doc Schema → Bool)) (env : Env) (ops : List OpIn)
    (d : Doc Schema) (hs : cfg.summary ≠ []) : generate cfg .v30 true V env ops ≠ .ok d := by
  intro h
  obtain ⟨_, _, _, _, hstrict⟩ := generate_ok h
  exact hstrict ⟨rfl, rfl, hs⟩

/-- without strict mode the 3.0 projection drops the summary (a 3.0 Info Object with a `summary` member would fail
    the meta-schema — this is also a conjunct of `wfDoc`, proved by `wf_doc`); the 3.1 projection keeps it -/
theorem summary_projection (cfg : ApiCfg) (v : Version) (strict : Bool) (V : Option (Doc Schema → Bool)) (env : Env)
    (ops : List OpIn) (d : Doc Schema) (h : generate cfg v strict V env ops = .ok d) :
    d.infoSummary = (match v with | .v30 => [] | .v31 => cfg.summary) := by
  obtain ⟨paths, comps, _, rfl, _⟩ := generate_ok h
  cases v <;> rfl

/-- configured servers are written as they are; without any, 3.1 gets the default server `/` and 3.0 none -/
theorem servers_projection (cfg : ApiCfg) (v : Version) (strict : Bool) (V : Option (Doc Schema → Bool)) (env : Env)
    (ops : List OpIn) (d : Doc Schema) (h : generate cfg v strict V env ops = .ok d) :
    d.servers = if cfg.servers.isEmpty then (match v with | .v30 => [] | .v31 => [s "/"]) else cfg.servers := by
  obtain ⟨paths, comps, _, rfl, _⟩ := generate_ok h
  cases v <;> rfl

/-- not vacuous: the same summary is an error under strict 3.0, dropped under plain 3.0, kept under 3.1 -/
example :
    let ops : List OpIn := [{ method := s "GET", path := s "/a", summary := s "x", description := [], opID := [], req := none, resps := [] }]
    let cfg : ApiCfg := { summary := s "An API" }
    ((match generate cfg .v30 true none [] ops with | .error .strict => true | _ => false),
     (match generate cfg .v30 false none [] ops with | .ok d => d.infoSummary.isEmpty | _ => false),
     (match generate cfg .v31 true none [] ops with | .ok d => d.infoSummary == s "An API" | _ => false)) = (true, true, true) := by
  decide +kernel

/-! ### `WithResponse` option handling: the example maps, folded by the model -/

/-- "single example OR named examples": whatever sequence of `WithResponse` calls an operation was built from, a
    response's media type never gets both members (the Media Type Object does not admit both; `wfResp` demands it and
    `wf_doc` proves it for every generated document) -/
theorem response_examples_exclusive (opts : List RespOpt) (status : Nat) :
    ¬ ((exampleOf opts status).1 = true ∧ (exampleOf opts status).2 ≠ []) :=
  exampleOf_exclusive opts status

/-- named examples win over a sample value documented for the same status, in whichever order the two calls came -/
theorem named_examples_win (opts : List RespOpt) (status : Nat) (h : namedOf opts status ≠ []) :
    (exampleOf opts status).1 = false := by
  unfold exampleOf
  simp only []
  split
  · rename_i he; exact absurd (List.isEmpty_iff.mp he) h
  · rfl

/-- the last call with named examples decides which ones -/
theorem last_named_call_decides (opts : List RespOpt) (o : RespOpt) (hn : o.nilValue = false) (hne : o.named ≠ []) :
    namedOf (opts ++ [o]) o.status = o.named := by
  unfold namedOf
  have : (o.status == o.status && !o.nilValue && !o.named.isEmpty) = true := by
    simp [hn, hne]
  rw [List.filter_append]
  simp only [List.filter, this, List.getLast?_append, List.getLast?_singleton, Option.some_or]

/-- not vacuous: a sample value first and named examples later, and the reverse -/
example :
    let a : RespOpt := { status := 200, nilValue := false, nonZero := true, named := [] }
    let b : RespOpt := { status := 200, nilValue := false, nonZero := false, named := [s "ok", s "alt", s "ok"] }
    (exampleOf [a] 200, exampleOf [a, b] 200, exampleOf [b, a] 200, exampleOf [a, b] 404) =
      ((true, []), (false, [s "alt", s "ok"]), (false, [s "alt", s "ok"]), (false, [])) := by decide +kernel

/-! ### validation: what can be said about the validator itself

`validation_transparent` is about any validator `V` (a parameter: the jsonschema library on the embedded
meta-schema): it is a statement about the wiring — validation on filters with `V` and never alters a document. That
`V` accepts what is valid is, for the real `V`, observed per case (meta-schema verdict, validator probe). For a
validator that asks no more than the oracle, and so for the part of the meta-schemas that is transcribed (`wfDoc`), it is a
theorem: -/

/-- any validator that accepts every document satisfying the whole oracle `docOK`
    accepts every generated document — validation on equals validation off for it -/
theorem sound_validator_never_rejects (cfg : ApiCfg) (v : Version) (strict : Bool) (ok : Doc Schema → Bool) (env : Env)
    (ops : List OpIn) (henv : EnvNamed env) (hvalid : ∀ op ∈ ops, validatePath op.path = true)
    (hok : ∀ d, docOK v ops d = true → ok d = true) :
    generate cfg v strict (some ok) env ops = generate cfg v strict none env ops := by
  rw [validation_transparent]
  cases h : generate cfg v strict none env ops with
  | error e => rfl
  | ok d =>
    simp only []
    rw [hok d (generate_meets_spec cfg v strict none env ops d henv hvalid h)]
    rfl

/-- in particular, with the transcribed fragment of the meta-schema as the
    validator, switching validation on changes nothing at all — every document `Generate` produces is accepted (this is
    `wf_doc`, a conjunct of `docOK`, used as a statement about validation: a validator that checks no more than `wfDoc`
    cannot reject a generated document; what the real meta-schema demands beyond the fragment is covered by
    correspondence only) -/
theorem fragment_validator_never_rejects (cfg : ApiCfg) (v : Version) (strict : Bool) (env : Env) (ops : List OpIn)
    (henv : EnvNamed env) (hvalid : ∀ op ∈ ops, validatePath op.path = true) :
    generate cfg v strict (some (wfDoc v)) env ops = generate cfg v strict none env ops :=
  sound_validator_never_rejects cfg v strict (wfDoc v) env ops henv hvalid fun d h => by
    simp only [docOK, Bool.and_eq_true] at h
    exact h.2

/-! ### non-vacuity over a non-empty type environment

`decide` cannot run the well-founded `gen`; the witness is evaluated by rewriting with the evaluation lemmas of
`Lemmas/OpenAPIEval.lean` (`envW`: two struct types; the operation's response type is the first). -/

def opW : OpIn := { method := s "GET", path := s "/a/:id", summary := s "s", description := [], opID := [], req := none,
                    resps := [(200, s "OK", some (.named 0))] }

theorem lemma_genResps_W : genResps envW (sortStatuses opW.resps) [] =
    .ok ([{ code := s "200", description := s "OK", schema := some (refTo (s "dup.I")) }],
         [(s "dup.I", objNode [] (.cons (s "a") (primSchema .string) .nil))]) := by
  have hs : sortStatuses opW.resps = [(200, s "OK", some (.named 0))] := rfl
  rw [hs, genResps]
  have hc : validResponseCode (itoa 200) = true := by decide +kernel
  simp only [hc, Bool.not_true, Bool.false_eq_true, if_false, ne_eq]
  rw [envW_first]
  simp only [genResps]
  have h1 : itoa 200 = s "200" := by decide +kernel
  have h2 : (if s "OK" = [] then s "Response" else s "OK") = s "OK" := by decide +kernel
  simp [h1, h2]

theorem lemma_buildOperation_W : ∃ o st, buildOperation envW opW [] [] = .ok (o, st, [opIdOf opW]) := by
  unfold buildOperation
  have hd : ([] : List B).contains (opIdOf opW) = false := by decide +kernel
  have hdoc : opW.hasDoc = true := by decide +kernel
  have hreq : opW.req.bind (introspect envW) = none := by decide +kernel
  simp only [hd, hdoc, Bool.false_eq_true, if_false, Bool.not_true, hreq, opParams, opBody]
  have hst : ((extractPathParams opW.path).all fun p => styleOK p.loc p.style) = true := by decide +kernel
  simp only [hst, Bool.not_true, Bool.false_eq_true, if_false, lemma_genResps_W]
  exact ⟨_, _, rfl⟩

theorem lemma_generate_W : ∃ d, generate {} .v30 false none envW [opW] = .ok d := by
  obtain ⟨o, st, hb⟩ := lemma_buildOperation_W
  have hg : sortByKey (groupByPath [opW]) = [(convertPath opW.path, [opW])] := rfl
  have hm : methodMember opW.method = some (s "get") := by decide +kernel
  unfold generate build buildFromGroups
  rw [hg]
  simp only [buildGroups, buildGroup, hb, hm]
  unfold project
  simp

/-- hypotheses of `generate_meets_spec` met over a non-empty environment with struct fields, `Generate` returns a
    document, and the whole oracle holds on it -/
theorem nonempty_env_witness :
    EnvNamed envW ∧ (∀ op ∈ [opW], validatePath op.path = true) ∧
    ∃ d, generate {} .v30 false none envW [opW] = .ok d ∧ docOK .v30 [opW] d = true := by
  have henv : EnvNamed envW := by
    intro e he n p fs hdef f hf m t hft
    simp only [envW, List.mem_cons, List.not_mem_nil, or_false] at he
    -- either entry is a struct with one field, and that field has a name
    rcases he with rfl | rfl
    all_goals
      obtain ⟨_, _, rfl⟩ := Def.struct.inj hdef
      obtain rfl := List.mem_singleton.mp hf
      obtain ⟨rfl, _⟩ := Field.field.inj hft
      decide +kernel
  have hv : ∀ op ∈ [opW], validatePath op.path = true := by
    intro op hop; simp only [List.mem_singleton] at hop; subst hop; decide
  obtain ⟨d, hd⟩ := lemma_generate_W
  exact ⟨henv, hv, d, hd, generate_meets_spec {} .v30 false none envW [opW] d henv hv hd⟩

end Rivaas.C07
