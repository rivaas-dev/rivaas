import Rivaas.Spec.RealIP
import Rivaas.Model.RealIPText
import Rivaas.Model.RemoteAddr
import Rivaas.Lemmas.ListCore
/-
C18 — Client IP resolution cannot be spoofed by untrusted peers: `Context.ClientIP` (router/proxies.go) and
`IsLocalhost` (router/request.go). The model's `clientIP` (a right-to-left walk over the X-Forwarded-For items) meets
the oracle `specOK` of Spec/RealIP; the same through the header text (`splitAndTrim`, Model/RealIPText) and the
RemoteAddr forms (Model/RemoteAddr); witnesses for the walk as shipped (K18a, K18b) and for the header order that
shadows X-Forwarded-For (K18c). Helper lemmas are named `lemma_…`.
-/
namespace Rivaas.C18
open Rivaas.RealIP

/-- the walk ends on one of its items or takes none and ends on the boundary it started with; with nothing seen yet and
    a hop left it would take the first item that parses, so then none does -/
theorem lemma_walk_result (mh : Nat) (l : List Item) (hops : Nat) (seen : Bool) (b : Option (Bytes × Bool)) :
    (walk mh l hops seen b = b ∧ (seen = false → hops < mh → ∀ it ∈ l, it = none)) ∨
      ∃ x, some x ∈ l ∧ walk mh l hops seen b = some x := by
  have took {x rest hops seen} {q : Prop} (ih : (walk mh rest hops seen (some x) = some x ∧ q) ∨
      ∃ y, some y ∈ rest ∧ walk mh rest hops seen (some x) = some y) :
      ∃ y, some y ∈ some x :: rest ∧ walk mh rest hops seen (some x) = some y :=
    ih.elim (fun e => ⟨x, List.mem_cons_self .., e.1⟩) fun ⟨y, hm, e⟩ => ⟨y, List.mem_cons_of_mem _ hm, e⟩
  induction l generalizing hops seen b with
  | nil => exact .inl ⟨rfl, fun _ _ => nofun⟩
  | cons it rest ih =>
    rcases it with _ | ⟨ip, _ | _⟩ <;> simp only [walk]
    · exact (ih hops seen b).imp
        (fun ⟨e, hn⟩ => ⟨e, fun hs hlt it hit => (List.mem_cons.mp hit).elim id (hn hs hlt it)⟩)
        fun ⟨y, hm, e⟩ => ⟨y, List.mem_cons_of_mem _ hm, e⟩
    · exact .inr (took (ih ..))
    · split
      · rename_i hs
        exact .inl ⟨rfl, fun hf => absurd (hs ▸ hf) nofun⟩
      · split
        · rename_i hge
          exact .inl ⟨rfl, fun _ hlt => absurd hge (Nat.not_le.mpr hlt)⟩
        · exact .inr (took (ih ..))

theorem lemma_walk_seen (mh : Nat) (l : List Item) (hops : Nat) (b : Option (Bytes × Bool)) (hb : isUntrusted b) :
    isUntrusted (walk mh l hops true b) := by
  induction l generalizing b with
  | nil => exact hb
  | cons it rest ih =>
    rcases it with _ | ⟨ip, _ | _⟩
    · exact ih b hb
    · exact ih _ trivial
    · exact hb

theorem lemma_walk_mem (mh : Nat) (l : List Item) (hops : Nat) (seen : Bool) (x : Bytes × Bool)
    (h : walk mh l hops seen none = some x) : some x ∈ l := by
  rcases lemma_walk_result mh l hops seen none with ⟨e, -⟩ | ⟨y, hm, e⟩
  · rw [e] at h; cases h
  · rw [e] at h; cases h; exact hm

theorem lemma_walk_none (mh : Nat) (l : List Item) (hops : Nat)
    (hlt : hops < mh) (h : walk mh l hops false none = none) : ∀ it ∈ l, it = none := by
  rcases lemma_walk_result mh l hops false none with ⟨_, hn⟩ | ⟨x, _, e⟩
  · exact hn rfl hlt
  · rw [e] at h; cases h

/-- Non-interference. If the directly connected peer is not trusted, forwarding headers have no
    influence: the result is the peer address for every header content. -/
theorem untrusted_peer_noninterference (r : Req) (h : r.peerTrusted = false) :
    clientIP r = r.peer := by
  simp [clientIP, h]

/-- Two requests that differ only in their headers resolve to the same address when the peer is
    untrusted (the relational form of non-interference). -/
theorem untrusted_peer_headers_irrelevant (r : Req) (hdrs' : List Hdr) (mh' : Nat)
    (h : r.peerTrusted = false) :
    clientIP { r with hdrs := hdrs', maxHops := mh' } = clientIP r := by
  simp [clientIP, h]

/-- for `hops > mh` the truncated subtraction gives the budget 0, and the walk takes no trusted item either: nothing
    has to relate `hops` to `mh` -/
theorem lemma_walk_within (mh : Nat) (l : List Item) (hops : Nat) (b : Option (Bytes × Bool))
    (h : untrustedWithin (mh - hops) l = true) : isUntrusted (walk mh l hops false b) := by
  induction l generalizing hops b with
  | nil => simp [untrustedWithin] at h
  | cons it rest ih =>
    match it with
    | none => exact ih hops b h
    | some (ip, false) => exact lemma_walk_seen mh rest hops _ trivial
    | some (ip, true) =>
      -- the budget `mh - hops` is positive, or `untrustedWithin` would have said no
      cases hm : mh - hops with
      | zero => rw [hm] at h; cases h
      | succ k =>
        rw [hm] at h
        simp only [walk, Nat.not_le.mpr (Nat.lt_of_sub_eq_succ hm), if_false, Bool.false_eq_true]
        exact ih (hops + 1) _ (by rw [Nat.sub_succ, hm]; exact h)

/-- Hop-limit clause, on the walk. If X-Forwarded-For names an untrusted address with at most
    `maxHops - hops` trusted addresses to its right, the walk ends on an untrusted address — never
    on a trusted proxy. -/
theorem walk_never_trusted (mh : Nat) (l : List Item) (hops : Nat) (b : Option (Bytes × Bool))
    (hle : hops ≤ mh) (h : untrustedWithin (mh - hops) l = true) :
    isUntrusted (walk mh l hops false b) :=
  lemma_walk_within mh l hops b h

/-- Hop-limit clause, on `lastUntrustedXFF`. The address taken from X-Forwarded-For is one of
    the header's *untrusted* addresses whenever one lies within the hop limit. -/
theorem xff_never_trusted (mh : Nat) (items : List Item)
    (h : untrustedWithin mh items.reverse = true) :
    ∃ ip, lastUntrustedXFF mh items = some ip ∧ ip ∈ xffUntrusted items := by
  have hu := lemma_walk_within mh items.reverse 0 none (by simpa using h)
  unfold lastUntrustedXFF
  match hw : walk mh items.reverse 0 false none with
  | none => simp [hw, isUntrusted] at hu
  | some (ip, true) => simp [hw, isUntrusted] at hu
  | some (ip, false) =>
    refine ⟨ip, by simp, ?_⟩
    simp only [xffUntrusted, List.mem_filterMap]
    exact ⟨some (ip, false), by simpa using lemma_walk_mem _ _ _ _ _ hw, rfl⟩

/-- the address taken from X-Forwarded-For is always one of its valid IP literals -/
theorem xff_result_is_item (mh : Nat) (items : List Item) (ip : Bytes)
    (h : lastUntrustedXFF mh items = some ip) : ip ∈ hdrIPs (.xff items) := by
  obtain ⟨x, hw, rfl⟩ := Option.map_eq_some_iff.mp h
  exact List.mem_filterMap.mpr ⟨some x, List.mem_reverse.mp (lemma_walk_mem _ _ _ _ _ hw), rfl⟩

/-- a header yields an address exactly when it offers at least one valid IP literal -/
theorem hdr_yields_iff_offers (mh : Nat) (hmh : 1 ≤ mh) (h : Hdr) :
    (hdrValue mh h).isSome = hdrOffers h := by
  cases h with
  | single v => cases v <;> simp [hdrValue, hdrOffers, hdrIPs]
  | xff items =>
    cases hv : lastUntrustedXFF mh items with
    | some ip => simp [hdrValue, hv, hdrOffers, List.ne_nil_of_mem (xff_result_is_item mh items ip hv)]
    | none =>
      -- no item parses, or the walk would have yielded one
      have hall := lemma_walk_none mh items.reverse 0 hmh (by simpa [lastUntrustedXFF] using hv)
      have : hdrIPs (.xff items) = [] :=
        List.filterMap_eq_nil_iff.mpr fun it hit => by simp [hall it (List.mem_reverse.mpr hit)]
      simp [hdrValue, hv, hdrOffers, this]

theorem lemma_hdrValue_mem (mh : Nat) (h : Hdr) (ip : Bytes) (hv : hdrValue mh h = some ip) : ip ∈ hdrIPs h := by
  cases h with
  | single v => simp only [hdrValue] at hv; simp [hdrIPs, hv]
  | xff items => exact xff_result_is_item _ _ _ hv

/-- with a hop to spend a header yields an address exactly when it offers one (`hdr_yields_iff_offers`), so the first
    header that yields is the first that offers: the form in which the oracle speaks of the header order -/
theorem lemma_firstHdr (mh : Nat) (hmh : 1 ≤ mh) (hs : List Hdr) :
    firstHdr mh hs = (hs.find? hdrOffers).bind (hdrValue mh) := by
  induction hs with
  | nil => rfl
  | cons h rest ih =>
    have hy := hdr_yields_iff_offers mh hmh h
    simp only [firstHdr, List.find?_cons]
    cases hv : hdrValue mh h with
    | none => simp only [← hy, hv, Option.isSome_none]; exact ih
    | some ip => simp only [← hy, hv, Option.isSome_some, Option.bind_some]

/-- For every request and configuration (hop limit ≥ 1, as `compileProxies` guarantees:
    `compileMaxHops_ge_one`) the resolved address satisfies the whole C18 oracle: peer for an untrusted peer;
    otherwise a valid literal from the first configured header that offers one (documented header
    order), the peer if none does; and an untrusted address whenever X-Forwarded-For names one
    within the hop limit. -/
theorem clientIP_meets_spec (r : Req) (hmh : 1 ≤ r.maxHops) : specOK r (clientIP r) = true := by
  unfold specOK clientIP
  cases hpt : r.peerTrusted with
  | false => simp
  | true =>
    simp only [Bool.not_true, Bool.false_eq_true, if_false, lemma_firstHdr _ hmh]
    cases hf : r.hdrs.find? hdrOffers with
    | none => simp
    | some h =>
      -- the first header that offers an address yields one
      obtain ⟨ip, hv⟩ := Option.isSome_iff_exists.mp ((hdr_yields_iff_offers _ hmh h).trans (List.find?_some hf))
      have hm := lemma_hdrValue_mem _ _ _ hv
      simp only [Option.bind_some, hv]
      cases h with
      | single v => simpa using hm
      | xff items =>
        simp only [Bool.and_eq_true, List.contains_iff_mem, hm, true_and]
        split
        · rename_i hw
          obtain ⟨ip', h1, h2⟩ := xff_never_trusted _ _ hw
          cases h1.symm.trans hv
          simpa using h2
        · rfl

/-- the same loop for any hop limit: the first address a header yields -/
theorem lemma_firstHdr_findSome (mh : Nat) (hs : List Hdr) : firstHdr mh hs = hs.findSome? (hdrValue mh) := by
  induction hs with
  | nil => rfl
  | cons h rest ih => rw [List.findSome?_cons, ← ih, firstHdr]; cases hdrValue mh h <;> rfl

/-- the result is the peer or a syntactically valid IP literal of a configured header: never any
    other string -/
theorem result_is_peer_or_header_ip (r : Req) :
    clientIP r = r.peer ∨ ∃ h ∈ r.hdrs, clientIP r ∈ hdrIPs h := by
  unfold clientIP
  split
  · exact .inl rfl
  · cases hf : firstHdr r.maxHops r.hdrs with
    | none => exact .inl rfl
    | some ip =>
      obtain ⟨h, hm, hv⟩ := List.exists_of_findSome?_eq_some (lemma_firstHdr_findSome .. ▸ hf)
      exact .inr ⟨h, hm, lemma_hdrValue_mem _ _ _ hv⟩

/-! ### the walk as shipped before the repair (findings K18a, K18b) -/

/-- K18a: maxHops = 1, `X-Forwarded-For: 9.9.9.9, 10.0.0.2` → the trusted proxy `10.0.0.2` -/
theorem asis_offbyone_witness :
    walkAsIs 1 [some (['2'], true), some (['9'], false)] 0 none = some (['2'], true) := by decide

/-- K18b: `X-Forwarded-For: 127.0.0.1, 9.9.9.9` → the spoofed trusted address, any generous limit -/
theorem asis_spoof_witness :
    walkAsIs 5 [some (['9'], false), some (['L'], true)] 0 none = some (['L'], true) := by decide

/-- the repaired walk on the same two inputs -/
theorem fixed_on_witnesses :
    walk 1 [some (['2'], true), some (['9'], false)] 0 false none = some (['9'], false) ∧
    walk 5 [some (['9'], false), some (['L'], true)] 0 false none = some (['9'], false) := by decide

/-- non-vacuity: the hypotheses of `walk_never_trusted` / `clientIP_meets_spec` are met by a concrete request
    with a trusted peer, two headers and an X-Forwarded-For of four items, one of them unparsable -/
example :
    let r : Req := { maxHops := 2, peer := ['p'], peerTrusted := true,
                     hdrs := [.single none, .xff [some (['c'], false), some (['a'], true), none, some (['b'], true)]] }
    1 ≤ r.maxHops ∧ untrustedWithin 2 [some (['b'], true), none, some (['a'], true), some (['c'], false)] = true ∧
    clientIP r = ['c'] := by decide +kernel

/-! ### the text layer: `splitAndTrim`, `parseOneIP` -/

/-- `strings.Join(parts, ",")` -/
def joinComma : List Bytes → Bytes
  | [] => []
  | [x] => x
  | x :: y :: rest => x ++ ',' :: joinComma (y :: rest)

theorem lemma_splitComma (s cur : Bytes) : splitComma s cur = List.splitOnPPrepend (· == ',') s cur := by
  induction s generalizing cur with
  | nil => rfl
  | cons c cs ih => rw [splitComma, List.splitOnPPrepend_cons_eq_if, ih, ih]; rfl

theorem lemma_joinComma_cons (x : Bytes) {l : List Bytes} (h : l ≠ []) :
    joinComma (x :: l) = x ++ ',' :: joinComma l := by
  cases l with
  | nil => exact absurd rfl h
  | cons y rest => rfl

/-- splitting on commas loses nothing: joining the fields gives the header value back -/
theorem splitComma_join (s cur : Bytes) : joinComma (splitComma s cur) = cur.reverse ++ s := by
  induction s generalizing cur with
  | nil => simp [splitComma, joinComma]
  | cons c cs ih =>
    simp only [splitComma]
    split
    · rename_i hc
      rw [lemma_joinComma_cons _ (lemma_splitComma cs [] ▸ List.splitOnPPrepend_ne_nil _ cs []), ih, eq_of_beq hc]
      rfl
    · rw [ih]; simp

theorem lemma_mem_joinComma {c : Char} {q : Bytes} {l : List Bytes} (hq : q ∈ l) (hc : c ∈ q) : c ∈ joinComma l := by
  induction l with
  | nil => cases hq
  | cons x rest ih =>
    cases rest with
    | nil => exact List.mem_singleton.mp hq ▸ hc
    | cons y r =>
      rw [joinComma, List.mem_append, List.mem_cons]
      exact (List.mem_cons.mp hq).elim (fun e => .inl (e ▸ hc)) fun h => .inr (.inr (ih h))

theorem lemma_stripPrefix_some (p s r : Bytes) (h : stripPrefix p s = some r) : s = p ++ r := by
  induction p generalizing s with
  | nil => cases h; rfl
  | cons a p ih =>
    cases s with
    | nil => cases h
    | cons c s =>
      simp only [stripPrefix] at h
      split at h
      · rename_i hac
        rw [eq_of_beq hac, ih s h]; rfl
      · cases h

theorem lemma_stripOne_findSome (ps : List Bytes) (s : Bytes) :
    stripOne ps s = ps.findSome? (stripPrefix · s) := by
  induction ps with
  | nil => rfl
  | cons p ps ih => rw [List.findSome?_cons, ← ih, stripOne]; cases stripPrefix p s <;> rfl

theorem lemma_stripOne_some (ps : List Bytes) (s r : Bytes) (h : stripOne ps s = some r) :
    ∃ p ∈ ps, s = p ++ r := by
  obtain ⟨p, hp, e⟩ := List.exists_of_findSome?_eq_some (lemma_stripOne_findSome ps s ▸ h)
  exact ⟨p, hp, lemma_stripPrefix_some p s r e⟩

theorem lemma_trimWith_suffix (pats : List Bytes) (n : Nat) (s : Bytes) : trimWith pats n s <:+ s := by
  induction n generalizing s with
  | zero => exact List.suffix_refl _
  | succ n ih =>
    simp only [trimWith]
    match h : stripOne pats s with
    | none => exact List.suffix_refl _
    | some r =>
      obtain ⟨p, _, e⟩ := lemma_stripOne_some pats s r h
      exact e ▸ (ih r).trans (List.suffix_append p r)

theorem lemma_stripOne_shorter {pats : List Bytes} (hne : ∀ p ∈ pats, p ≠ []) {s r : Bytes}
    (h : stripOne pats s = some r) : r.length < s.length := by
  obtain ⟨p, hp, e⟩ := lemma_stripOne_some pats s r h
  have := List.length_pos_iff.mpr (hne p hp)
  rw [e, List.length_append]
  omega

/-- fuel adequacy: with fuel ≥ length (what `trimLeft`/`trimRight` pass) the result has no strippable
    prefix left — the fuel never cuts the trim short -/
theorem lemma_trimWith_fixed (pats : List Bytes) (hne : ∀ p ∈ pats, p ≠ []) (n : Nat) (s : Bytes)
    (hn : s.length ≤ n) : stripOne pats (trimWith pats n s) = none := by
  induction n generalizing s with
  | zero =>
    simp only [trimWith]
    cases h : stripOne pats s with
    | none => rfl
    | some r => have := lemma_stripOne_shorter hne h; omega
  | succ n ih =>
    simp only [trimWith]
    cases h : stripOne pats s with
    | none => exact h
    | some r => exact ih r (by have := lemma_stripOne_shorter hne h; omega)

theorem lemma_spacePats_ne : ∀ p ∈ spacePats, p ≠ [] := by decide +kernel
theorem lemma_spacePatsRev_ne : ∀ p ∈ spacePats.map List.reverse, p ≠ [] := fun p hp e => by
  obtain ⟨q, hq, rfl⟩ := List.mem_map.mp hp
  exact lemma_spacePats_ne q hq (List.reverse_eq_nil_iff.mp e)

theorem lemma_trim_sub (s : Bytes) : ∀ c ∈ trim s, c ∈ s := by
  intro c hc
  unfold trim trimRight at hc
  have := (lemma_trimWith_suffix ..).subset (List.mem_reverse.mp hc)
  exact (lemma_trimWith_suffix ..).subset (List.mem_reverse.mp this)

/-- after the trim the string neither begins nor ends with a white-space rune -/
theorem trim_is_fixed (s : Bytes) :
    stripOne (spacePats.map List.reverse) (trim s).reverse = none := by
  unfold trim trimRight
  simp only [List.reverse_reverse]
  exact lemma_trimWith_fixed _ lemma_spacePatsRev_ne _ _ (by simp)

theorem trimLeft_is_fixed (s : Bytes) : stripOne spacePats (trimLeft s) = none :=
  lemma_trimWith_fixed _ lemma_spacePats_ne _ _ (Nat.le_refl _)

/-- an ASCII white-space byte is a pattern by itself, and a pattern that matches is stripped -/
theorem lemma_no_space_head (t : Bytes) (h : stripOne (spacePats.map List.reverse) t = none) :
    ∀ c rest, t = c :: rest → isSpace c = false := by
  intro c rest e
  subst e
  cases hc : isSpace c with
  | false => rfl
  | true =>
    have hmem : c ∈ [' ', '\t', '\n', '\x0b', '\x0c', '\r'] := by simpa [isSpace, or_assoc] using hc
    have hpat : [c] ∈ spacePats.map List.reverse :=
      (by decide +kernel : ∀ c ∈ [' ', '\t', '\n', '\x0b', '\x0c', '\r'], [c] ∈ spacePats.map List.reverse) c hmem
    have := List.findSome?_eq_none_iff.mp (lemma_stripOne_findSome .. ▸ h) [c] hpat
    simp [stripPrefix] at this

/-- `splitAndTrim` yields clean candidates. Every item handed to `parseOneIP` is non-empty,
    contains no comma and does not end in a white-space rune (`trim_is_fixed`; here: not in ASCII white space); and no byte is invented
    (each byte of an item is a byte of the header). -/
theorem splitAndTrim_items_clean (s : Bytes) :
    ∀ p ∈ splitAndTrim s, p ≠ [] ∧ ',' ∉ p ∧ (∀ c ∈ p, c ∈ s) ∧
      (∀ c rest, p.reverse = c :: rest → isSpace c = false) := by
  intro p hp
  unfold splitAndTrim at hp
  split at hp
  · simp at hp
  · simp only [List.mem_filter, List.mem_map] at hp
    obtain ⟨⟨q, hq, rfl⟩, hne⟩ := hp
    refine ⟨by simpa using hne, ?_, ?_, ?_⟩
    -- the fields are those of core's `List.splitOn`: none holds a comma; and the join gives the header value back
    · intro hm; exact List.not_mem_of_mem_splitOn (lemma_splitComma s [] ▸ hq) (lemma_trim_sub q _ hm)
    · intro c hc; simpa [splitComma_join] using lemma_mem_joinComma hq (lemma_trim_sub q c hc)
    · intro c rest h
      exact lemma_no_space_head _ (trim_is_fixed q) c rest h

theorem lemma_parse_fields {r : RawReq} {q : Req} (hq : r.parse = some q) :
    q.maxHops = r.maxHops ∧ q.peer = r.peer ∧ q.peerTrusted = r.peerTrusted := by
  obtain ⟨hs, _, hq⟩ := Option.bind_eq_some_iff.mp hq
  cases hq
  exact ⟨rfl, rfl, rfl⟩

/-- Non-interference on the raw request. With an untrusted peer the answer is the peer address
    for every header text whatsoever (whenever the case's `net` table covers the items). -/
theorem untrusted_peer_noninterference_raw (r : RawReq) (h : r.peerTrusted = false) (res : Bytes)
    (hres : clientIPRaw r = some res) : res = r.peer := by
  obtain ⟨q, hp, rfl⟩ := Option.map_eq_some_iff.mp hres
  obtain ⟨_, hpeer, hpt⟩ := lemma_parse_fields hp
  rw [untrusted_peer_noninterference q (hpt.trans h), hpeer]

/-- The whole oracle on the raw request: whatever the header text, the answer computed through
    `splitAndTrim`/`parseOneIP`/the walk satisfies the C18 oracle of the parsed request. -/
theorem clientIPRaw_meets_spec (r : RawReq) (hmh : 1 ≤ r.maxHops) (q : Req) (res : Bytes)
    (hq : r.parse = some q) (hres : clientIPRaw r = some res) : specOK q res = true := by
  obtain ⟨q', hp, rfl⟩ := Option.map_eq_some_iff.mp hres
  cases hq.symm.trans hp
  exact clientIP_meets_spec q ((lemma_parse_fields hq).1 ▸ hmh)

example : splitAndTrim " 1.1.1.1 ,, 10.0.0.1,x ".toList = ["1.1.1.1".toList, "10.0.0.1".toList, ['x']] := by
  -- the kernel decodes a string literal by evaluation, at a cost quadratic in its length: `String.toList_ofList`
  -- replaces each literal by its characters by a lemma first
  repeat rewrite [String.toList_ofList]
  decide +kernel

/-! ### the RemoteAddr layer: `net.SplitHostPort`, `clientIPFromRemoteAddr` -/

theorem lemma_idxOf_eq (c : Char) (s : Bytes) : idxOf c s = s.idxOf? c := by
  induction s with
  | nil => rfl
  | cons x xs ih => rw [idxOf, ih, List.idxOf?_cons]

theorem lemma_idxOf_append (c : Char) (a b : Bytes) (h : c ∉ a) : idxOf c (a ++ c :: b) = some a.length := by
  induction a with
  | nil => simp [idxOf]
  | cons x xs ih =>
    simp only [List.mem_cons, not_or] at h
    have hx : (x == c) = false := by simpa using fun e => h.1 e.symm
    simp [idxOf, hx, ih h.2]

theorem lemma_lastIdxOf_append (c : Char) (a b : Bytes) (h : c ∉ b) :
    lastIdxOf c (a ++ c :: b) = some a.length := by
  unfold lastIdxOf
  have hr : (a ++ c :: b).reverse = b.reverse ++ c :: a.reverse := by simp
  rw [hr, lemma_idxOf_append c b.reverse a.reverse (by simpa using h)]
  simp only [Option.map_some, List.length_reverse, List.length_append, List.length_cons]
  congr 1
  omega

/-- a host or port text as the statement's forms use it: no colon, no bracket -/
def Plain (s : Bytes) : Prop := ':' ∉ s ∧ '[' ∉ s ∧ ']' ∉ s

theorem lemma_splitHostPort_plain (a b : Bytes) (hb : ':' ∉ b) (hbr : '[' ∉ a ++ ':' :: b) :
    splitHostPort (a ++ ':' :: b) = if ':' ∈ a ∨ ']' ∈ a ++ ':' :: b then none else some a := by
  have hhead : ((a ++ ':' :: b).head? == some '[') = false := by
    simpa using fun e : (a ++ ':' :: b).head? = some '[' => hbr (List.mem_of_mem_head? e)
  unfold splitHostPort
  rw [lemma_lastIdxOf_append ':' a b hb]
  -- each test of `splitHostPort` is a membership test
  simp only [hhead, Bool.false_eq_true, if_false, List.take_left', lemma_idxOf_eq, List.isSome_idxOf?, hbr]
  by_cases h1 : ':' ∈ a
  · simp only [h1, true_or, if_true]
  · simp only [h1, false_or, if_false]

/-- `ip:port` — for every host without colon/bracket (any IPv4 literal, any host name) and every port,
    `clientIPFromRemoteAddr` yields exactly the host. -/
theorem peerOf_host_port (host port : Bytes) (hh : Plain host) (hp : Plain port) (hne : host ≠ []) :
    peerOf (host ++ ':' :: port) = host := by
  obtain ⟨h1, h2, h3⟩ := hh
  obtain ⟨p1, p2, p3⟩ := hp
  unfold peerOf
  rw [lemma_splitHostPort_plain host port p1 (by simp [h2, p2])]
  simp [h1, h3, p3]

/-- `[v6]:port` — for every bracketed host without brackets inside (any IPv6 literal, zones included)
    and every port, `clientIPFromRemoteAddr` yields exactly the text between the brackets. -/
theorem peerOf_bracket_port (h6 port : Bytes) (hb : '[' ∉ h6 ∧ ']' ∉ h6) (hp : Plain port) :
    peerOf ('[' :: h6 ++ ']' :: ':' :: port) = h6 := by
  obtain ⟨b1, b2⟩ := hb
  obtain ⟨p1, p2, p3⟩ := hp
  have hl : lastIdxOf ':' ('[' :: (h6 ++ ']' :: ':' :: port)) = some (h6.length + 2) := by
    simpa [List.append_assoc] using lemma_lastIdxOf_append ':' ('[' :: h6 ++ [']']) port p1
  have hi : idxOf ']' ('[' :: (h6 ++ ']' :: ':' :: port)) = some (h6.length + 1) := by
    simpa using lemma_idxOf_append ']' ('[' :: h6) (':' :: port) (by simp [b2])
  have e2 : idxOf '[' (h6 ++ ']' :: ':' :: port) = none :=
    (lemma_idxOf_eq ..).trans (List.idxOf?_eq_none_iff.2 (by simp [b1, p2]))
  have e3 : idxOf ']' (':' :: port) = none := (lemma_idxOf_eq ..).trans (List.idxOf?_eq_none_iff.2 (by simp [p3]))
  have hd : List.drop (h6.length + 1 + 1) ('[' :: (h6 ++ ']' :: ':' :: port)) = ':' :: port := by
    simp [List.drop_append]
  simp only [peerOf, splitHostPort, List.cons_append, hl, hi, hd, e2, e3, List.head?_cons, beq_self_eq_true, if_true,
    List.isEmpty_cons, Bool.false_eq_true, if_false, List.drop_succ_cons, List.drop_zero, Option.isSome_none]
  simp

/-- bare address — a RemoteAddr without any colon (bare IPv4, a name) is returned as it is -/
theorem peerOf_bare (addr : Bytes) (h : ':' ∉ addr) : peerOf addr = addr := by
  unfold peerOf
  split
  · rename_i he
    have : addr = [] := by simpa using he
    simp [this]
  · have : splitHostPort addr = none := by
      unfold splitHostPort lastIdxOf
      rw [lemma_idxOf_eq, List.idxOf?_eq_none_iff.2 (by simpa using h)]
      rfl
    rw [this]

/-- bare IPv6 — a RemoteAddr with two or more colons and no brackets (a bare IPv6 literal) makes
    `net.SplitHostPort` fail ("too many colons") and is returned as it is -/
theorem peerOf_bare_v6 (a b c : Bytes) (hc : ':' ∉ c) (hb : '[' ∉ a ++ ':' :: b ++ ':' :: c) :
    peerOf (a ++ ':' :: b ++ ':' :: c) = a ++ ':' :: b ++ ':' :: c := by
  unfold peerOf
  rw [lemma_splitHostPort_plain (a ++ ':' :: b) c hc hb]
  simp

/-- Non-interference from the wire. Whatever the RemoteAddr form and whatever the header text: if the
    peer (`clientIPFromRemoteAddr(RemoteAddr)`) is not trusted, `ClientIP()` is that peer. -/
theorem untrusted_peer_noninterference_wire (w : WireReq) (res : Bytes)
    (hpt : peerTrusted w.tbl (peerOf w.remoteAddr) = some false) (hres : clientIPWire w = some res) :
    res = peerOf w.remoteAddr := by
  unfold clientIPWire WireReq.toRaw at hres
  simp only [hpt, Option.bind_eq_bind, Option.bind_some, Option.pure_def] at hres
  exact untrusted_peer_noninterference_raw _ rfl res hres

/-- the RemoteAddr forms on concrete addresses (non-vacuity of `peerOf_host_port`, `peerOf_bracket_port`, `peerOf_bare`,
    `peerOf_bare_v6`), and the two that fall outside them: brackets without a port, the empty string -/
example : peerOf "203.0.113.7:443".toList = "203.0.113.7".toList ∧
          peerOf "[2001:db8::1%eth0]:8080".toList = "2001:db8::1%eth0".toList ∧
          peerOf "10.0.0.1".toList = "10.0.0.1".toList ∧
          peerOf "2001:db8::1".toList = "2001:db8::1".toList ∧
          peerOf "[::1]".toList = "[::1]".toList ∧ peerOf [] = [] := by
  repeat rewrite [String.toList_ofList]
  decide +kernel

/-! ## `IsLocalhost()` — a helper computed from `ClientIP()` alone (Tie: `isLocalhost_from_clientIP_only`) -/

/-- with an untrusted peer `IsLocalhost()` is a function of the peer address: no forwarding header can make a
    remote client look local (or a local one remote) -/
theorem untrusted_peer_isLocalhost (r : Req) (h : r.peerTrusted = false) :
    isLocalhost r = isLocalhostOf r.peer := by
  simp [isLocalhost, untrusted_peer_noninterference r h]

theorem untrusted_peer_isLocalhost_headers_irrelevant (r : Req) (hdrs' : List Hdr) (mh' : Nat)
    (h : r.peerTrusted = false) :
    isLocalhost { r with hdrs := hdrs', maxHops := mh' } = isLocalhost r := by
  simp [isLocalhost, untrusted_peer_headers_irrelevant r hdrs' mh' h]

/-- non-vacuity: an untrusted remote peer that sends `X-Forwarded-For: 127.0.0.1` is not local; the same header
    through a trusted proxy decides (that is what trusting the proxy means) -/
example :
    isLocalhost { maxHops := 1, peer := "203.0.113.7".toList, peerTrusted := false,
                  hdrs := [.xff [some ("127.0.0.1".toList, false)]] } = false ∧
    isLocalhost { maxHops := 1, peer := "10.0.0.1".toList, peerTrusted := true,
                  hdrs := [.xff [some ("127.0.0.1".toList, false)]] } = true ∧
    isLocalhostOf "127.8.9.1".toList = true ∧ isLocalhostOf "::1".toList = true ∧
    isLocalhostOf "1270.0.0.1".toList = false := by
  -- the literals of the model's own tables are replaced as well
  dsimp only [isLocalhost, isLocalhostOf, localhostExact, localhostPrefixes]
  repeat rewrite [String.toList_ofList]
  decide +kernel

/-! ## the hop limit as configured -/

theorem compileMaxHops_ge_one (configured : Int) : 1 ≤ compileMaxHops configured := by
  unfold compileMaxHops
  split
  · exact Nat.le_refl 1
  · omega

/-- the whole oracle, for every configured hop limit (zero, negative, huge): the hypothesis `1 ≤ maxHops` of
    `clientIP_meets_spec` is what `compileProxies` establishes -/
theorem clientIP_meets_spec_compiled (r : Req) (configured : Int) :
    specOK { r with maxHops := compileMaxHops configured } (clientIP { r with maxHops := compileMaxHops configured }) = true :=
  clientIP_meets_spec _ (compileMaxHops_ge_one configured)

example : compileMaxHops 0 = 1 ∧ compileMaxHops (-100) = 1 ∧ compileMaxHops 3 = 3 := by decide

/-! ## the third clause for every header order: partial, finding K18c -/

/-- a header that names an untrusted address within the limit yields it (`xff_never_trusted`), so it offers one -/
theorem lemma_names_offers (mh : Nat) (h : Hdr) (hn : xffNamesUntrusted mh h = true) : hdrOffers h = true := by
  cases h with
  | single v => simp [xffNamesUntrusted] at hn
  | xff items =>
    obtain ⟨ip, hv, _⟩ := xff_never_trusted mh items hn
    simp [hdrOffers, List.ne_nil_of_mem (xff_result_is_item mh items ip hv)]

/-- outside the recorded class the oracle `specOK` implies the literal third clause, for any result whatever: with no
    shadowing header the first header that offers an address is the X-Forwarded-For that names an untrusted one, and
    `specOK` asks for one of its untrusted addresses -/
theorem lemma_spec_strict (r : Req) (res : Bytes) (tr : Bytes → Bool)
    (htr : ∀ items, Hdr.xff items ∈ r.hdrs → ∀ ip b, some (ip, b) ∈ items → tr ip = b)
    (hD : shadowed r = false) (hs : specOK r res = true) : strictOK r (tr res) = true := by
  unfold strictOK
  cases hpt : r.peerTrusted with
  | false => rfl
  | true =>
    cases hany : r.hdrs.any (xffNamesUntrusted r.maxHops) with
    | false => rfl
    | true =>
      simp only [shadowed, hpt, hany, Bool.and_self, Bool.true_and] at hD
      simp only [specOK, hpt, Bool.not_true, Bool.false_eq_true, if_false] at hs
      cases hf : r.hdrs.find? hdrOffers with
      | none =>
        -- some header names an untrusted address, hence offers one
        obtain ⟨h, hh, hn⟩ := List.any_eq_true.mp hany
        exact absurd (lemma_names_offers _ h hn) (List.find?_eq_none.mp hf h hh)
      | some h0 =>
        rw [hf] at hs hD
        cases h0 with
        | single v => simp [xffNamesUntrusted] at hD
        | xff items =>
          simp only [xffNamesUntrusted, Bool.not_eq_eq_eq_not, Bool.not_false] at hD
          simp only [hD, if_true, Bool.and_eq_true, List.contains_iff_mem] at hs
          obtain ⟨it, hit, hm⟩ := List.mem_filterMap.mp hs.2
          match it, hm with
          | some (ip, false), hm =>
            cases hm
            simp [htr items (List.mem_of_find?_eq_some hf) _ false hit]

/-- the third clause for every header order, outside the recorded class (`tr` = "lies inside a trusted CIDR",
    consistent with the classification of the X-Forwarded-For items): unless a header in front of the deciding
    X-Forwarded-For shadows it (`shadowed`, finding K18c), the result is never a trusted proxy's address when some
    configured X-Forwarded-For names an untrusted address within the hop limit -/
theorem clientIP_strict_partial (r : Req) (hmh : 1 ≤ r.maxHops) (tr : Bytes → Bool)
    (htr : ∀ items, Hdr.xff items ∈ r.hdrs → ∀ ip b, some (ip, b) ∈ items → tr ip = b)
    (hD : shadowed r = false) : strictOK r (tr (clientIP r)) = true :=
  lemma_spec_strict r _ tr htr hD (clientIP_meets_spec r hmh)

/-- K18c, the witness (confirmed on the real code): headers configured as [X-Real-IP, X-Forwarded-For], hop limit 2,
    trusted peer 10.0.0.1, `X-Real-IP: 10.0.0.2` (a trusted proxy), `X-Forwarded-For: 9.9.9.9, 10.0.0.2` — the answer
    is the trusted proxy 10.0.0.2 although X-Forwarded-For names the untrusted 9.9.9.9 within the hop limit. The
    documented header order is kept (`specOK`), the literal clause is not (`strictOK`). -/
theorem header_order_shadows_xff_witness :
    let r : Req := { maxHops := 2, peer := "10.0.0.1".toList, peerTrusted := true,
                     hdrs := [.single (some "10.0.0.2".toList),
                              .xff [some ("9.9.9.9".toList, false), some ("10.0.0.2".toList, true)]] }
    clientIP r = "10.0.0.2".toList ∧ specOK r (clientIP r) = true ∧ shadowed r = true ∧
    strictOK r true = false ∧
    -- with X-Forwarded-For first the same request resolves to the client
    clientIP { r with hdrs := r.hdrs.reverse } = "9.9.9.9".toList := by
  repeat rewrite [String.toList_ofList]
  decide +kernel

end Rivaas.C18
