import Rivaas.Lemmas.BindAll
import Rivaas.Lemmas.BindAllSound
import Rivaas.Lemmas.BindAllMulti
import Rivaas.Spec.BindAll
import Rivaas.Spec.BindNestJSON
import Rivaas.Model.BindAllNestJSON
import Rivaas.Props.C04
import Rivaas.Props.C04Body
/-
C04 — binds that collect their errors (`WithAllErrors`): property theorems over `Model/BindAll.lean`. Also the body models
(`bindSteps`, `bindStepsAll`) on value sources alone, where they are `bindMulti` / `bindMultiAll`, and the nested-struct
JSON shortcut (`bindJ`, `bindAllJ`; K04k). Two theorems on `app.Context.Bind` stand between these: `app_form_meets_spec` (a form or
multipart request) and `appRun_no_body_tags`. The lemmas behind `bindStepsAll_errors_meet_spec` (the collecting run over value and
body sources: `lemma_runStepsAll_in`, `stepsAll_bool`) stand here as well, since they rest on `Props/C04Body`.
-/
namespace Rivaas.C04
open Rivaas Rivaas.Bind

/-- **Collecting and plain bind run the same steps up to the first error** — every type, source, option
    set and destination: a plain success is a collecting run without errors and with the same value, a
    plain error is the first error the collecting run reports (MultiError order = field order, nested
    errors under the nested field's name), unless the collecting run panics after that error (`Agree` admits it: an
    ill-typed destination; `bindAll_meets_spec` rules it out for well-typed ones). -/
theorem bindAll_agrees (P : Params) (cfg : Cfg) (tag : Tag) (ty : Ty) (init : Val) (src : Src) :
    Agree (bind P cfg tag ty init src) (bindAll P cfg tag ty init src) :=
  lemma_agree_bind P cfg tag ty init src

theorem bindAll_no_error_iff (P : Params) (cfg : Cfg) (tag : Tag) (ty : Ty) (init : Val) (src : Src) (v : Val) :
    bindAll P cfg tag ty init src = .done v [] ↔ bind P cfg tag ty init src = .ok v :=
  lemma_agree_clean _ _ (lemma_agree_bind P cfg tag ty init src) v

theorem bindAll_first_error (P : Params) (cfg : Cfg) (tag : Tag) (ty : Ty) (init : Val) (src : Src) (v : Val) (e : Err) (es : List Err)
    (ha : bindAll P cfg tag ty init src = .done v (e :: es)) : bind P cfg tag ty init src = .err e :=
  lemma_agree_first _ _ (lemma_agree_bind P cfg tag ty init src) v e es ha

/-- the same for several sources (Bind / BindTo with WithAllErrors): errors.Join keeps the order of the passes -/
theorem bindMultiAll_agrees (P : Params) (cfg : Cfg) (fs : List Fld) (init : Val) (srcs : List Src) :
    Agree (bindMulti P cfg fs init srcs) (bindMultiAll P cfg fs init srcs) :=
  lemma_agree_multi P cfg fs init srcs

/-- **A collecting bind that reports nothing meets the whole oracle** (from `bind_meets_spec` through
    `bindAll_no_error_iff`). -/
theorem bindAll_clean_meets_spec (P : Params) (hP : FloatSane P) (cfg : Cfg) (tag : Tag) (fs : List Fld) (ivs : List Val)
    (src : Src) (hw : wts fs ivs = true) (hg : Spec.inGrammarFs fs = true) (hs : Spec.srcOK src = true) (v : Val)
    (ha : bindAll P cfg tag (.struct fs) (.struct ivs) src = .done v []) :
    Spec.specAll P cfg tag fs (.struct ivs) src (.done v []) = true := by
  have hb := (bindAll_no_error_iff P cfg tag (.struct fs) (.struct ivs) src v).mp ha
  have := bind_meets_spec P hP cfg tag fs ivs src hw hg hs
  rw [hb] at this
  simpa [Spec.specAll, toObs] using this

/-- **The first error a collecting bind reports is one the statement allows** (from `bind_meets_spec` through
    `bindAll_first_error`). -/
theorem bindAll_first_error_has_cause (P : Params) (hP : FloatSane P) (cfg : Cfg) (tag : Tag) (fs : List Fld) (ivs : List Val)
    (src : Src) (hw : wts fs ivs = true) (hg : Spec.inGrammarFs fs = true) (hs : Spec.srcOK src = true) (v : Val) (e : Err) (es : List Err)
    (ha : bindAll P cfg tag (.struct fs) (.struct ivs) src = .done v (e :: es)) :
    (Spec.causes P cfg tag fs (.struct ivs) src).contains e = true := by
  have hb := bindAll_first_error P cfg tag (.struct fs) (.struct ivs) src v e es ha
  have := bind_meets_spec P hP cfg tag fs ivs src hw hg hs
  rw [hb] at this
  simpa [Spec.specOK, toObs] using this

/-- **A collecting bind meets the whole collecting oracle** - every type of the grammar, tag, option set, well-typed
    destination and well-formed source: without an error the plain oracle holds on the value; otherwise every
    reported error is one the statement allows (it names a field whose own value or limit causes it, with that
    class), every reached, unambiguous leaf whose only admissible outcome is an error is named by a reported error,
    and so is every nested struct at the first depth beyond the limit; never a panic. -/
theorem bindAll_meets_spec (P : Params) (hP : FloatSane P) (cfg : Cfg) (tag : Tag) (fs : List Fld) (ivs : List Val)
    (src : Src) (hw : wts fs ivs = true) (hg : Spec.inGrammarFs fs = true) (hs : Spec.srcOK src = true) :
    Spec.specAll P cfg tag fs (.struct ivs) src (toObsAll (bindAll P cfg tag (.struct fs) (.struct ivs) src)) = true :=
  lemma_bindAll_meets_spec P hP cfg tag fs ivs src hw hg hs

/-- the collecting bind returns a well-typed value of the destination type (a field that failed keeps its value) -/
theorem bindAll_preserves_type (P : Params) (cfg : Cfg) (tag : Tag) (fs : List Fld) (ivs : List Val) (src : Src) (v : Val)
    (es : List Err) (hw : wts fs ivs = true) (hg : Spec.inGrammarFs fs = true)
    (h : bindAll P cfg tag (.struct fs) (.struct ivs) src = .done v es) : ∃ rvs, v = .struct rvs ∧ wts fs rvs = true :=
  lemma_bindAll_typed P cfg tag fs ivs src v es hw hg h

/-- **A collecting bind from several sources meets its oracle** (Bind / BindTo with WithAllErrors, any list of
    sources): without an error the multi-source oracle holds on the value (last source holding the key, else default,
    else untouched); otherwise every reported error - of the defaults pass or of any source - is one the statement
    allows for that pass; never a panic. -/
theorem bindMultiAll_meets_spec (P : Params) (hP : FloatSane P) (cfg : Cfg) (fs : List Fld) (ivs : List Val)
    (srcs : List Src) (hw : wts fs ivs = true) (hg : Spec.inGrammarFs fs = true) (hs : ∀ s ∈ srcs, Spec.srcOK s = true) :
    Spec.specMultiAll P cfg fs (.struct ivs) srcs (toObsAll (bindMultiAll P cfg fs (.struct ivs) srcs)) = true :=
  lemma_bindMultiAll_meets_spec P hP cfg fs ivs srcs hw hg hs

/-! ## the body model and the collecting model contain the proven multi-source model -/

theorem filterMap_src_map (srcs : List Src) : (srcs.map Step.src).filterMap Step.src? = srcs :=
  List.filterMap_map.trans List.filterMap_some

theorem filterMap_src_eq_srcsOf : ∀ steps : List Step, steps.filterMap Step.src? = Spec.srcsOf steps
  | [] => rfl
  | .src s :: rest => by simp [Step.src?, Spec.srcsOf, filterMap_src_eq_srcsOf rest]
  | .body r :: rest => by
    have := filterMap_src_eq_srcsOf rest
    simp only [List.filterMap_cons, Step.src?, Spec.srcsOf]
    exact this

theorem runSteps_values (P : Params) (cfg : Cfg) (fs : List Fld) (vty : Ty) (init : Val) :
    ∀ (srcs : List Src) (cur : Val),
      runSteps P cfg fs vty init (srcs.map Step.src) cur = ofOutcome (bindPass P cfg fs (fun _ => vty) srcs cur)
  | [], cur => by simp [runSteps, bindPass, ofOutcome]
  | s :: rest, cur => by
    simp only [List.map, runSteps, bindPass]
    by_cases ht : hasTagFs s.kind fs = true
    · simp only [ht, if_true]
      cases bind P cfg s.kind vty cur s with
      | ok v => simpa using runSteps_values P cfg fs vty init rest v
      | err e => rfl
      | panic => rfl
    · simp only [ht, Bool.false_eq_true, if_false]
      exact runSteps_values P cfg fs vty init rest cur

/-- **Without a body source the body model is `bindMulti`** — the model `bindMulti_meets_spec` is about. -/
theorem bindSteps_values_only (P : Params) (cfg : Cfg) (fs : List Fld) (init : Val) (srcs : List Src) :
    bindSteps P cfg fs init (srcs.map Step.src) = ofOutcome (bindMulti P cfg fs init srcs) := by
  unfold bindSteps bindMulti
  simp only [filterMap_src_map, List.isEmpty_map]
  by_cases he : srcs.isEmpty = true
  · rw [if_pos he, if_pos he]; rfl
  · rw [if_neg he, if_neg he]
    have hpos : srcs.length ≠ 0 := fun h => he (by rw [List.length_eq_zero_iff.1 h]; rfl)
    by_cases h1 : srcs.length ≤ 1
    · rw [if_pos h1, if_pos (by rw [beq_iff_eq]; omega)]
      exact runSteps_values P cfg fs (.struct fs) init srcs init
    · rw [if_neg h1, if_neg (by rw [beq_iff_eq]; omega)]
      cases bindPass P cfg fs (fun _ => Ty.struct fs) (srcs.map fun s => { s with kvs := [] }) init with
      | ok v => exact runSteps_values P cfg fs (.struct (stripFs fs)) init srcs v
      | err e => rfl
      | panic => rfl

theorem bodiesOf_map_src (srcs : List Src) : Spec.bodiesOf (srcs.map Step.src) = [] := by
  induction srcs with
  | nil => rfl
  | cons s r ih => simpa [Spec.bodiesOf] using ih

theorem srcsOf_map_src (srcs : List Src) : Spec.srcsOf (srcs.map Step.src) = srcs :=
  (filterMap_src_eq_srcsOf _).symm.trans (filterMap_src_map srcs)

theorem specSteps_values (P : Params) (cfg : Cfg) (fs : List Fld) (init : Val) (srcs : List Src) (o : Outcome) :
    Spec.specSteps P cfg fs init (srcs.map Step.src) (toBObs (ofOutcome o)) = Spec.specMulti P cfg fs init srcs (toObs o) := by
  -- no step is a body (`bodiesOf_map_src`), so every branch of `specSteps` is its `specMulti` branch
  cases o with
  | ok v => simp [ofOutcome, toBObs, toObs, Spec.specSteps, bodiesOf_map_src, srcsOf_map_src]
  | err e => simp [ofOutcome, toBObs, toObs, Spec.specSteps, srcsOf_map_src]
  | panic => rfl

/-- … and on value sources alone it meets the body oracle, which is then `Spec.specMulti` -/
theorem bindSteps_values_meets_spec (P : Params) (hP : FloatSane P) (cfg : Cfg) (fs : List Fld) (ivs : List Val)
    (srcs : List Src) (hw : wts fs ivs = true) (hg : Spec.inGrammarFs fs = true) (hs : ∀ s ∈ srcs, Spec.srcOK s = true) :
    Spec.specSteps P cfg fs (.struct ivs) (srcs.map Step.src)
      (toBObs (bindSteps P cfg fs (.struct ivs) (srcs.map Step.src))) = true := by
  rw [bindSteps_values_only, specSteps_values]
  exact bindMulti_meets_spec P hP cfg fs ivs srcs hw hg hs

/-- **A form or multipart request: the form values are bound onto what the parameters left, and that second bind
    meets the plain oracle** (`bind_meets_spec` for the form tag, on the container `formSrc` names). -/
theorem app_form_meets_spec (P : Params) (hP : FloatSane P) (fs : List Fld) (ivs rvs : List Val) (h : Http) (strict : Bool)
    (st : CtxState) (hp : bindMulti P Cfg.default fs (.struct ivs) h.params = .ok (.struct rvs)) (hw : wts fs rvs = true)
    (hg : Spec.inGrammarFs fs = true) (hs : Spec.srcOK (formSrc h) = true) (hb : h.bodyTags = true)
    (hct : classifyCT h.ctype = .form ∨ classifyCT h.ctype = .multipart) :
    (appBind P fs (.struct ivs) h strict st).last = ofOutcome (bind P Cfg.default .form (.struct fs) (.struct rvs) (formSrc h)) ∧
    Spec.specOK P Cfg.default .form fs (.struct rvs) (formSrc h)
      (toObs (bind P Cfg.default .form (.struct fs) (.struct rvs) (formSrc h))) = true := by
  refine ⟨?_, bind_meets_spec P hP Cfg.default .form fs rvs (formSrc h) hw hg hs⟩
  rcases hct with hct | hct <;> simp [appBind, hp, hb, hct]

/-! ### the collecting body model on value sources alone is `bindMultiAll` -/

def toObsAllB : OutAllB → Spec.ObsAllB
  | .done v es => .done v es
  | .panic => .panic

def ofOutAll : OutAll → OutAllB
  | .done v es => .done v (es.map .bind)
  | .panic => .panic

theorem ofOutAll_prepend (es : List Err) (o : OutAll) : ofOutAll (o.prepend es) = (ofOutAll o).prepend (es.map .bind) := by
  cases o <;> simp [ofOutAll, OutAll.prepend, OutAllB.prepend]

theorem runStepsAll_values (P : Params) (cfg : Cfg) (fs : List Fld) (vty : Ty) (init : Val) :
    ∀ (srcs : List Src) (cur : Val),
      runStepsAll P cfg fs vty init (srcs.map Step.src) cur = ofOutAll (bindPassAll P cfg fs (fun _ => vty) srcs cur)
  | [], cur => by simp [runStepsAll, bindPassAll, ofOutAll]
  | s :: rest, cur => by
    simp only [List.map, runStepsAll, bindPassAll]
    by_cases ht : hasTagFs s.kind fs = true
    · simp only [ht, if_true]
      cases bindAll P cfg s.kind vty cur s with
      | done v es => simp only; rw [runStepsAll_values P cfg fs vty init rest v, ofOutAll_prepend]
      | panic => rfl
    · simp only [ht, Bool.false_eq_true, if_false]
      exact runStepsAll_values P cfg fs vty init rest cur

theorem bindStepsAll_values_only (P : Params) (cfg : Cfg) (fs : List Fld) (init : Val) (srcs : List Src) :
    bindStepsAll P cfg fs init (srcs.map Step.src) = ofOutAll (bindMultiAll P cfg fs init srcs) := by
  unfold bindStepsAll bindMultiAll
  simp only [filterMap_src_map, List.isEmpty_map]
  by_cases he : srcs.isEmpty = true
  · rw [if_pos he, if_pos he]; rfl
  · rw [if_neg he, if_neg he]
    have hpos : srcs.length ≠ 0 := fun h => he (by rw [List.length_eq_zero_iff.1 h]; rfl)
    by_cases h1 : srcs.length ≤ 1
    · rw [if_pos h1, if_pos (by rw [beq_iff_eq]; omega)]
      exact runStepsAll_values P cfg fs (.struct fs) init srcs init
    · rw [if_neg h1, if_neg (by rw [beq_iff_eq]; omega)]
      cases bindPassAll P cfg fs (fun _ => Ty.struct fs) (srcs.map fun s => { s with kvs := [] }) init with
      | done v es =>
        dsimp only
        rw [runStepsAll_values P cfg fs (.struct (stripFs fs)) init srcs v, ofOutAll_prepend]
      | panic => rfl

theorem specStepsAll_values (P : Params) (cfg : Cfg) (fs : List Fld) (init : Val) (srcs : List Src) (oa : OutAll) :
    Spec.specStepsAll P cfg fs init (srcs.map Step.src) (toObsAllB (ofOutAll oa)) =
      Spec.specMultiAll P cfg fs init srcs (toObsAll oa) := by
  cases oa with
  | panic => rfl
  | done v es =>
    cases es with
    | nil =>
      simp [ofOutAll, toObsAllB, toObsAll, Spec.specStepsAll, Spec.specMultiAll, Spec.specSteps, bodiesOf_map_src, srcsOf_map_src]
    | cons e es' =>
      -- every error is a `.bind` error (`ofOutAll`) and no step is a body: the clause on body sources is empty, the clause
      -- on the errors is `specMultiAll`'s
      simp [ofOutAll, toObsAllB, toObsAll, Spec.specStepsAll, Spec.specMultiAll, bodiesOf_map_src, srcsOf_map_src, List.all_map,
        Function.comp_def]

/-- … and on value sources alone the collecting body model meets the collecting body oracle -/
theorem bindStepsAll_values_meets_spec (P : Params) (hP : FloatSane P) (cfg : Cfg) (fs : List Fld) (ivs : List Val)
    (srcs : List Src) (hw : wts fs ivs = true) (hg : Spec.inGrammarFs fs = true) (hs : ∀ s ∈ srcs, Spec.srcOK s = true) :
    Spec.specStepsAll P cfg fs (.struct ivs) (srcs.map Step.src)
      (toObsAllB (bindStepsAll P cfg fs (.struct ivs) (srcs.map Step.src))) = true := by
  rw [bindStepsAll_values_only, specStepsAll_values]
  exact bindMultiAll_meets_spec P hP cfg fs ivs srcs hw hg hs

/-- a handler that binds once a type without body tags: `bindMulti` over path, query, header, cookie -/
theorem appRun_no_body_tags (P : Params) (fs : List Fld) (init : Val) (h : Http) (strict : Bool) (hb : h.bodyTags = false) :
    appRun P fs init h [.bind strict] = ofOutcome (bindMulti P Cfg.default fs init h.params) := by
  simp only [appRun, List.foldl, appStep, appBind]
  cases bindMulti P Cfg.default fs init h.params with
  | ok v => simp [hb, ofOutcome]
  | err e => rfl
  | panic => rfl

/-! ## the nested-struct JSON shortcut -/

/-- **Where no string decodes as a nested struct, `bindJ` is `bind`** … -/
theorem bindJ_eq_bind (P : Params) (cfg : Cfg) (tag : Tag) (ty : Ty) (init : Val) (src : Src)
    (h : ∀ s, (P s).nj = none) : bindJ P cfg tag ty init src = bind P cfg tag ty init src := by
  unfold bindJ Rivaas.Bind.bind
  cases ty with
  | struct fs => rw [lemma_bindAtJ_eq P cfg tag h]
  | _ => rfl

theorem shortcuts_none (P : Params) (cfg : Cfg) (tag : Tag) (fs : List Fld) (s : Src) (h : ∀ x, (P x).nj = none) :
    (Spec.shortcuts P cfg tag fs s).all Option.isNone = true := by
  simp only [Spec.shortcuts, List.all_map, List.all_eq_true]
  intro f _
  -- the one branch of `shortcutAt` that is not `none` is `(P v).nj.map _`, and `h` makes that `none`
  simp only [Function.comp, Spec.shortcutAt, h]
  split
  · rfl
  · split
    · rfl
    · split
      · rfl
      · split <;> simp

theorem specOKJ_eq_specOK (P : Params) (cfg : Cfg) (tag : Tag) (fs : List Fld) (init : Val) (s : Src) (o : Spec.Obs)
    (h : ∀ x, (P x).nj = none) : Spec.specOKJ P cfg tag fs init s o = Spec.specOK P cfg tag fs init s o := by
  simp [Spec.specOKJ, shortcuts_none P cfg tag fs s h]

/-- so `bind_meets_spec` carries over to every case without a shortcut -/
theorem bindJ_meets_spec_no_shortcut (P : Params) (hP : FloatSane P) (cfg : Cfg) (tag : Tag) (fs : List Fld) (ivs : List Val)
    (src : Src) (hw : wts fs ivs = true) (hg : Spec.inGrammarFs fs = true) (hs : Spec.srcOK src = true)
    (h : ∀ s, (P s).nj = none) :
    Spec.specOKJ P cfg tag fs (.struct ivs) src (toObs (bindJ P cfg tag (.struct fs) (.struct ivs) src)) = true := by
  rw [bindJ_eq_bind P cfg tag _ _ _ h, specOKJ_eq_specOK P cfg tag fs _ src _ h]
  exact bind_meets_spec P hP cfg tag fs ivs src hw hg hs

/-! ## `WithAllErrors` with a body source next to value sources: the reported errors -/

/-- what the standard library decodes into the destination is a well-typed value of the destination type
    (a property of the shipped parameter, checked by the driver on every case) -/
def DocTyped (fs : List Fld) (d : DocInfo) : Prop :=
  (∀ v, d.lax = .ok v → ∃ js, v = .struct js ∧ wts fs js = true) ∧
  (∀ v, d.strict = .ok v → ∃ js, v = .struct js ∧ wts fs js = true)

theorem mergeVals_wts : ∀ (fs : List Fld) (is js cs : List Val), wts fs js = true → wts fs cs = true →
    wts fs (mergeVals is js cs) = true
  | [], is, js, cs, hj, hc => by
    cases cs with
    | nil => cases is <;> cases js <;> simp [mergeVals, wts]
    | cons _ _ => simp [wts] at hc
  | (h, t) :: fs, is, js, cs, hj, hc => by
    cases cs with
    | nil => simp [wts] at hc
    | cons c cs' =>
      cases js with
      | nil => simp [wts] at hj
      | cons j js' =>
        simp only [wts, Bool.and_eq_true] at hj hc
        cases is with
        | nil => simp [mergeVals, wts, hc.1, hc.2]
        | cons i is' =>
          simp only [mergeVals, wts, Bool.and_eq_true]
          refine ⟨?_, mergeVals_wts fs is' js' cs' hj.2 hc.2⟩
          split
          · exact hc.1
          · exact hj.1

theorem decodeBody_cases (r : BodyReq) :
    decodeBody r = .error .read ∨ decodeBody r = .error .decode ∨ decodeBody r = r.doc.lax.out ∨
      decodeBody r = r.doc.strict.out := by
  unfold decodeBody
  dsimp only
  split
  · exact Or.inl rfl
  · split
    · exact Or.inr (Or.inr (Or.inl rfl))
    · exact Or.inr (Or.inr (Or.inl rfl))
    · split
      · exact Or.inr (Or.inr (Or.inl rfl))
      · exact Or.inr (Or.inl rfl)
    · exact Or.inr (Or.inr (Or.inr rfl))

theorem dec_out_ok (d : Dec) (v : Val) (h : d.out = .ok v) : d = .ok v := by
  cases d <;> cases h
  rfl

theorem decodeBody_typed (fs : List Fld) (r : BodyReq) (hd : DocTyped fs r.doc) (dv : Val) (h : decodeBody r = .ok dv) :
    ∃ js, dv = .struct js ∧ wts fs js = true := by
  rcases decodeBody_cases r with h' | h' | h' | h' <;> rw [h'] at h
  · cases h
  · cases h
  · exact hd.1 dv (dec_out_ok _ _ h)
  · exact hd.2 dv (dec_out_ok _ _ h)

theorem mem_okVals : ∀ (l : List (Except BErr Val)) (w : Val), Except.ok w ∈ l → w ∈ Spec.okVals l
  | [], _, h => by cases h
  | a :: rest, w, h => by
    cases a with
    | ok u =>
      simp only [Spec.okVals, List.mem_cons] at h ⊢
      rcases h with h | h
      · left; cases h; rfl
      · right; exact mem_okVals rest w h
    | error e =>
      simp only [List.mem_cons, reduceCtorEq, false_or] at h
      simpa [Spec.okVals] using mem_okVals rest w h

theorem decodeBody_admissible (r : BodyReq) :
    (∀ e, decodeBody r = .error e → (Spec.admissible r).any (Spec.isErrWith e) = true) ∧
    (∀ dv, decodeBody r = .ok dv → (Spec.okVals (Spec.admissible r)) ≠ []) := by
  constructor
  · intro e he
    exact List.any_eq_true.2 ⟨_, he ▸ decodeBody_mem_admissible r, isErrWith_self e⟩
  · intro dv hd hnil
    have := mem_okVals _ dv (hd ▸ decodeBody_mem_admissible r)
    rw [hnil] at this
    cases this

theorem dec_out_not_bind (d : Dec) (e' : Err) : d.out ≠ .error (.bind e') := by
  cases d <;> simp [Dec.out]

theorem decodeBody_not_bind (r : BodyReq) (e' : Err) : decodeBody r ≠ .error (.bind e') := by
  rcases decodeBody_cases r with h | h | h | h <;> rw [h]
  · exact fun h => by cases h
  · exact fun h => by cases h
  · exact dec_out_not_bind _ _
  · exact dec_out_not_bind _ _

/-- The collecting run over value and body sources from a well-typed value. The phases `phs` that stand for the value sources
    and the body sources `B` the errors are traced to are held fixed, so the statement for the rest of the steps is the
    statement for all of them. -/
theorem lemma_runStepsAll_in (P : Params) (hP : FloatSane P) (cfg : Cfg) (fs fs' : List Fld) (hg : Spec.inGrammarFs fs = true)
    (phs : List Spec.Phase) (B : List BodyReq) (ivs0 : List Val) :
    ∀ (steps : List Step),
      (∀ s ∈ Spec.srcsOf steps, Spec.srcOK s = true ∧
        (Spec.mentionsFs s.kind fs = true → ∃ ph ∈ phs, ph.src = s ∧ phaseFs fs ph = fs')) →
      (∀ r ∈ Spec.bodiesOf steps, DocTyped fs r.doc ∧ r ∈ B) →
    ∀ cvs : List Val, wts fs cvs = true →
    match runStepsAll P cfg fs (.struct fs') (.struct ivs0) steps (.struct cvs) with
    | .done _ es =>
      (∀ e ∈ es, match e with
        | .bind e' => ∃ ph ∈ phs, PhaseErr P cfg fs ph e'
        | e => ∃ r ∈ B, decodeBody r = .error e) ∧
      (∀ r ∈ Spec.bodiesOf steps, (∃ dv, decodeBody r = .ok dv) ∨ ∃ e ∈ es, decodeBody r = .error e)
    | .panic => False
  | [], _, _, cvs, _ => by simp [runStepsAll, Spec.bodiesOf]
  | .src s :: rest, hs, hd, cvs, hw => by
    have ih := lemma_runStepsAll_in P hP cfg fs fs' hg phs B ivs0 rest (fun x hx => hs x (List.mem_cons_of_mem _ hx)) hd
    simp only [runStepsAll, lemma_hasTag_fs]
    by_cases ht : Spec.mentionsFs s.kind fs = true
    · -- a value source the type has a tag for: its pass is the phase `ph` (`lemma_phase_all`: a well-typed value, every
      -- error a `PhaseErr` of `ph`); the rest of the run starts from that value
      rw [if_pos ht]
      obtain ⟨hok, hex⟩ := hs s List.mem_cons_self
      obtain ⟨ph, hph, hsrc, hty⟩ := hex ht
      have hb := lemma_phase_all P hP cfg fs ph cvs hw hg (by rw [hsrc]; exact hok)
      rw [hsrc, hty] at hb
      cases hr : bindAll P cfg s.kind (.struct fs') (.struct cvs) s with
      | panic => rw [hr] at hb; exact hb
      | done v es =>
        rw [hr] at hb
        obtain ⟨⟨rvs, rfl, hwr⟩, he, _⟩ := hb
        have ih' := ih rvs hwr
        dsimp only
        generalize runStepsAll P cfg fs (.struct fs') (.struct ivs0) rest (.struct rvs) = out at ih' ⊢
        cases out with
        | panic => exact ih'
        | done v2 es2 =>
          refine ⟨fun e hmem => ?_, fun r hr' => ?_⟩
          · rcases List.mem_append.1 hmem with hmem | hmem
            · obtain ⟨e', he', rfl⟩ := List.mem_map.1 hmem
              exact ⟨ph, hph, he e' he'⟩
            · exact ih'.1 e hmem
          · rcases ih'.2 r hr' with h | ⟨e, he, hx⟩
            · exact Or.inl h
            · exact Or.inr ⟨e, List.mem_append.2 (Or.inr he), hx⟩
    · rw [if_neg ht]
      exact ih cvs hw
  | .body r :: rest, hs, hd, cvs, hw => by
    have ih := lemma_runStepsAll_in P hP cfg fs fs' hg phs B ivs0 rest hs (fun r' hr => hd r' (List.mem_cons_of_mem _ hr))
    obtain ⟨hdoc, hrB⟩ := hd r List.mem_cons_self
    simp only [runStepsAll]
    cases hdec : decodeBody r with
    | ok dv =>
      -- a body that decodes adds no error, and the merged value is well typed (`mergeVals_wts`)
      obtain ⟨js, rfl, hwj⟩ := decodeBody_typed fs r hdoc dv hdec
      have ih' := ih (mergeVals ivs0 js cvs) (mergeVals_wts fs ivs0 js cvs hwj hw)
      simp only [mergeDec]
      generalize runStepsAll P cfg fs (.struct fs') (.struct ivs0) rest (.struct (mergeVals ivs0 js cvs)) = out at ih' ⊢
      cases out with
      | panic => exact ih'
      | done v2 es2 =>
        refine ⟨ih'.1, fun r' hr' => ?_⟩
        rcases List.mem_cons.1 hr' with rfl | hr'
        · exact Or.inl ⟨_, hdec⟩
        · exact ih'.2 r' hr'
    | error e0 =>
      -- a body that fails: its error `e0` goes in front, the value stays; `e0` is not a `.bind` error (`decodeBody_not_bind`)
      have ih' := ih cvs hw
      dsimp only
      generalize runStepsAll P cfg fs (.struct fs') (.struct ivs0) rest (.struct cvs) = out at ih' ⊢
      cases out with
      | panic => exact ih'
      | done v2 es2 =>
        obtain ⟨i1, i2⟩ := ih'
        refine ⟨fun e he => ?_, fun r' hr' => ?_⟩
        · rcases List.mem_cons.1 he with rfl | he
          · cases e with
            | bind e' => exact absurd hdec (decodeBody_not_bind r e')
            | _ => exact ⟨r, hrB, hdec⟩
          · exact i1 e he
        · rcases List.mem_cons.1 hr' with rfl | hr'
          · exact Or.inr ⟨e0, List.mem_cons_self, hdec⟩
          · rcases i2 r' hr' with h | ⟨e, he, hx⟩
            · exact Or.inl h
            · exact Or.inr ⟨e, List.mem_cons_of_mem _ he, hx⟩

/-- `lemma_runStepsAll_in` with the phase of every source given by `mk` and the body sources those of `steps`.
    (`bindStepsAll_errors_meet_spec` instantiates `lemma_runStepsAll_in` itself, with `Spec.phasesOf`.) -/
theorem lemma_runStepsAll (P : Params) (hP : FloatSane P) (cfg : Cfg) (fs fs' : List Fld) (hg' : Spec.inGrammarFs fs' = true)
    (hwfs : ∀ vs, wts fs' vs = wts fs vs) (mk : Src → Spec.Phase) (hk : ∀ s, (mk s).src = s) (hfs : ∀ s, phaseFs fs (mk s) = fs')
    (ivs0 : List Val) (hw0 : wts fs ivs0 = true) :
    ∀ (steps : List Step), (∀ s ∈ Spec.srcsOf steps, Spec.srcOK s = true) → (∀ r ∈ Spec.bodiesOf steps, DocTyped fs r.doc) →
    ∀ cvs : List Val, wts fs cvs = true →
    match runStepsAll P cfg fs (.struct fs') (.struct ivs0) steps (.struct cvs) with
    | .done _ es =>
      (∀ e ∈ es, match e with
        | .bind e' => ∃ s ∈ Spec.srcsOf steps, Spec.mentionsFs s.kind fs = true ∧ PhaseErr P cfg fs (mk s) e'
        | e => ∃ r ∈ Spec.bodiesOf steps, decodeBody r = .error e) ∧
      (∀ r ∈ Spec.bodiesOf steps, (∃ dv, decodeBody r = .ok dv) ∨ ∃ e ∈ es, decodeBody r = .error e)
    | .panic => False := by
  intro steps hs hd cvs hw
  -- `hfs` alone says how `fs'` relates to `fs`: `hwfs` follows from it, and `hw0` is not needed
  have _ := And.intro hwfs hw0
  have hg : Spec.inGrammarFs fs = true := by rw [← lemma_phaseFs_grammar fs (mk default), hfs]; exact hg'
  have h := lemma_runStepsAll_in P hP cfg fs fs' hg
    (((Spec.srcsOf steps).filter fun s => Spec.mentionsFs s.kind fs).map mk) (Spec.bodiesOf steps) ivs0 steps
    (fun s hsm => ⟨hs s hsm, fun hm => ⟨mk s, List.mem_map.2 ⟨s, List.mem_filter.2 ⟨hsm, hm⟩, rfl⟩, hk s, hfs s⟩⟩)
    (fun r hr => ⟨hd r hr, hr⟩) cvs hw
  generalize runStepsAll P cfg fs (.struct fs') (.struct ivs0) steps (.struct cvs) = out at h ⊢
  cases out with
  | panic => exact h
  | done v es =>
    refine ⟨fun e he => ?_, h.2⟩
    have := h.1 e he
    cases e with
    | bind e' =>
      obtain ⟨ph, hph, hpe⟩ := this
      obtain ⟨s, hsf, rfl⟩ := List.mem_map.1 hph
      exact ⟨s, (List.mem_filter.1 hsf).1, by simpa using (List.mem_filter.1 hsf).2, hpe⟩
    | _ => exact this

theorem stepsAll_bool (P : Params) (cfg : Cfg) (fs : List Fld) (hg : Spec.inGrammarFs fs = true) (init : Val) (steps : List Step)
    (errs : List BErr)
    (h1 : ∀ e ∈ errs, match e with
      | .bind e' => ∃ ph ∈ Spec.phasesOf fs (Spec.srcsOf steps), PhaseErr P cfg fs ph e'
      | e => ∃ r ∈ Spec.bodiesOf steps, decodeBody r = .error e)
    (h2 : ∀ r ∈ Spec.bodiesOf steps, (∃ dv, decodeBody r = .ok dv) ∨ ∃ e ∈ errs, decodeBody r = .error e) :
    ((errs.all fun e => match e with
      | .bind e' => (steps.isEmpty && e' == Err.conv) || (Spec.multiCauses P cfg fs init (Spec.srcsOf steps)).contains e'
      | e => (Spec.bodiesOf steps).any fun r => (Spec.admissible r).any (Spec.isErrWith e)) &&
    ((Spec.bodiesOf steps).all fun r =>
      !(Spec.okVals (Spec.admissible r)).isEmpty || errs.any (fun e => (Spec.admissible r).any (Spec.isErrWith e)))) = true := by
  simp only [Bool.and_eq_true, List.all_eq_true]
  refine ⟨?_, ?_⟩
  · intro e he
    have := h1 e he
    cases e with
    | bind e' =>
      obtain ⟨ph, hph, hpe⟩ := this
      simp only [Bool.or_eq_true]
      right
      simp only [List.contains_iff_mem, Spec.multiCauses, List.mem_flatMap]
      exact ⟨ph, hph, lemma_phase_err P cfg fs hg ph init e' hpe⟩
    | _ => obtain ⟨r, hr, hx⟩ := this; exact List.any_eq_true.2 ⟨r, hr, (decodeBody_admissible r).1 _ hx⟩
  · intro r hr
    simp only [Bool.or_eq_true, Bool.not_eq_true', List.any_eq_true]
    rcases h2 r hr with ⟨dv, hdv⟩ | ⟨e, he, hx⟩
    · left
      cases hok : Spec.okVals (Spec.admissible r) with
      | nil => exact absurd hok ((decodeBody_admissible r).2 dv hdv)
      | cons _ _ => rfl
    · exact Or.inr ⟨e, he, List.any_eq_true.1 ((decodeBody_admissible r).1 _ hx)⟩

/-- **`WithAllErrors` with body sources next to value sources: the reported errors meet the collecting oracle** - every
    error of a value source has a cause in its own pass, every body error is one the oracle admits for that body
    source, and a body source that can only fail is reported; never a panic. (The *value* of a mixed bind - with or
    without errors - rests on the disjointness of body and value fields, which the driver checks per case.)
    Hypothesis on the shipped parameter: what encoding/json / encoding/xml decode is a well-typed value of the
    destination type (`DocTyped`). -/
theorem bindStepsAll_errors_meet_spec (P : Params) (hP : FloatSane P) (cfg : Cfg) (fs : List Fld) (ivs : List Val)
    (steps : List Step) (hw : wts fs ivs = true) (hg : Spec.inGrammarFs fs = true)
    (hs : ∀ s ∈ Spec.srcsOf steps, Spec.srcOK s = true) (hd : ∀ r ∈ Spec.bodiesOf steps, DocTyped fs r.doc) :
    match bindStepsAll P cfg fs (.struct ivs) steps with
    | .done v (e0 :: es) => Spec.specStepsAll P cfg fs (.struct ivs) steps (.done v (e0 :: es)) = true
    | .done _ [] => True
    | .panic => False := by
  unfold bindStepsAll
  simp only [filterMap_src_eq_srcsOf]
  by_cases hemp : steps.isEmpty = true
  · rw [if_pos hemp]
    have : steps = [] := by simpa using hemp
    subst this
    simp [Spec.specStepsAll, Spec.bodiesOf]
  · rw [if_neg hemp]
    have hbod : ∀ r ∈ Spec.bodiesOf steps, DocTyped fs r.doc ∧ r ∈ Spec.bodiesOf steps := fun r hr => ⟨hd r hr, hr⟩
    by_cases h1 : (Spec.srcsOf steps).length ≤ 1
    · rw [if_pos h1]
      -- a value source that takes part is the one source: its phase binds the type as it is
      have hrun := lemma_runStepsAll_in P hP cfg fs fs hg (Spec.phasesOf fs (Spec.srcsOf steps)) (Spec.bodiesOf steps) ivs steps
        (fun s hsm => ⟨hs s hsm, fun hm => ⟨_, (lemma_mem_phasesOf _ _ _).2 ⟨s, hsm, hm, by
          rw [if_pos (by have := List.length_pos_of_mem hsm; rw [beq_iff_eq]; omega)]⟩, rfl, rfl⟩⟩) hbod ivs hw
      cases hr : runStepsAll P cfg fs (.struct fs) (.struct ivs) steps (.struct ivs) with
      | panic => rw [hr] at hrun; exact hrun
      | done v errs =>
        rw [hr] at hrun
        cases errs with
        | nil => trivial
        | cons e0 es => exact stepsAll_bool P cfg fs hg (.struct ivs) steps (e0 :: es) hrun.1 hrun.2
    · rw [if_neg h1]
      have hne : ((Spec.srcsOf steps).length == 1) = false := by
        rw [beq_eq_false_iff_ne]
        omega
      -- the defaults pass over the emptied value sources
      rw [lemma_bindPassAll_phases P cfg fs fs
        (fun s => { src := { s with kvs := [] }, defaultsOnly := true, noDefaults := false })
        (fun _ => by simp [phaseFs]) (Spec.srcsOf steps) (.struct ivs) (fun s => { s with kvs := [] })
        (fun _ => rfl) (fun _ => rfl)]
      have hrunA := lemma_runAll P hP cfg fs hg (((Spec.srcsOf steps).filter fun s => Spec.mentionsFs s.kind fs).map
          fun s => ({ src := { s with kvs := [] }, defaultsOnly := true, noDefaults := false } : Spec.Phase))
        (fun ph hph => by
          obtain ⟨s, _, rfl⟩ := List.mem_map.1 hph
          exact lemma_srcOK_empty s) ivs hw
      generalize runPhasesAll P cfg fs _ (.struct ivs) = outA at hrunA ⊢
      cases outA with
      | panic => exact hrunA
      | done v1 es1 =>
        obtain ⟨⟨rvs, rfl, hwr⟩, hA1⟩ := hrunA
        simp only
        -- the values pass: the phase of a value source binds the type without default tags
        have hrun := lemma_runStepsAll_in P hP cfg fs (stripFs fs) hg (Spec.phasesOf fs (Spec.srcsOf steps)) (Spec.bodiesOf steps)
          ivs steps (fun s hsm => ⟨hs s hsm, fun hm => ⟨_, (lemma_mem_phasesOf _ _ _).2 ⟨s, hsm, hm, by
            rw [if_neg (by rw [hne]; exact Bool.false_ne_true)]; exact Or.inr rfl⟩, rfl, rfl⟩⟩) hbod rvs hwr
        cases hr : runStepsAll P cfg fs (.struct (stripFs fs)) (.struct ivs) steps (.struct rvs) with
        | panic => rw [hr] at hrun; exact hrun
        | done v errs =>
          rw [hr] at hrun
          simp only [OutAllB.prepend]
          cases hall : es1.map BErr.bind ++ errs with
          | nil => trivial
          | cons e0 es =>
            simp only [Spec.specStepsAll]
            rw [← hall]
            refine stepsAll_bool P cfg fs hg (.struct ivs) steps _ (fun e he => ?_) (fun r hr' => ?_)
            · rcases List.mem_append.1 he with he | he
              · obtain ⟨e', he', rfl⟩ := List.mem_map.1 he
                obtain ⟨ph, hph, hpe⟩ := hA1 e' he'
                obtain ⟨s, hsf, rfl⟩ := List.mem_map.1 hph
                refine ⟨_, (lemma_mem_phasesOf _ _ _).2 ⟨s, (List.mem_filter.1 hsf).1, by simpa using (List.mem_filter.1 hsf).2, ?_⟩, hpe⟩
                rw [if_neg (by rw [hne]; exact Bool.false_ne_true)]
                exact Or.inl rfl
              · exact hrun.1 e he
            · rcases hrun.2 r hr' with h | ⟨e, he, hx⟩
              · exact Or.inl h
              · exact Or.inr ⟨e, List.mem_append.2 (Or.inr he), hx⟩

/-! ## the depth limit and the nested-struct JSON shortcut (K04k) -/

/-- **The depth test comes before the shortcut**: a nested struct field beyond the depth limit is the depth error
    naming the field, whatever its own key holds - also a JSON value the decoder would accept (after the fix for K04k;
    `model_depth_check` is the same statement for the plain step). -/
theorem bindJ_depth_check_first (P : Params) (cfg : Cfg) (nest : Nest) (g : Getter) (depth : Nat) (f : FieldInfo) (cur : Val)
    (hm : isMapTy f.ty = false) (hs : isStructTy f.ty = true) (hd : cfg.maxDepth < depth + 1) :
    fieldActionJ P cfg nest g depth f cur = .inr (.err (.bind f.name .depth)) := by
  unfold fieldActionJ
  simp only [hm, hs, hd, decide_true, Bool.not_true, Bool.and_false, Bool.false_eq_true, if_false]
  rw [fieldAction_struct P cfg nest g depth f cur hs, if_pos hd]

/-- … and in the collecting bind -/
theorem bindAllJ_depth_check_first (P : Params) (cfg : Cfg) (nest : NestAll) (g : Getter) (depth : Nat) (f : FieldInfo) (cur : Val)
    (hm : isMapTy f.ty = false) (hs : isStructTy f.ty = true) (hd : cfg.maxDepth < depth + 1) :
    fieldActionAllJ P cfg nest g depth f cur = .skip [.bind f.name .depth] := by
  unfold fieldActionAllJ
  simp only [hm, hs, hd, decide_true, Bool.not_true, Bool.and_false, Bool.false_eq_true, if_false]
  rw [fieldActionAll_struct P cfg nest g depth f cur hs, if_pos hd]

def k04kP : Params := fun s => if s == B "{\"X\":1}" then { nj := some (.struct [.int 1]) } else {}
def k04kCfg : Cfg := { Cfg.default with maxDepth := 0 }
def k04kField : FieldInfo :=
  { index := [0], name := B "N", tagName := B "n", aliases := [],
    ty := .struct [({ name := B "X", exported := true, anon := false, tags := [B "x"], dflt := [] }, .prim (.int 0))],
    dflt := [], typedDefault := none }
def k04kGetter : Getter := { src := { kind := .query, kvs := [(B "n", [B "{\"X\":1}"])] } }
def isBoundOne : Val ⊕ Stop → Bool
  | .inl (.struct [.int 1]) => true
  | _ => false
def isDepthErr : Val ⊕ Stop → Bool
  | .inr (.err (.bind _ .depth)) => true
  | _ => false

/-- as shipped (K04k): with `WithMaxDepth(0)` a nested struct whose own key held a JSON value was bound at depth 1;
    after the fix it is the depth error -/
theorem shortcut_depth_asis_witness :
    isBoundOne (fieldActionJAsIs k04kP k04kCfg (fun _ _ _ _ => .err .depth) k04kGetter 0 k04kField (.struct [.int 0])) = true ∧
    isDepthErr (fieldActionJ k04kP k04kCfg (fun _ _ _ _ => .err .depth) k04kGetter 0 k04kField (.struct [.int 0])) = true := by
  decide +kernel

/-! ## the nested-struct JSON shortcut in a collecting bind -/

theorem bindAllJ_eq_bindAll (P : Params) (cfg : Cfg) (tag : Tag) (ty : Ty) (init : Val) (src : Src)
    (h : ∀ s, (P s).nj = none) : bindAllJ P cfg tag ty init src = bindAll P cfg tag ty init src := by
  unfold bindAllJ bindAll
  cases ty with
  | struct fs => rw [lemma_bindAtAllJ_eq P cfg tag h]
  | _ => rfl

theorem specAllJ_eq_specAll (P : Params) (cfg : Cfg) (tag : Tag) (fs : List Fld) (init : Val) (s : Src) (o : Spec.ObsAll)
    (h : ∀ x, (P x).nj = none) : Spec.specAllJ P cfg tag fs init s o = Spec.specAll P cfg tag fs init s o := by
  simp [Spec.specAllJ, shortcuts_none P cfg tag fs s h]

/-- `bindAll_meets_spec` carries over to every collecting case without a shortcut -/
theorem bindAllJ_meets_spec_no_shortcut (P : Params) (hP : FloatSane P) (cfg : Cfg) (tag : Tag) (fs : List Fld) (ivs : List Val)
    (src : Src) (hw : wts fs ivs = true) (hg : Spec.inGrammarFs fs = true) (hs : Spec.srcOK src = true)
    (h : ∀ s, (P s).nj = none) :
    Spec.specAllJ P cfg tag fs (.struct ivs) src (toObsAll (bindAllJ P cfg tag (.struct fs) (.struct ivs) src)) = true := by
  rw [bindAllJ_eq_bindAll P cfg tag _ _ _ h, specAllJ_eq_specAll P cfg tag fs _ src _ h]
  exact bindAll_meets_spec P hP cfg tag fs ivs src hw hg hs

end Rivaas.C04
