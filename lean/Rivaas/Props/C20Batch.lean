import Rivaas.Model.LogBatch
/-
C20 — the BatchLogger neither loses, repeats nor reorders what is logged through it: for every batch size and every
sequence of operations (= every interleaving of the goroutines, since each operation holds the batch mutex throughout).
-/
namespace Rivaas.C20
open Rivaas.LogBatch

theorem lemma_added_append (a b : List Op) : added (a ++ b) = added a ++ added b := by
  induction a with
  | nil => rfl
  | cons o rest ih => cases o <;> simp [added, ih]

theorem lemma_step_inv (size : Nat) (s : St) (o : Op) :
    (step size s o).out ++ (step size s o).batch = s.out ++ s.batch ++ added [o] := by
  cases o with
  | add e =>
    simp only [step, added]
    split <;> simp [flushLocked]
  | flush => simp [step, flushLocked, added]
  | close => simp [step, flushLocked, added]

/-- nothing lost, nothing twice, nothing reordered: what has been handed to the Logger followed by what still sits in
    the batch is exactly what was logged, in the order the calls took effect -/
theorem batch_conserves_entries (size : Nat) (ops : List Op) :
    (run size ops).out ++ (run size ops).batch = added ops := by
  have h : ∀ (s : St), (ops.foldl (step size) s).out ++ (ops.foldl (step size) s).batch = s.out ++ s.batch ++ added ops := by
    induction ops with
    | nil => intro s; simp [added]
    | cons o rest ih =>
      intro s
      rw [List.foldl_cons, ih, lemma_step_inv]
      have : added (o :: rest) = added [o] ++ added rest := lemma_added_append [o] rest
      rw [this, List.append_assoc]
  simpa [run] using h {}

/-- the records of one goroutine reach the Logger in the order they were logged: the output restricted to a goroutine
    is a prefix of what that goroutine logged -/
theorem batch_keeps_goroutine_order (size : Nat) (ops : List Op) (g : Nat) :
    ((run size ops).out.filter (·.1 == g)) <+: ((added ops).filter (·.1 == g)) := by
  rw [← batch_conserves_entries size ops, List.filter_append]
  exact List.prefix_append _ _

/-- after `Flush` or `Close` nothing is left in the batch: everything logged so far has been handed to the Logger -/
theorem batch_empty_after_flush (size : Nat) (ops : List Op) (o : Op) (ho : o = .flush ∨ o = .close) :
    (run size (ops ++ [o])).batch = [] ∧ (run size (ops ++ [o])).out = added ops := by
  -- the last operation hands on all there is: what was handed on before, then the batch
  have hrun : run size (ops ++ [o]) = flushLocked (run size ops) := by
    rcases ho with rfl | rfl <;> exact List.foldl_append
  rw [hrun]
  exact ⟨rfl, batch_conserves_entries size ops⟩

/-- a full batch is flushed by the `add` that fills it: with a positive size the batch never holds `size` entries -/
theorem batch_stays_below_size (size : Nat) (hs : 0 < size) (ops : List Op) : (run size ops).batch.length < size := by
  refine List.foldlRecOn (motive := fun s : St => s.batch.length < size) ops _ hs fun s _ o _ => ?_
  cases o with
  | add e =>
    simp only [step]
    split
    · exact hs
    · rename_i hge; exact Nat.lt_of_not_ge hge
  | flush => exact hs
  | close => exact hs

/-- non-vacuity / witness: two goroutines, batch size 3 -/
example : (run 3 [.add (0, 0), .add (1, 0), .flush, .add (0, 1), .add (1, 1), .add (0, 2), .add (1, 2), .close]).out =
    [(0, 0), (1, 0), (0, 1), (1, 1), (0, 2), (1, 2)] := by decide

end Rivaas.C20
