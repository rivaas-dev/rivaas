import Rivaas.Model.ObsApp
import Rivaas.Spec.Obs
/-
C08, app layer: the recorder implementations on top of the router's callbacks (Model/ObsApp.lean).

The router-level theorems (Tie.C08.serve_shape_paths, C08.serve_meets_spec) say that OnRequestStart / OnRequestEnd are
paired and that the label is bounded. Here: what the app recorder and the standalone metrics / tracing middlewares make
of it — for every stack of layers, every history of requests: every started span is ended, every series of the
active-requests gauge is back at zero, and (app recorder, a request that is not excluded, no foreign wrapper in front
that hides status and size: `readable`) the recorded status / size / route are what the client received and the label
the router reported.
-/
namespace Rivaas.C08
open Rivaas.ObsApp

def wReqD : Req := ⟨"GET".toList, "/x".toList, false, 503, 5, "/x".toList⟩

/-- started − ended, gauge series: what must be unchanged by a complete request -/
def bal (t : Tele) : Int × Int × Int := ((t.started : Int) - t.ended, t.gauge0, t.gaugeA)

/-- whatever happens between a span's start and its finish: if it keeps the balance, so does the whole -/
theorem bal_spanFinish {t u : Tele} (h : bal t = bal u.spanStart) (n : Bytes) (st : Nat) :
    bal (t.spanFinish n st) = bal u := by
  simp only [bal, Tele.spanStart, Tele.spanFinish, Prod.mk.injEq] at h ⊢
  exact ⟨by omega, h.2⟩

/-- likewise between `BeginRequest` and `Finish`: with `fixed`, increment and decrement hit the same series -/
theorem bal_finish {t u : Tele} (h : bal t = bal u.begin) (a : Bool) (r : Bytes) (st sz : Nat) :
    bal (t.finish fixed a r st sz) = bal u := by
  simp only [bal, Tele.begin, Tele.finish, fixed, Bool.false_and, Bool.false_eq_true, if_false, Prod.mk.injEq] at h ⊢
  exact ⟨h.1, by omega, h.2.2⟩

theorem lemma_bal_start_finish (t : Tele) (n : Bytes) (st : Nat) :
    bal (t.spanStart.spanFinish n st) = bal t :=
  bal_spanFinish rfl n st

theorem lemma_bal_begin_finish (t : Tele) (a : Bool) (r : Bytes) (st sz : Nat) :
    bal ((t.begin).finish fixed a r st sz) = bal t :=
  bal_finish rfl a r st sz

theorem lemma_runTerm_bal (term : Term) (w : WKind) (q : Req) (s : World) :
    bal (runTerm fixed term w q s).mw = bal s.mw ∧ bal (runTerm fixed term w q s).app = bal s.app := by
  cases term with
  | mux => exact ⟨rfl, rfl⟩
  | app =>
    simp only [runTerm]
    split
    · exact ⟨rfl, rfl⟩
    · exact ⟨rfl, bal_finish (bal_spanFinish rfl _ _) false _ _ _⟩

/-- the balance invariant: one complete request through any stack leaves, in both provider pairs, the number of open
    spans and every series of the active-requests gauge where they were. -/
theorem run_balanced (term : Term) (stack : List Layer) :
    ∀ (w : WKind) (q : Req) (s : World),
      bal (run fixed term stack w q s).mw = bal s.mw ∧ bal (run fixed term stack w q s).app = bal s.app := by
  induction stack with
  | nil => exact lemma_runTerm_bal term
  | cons l rest ih =>
    intro w q s
    cases l with
    | foreign e => exact ih _ q s
    | tracing =>
      simp only [run]
      split
      · exact ih w q s
      · split <;> exact ⟨bal_spanFinish (ih _ q _).1 _ _, (ih _ q _).2⟩
    | metrics =>
      have hk : fixed.k08c = false := rfl
      simp only [run, hk, Bool.false_eq_true, if_false]
      split
      · exact ih w q s
      · split <;> exact ⟨bal_finish (ih _ q _).1 true _ _ _, (ih _ q _).2⟩

theorem runAll_balanced (term : Term) (stack : List Layer) (reqs : List Req) :
    ∀ s : World, bal (runAll fixed term stack reqs s).mw = bal s.mw ∧ bal (runAll fixed term stack reqs s).app = bal s.app :=
  fun s => List.foldlRecOn (motive := fun s' : World => bal s'.mw = bal s.mw ∧ bal s'.app = bal s.app) reqs _ ⟨rfl, rfl⟩
    fun s' h q _ => (run_balanced term stack .raw q s').imp (·.trans h.1) (·.trans h.2)

theorem lemma_quiescent_of_bal (t : Tele) (h : bal t = bal {}) : t.quiescent = true := by
  simp only [bal, Prod.mk.injEq] at h
  simp only [Tele.quiescent, Bool.and_eq_true, beq_iff_eq]
  refine ⟨⟨?_, h.2.1⟩, h.2.2⟩
  have := h.1
  omega

/-- **Every started span is ended and the active-requests gauge returns to zero when the server is idle** — for the
    standalone middlewares and for the app recorder, for every stack of layers, either bottom, every history. -/
theorem stack_quiescent (term : Term) (stack : List Layer) (reqs : List Req) :
    (runAll fixed term stack reqs).mw.quiescent = true ∧ (runAll fixed term stack reqs).app.quiescent = true := by
  have h := runAll_balanced term stack reqs {}
  exact ⟨lemma_quiescent_of_bal _ h.1, lemma_quiescent_of_bal _ h.2⟩

-- non-vacuity: a stack with every kind of layer, the app at the bottom, a failing and an excluded request
example : (runAll fixed .app [.tracing, .metrics, .foreign true]
    [⟨"GET".toList, "/a".toList, false, 500, 7, "/a".toList⟩, ⟨"GET".toList, "/healthz".toList, true, 200, 2, "/healthz".toList⟩]).mw.started = 1 := by
  decide

/-! ### the app recorder records what the client received, under the label the router reported -/

/-- no layer of the stack hides status and size behind a marked writer that exposes nothing (a foreign wrapper that
    claims `IsObservabilityWrapped` without being readable makes every layer below it blind — outside the statement) -/
def readable : List Layer → Bool
  | [] => true
  | .foreign e :: rest => e && readable rest
  | _ :: rest => readable rest

/-- by induction over the stack: the writer a layer of a readable stack hands down is never blind, so the app at the bottom
    reads status and size from it -/
theorem lemma_run_app_row (stack : List Layer) :
    ∀ (w : WKind) (q : Req) (s : World), readable stack = true → w ≠ .blind → q.excluded = false →
      (run fixed .app stack w q s).app.rows = addRow s.app.rows (routeAttr q.label) q.status q.size ∧
      (run fixed .app stack w q s).app.spans = s.app.spans ++ [(spanName q.method (routeAttr q.label), errOf q.status)] := by
  induction stack with
  | nil =>
    intro w q s _ hw hx
    -- the bottom: a raw writer gets the app's own wrapper, and from each of the three kinds that are not blind `appInfo`
    -- (with `fixed`) reads the request's status and size
    cases w <;> simp_all [run, runTerm, appInfo, fixed, Tele.finish, Tele.spanFinish, Tele.spanStart, Tele.begin]
  | cons l rest ih =>
    intro w q s hr hw hx
    cases l with
    | foreign e =>
      simp only [readable, Bool.and_eq_true] at hr
      simp only [run, hr.1, if_true]
      exact ih .info64 q s hr.2 (by simp) hx
    | tracing =>
      simp only [readable] at hr
      simp only [run, hx, Bool.false_eq_true, if_false]
      split
      · exact ih w q _ hr hw hx
      · exact ih .mw q _ hr (by simp) hx
    | metrics =>
      simp only [readable] at hr
      simp only [run, hx, Bool.false_eq_true, if_false]
      split
      · have hk : fixed.k08c = false := rfl
        simp only [hk, Bool.false_eq_true, if_false]
        exact ih w q _ hr hw hx
      · exact ih .mw q _ hr (by simp) hx

/-- **The status and size the app recorder records equal what the client received; the route it reports is the label
    of the router's end callback (or the `_unmatched` sentinel for the empty one)** — whatever standalone layers are
    stacked in front of the app. -/
theorem app_records_truthfully (stack : List Layer) (q : Req) (s : World)
    (hr : readable stack = true) (hx : q.excluded = false) :
    (run fixed .app stack .raw q s).app.rows = addRow s.app.rows (routeAttr q.label) q.status q.size ∧
    (run fixed .app stack .raw q s).app.spans = s.app.spans ++ [(spanName q.method (routeAttr q.label), errOf q.status)] :=
  lemma_run_app_row stack .raw q s hr (by simp) hx

example : readable [.tracing, .metrics, .foreign true] = true := by decide

/-- an excluded request leaves the app's telemetry untouched -/
theorem app_excluded_silent (stack : List Layer) :
    ∀ (w : WKind) (q : Req) (s : World), q.excluded = true → (run fixed .app stack w q s).app = s.app := by
  induction stack with
  | nil => intro w q s hx; simp [run, runTerm, hx]
  | cons l rest ih =>
    intro w q s hx
    cases l with
    | foreign e => simpa [run] using ih _ q s hx
    | tracing => simpa [run, hx] using ih w q s hx
    | metrics => simpa [run, hx] using ih w q s hx

/-- bounded labels: the route attribute / span name of the app recorder is built from the router's label only -/
theorem app_route_bounded (patterns : List Bytes) (l : Bytes) (h : Obs.labelOK patterns l = true) :
    Obs.labelOK patterns (routeAttr l) = true := by
  unfold routeAttr
  split
  -- `_unmatched` is the third sentinel
  · exact Bool.or_eq_true_iff.mpr (Or.inr (List.contains_iff_mem.mpr
      (List.mem_cons_of_mem _ (List.mem_cons_of_mem _ List.mem_cons_self))))
  · exact h

/-! ### late-initialised provider -/

theorem lemma_serveDeferred_gauge (b : Bool) (q : Req) (d : Deferred) :
    (serveDeferred b q d).tele.gauge0 = d.tele.gauge0 ∧ (serveDeferred b q d).tele.gaugeA = d.tele.gaugeA := by
  unfold serveDeferred
  cases d.started <;> simp [Tele.begin, Tele.finish, fixed]

/-- a request that began before the provider was started is neither counted in nor counted out: the gauge is at zero
    after every history, wherever the start happens -/
theorem deferred_quiescent (startAt : Nat) (reqs : List Req) :
    ∀ (i : Nat) (d : Deferred), (runDeferred startAt i reqs d).tele.gauge0 = d.tele.gauge0 ∧
      (runDeferred startAt i reqs d).tele.gaugeA = d.tele.gaugeA := by
  induction reqs with
  | nil => intro i d; simp [runDeferred]
  | cons q rest ih =>
    intro i d
    simp only [runDeferred]
    have h1 := ih (i + 1) (serveDeferred (i == startAt) q d)
    have h2 := lemma_serveDeferred_gauge (i == startAt) q d
    exact ⟨h1.1.trans h2.1, h1.2.trans h2.2⟩

example : (runDeferred 1 0 [wReqD, wReqD, wReqD, wReqD] {}).tele.rows = [⟨"/x".toList, 503, 2, 10⟩] := by decide

/-! ### the as-shipped code (before the fixes) -/

def wReq : Req := ⟨"GET".toList, "/x".toList, false, 503, 5, "/x".toList⟩

/-- K08c: tracing.Middleware(metrics.Middleware(mux)) — the metrics middleware began the request and returned without
    finishing it: after three requests the idle server shows three active requests -/
theorem asIs_k08c_gauge_leaks :
    (runAll { k08c := true } .mux [.tracing, .metrics] [wReq, wReq, wReq]).mw.gauge0 = 3 ∧
    (runAll fixed .mux [.tracing, .metrics] [wReq, wReq, wReq]).mw.gauge0 = 0 := by decide

/-- K08d: metrics.Middleware(mux) — the increment went to the series without attributes, the decrement to the series
    of the attributes added in between: no series is at zero on the idle server -/
theorem asIs_k08d_series_drift :
    (runAll { k08d := true } .mux [.metrics] [wReq, wReq]).mw.gauge0 = 2 ∧
    (runAll { k08d := true } .mux [.metrics] [wReq, wReq]).mw.gaugeA = -2 ∧
    (runAll fixed .mux [.metrics] [wReq, wReq]).mw.quiescent = true := by decide

/-- K08f: tracing.Middleware(app) — the app recorder found a marked writer, did not wrap, and could not read it (Size()
    is an int there): a 503 with 5 bytes was recorded as 200 with 0 bytes -/
theorem asIs_k08f_app_records_200 :
    (runAll { k08f := true } .app [.tracing] [wReq]).app.rows = [⟨"/x".toList, 200, 1, 0⟩] ∧
    (runAll fixed .app [.tracing] [wReq]).app.rows = [⟨"/x".toList, 503, 1, 5⟩] := by decide

/-- the as-shipped flags only matter on the inputs of the three findings: with a raw writer at every layer and no
    attributes added (no standalone layer at all) as-shipped = fixed -/
theorem asIs_app_alone_eq (fl : Flags) (q : Req) (s : World) :
    run fl .app [] .raw q s = run fixed .app [] .raw q s := by
  simp [run, runTerm, appInfo, Tele.finish, fixed]

end Rivaas.C08
