import Rivaas.Lemmas.PresenceExact
import Rivaas.Lemmas.PresenceLeaf
import Rivaas.Lemmas.PresenceErrors
import Rivaas.Model.PresenceResolve
/-
C05 — Validation is deterministic and partial validation follows presence.

Property theorems about the model of `validation/presence.go` and the error pipeline of
`validation/tags.go` (`Model/Presence.lean`) against the declarative oracle (`Spec/Presence.lean`).
Helper lemmas live in `Lemmas/Presence*.lean` and `Lemmas/BytesOrder.lean`. The model follows the
code after the `fix:` commits for the findings K05, K05b … K05m (each named where it matters); the
behaviour as shipped is kept in the `…AsIs` definitions with a `decide` witness each.
-/
namespace Rivaas.C05
open Rivaas.Presence

/-! ## ComputePresence marks exactly the paths that occur -/

/-- the brute-force enumeration used by the driver's oracle is the declarative relation -/
theorem enum_iff_occurs (kvs : List (Bytes × Json)) (sp : SegPath) : sp ∈ enumObj kvs ↔ Occurs kvs sp :=
  ⟨enumObj_sound, enum_complete⟩

theorem mem_presence (top : List (Bytes × Json)) (p : Path) : p ∈ presence top ↔ p ∈ marks top := by
  unfold presence; exact mem_canon

/-- every marked path occurs in the body — for every body, however deep -/
theorem presence_sound (top : List (Bytes × Json)) (p : Path) (h : p ∈ presence top) : OccursStr top p :=
  have ⟨sp, hsp, _, e⟩ := mem_marks.mp ((mem_presence top p).mp h)
  ⟨sp, hsp, e⟩

/-- within the documented recursion limit the marked paths are exactly the occurring ones -/
theorem presence_exact (top : List (Bytes × Json)) (p : Path) (hd : depthObj top ≤ maxRecursionDepth) :
    p ∈ presence top ↔ OccursStr top p := by
  constructor
  · exact presence_sound top p
  · rintro ⟨sp, hsp, rfl⟩
    exact (mem_presence top _).mpr (mem_marks.mpr ⟨sp, hsp, Nat.le_trans (keys_le_depth hsp) (Nat.succ_le_succ hd), rfl⟩)

/-- the limit in the hypothesis of `presence_exact` is met by ordinary bodies… -/
example : depthObj [("user".toList, .obj [("name".toList, .leaf)]), ("user-id".toList, .leaf)]
    ≤ maxRecursionDepth := by decide
/-- …and the equivalence is not vacuous: `user.name` occurs and is marked, `name` neither -/
example : "user.name".toList ∈ presence [("user".toList, .obj [("name".toList, .leaf)]), ("user-id".toList, .leaf)] := by
  rw [mem_presence]
  -- a literal is `String.ofList` of its characters: `String.toList_ofList` puts them in its place, where evaluation
  -- in the kernel would decode the literal (quadratic in its length)
  repeat rewrite [String.toList_ofList]
  decide +kernel
example : "name".toList ∉ presence [("user".toList, .obj [("name".toList, .leaf)]), ("user-id".toList, .leaf)] := by
  rw [mem_presence]
  repeat rewrite [String.toList_ofList]
  decide +kernel

/-- the observed presence set is in canonical form: strictly ascending, no duplicates -/
theorem presence_canonical (top : List (Bytes × Json)) : (presence top).Pairwise ltB :=
  dedupAdj_strict (sortPaths_sorted _)

/-- Determinism of presence: the result depends only on *which paths occur*, not on the order in
    which any object's keys are visited (`Occurs` speaks about membership only). -/
theorem presence_depends_on_paths_only (t₁ t₂ : List (Bytes × Json))
    (h₁ : depthObj t₁ ≤ maxRecursionDepth) (h₂ : depthObj t₂ ≤ maxRecursionDepth)
    (h : ∀ p, OccursStr t₁ p ↔ OccursStr t₂ p) : presence t₁ = presence t₂ := by
  apply strict_ext (presence_canonical t₁) (presence_canonical t₂)
  intro p
  rw [presence_exact t₁ p h₁, presence_exact t₂ p h₂, h]

/-- Go visits the keys of the top-level map in an arbitrary order: any order gives the same set
    (no depth hypothesis needed) -/
theorem presence_perm (t₁ t₂ : List (Bytes × Json)) (h : t₁.Perm t₂) : presence t₁ = presence t₂ := by
  unfold presence
  apply canon_ext
  intro p
  unfold marks
  rw [markEntries_flatMap, markEntries_flatMap]
  exact (h.flatMap_right _).mem_iff

theorem lemma_subsetB {a b : List Path} : subsetB a b = true ↔ ∀ x ∈ a, x ∈ b := by
  simp [subsetB, List.all_eq_true]

/-- the model passes the presence oracle the driver evaluates on the implementation — all bodies -/
theorem presenceOK_model (top : List (Bytes × Json)) : presenceOK top (presence top) = true := by
  unfold presenceOK
  simp only [Bool.and_eq_true, Bool.or_eq_true, decide_eq_true_eq, lemma_subsetB]
  refine ⟨?_, ?_⟩
  · intro p hp
    obtain ⟨sp, hsp, rfl⟩ := presence_sound top p hp
    exact List.mem_map.mpr ⟨sp, (enum_iff_occurs top sp).mpr hsp, rfl⟩
  · by_cases hd : depthObj top > maxRecursionDepth
    · exact Or.inl hd
    · right
      intro p hp
      obtain ⟨sp, hsp, rfl⟩ := List.mem_map.mp hp
      exact (presence_exact top _ (by omega)).mpr ⟨sp, (enum_iff_occurs top sp).mp hsp, rfl⟩

/-- K05b, as shipped: under an empty top-level key the children lose their parent —
    `{"":{"a":1}}` marks a top-level `a` that does not occur, and the oracle rejects it -/
theorem presence_asis_witness :
    "a".toList ∈ presenceAsIs [([], .obj [("a".toList, .leaf)])] ∧
    ¬ OccursStr [([], .obj [("a".toList, .leaf)])] "a".toList ∧
    "a".toList ∉ presence [([], .obj [("a".toList, .leaf)])] := by
  have hnot : "a".toList ∉ presence [([], .obj [("a".toList, .leaf)])] := by rw [mem_presence]; decide +kernel
  exact ⟨by unfold presenceAsIs; rw [mem_canon]; decide +kernel,
    fun h => hnot ((presence_exact _ _ (by decide)).mpr h), hnot⟩

/-! ## LeafPaths returns exactly the marked paths without a marked descendant -/

/-- for every path set: keys with characters below `.`, which the comparison of sorted neighbours got wrong
    (K05), included -/
theorem leaf_fixed_correct (pm : List Path) (p : Path) : p ∈ leafPaths pm ↔ IsLeaf pm p := by
  rw [leafPaths_eq_spec, mem_sortPaths, List.mem_filter, isLeafB_iff]
  exact and_iff_right_of_imp fun h => h.1

/-- not vacuous: in the K05 body `user.name` and `user-id` are leaves, `user` is not -/
example : IsLeaf ["user".toList, "user-id".toList, "user.name".toList] "user.name".toList := by
  rw [← isLeafB_iff]
  repeat rewrite [String.toList_ofList]
  decide +kernel
example : ¬ IsLeaf ["user".toList, "user-id".toList, "user.name".toList] "user".toList := by
  rw [← isLeafB_iff]
  repeat rewrite [String.toList_ofList]
  decide +kernel

theorem leaf_sorted (pm : List Path) : (leafPaths pm).Pairwise (fun a b => leB a b = true) :=
  sortPaths_sorted _

/-- the keys of a map are distinct, so every leaf is returned once -/
theorem leaf_nodup (pm : List Path) (h : pm.Nodup) : (leafPaths pm).Nodup := by
  unfold leafPaths sortPaths
  exact (List.mergeSort_perm _ _).nodup_iff.mpr (h.filter _)

/-- map iteration order cannot change the result (the order of the leaves decides which errors
    survive the cap, so this is part of determinism) -/
theorem leaf_perm (pm₁ pm₂ : List Path) (h : pm₁.Perm pm₂) : leafPaths pm₁ = leafPaths pm₂ := by
  rw [leafPaths_eq_spec, leafPaths_eq_spec]
  exact sortPaths_perm (perm_leafFilter h)

theorem lemma_strictAsc {l : List Path} (h : l.Pairwise ltB) : strictAsc l = true := by
  induction l with
  | nil => simp [strictAsc]
  | cons a rest ih =>
    cases rest with
    | nil => simp [strictAsc]
    | cons b rest' =>
      have h1 := List.pairwise_cons.mp h
      have hab := h1.1 b (List.mem_cons_self ..)
      simp only [strictAsc, Bool.and_eq_true, bne_iff_ne, ne_eq]
      exact ⟨⟨hab.1, hab.2⟩, ih h1.2⟩

theorem lemma_sortPaths_of_sorted {l : List Path} (h : l.Pairwise (fun a b => leB a b = true)) :
    sortPaths l = l :=
  perm_sorted_eq (List.mergeSort_perm l leB) (sortPaths_sorted l) h

/-- the model passes the leaf oracle the driver evaluates on the implementation -/
theorem leavesOK_model (pm : List Path) (h : pm.Nodup) : leavesOK pm (leafPaths pm) = true := by
  unfold leavesOK
  simp only [Bool.and_eq_true, List.all_eq_true]
  refine ⟨⟨?_, ?_⟩, ?_⟩
  · intro p hp
    exact (isLeafB_iff pm p).mpr ((leaf_fixed_correct pm p).mp hp)
  · intro p hp
    have := (List.mem_filter.mp hp)
    simp only [List.contains_iff_mem]
    exact (leaf_fixed_correct pm p).mpr ((isLeafB_iff pm p).mp this.2)
  · rw [lemma_sortPaths_of_sorted (leaf_sorted pm)]
    -- sorted and without duplicates: strictly ascending
    exact lemma_strictAsc ((leaf_sorted pm).and (leaf_nodup pm h))

/-- K05, as shipped: comparing only neighbours in sorted order keeps `user` although `user.name`
    is present, because the sibling `user-id` sorts between them -/
theorem leaf_adjacent_witness :
    "user".toList ∈ leafPathsAsIs ["user".toList, "user-id".toList, "user.name".toList] ∧
    ¬ IsLeaf ["user".toList, "user-id".toList, "user.name".toList] "user".toList ∧
    "user".toList ∉ leafPaths ["user".toList, "user-id".toList, "user.name".toList] := by
  have hnot : ¬ IsLeaf ["user".toList, "user-id".toList, "user.name".toList] "user".toList := by
    rw [← isLeafB_iff]
    repeat rewrite [String.toList_ofList]
    decide +kernel
  refine ⟨?_, hnot, fun h => hnot ((leaf_fixed_correct _ _).mp h)⟩
  unfold leafPathsAsIs
  repeat rewrite [String.toList_ofList]
  rw [lemma_sortPaths_of_sorted (by decide +kernel)]
  decide +kernel

/-- what the driver evaluates: `validatePartial` is the loop over `leafPaths` by definition -/
theorem validatePartial_unfold (pm : List Path) (rules : List Rule) (o : Opts) :
    validatePartial pm rules o = partialFrom mkErr (leafPaths pm) (ownTags rules) o := rfl

/-! ## partial validation reports an error iff the field is a present leaf that violates its own rule -/

theorem lemma_mem_groups (leaves : List Path) (own : Path → List Viol) (o : Opts) (e : FieldErr) :
    e ∈ (partialGroups mkErr leaves own o).flatten ↔
      ∃ p ∈ leaves.take (maxLeaves o), ∃ v ∈ own p, mkErr o p v = e := by
  rw [partialGroups, ← List.flatMap_def]
  simp only [List.mem_flatMap, List.mem_map]

theorem lemma_partial_sound (pm : List Path) (own : Path → List Viol) (o : Opts) (e : FieldErr)
    (he : e ∈ fieldsOf (partialFrom mkErr (leafPaths pm) own o)) :
    IsLeaf pm e.path ∧ ∃ v ∈ own e.path, e = mkErr o e.path v := by
  obtain ⟨p, hp, v, hv, rfl⟩ := (lemma_mem_groups _ _ _ _).mp ((partialFrom_outcome ..).mem_all he)
  exact ⟨(leaf_fixed_correct pm p).mp (List.mem_of_mem_take hp), v, hv, rfl⟩

theorem lemma_partial_complete (pm : List Path) (own : Path → List Viol) (o : Opts)
    (ht : truncOf (partialFrom mkErr (leafPaths pm) own o) = false) (hl : (leafPaths pm).length ≤ maxLeaves o)
    (p : Path) (hp : IsLeaf pm p) (v : Viol) (hv : v ∈ own p) :
    mkErr o p v ∈ fieldsOf (partialFrom mkErr (leafPaths pm) own o) := by
  apply ((partialFrom_outcome ..).complete ht).mem_iff.mpr
  refine (lemma_mem_groups _ _ _ _).mpr ⟨p, ?_, v, hv, rfl⟩
  rw [List.take_of_length_le hl]
  exact (leaf_fixed_correct pm p).mpr hp

theorem lemma_partial_iff (pm : List Path) (own : Path → List Viol) (o : Opts)
    (ht : truncOf (partialFrom mkErr (leafPaths pm) own o) = false) (hl : (leafPaths pm).length ≤ maxLeaves o)
    (p : Path) (c : Bytes) :
    (∃ e ∈ fieldsOf (partialFrom mkErr (leafPaths pm) own o), e.path = p ∧ e.code = c) ↔
      IsLeaf pm p ∧ ∃ v ∈ own p, tagPrefix ++ v.tag = c := by
  constructor
  · rintro ⟨e, he, rfl, rfl⟩
    obtain ⟨hleaf, v, hv, hev⟩ := lemma_partial_sound pm own o e he
    exact ⟨hleaf, v, hv, by rw [hev]; rfl⟩
  · rintro ⟨hleaf, v, hv, rfl⟩
    exact ⟨mkErr o p v, lemma_partial_complete pm own o ht hl p hleaf v hv, rfl, rfl⟩

/-- what the loop returned is a prefix (in leaf order, then in the validator's order within a leaf) of the
    uncapped error list -/
theorem partial_prefix (pm : List Path) (rules : List Rule) (o : Opts) :
    ∃ k n, (fieldsOf (validatePartial pm rules o)).Perm
      (((partialGroups mkErr (leafPaths pm) (ownTags rules) o).take k).flatten.take n) := by
  obtain ⟨n, hn⟩ := capped_kept o.maxErrors (partialGroups mkErr (leafPaths pm) (ownTags rules) o).flatten
  exact ⟨_, n, by rw [validatePartial, partialFrom_eq_capped, List.take_length]; exact hn⟩

/-- soundness: every reported error concerns a present leaf and is a violation of that
    leaf's own rule; in particular never an absent field -/
theorem partial_sound (pm : List Path) (rules : List Rule) (o : Opts) (e : FieldErr)
    (he : e ∈ fieldsOf (validatePartial pm rules o)) :
    IsLeaf pm e.path ∧ ∃ v ∈ ownTags rules e.path, e = mkErr o e.path v :=
  lemma_partial_sound pm (ownTags rules) o e he

theorem partial_never_absent (pm : List Path) (rules : List Rule) (o : Opts) (e : FieldErr)
    (he : e ∈ fieldsOf (validatePartial pm rules o)) : e.path ∈ pm :=
  (partial_sound pm rules o e he).1.1

/-- completeness: unless the result says `Truncated` (or the body has more leaves than the
    configured field limit), every violation of a present leaf's own rule is reported -/
theorem partial_complete (pm : List Path) (rules : List Rule) (o : Opts)
    (ht : truncOf (validatePartial pm rules o) = false) (hl : (leafPaths pm).length ≤ maxLeaves o)
    (p : Path) (hp : IsLeaf pm p) (v : Viol) (hv : v ∈ ownTags rules p) :
    mkErr o p v ∈ fieldsOf (validatePartial pm rules o) :=
  lemma_partial_complete pm (ownTags rules) o ht hl p hp v hv

theorem lemma_violations (rules : List Rule) (p : Path) :
    violations rules p = (ownTags rules p).map fun v => ⟨p, tagPrefix ++ v.tag, v.shows⟩ := by
  unfold violations ownTags ruleFor
  cases rules.find? (fun r => r.path == p) with
  | none => rfl
  | some r => by_cases h : r.resolves <;> simp [h]

/-- the iff of the property statement, for every path set, rule table, path and code -/
theorem partial_iff (pm : List Path) (rules : List Rule) (o : Opts)
    (ht : truncOf (validatePartial pm rules o) = false) (hl : (leafPaths pm).length ≤ maxLeaves o)
    (p : Path) (c : Bytes) :
    (∃ e ∈ fieldsOf (validatePartial pm rules o), e.path = p ∧ e.code = c) ↔ Expected pm rules p c := by
  rw [validatePartial, lemma_partial_iff pm _ o ht hl p c, Expected, lemma_violations]
  refine and_congr_right fun _ => ⟨fun ⟨v, hv, h⟩ => ⟨_, List.mem_map.mpr ⟨v, hv, rfl⟩, h⟩, fun ⟨w, hw, h⟩ => ?_⟩
  obtain ⟨v, hv, rfl⟩ := List.mem_map.mp hw
  exact ⟨v, hv, h⟩

/-- non-vacuity of `partial_iff`: the K05 body with a rule on `user.name` that is violated and a
    rule on `user-id` that is not — hypotheses hold, the left side is inhabited -/
example :
    let pm := ["user".toList, "user-id".toList, "user.name".toList]
    let rules : List Rule := [⟨"user.name".toList, true, [⟨"min".toList, []⟩], false, false, true, some ["min".toList]⟩,
                             ⟨"user-id".toList, true, [], false, false, true, some []⟩]
    let o : Opts := ⟨0, 0, []⟩
    truncOf (validatePartial pm rules o) = false ∧ (leafPaths pm).length ≤ maxLeaves o ∧
    Expected pm rules "user.name".toList "tag.min".toList ∧ ¬ Expected pm rules "user-id".toList "tag.min".toList := by
  dsimp only
  repeat rewrite [String.toList_ofList]
  refine ⟨?_, ?_, ?_, ?_⟩
  · rw [validatePartial, partialFrom_eq_capped, capped_trunc]
    exact decide_eq_false fun h => Nat.lt_irrefl 0 h.1
  · show (leafPaths _).length ≤ 10000
    rw [leafPaths, sortPaths_length]
    exact Nat.le_trans (List.length_filter_le _ _) (by decide)
  · refine ⟨by rw [← isLeafB_iff]; decide +kernel, ?_⟩; decide +kernel
  · rintro ⟨_, h⟩; revert h; decide +kernel

/-! ## capped at the configured maximum with Truncated set; ordered; redacted -/

theorem truncated_only_when_full (pm : List Path) (rules : List Rule) (o : Opts)
    (ht : truncOf (validatePartial pm rules o) = true) :
    o.maxErrors > 0 ∧ (fieldsOf (validatePartial pm rules o)).length ≥ o.maxErrors :=
  (partialFrom_outcome mkErr (leafPaths pm) (ownTags rules) o).ge_of_trunc ht

/-- capped at the configured maximum, for every rule table (a field may yield any number of errors, e.g. a
    `dive` rule failing on several elements: after the repair of K05l the list is cut): it never exceeds the
    maximum, is exactly full when `Truncated`, and below the maximum otherwise -/
theorem errors_capped (pm : List Path) (rules : List Rule) (o : Opts) (hm : o.maxErrors > 0) :
    (fieldsOf (validatePartial pm rules o)).length ≤ o.maxErrors ∧
    (truncOf (validatePartial pm rules o) = true → (fieldsOf (validatePartial pm rules o)).length = o.maxErrors) ∧
    (truncOf (validatePartial pm rules o) = false → (fieldsOf (validatePartial pm rules o)).length < o.maxErrors) := by
  rw [validatePartial, partialFrom_eq_capped]; exact capped_bounds _ hm

/-- the returned list is ordered by path, then code (`Error.Sort`) -/
theorem errors_sorted (pm : List Path) (rules : List Rule) (o : Opts) :
    (fieldsOf (validatePartial pm rules o)).Pairwise (fun a b => errLe a b = true) :=
  (partialFrom_outcome mkErr (leafPaths pm) (ownTags rules) o).sorted

theorem lemma_mkErr_hidden (o : Opts) (p : Path) (v : Viol) :
    (mkErr o p v).hidden = true ↔ p ∈ o.redacted ∨ ∃ q ∈ v.shows, q ∈ o.redacted := by
  simp only [mkErr, Bool.or_eq_true, List.any_eq_true, List.contains_iff_mem]

/-- an error whose path the redactor covers never shows its value… -/
theorem redacted_absent (pm : List Path) (rules : List Rule) (o : Opts) (e : FieldErr)
    (he : e ∈ fieldsOf (validatePartial pm rules o)) (hr : e.path ∈ o.redacted) : e.hidden = true := by
  obtain ⟨_, v, _, hev⟩ := partial_sound pm rules o e he
  rw [hev]
  exact (lemma_mkErr_hidden ..).mpr (.inl hr)

/-- …nor does an error on a struct, slice or map whose printed value would reveal a covered path -/
theorem redacted_nested_absent (pm : List Path) (rules : List Rule) (o : Opts) (e : FieldErr)
    (he : e ∈ fieldsOf (validatePartial pm rules o)) :
    ∃ v ∈ ownTags rules e.path, e = mkErr o e.path v ∧ ((∃ q ∈ v.shows, q ∈ o.redacted) → e.hidden = true) := by
  obtain ⟨_, v, hv, hev⟩ := partial_sound pm rules o e he
  refine ⟨v, hv, hev, fun h => ?_⟩
  rw [hev]
  exact (lemma_mkErr_hidden ..).mpr (.inr h)

/-- determinism: the whole result is a function of the path *set*: no iteration order of the
    presence map can change the ordered error list, `Truncated`, or which errors survive the cap -/
theorem validate_perm (pm₁ pm₂ : List Path) (h : pm₁.Perm pm₂) (rules : List Rule) (o : Opts) :
    validatePartial pm₁ rules o = validatePartial pm₂ rules o := by
  unfold validatePartial; rw [leaf_perm pm₁ pm₂ h]

/-! ## full validation: the same pipeline over the validator's own error list -/

/-- every returned error is one the validator reported (path, code) with the redaction rule applied -/
theorem full_sound (errs : List (Path × Viol)) (o : Opts) (e : FieldErr)
    (he : e ∈ fieldsOf (validateFull errs o)) : ∃ pv ∈ errs, e = mkErr o pv.1 pv.2 :=
  have ⟨pv, hpv, h⟩ := List.mem_map.mp ((validateFull_outcome mkErr errs o).mem_all he)
  ⟨pv, hpv, h.symm⟩

/-- nothing the validator reported is dropped unless `Truncated` is set -/
theorem full_complete (errs : List (Path × Viol)) (o : Opts) (ht : truncOf (validateFull errs o) = false)
    (pv : Path × Viol) (hpv : pv ∈ errs) : mkErr o pv.1 pv.2 ∈ fieldsOf (validateFull errs o) :=
  ((validateFull_outcome mkErr errs o).complete ht).mem_iff.mpr (List.mem_map.mpr ⟨pv, hpv, rfl⟩)

/-- full mode adds one error at a time, so the loop stops exactly at the maximum: nothing to cut -/
theorem full_capped (errs : List (Path × Viol)) (o : Opts) (hm : o.maxErrors > 0) :
    (fieldsOf (validateFull errs o)).length ≤ o.maxErrors ∧
    (truncOf (validateFull errs o) = true → (fieldsOf (validateFull errs o)).length = o.maxErrors) ∧
    (truncOf (validateFull errs o) = false → (fieldsOf (validateFull errs o)).length < o.maxErrors) := by
  rw [validateFull, validateFull_eq_capped]; exact capped_bounds _ hm

theorem full_truncated_only_when_full (errs : List (Path × Viol)) (o : Opts)
    (ht : truncOf (validateFull errs o) = true) :
    o.maxErrors > 0 ∧ (fieldsOf (validateFull errs o)).length ≥ o.maxErrors :=
  (validateFull_outcome mkErr errs o).ge_of_trunc ht

theorem full_sorted (errs : List (Path × Viol)) (o : Opts) :
    (fieldsOf (validateFull errs o)).Pairwise (fun a b => errLe a b = true) :=
  (validateFull_outcome mkErr errs o).sorted

theorem full_redacted_absent (errs : List (Path × Viol)) (o : Opts) (e : FieldErr)
    (he : e ∈ fieldsOf (validateFull errs o)) :
    ∃ pv ∈ errs, e = mkErr o pv.1 pv.2 ∧
      ((pv.1 ∈ o.redacted ∨ ∃ q ∈ pv.2.shows, q ∈ o.redacted) → e.hidden = true) := by
  obtain ⟨pv, hpv, rfl⟩ := full_sound errs o e he
  exact ⟨pv, hpv, rfl, (lemma_mkErr_hidden ..).mpr⟩

/-! ## the model passes the very oracle the driver evaluates on the implementation -/

theorem lemma_errorsOK_of_outcome {want : List Want} {o : Opts} {all : List FieldErr} {obs : Option Result}
    (single : Bool) (hO : Outcome o.maxErrors all obs)
    (hs : ∀ e ∈ all, ∃ w ∈ want, w.path = e.path ∧ w.code = e.code ∧
      ((e.path ∈ o.redacted ∨ ∃ q ∈ w.shows, q ∈ o.redacted) → e.hidden = true))
    (hw : ∀ w ∈ want, ∃ e ∈ all, e.path = w.path ∧ e.code = w.code) :
    errorsOK want o single obs = true := by
  have h1 := fun e (he : e ∈ fieldsOf obs) => hs e (hO.mem_all he)
  have h4 := hO.ge_of_trunc
  unfold errorsOK
  simp only [Bool.and_eq_true]
  -- the conjuncts of `errorsOK`, in its order
  refine ⟨⟨⟨⟨⟨⟨?sound, ?complete⟩, ?capped⟩, ?truncFull⟩, ?notEmpty⟩, ?ordered⟩, ?redacted⟩
  case sound =>
    simp only [List.all_eq_true, List.mem_map, List.contains_iff_mem]
    rintro pc ⟨e, he, rfl⟩
    obtain ⟨w, hw, hp, hc, _⟩ := h1 e he
    exact ⟨w, hw, by rw [hp, hc]⟩
  case complete =>
    rw [Bool.or_eq_true]
    cases htr : truncOf obs with
    | true => exact .inr (by simp [h4 htr])
    | false =>
      left
      rw [List.isEmpty_iff, List.filter_eq_nil_iff]
      intro pc hpc
      obtain ⟨w, hw', rfl⟩ := List.mem_map.mp hpc
      obtain ⟨e, he, hp, hc⟩ := hw w hw'
      have : (w.path, w.code) ∈ (fieldsOf obs).map fun e => (e.path, e.code) :=
        List.mem_map.mpr ⟨e, (hO.complete htr).mem_iff.mpr he, by rw [hp, hc]⟩
      rw [List.contains_iff_mem.mpr this]
      exact Bool.false_ne_true
  case capped =>
    by_cases hm : o.maxErrors > 0
    · cases single with
      | false => simp
      | true => simp [hm, hO.le hm]
    · simp [hm]
  case truncFull =>
    cases htr : truncOf obs with
    | false => simp
    | true => have := h4 htr; simp [this.1, this.2]
  case notEmpty =>
    cases obs with
    | none => rfl
    | some r => simpa [fieldsOf, List.isEmpty_iff] using hO.nonempty r rfl
  case ordered => exact errSorted_of_pairwise hO.sorted
  case redacted =>
    rw [List.all_eq_true]
    intro e he
    obtain ⟨w, hw, hp, hc, hh⟩ := h1 e he
    cases hhid : e.hidden with
    | true => rfl
    | false =>
      have hn := fun h => Bool.false_ne_true (hhid.symm.trans (hh h))
      simp only [Bool.false_or, Bool.not_eq_true', Bool.or_eq_false_iff, Bool.and_eq_false_iff]
      refine ⟨by rw [← Bool.not_eq_true, List.contains_iff_mem]; exact fun h => hn (.inl h), .inr ?_⟩
      -- the want that produced `e` is among the matching ones and does not demand hiding
      refine List.all_eq_false.mpr ⟨w, List.mem_filter.mpr ⟨hw, ?_⟩, ?_⟩
      · rw [hp, hc, beq_self_eq_true, beq_self_eq_true]; rfl
      · simp only [Bool.not_eq_true, List.any_eq_false, List.contains_iff_mem]
        exact fun q hq hqr => hn (.inr ⟨q, hq, hqr⟩)

/-- partial validation, model ⊨ oracle: for every presence set, rule table and option set the
    model's result passes `errorsOK` against the declaratively expected error list — the check the
    driver runs on what the real code returned -/
theorem errorsOK_model_partial (pm : List Path) (rules : List Rule) (o : Opts) (single : Bool) :
    errorsOK (expectedErrs pm rules o) o single (validatePartial pm rules o) = true := by
  rw [expectedErrs, ← leafPaths_eq_spec, funext (lemma_violations rules)]
  apply lemma_errorsOK_of_outcome single (partialFrom_outcome mkErr (leafPaths pm) (ownTags rules) o)
  · intro e he
    obtain ⟨p, hp, v, hv, rfl⟩ := (lemma_mem_groups _ _ _ _).mp he
    exact ⟨⟨p, tagPrefix ++ v.tag, v.shows⟩, List.mem_flatMap.mpr ⟨p, hp, List.mem_map.mpr ⟨v, hv, rfl⟩⟩, rfl, rfl,
      (lemma_mkErr_hidden o p v).mpr⟩
  · intro w hw
    obtain ⟨p, hp, hw⟩ := List.mem_flatMap.mp hw
    obtain ⟨v, hv, rfl⟩ := List.mem_map.mp hw
    exact ⟨mkErr o p v, (lemma_mem_groups _ _ _ _).mpr ⟨p, hp, v, hv, rfl⟩, rfl, rfl⟩

/-- full validation, model ⊨ oracle -/
theorem errorsOK_model_full (errs : List (Path × Viol)) (o : Opts) (single : Bool) :
    errorsOK (errs.map fun pv => ⟨pv.1, tagPrefix ++ pv.2.tag, pv.2.shows⟩) o single (validateFull errs o) = true := by
  apply lemma_errorsOK_of_outcome single (validateFull_outcome mkErr errs o)
  · intro e he
    obtain ⟨pv, hpv, rfl⟩ := List.mem_map.mp he
    exact ⟨_, List.mem_map.mpr ⟨pv, hpv, rfl⟩, rfl, rfl, (lemma_mkErr_hidden o pv.1 pv.2).mpr⟩
  · intro w hw
    obtain ⟨pv, hpv, rfl⟩ := List.mem_map.mp hw
    exact ⟨mkErr o pv.1 pv.2, List.mem_map.mpr ⟨pv, hpv, rfl⟩, rfl, rfl⟩

/-! ## several strategies (`WithRunAll`) and the interface strategy -/

/-- the interface strategy alone: what `Validate()` returned, cut to the maximum and sorted -/
theorem interface_capped (errs : List FieldErr) (o : Opts) :
    (fieldsOf (coerce errs o)).length ≤ o.maxErrors ∨ (fieldsOf (coerce errs o)).length = errs.length := by
  cases ht : truncOf (coerce errs o) with
  | true => exact .inl (Nat.le_of_eq ((coerce_outcome errs o).full ht).2)
  | false => exact .inr ((coerce_outcome errs o).complete ht).length_eq

/-- with several strategies the combined list stays within the maximum
    (after the repair of K05g), whatever the strategies returned -/
theorem runall_capped (parts : List (Option Result)) (o : Opts) (hm : o.maxErrors > 0) :
    (fieldsOf (validateAll parts o)).length ≤ o.maxErrors := by
  rw [fieldsOf_validateAll]; exact (capped_outcome _ _).le hm

theorem runall_sound (parts : List (Option Result)) (o : Opts) (e : FieldErr)
    (he : e ∈ fieldsOf (validateAll parts o)) : ∃ r, some r ∈ parts ∧ e ∈ r.fields := by
  rw [fieldsOf_validateAll] at he
  obtain ⟨g, hg, heg⟩ := List.mem_flatten.mp ((capped_outcome _ _).mem_all he)
  obtain ⟨x, hx, rfl⟩ := List.mem_map.mp hg
  obtain ⟨r, rfl⟩ := fieldsOf_some heg
  exact ⟨r, hx, heg⟩

theorem runall_sorted (parts : List (Option Result)) (o : Opts) :
    (fieldsOf (validateAll parts o)).Pairwise (fun a b => errLe a b = true) := by
  rw [fieldsOf_validateAll]; exact (capped_outcome _ _).sorted

/-- K05g, as shipped: each strategy capped only its own result — two errors from `Validate()` and
    three from the tags with `maxErrors = 3` gave five -/
theorem runall_asis_witness :
    let e : Nat → FieldErr := fun i => ⟨[Char.ofNat (97 + i)], [], false⟩
    let parts : List (Option Result) := [some ⟨[e 0, e 1], false⟩, some ⟨[e 2, e 3, e 4], true⟩]
    (allLoop false ⟨3, 0, []⟩ parts [] false).fields.length = 5 ∧
    (allLoop true ⟨3, 0, []⟩ parts [] false).fields.length = 3 := by
  decide

/-- all strategies, model ⊨ oracle: the interface errors (never covered by the redactor — they
    carry no value) followed by the tag errors, through `validateAll` -/
theorem errorsOK_model_runall (iface : List FieldErr) (errs : List (Path × Viol)) (o : Opts) (single : Bool)
    (hi : ∀ e ∈ iface, e.hidden = false ∧ e.path ∉ o.redacted) :
    errorsOK ((iface.map fun e => ⟨e.path, e.code, []⟩) ++
              (errs.map fun pv => ⟨pv.1, tagPrefix ++ pv.2.tag, pv.2.shows⟩)) o single
      (validateAll [coerce iface o, validateFull errs o] o) = true := by
  -- each strategy returns an `Outcome` of its own errors, so `validateAll` returns one of them all
  apply lemma_errorsOK_of_outcome single
    (validateAll_outcome [(iface, coerce iface o), (errs.map fun pv => mkErr o pv.1 pv.2, validateFull errs o)] o
      fun x hx => by
        simp only [List.mem_cons, List.not_mem_nil, or_false] at hx
        rcases hx with rfl | rfl
        · exact coerce_outcome iface o
        · exact validateFull_outcome mkErr errs o)
  · intro e he
    simp only [List.flatMap_cons, List.flatMap_nil, List.append_nil, List.mem_append] at he
    rcases he with he | he
    · exact ⟨⟨e.path, e.code, []⟩, List.mem_append_left _ (List.mem_map.mpr ⟨e, he, rfl⟩), rfl, rfl,
        fun h => h.elim (fun hr => absurd hr (hi e he).2) fun ⟨_, hq, _⟩ => nomatch hq⟩
    · obtain ⟨pv, hpv, rfl⟩ := List.mem_map.mp he
      exact ⟨_, List.mem_append_right _ (List.mem_map.mpr ⟨pv, hpv, rfl⟩), rfl, rfl, (lemma_mkErr_hidden o pv.1 pv.2).mpr⟩
  · intro w hw
    simp only [List.flatMap_cons, List.flatMap_nil, List.append_nil, List.mem_append]
    rcases List.mem_append.mp hw with h1 | h1
    · obtain ⟨e, he, rfl⟩ := List.mem_map.mp h1
      exact ⟨e, .inl he, rfl, rfl⟩
    · obtain ⟨pv, hpv, rfl⟩ := List.mem_map.mp h1
      exact ⟨mkErr o pv.1 pv.2, .inr (List.mem_map.mpr ⟨pv, hpv, rfl⟩), rfl, rfl⟩

/-! ## the behaviour as shipped (witnesses of the repaired findings) -/

/-- K05c: `Tags []string validate:"min=2"` with `{"tags":["a","b"]}` — the element `tags.0` has no
    rule of its own (`resolves = false`), yet as shipped the loop checked it against the container's
    `min=2` and reported two errors; the repaired loop reports nothing, as the oracle demands -/
theorem element_rule_asis_witness :
    let pm := ["tags".toList, "tags.0".toList, "tags.1".toList]
    let leaves := ["tags.0".toList, "tags.1".toList]
    let rules : List Rule := [⟨"tags.0".toList, false, [], false, false, true, some ["min".toList]⟩,
                             ⟨"tags.1".toList, false, [], false, false, true, some ["min".toList]⟩]
    let o : Opts := ⟨0, 0, []⟩
    (partialLoopAsIs rules o leaves []).map (fun r => r.fields.map (·.path)) = some leaves ∧
    (partialLoop mkErr (ownTags rules) o leaves []).fields = [] ∧
    IsLeaf pm "tags.0".toList ∧ ¬ Expected pm rules "tags.0".toList "tag.min".toList := by
  dsimp only
  repeat rewrite [String.toList_ofList]
  refine ⟨by decide +kernel, by decide +kernel, by rw [← isLeafB_iff]; decide +kernel, ?_⟩
  rintro ⟨_, h⟩; revert h; decide +kernel

/-- K05c: with a `dive` tag the container's rule panicked on the element (`ctags = none`) -/
theorem element_rule_asis_panics :
    validatePartialAsIs (fun _ => ["dive.0".toList]) [] [⟨"dive.0".toList, true, [], false, false, true, none⟩] ⟨0, 0, []⟩ = none := by
  repeat rewrite [String.toList_ofList]
  decide +kernel

/-- K05d: a struct field whose JSON name is a number did not resolve as shipped -/
theorem numeric_field_asis_witness :
    ownTagsNum [⟨"1".toList, true, [⟨"email".toList, ["1".toList]⟩], true, false, true, some ["email".toList]⟩] "1".toList = [] ∧
    ownTags [⟨"1".toList, true, [⟨"email".toList, ["1".toList]⟩], true, false, true, some ["email".toList]⟩] "1".toList ≠ [] := by
  decide +kernel

/-- K05h: a field promoted from an embedded struct (`type T struct { Base; … }`, body `{"id":"x"}`)
    did not resolve as shipped, so a present leaf violating its rule was not reported -/
theorem embedded_field_asis_witness :
    ownTagsEmb [⟨"id".toList, true, [⟨"min".toList, ["id".toList]⟩], false, true, true, some ["min".toList]⟩] "id".toList = [] ∧
    ownTags [⟨"id".toList, true, [⟨"min".toList, ["id".toList]⟩], false, true, true, some ["min".toList]⟩] "id".toList ≠ [] := by
  decide +kernel

/-- K05l, as shipped: a leaf that yields several errors (`dive,min=3` on three short elements) put all of them into
    the list although `WithMaxErrors(1)` was given; after the repair the list is cut to the maximum -/
theorem multi_error_leaf_asis_witness :
    let own : Path → List Viol := fun _ => [⟨"min".toList, []⟩, ⟨"min".toList, []⟩, ⟨"min".toList, []⟩]
    (partialLoopK05l mkErr own ⟨1, 0, []⟩ ["tags".toList] []).fields.length = 3 ∧
    (partialLoopK05l mkErr own ⟨1, 0, []⟩ ["tags".toList] []).truncated = true ∧
    (partialLoop mkErr own ⟨1, 0, []⟩ ["tags".toList] []).fields.length = 1 ∧
    (partialLoop mkErr own ⟨1, 0, []⟩ ["tags".toList] []).truncated = true := by
  decide +kernel

/-- K05m, as shipped: `struct { B string `json:"Base" validate:"min=3"`; Base }` — the embedded struct, entered into
    the field map under its Go name after `B`, took the entry `Base`: the body key `Base` (which encoding/json binds to
    `B`) resolved to nothing and the leaf was not validated; after the repair it resolves to `B` -/
theorem shadowed_by_embedded_asis_witness :
    let fields : List (FieldInfo × Shape) :=
      [(⟨"B".toList, "Base".toList, false, false, "min=3".toList⟩, .other),
       (⟨"Base".toList, [], true, true, []⟩, .struct [(⟨"ID".toList, "id".toList, false, false, []⟩, .other)])]
    fieldIndexAsIs fields "Base".toList = some 1 ∧
    fieldIndex fields "Base".toList = some 0 ∧
    ruleAt (.ptr (.struct fields)) "Base".toList = some ([0], "min=3".toList) := by
  decide +kernel

/-- K05f: as shipped only the error's own path was put to the redactor: an error on `kids` whose
    printed value reveals `kids.1.secret` was not hidden although the redactor covers that path -/
theorem nested_redaction_asis_witness :
    let o : Opts := ⟨0, 0, ["kids.1.secret".toList]⟩
    let v : Viol := ⟨"max".toList, ["kids".toList, "kids.0".toList, "kids.1".toList, "kids.1.secret".toList]⟩
    (mkErrAsIs o "kids".toList v).hidden = false ∧ (mkErr o "kids".toList v).hidden = true := by
  dsimp only
  repeat rewrite [String.toList_ofList]
  decide +kernel

/-! ## path resolution inside the model (`resolvePath`, `promotedField`, `getJSONFieldName`, `elementTag`)

`validatePartialT` resolves every leaf itself over the shape of the value (`Model/PresenceResolve.lean`);
the rule table of the sections above is *derived* from it (`inducedRules`), so that every theorem about
`validatePartial` holds of `validatePartialT`, with "the field's own rule" spelled out: the path resolves
(`ruleAt`) and `validator.Var` reports at the resolved location under the element tag. -/

def inducedRules (root : Shape) (var : VarTable) (ps : List Path) : List Rule :=
  ps.map fun p => { path := p, resolves := true, tags := ownTagsT root var p, num := false, emb := false,
                    cresolves := false, ctags := some [] }

theorem lemma_ownTags_induced (root : Shape) (var : VarTable) (ps : List Path) (p : Path) (hp : p ∈ ps) :
    ownTags (inducedRules root var ps) p = ownTagsT root var p := by
  -- the first entry for `p` in the table is the one made from `p`
  have hfind : ps.find? (· == p) = some p := by
    cases h : ps.find? (· == p) with
    | none => exact absurd (List.find?_eq_none.mp h p hp) (by simp)
    | some q => rw [show q = p by simpa using List.find?_some h]
  simp only [ownTags, ruleFor, inducedRules, List.find?_map, Function.comp_def, hfind, Option.map_some, if_true]

/-- what the driver evaluates in partial mode -/
theorem validatePartialT_unfold (pm : List Path) (root : Shape) (var : VarTable) (o : Opts) :
    validatePartialT pm root var o = partialFrom mkErr (leafPaths pm) (ownTagsT root var) o := rfl

/-- the resolving model *is* the table-driven model on any table that agrees with its resolution at the leaves
    (the harness computes such a table with a resolver of its own, independent of the code under test: the
    oracle's parameter) -/
theorem validatePartialT_of_agree (pm : List Path) (root : Shape) (var : VarTable) (rules : List Rule) (o : Opts)
    (h : ∀ p ∈ leafPaths pm, ownTags rules p = ownTagsT root var p) :
    validatePartialT pm root var o = validatePartial pm rules o := by
  -- the leaf loop consults the rule function at the leaves only
  rw [validatePartialT, validatePartial, partialFrom_eq_capped, partialFrom_eq_capped, partialGroups, partialGroups]
  refine congrArg (capped _ ∘ List.flatten) (List.map_congr_left fun p hp => ?_)
  rw [h p (List.mem_of_mem_take hp)]

theorem validatePartialT_eq (pm : List Path) (root : Shape) (var : VarTable) (o : Opts) :
    validatePartialT pm root var o = validatePartial pm (inducedRules root var (leafPaths pm)) o :=
  validatePartialT_of_agree pm root var _ o fun p hp => lemma_ownTags_induced root var _ p hp

theorem lemma_mem_ownTagsT {root : Shape} {var : VarTable} {p : Path} {v : Viol} :
    v ∈ ownTagsT root var p ↔ ∃ loc t, ruleAt root p = some (loc, t) ∧
      ∃ v0 ∈ varLookup var loc t, v = ⟨v0.1, reveals (maxRecursionDepth + 1) p v0.2⟩ := by
  unfold ownTagsT
  cases ruleAt root p with
  | none => exact ⟨nofun, nofun⟩
  | some lt =>
    obtain ⟨loc, t⟩ := lt
    rw [List.mem_map]
    constructor
    · rintro ⟨v0, hv0, rfl⟩; exact ⟨loc, t, rfl, v0, hv0, rfl⟩
    · rintro ⟨_, _, ⟨⟩, v0, hv0, rfl⟩; exact ⟨v0, hv0, rfl⟩

/-- partial validation validates exactly the present leaves that resolve — with the path resolution of
    the code inside the model: `(p, c)` is reported iff `p` is a present leaf, `resolvePath` finds a value for
    it that has a rule of its own (`ruleAt`: the field's `validate` tag, for an element what follows the
    matching `dive`), and `validator.Var` reports `c` for that value under that rule -/
theorem partialT_iff (pm : List Path) (root : Shape) (var : VarTable) (o : Opts)
    (ht : truncOf (validatePartialT pm root var o) = false) (hl : (leafPaths pm).length ≤ maxLeaves o)
    (p : Path) (c : Bytes) :
    (∃ e ∈ fieldsOf (validatePartialT pm root var o), e.path = p ∧ e.code = c) ↔
      IsLeaf pm p ∧ ∃ loc t, ruleAt root p = some (loc, t) ∧ ∃ v ∈ varLookup var loc t, c = tagPrefix ++ v.1 := by
  rw [validatePartialT, lemma_partial_iff pm _ o ht hl p c]
  refine and_congr_right fun _ => ⟨?_, ?_⟩
  · rintro ⟨v, hv, rfl⟩
    obtain ⟨loc, t, hr, v0, hv0, rfl⟩ := lemma_mem_ownTagsT.mp hv
    exact ⟨loc, t, hr, v0, hv0, rfl⟩
  · rintro ⟨loc, t, hr, v0, hv0, rfl⟩
    exact ⟨_, lemma_mem_ownTagsT.mpr ⟨loc, t, hr, v0, hv0, rfl⟩, rfl⟩

/-- never an absent field, never a non-leaf, never a path that does not resolve -/
theorem partialT_sound (pm : List Path) (root : Shape) (var : VarTable) (o : Opts) (e : FieldErr)
    (he : e ∈ fieldsOf (validatePartialT pm root var o)) :
    e.path ∈ pm ∧ IsLeaf pm e.path ∧ (ruleAt root e.path).isSome = true := by
  obtain ⟨hleaf, v, hv, _⟩ := lemma_partial_sound pm _ o e he
  obtain ⟨loc, t, hr, _⟩ := lemma_mem_ownTagsT.mp hv
  exact ⟨hleaf.1, hleaf, by rw [hr]; rfl⟩

/-- capped, `Truncated` only when full — with the resolution inside, for every `Var` table (one `Var` call may
    report several errors: K05l repaired) -/
theorem partialT_capped (pm : List Path) (root : Shape) (var : VarTable) (o : Opts) (hm : o.maxErrors > 0) :
    (fieldsOf (validatePartialT pm root var o)).length ≤ o.maxErrors ∧
    (truncOf (validatePartialT pm root var o) = true → (fieldsOf (validatePartialT pm root var o)).length = o.maxErrors) := by
  rw [validatePartialT_eq]
  have := errors_capped pm (inducedRules root var (leafPaths pm)) o hm
  exact ⟨this.1, this.2.1⟩

theorem partialT_sorted (pm : List Path) (root : Shape) (var : VarTable) (o : Opts) :
    (fieldsOf (validatePartialT pm root var o)).Pairwise (fun a b => errLe a b = true) :=
  (partialFrom_outcome mkErr (leafPaths pm) (ownTagsT root var) o).sorted

/-- determinism with the resolution inside: the result is a function of the path set, the shape of the
    value and the validator's answers — no iteration order of the presence map (or of the cached field
    map: `fieldIndex` is the map's content, not its order) can change it -/
theorem partialT_perm (pm₁ pm₂ : List Path) (h : pm₁.Perm pm₂) (root : Shape) (var : VarTable) (o : Opts) :
    validatePartialT pm₁ root var o = validatePartialT pm₂ root var o := by
  unfold validatePartialT; rw [leaf_perm pm₁ pm₂ h]

/-- model ⊨ the oracle the driver runs, for the resolving model: whenever the independently computed
    rule table agrees with the model's resolution at the leaves -/
theorem errorsOK_model_partialT (pm : List Path) (root : Shape) (var : VarTable) (rules : List Rule) (o : Opts)
    (single : Bool) (hag : ∀ p ∈ leafPaths pm, ownTags rules p = ownTagsT root var p) :
    errorsOK (expectedErrs pm rules o) o single (validatePartialT pm root var o) = true := by
  rw [validatePartialT_of_agree pm root var rules o hag]
  exact errorsOK_model_partial pm rules o single

/-- non-vacuity of `errorsOK_model_partialT` / `validatePartialT_of_agree`: for every input there is a rule table that
    agrees with the model's resolution at the leaves — the one it induces -/
example (pm : List Path) (root : Shape) (var : VarTable) :
    ∀ p ∈ leafPaths pm, ownTags (inducedRules root var (leafPaths pm)) p = ownTagsT root var p :=
  fun p hp => lemma_ownTags_induced root var _ p hp

/-- non-vacuity of `partialT_iff`: without an error limit nothing is truncated, and a small body is within the
    default field limit -/
example (root : Shape) (var : VarTable) :
    let pm := ["id".toList, "tags".toList, "tags.1".toList]
    truncOf (validatePartialT pm root var ⟨0, 0, []⟩) = false ∧ (leafPaths pm).length ≤ maxLeaves ⟨0, 0, []⟩ := by
  refine ⟨?_, ?_⟩
  · rw [validatePartialT, partialFrom_eq_capped, capped_trunc]
    exact decide_eq_false fun h => Nat.lt_irrefl 0 h.1
  · show (leafPaths _).length ≤ 10000
    rw [leafPaths, sortPaths_length]
    exact Nat.le_trans (List.length_filter_le _ _) (by decide)

/-! ### the redaction walk -/

/-- the value fits the walk's depth limit (`maxRecursionDepth`): no branch is cut -/
def fits : Nat → Shape → Bool
  | 0, _ => false
  | fuel + 1, s =>
    match valDeref s with
    | some (.struct fields) => (mappedFields fields).all fun (_, _, fs) => fits fuel fs
    | some (.seq items) => items.all (fits fuel)
    | some (.map es) => es.all fun (_, v) => fits fuel v
    | _ => true

theorem lemma_any_walk {α β : Type} {red : β → Bool} {l : List α} {g : α → List β} {c fit : α → Bool}
    (h : ∀ x ∈ l, c x = ((g x).any red || !fit x)) : l.any c = ((l.flatMap g).any red || !l.all fit) := by
  induction l with
  | nil => rfl
  | cons a rest ih =>
    rw [List.any_cons, List.flatMap_cons, List.any_append, List.all_cons, h a List.mem_cons_self,
      ih fun x hx => h x (List.mem_cons_of_mem _ hx)]
    cases (g a).any red <;> cases fit a <;> simp

/-- `coversValue` is exactly "the redactor covers a revealed path, or the value is deeper than the walk goes"
    (beyond the limit it hides, deliberately) — for every value shape -/
theorem coversValue_eq (red : Path → Bool) :
    ∀ (fuel : Nat) (p : Path) (s : Shape),
      coversValue red fuel p s = ((reveals fuel p s).any red || !fits fuel s) := by
  intro fuel
  induction fuel with
  | zero => exact fun _ _ => (Bool.or_true _).symm
  | succ fuel ih =>
    intro p s
    simp only [coversValue, reveals, fits, List.any_cons, Bool.or_assoc]
    congr 1
    -- struct, slice/array, map: one level of the walk over the children; nothing below anything else
    cases valDeref s with
    | none => rfl
    | some t =>
      cases t with
      | struct fields => exact lemma_any_walk fun _ _ => ih _ _
      | seq items =>
        have hall : items.all (fits fuel) = items.zipIdx.all (fits fuel ∘ Prod.fst) := by
          rw [← List.all_map, List.zipIdx_map_fst]
        simp only [hall]
        exact lemma_any_walk fun _ _ => ih _ _
      | map es => exact lemma_any_walk fun _ _ => ih _ _
      | _ => rfl

/-- values of paths covered by the redactor never appear: if the redactor covers any path the printed value
    reveals (the error's own path included), `coversValue` hides the value — for every value shape, however deep -/
theorem coversValue_of_reveals (red : Path → Bool) :
    ∀ (fuel : Nat) (p : Path) (s : Shape), (reveals fuel p s).any red = true → coversValue red fuel p s = true :=
  fun fuel p s h => by rw [coversValue_eq, h]; rfl

/-- … and within the depth limit it hides nothing else -/
theorem coversValue_only_reveals (red : Path → Bool) :
    ∀ (fuel : Nat) (p : Path) (s : Shape), fits fuel s = true → coversValue red fuel p s = true →
      (reveals fuel p s).any red = true :=
  fun fuel p s hf h => by rwa [coversValue_eq, hf, Bool.not_true, Bool.or_false] at h

/-- the error the table-driven model builds (`mkErr`, hidden iff a revealed path is covered) is the error the
    code builds with `coversValue`, for every value within the depth limit; beyond it the code hides anyway -/
theorem mkErr_is_coversValue (o : Opts) (p : Path) (tag : Bytes) (value : Shape)
    (hf : fits (maxRecursionDepth + 1) value = true) :
    mkErr o p ⟨tag, reveals (maxRecursionDepth + 1) p value⟩ = mkErrT o p tag value := by
  -- the walk asks about `p` itself first, and `p` heads the revealed paths: asking twice changes nothing
  simp only [mkErr, mkErrT, coversValue_eq, hf, Bool.not_true, Bool.or_false, reveals, List.any_cons,
    ← Bool.or_assoc, Bool.or_self]

/-- in the resolving model a value the redactor covers — its own path or anything nested in it — is hidden -/
theorem partialT_redacted_absent (pm : List Path) (root : Shape) (var : VarTable) (o : Opts) (e : FieldErr)
    (he : e ∈ fieldsOf (validatePartialT pm root var o)) :
    ∃ loc t, ruleAt root e.path = some (loc, t) ∧ ∃ v ∈ varLookup var loc t,
      e.code = tagPrefix ++ v.1 ∧
      ((reveals (maxRecursionDepth + 1) e.path v.2).any o.redacted.contains = true → e.hidden = true) := by
  obtain ⟨_, v, hv, hev⟩ := lemma_partial_sound pm _ o e he
  obtain ⟨loc, t, hr, v0, hv0, rfl⟩ := lemma_mem_ownTagsT.mp hv
  refine ⟨loc, t, hr, v0, hv0, by rw [hev]; rfl, fun hany => ?_⟩
  rw [hev]
  simp only [mkErr, Bool.or_eq_true]
  exact Or.inr hany

-- a struct value with a covered field two levels down, behind a pointer and an interface slot
example :
    let v : Shape := .ptr (.struct [(⟨"Kids".toList, "kids".toList, false, false, []⟩,
      .seq [.other, .iface (.map [("secret".toList, .other)])])])
    coversValue (· == "u.kids.1.secret".toList) (maxRecursionDepth + 1) "u".toList v = true ∧
    coversValue (· == "u.kids.0.secret".toList) (maxRecursionDepth + 1) "u".toList v = false ∧
    reveals (maxRecursionDepth + 1) "u".toList v =
      ["u".toList, "u.kids".toList, "u.kids.0".toList, "u.kids.1".toList, "u.kids.1.secret".toList] := by
  dsimp only
  repeat rewrite [String.toList_ofList]
  decide +kernel

/-! ### what `resolvePath` resolves to -/

theorem lemma_cutComma_none (l : Bytes) (hl : ∀ c ∈ l, c ≠ ',') : cutComma l = none := by
  induction l with
  | nil => rfl
  | cons a r ih =>
    have ha : (a == ',') = false := beq_eq_false_iff_ne.mpr (hl a List.mem_cons_self)
    rw [cutComma, ha, ih fun c hc => hl c (List.mem_cons_of_mem _ hc)]
    rfl

/-- `getJSONFieldName`: no tag, `json:"-"` and an options-only tag (`json:",omitempty"`, K05j) keep the Go
    name; `json:"-,"` names the field `-` (K05k); otherwise the text before the first comma -/
theorem jsonName_cases (f : FieldInfo) (opts name : Bytes) :
    (f.jsonTag = [] → jsonFieldName f = f.name) ∧
    (f.jsonTag = ['-'] → jsonFieldName f = f.name) ∧
    (f.jsonTag = ',' :: opts → jsonFieldName f = f.name) ∧
    (f.jsonTag = '-' :: ',' :: opts → jsonFieldName f = ['-']) ∧
    (f.jsonTag = name → name ≠ [] → name ≠ ['-'] → (∀ c ∈ name, c ≠ ',') → jsonFieldName f = name) := by
  refine ⟨?_, ?_, ?_, ?_, ?_⟩
  · intro h; rw [jsonFieldName, h]; rfl
  · intro h; rw [jsonFieldName, h]; rfl
  · intro h; rw [jsonFieldName, h]; rfl
  · intro h; rw [jsonFieldName, h]; rfl
  · rintro rfl hne hnd hc
    have h1 : f.jsonTag.isEmpty = false := by rwa [List.isEmpty_eq_false_iff]
    have h2 : (f.jsonTag == ['-']) = false := beq_eq_false_iff_ne.mpr hnd
    rw [jsonFieldName, h1, h2, lemma_cutComma_none _ hc]
    rfl

theorem lemma_fieldIndexFrom_maps (name : Bytes) (fields : List (FieldInfo × Shape)) : ∀ (i0 : Nat) (acc : Option Nat) (i : Nat),
    fieldIndexFrom name fields i0 acc = some i →
      acc = some i ∨ ∃ k, i = i0 + k ∧ ∃ fs, fields[k]? = some fs ∧ mapsTo fs.1 name = true := by
  induction fields with
  | nil => exact fun _ _ _ h => .inl h
  | cons fs rest ih =>
    intro i0 acc i h
    rcases ih (i0 + 1) _ i h with h1 | ⟨k, rfl, fs', hfs, hm⟩
    · split at h1
      · next hm => exact .inr ⟨0, (Option.some.inj h1).symm, fs, rfl, hm⟩
      · exact .inl h1
    · exact .inr ⟨k + 1, (Nat.add_assoc ..).trans (congrArg _ (Nat.add_comm ..)), fs', hfs, hm⟩

/-- a field tagged `json:"-"` is never what a body key resolves to (K05k) -/
theorem resolve_never_dash_field (fields : List (FieldInfo × Shape)) (name : Bytes) (i : Nat) (f : FieldInfo) (s : Shape)
    (h : directField fields name = some (i, f, s)) :
    f.jsonTag ≠ ['-'] ∧ jsonFieldName f = name ∧ isPromotedStruct f = false ∧ fields[i]? = some (f, s) := by
  unfold directField at h
  split at h
  · next j hfi =>
    split at h
    · next f' s' hg =>
      split at h
      · cases h
      · next hp =>
        cases h
        rcases lemma_fieldIndexFrom_maps name fields 0 none i hfi with h0 | ⟨k, hik, fs, hfs, hm⟩
        · cases h0
        · rw [Nat.zero_add] at hik
          rw [← hik, hg] at hfs
          cases hfs
          simp only [mapsTo, Bool.and_eq_true, bne_iff_ne, ne_eq, beq_iff_eq] at hm
          exact ⟨hm.1.1.1, hm.2, Bool.eq_false_iff.mpr hp, hg⟩
    · cases h
  · cases h

/-- a field of the struct itself takes precedence over anything its embedded structs promote, and a numeric
    segment on a struct is a field *name* (K05d): `resolvePath` on a struct never consults `Atoi` -/
theorem resolve_direct_first (fields : List (FieldInfo × Shape)) (part : Bytes) (rest : List Bytes)
    (fld : Option FieldInfo) (d : Nat) (loc : Loc) (i : Nat) (f : FieldInfo) (s : Shape)
    (h : directField fields part = some (i, f, s)) :
    resolveFrom (part :: rest) (.struct fields) fld d loc = resolveFrom rest s (some f) 0 (loc ++ [i]) := by
  simp [resolveFrom, derefHard, h]

/-- a nil pointer on the way: the leaf is not validated -/
theorem resolve_nil_pointer (part : Bytes) (rest : List Bytes) (fld : Option FieldInfo) (d : Nat) (loc : Loc) :
    resolveFrom (part :: rest) .nilPtr fld d loc = none := by
  simp [resolveFrom, derefHard]

/-- on a slice or array a segment must be an index inside the bounds; the element keeps the container's
    field and is one `dive` level further in -/
theorem resolve_index (items : List Shape) (part : Bytes) (rest : List Bytes) (fld : Option FieldInfo) (d : Nat) (loc : Loc) :
    resolveFrom (part :: rest) (.seq items) fld d loc =
      match atoiIndex part with
      | some idx => (match items[idx]? with
        | some it => resolveFrom rest it fld (d + 1) (loc ++ [idx])
        | none => none)
      | none => none := by
  rw [resolveFrom]; rfl

/-- anything else (a basic value, a map, an interface) has nothing below it that resolves -/
theorem resolve_other (part : Bytes) (rest : List Bytes) (fld : Option FieldInfo) (d : Nat) (loc : Loc) :
    resolveFrom (part :: rest) .other fld d loc = none := by
  simp [resolveFrom, derefHard]

/-- an element has no rule unless the container's tag has a `dive`: the container's own rules (K05c) never
    apply to it -/
theorem elementTag_needs_dive (tag : Bytes) (d : Nat) (h : afterDive tag = none) : elementTag tag (d + 1) = [] := by
  simp [elementTag, h]

theorem elementTag_zero (tag : Bytes) : elementTag tag 0 = tag := rfl

-- non-vacuity / worked instances: `type T struct { Base; Name string `json:"name" validate:"min=3"`; Tags []string
-- `json:"tags" validate:"max=2,dive,min=2"`; Skip string `json:"-" validate:"required"` }`, `type Base struct { ID
-- string `json:"id" validate:"required"` }`
def wBase : Shape := .struct [(⟨"ID".toList, "id".toList, false, false, "required".toList⟩, .other)]
def wT : Shape := .ptr (.struct [
  (⟨"Base".toList, [], true, true, []⟩, wBase),
  (⟨"Name".toList, "name".toList, false, false, "min=3".toList⟩, .other),
  (⟨"Tags".toList, "tags".toList, false, false, "max=2,dive,min=2".toList⟩, .seq [.other, .other]),
  (⟨"Skip".toList, "-".toList, false, false, "required".toList⟩, .other)])

/-- `wT` with its literals spelled out, the term found by rewriting: once for the examples below, each of which would
    otherwise decode all of `wT`'s literals by evaluation -/
def wTs : {t : Shape // wT = t} :=
  ⟨_, by
    unfold wT wBase
    repeat rewrite [String.toList_ofList]
    exact rfl⟩

example : ruleAt wT "name".toList = some ([1], "min=3".toList) := by
  rw [wTs.2]; repeat rewrite [String.toList_ofList]
  decide +kernel
example : ruleAt wT "id".toList = some ([0, 0], "required".toList) := by   -- promoted (K05h)
  rw [wTs.2]; repeat rewrite [String.toList_ofList]
  decide +kernel
example : ruleAt wT "tags".toList = some ([2], "max=2,dive,min=2".toList) := by
  rw [wTs.2]; repeat rewrite [String.toList_ofList]
  decide +kernel
example : ruleAt wT "tags.1".toList = some ([2, 1], "min=2".toList) := by   -- what follows dive (K05c)
  rw [wTs.2]; repeat rewrite [String.toList_ofList]
  decide +kernel
example : ruleAt wT "tags.2".toList = none := by   -- past the end
  rw [wTs.2]; repeat rewrite [String.toList_ofList]
  decide +kernel
example : ruleAt wT "Skip".toList = none := by   -- json:"-" (K05k)
  rw [wTs.2]; repeat rewrite [String.toList_ofList]
  decide +kernel
example : ruleAt wT "Base".toList = none := by   -- the embedded struct's own name
  rw [wTs.2]; repeat rewrite [String.toList_ofList]
  decide +kernel
example : ruleAt wT "name.x".toList = none := by
  rw [wTs.2]; repeat rewrite [String.toList_ofList]
  decide +kernel

def wVar : VarTable :=
  [([0, 0], "required".toList, [("required".toList, .other)]), ([2, 1], "min=2".toList, [("min".toList, .other)])]

example : ownTagsT wT wVar "id".toList = [⟨"required".toList, ["id".toList]⟩] := by
  rw [wTs.2, wVar]; repeat rewrite [String.toList_ofList]
  decide +kernel
example : ownTagsT wT wVar "tags.1".toList = [⟨"min".toList, ["tags.1".toList]⟩] := by
  rw [wTs.2, wVar]; repeat rewrite [String.toList_ofList]
  decide +kernel
example : ownTagsT wT wVar "tags".toList = [] := by
  rw [wTs.2, wVar]; repeat rewrite [String.toList_ofList]
  decide +kernel
example : ownTagsT wT wVar "Skip".toList = [] := by
  rw [wTs.2, wVar]; repeat rewrite [String.toList_ofList]
  decide +kernel

/-! ## `Validator.Validate`: custom validator, `WithRunAll`, strategy selection -/

/-- a custom validator that returns an error ends the call: nothing else runs, its errors are cut and sorted -/
theorem custom_validator_first (errs : List FieldErr) (runAll : Bool) (st : Strat) (a : Applic) (r : StratRes) (o : Opts) :
    validateTop (some errs) runAll st a r o = coerce errs o := rfl

/-- the documented priority of `StrategyAuto`: interface, then tags, then JSON Schema; tags when nothing applies -/
theorem auto_priority (a : Applic) :
    (a.iface = true → determineStrategy a = .iface) ∧
    (a.iface = false → a.tags = true → determineStrategy a = .tags) ∧
    (a.iface = false → a.tags = false → a.schema = true → determineStrategy a = .schema) ∧
    (a.iface = false → a.tags = false → a.schema = false → determineStrategy a = .tags) := by
  unfold determineStrategy
  refine ⟨fun hi => ?_, fun hi ht => ?_, fun hi ht hs => ?_, fun hi ht hs => ?_⟩
  · rw [hi]; rfl
  · rw [hi, ht]; rfl
  · rw [hi, ht, hs]; rfl
  · rw [hi, ht, hs]; rfl

/-- an explicitly chosen strategy is run whether or not `isApplicable` would admit it; `StrategyAuto` runs the
    determined one -/
theorem strategy_dispatch (runAll : Bool) (st : Strat) (a : Applic) (r : StratRes) (o : Opts) (hr : runAll = false) :
    validateTop none runAll st a r o =
      (match st with
       | .auto => byStrategy (determineStrategy a) r
       | s => byStrategy s r) := by
  subst hr
  cases st <;> rfl

/-- `WithRunAll` runs exactly the applicable strategies, interface first, then tags, then schema -/
theorem runall_parts (st : Strat) (a : Applic) (r : StratRes) (o : Opts) :
    validateTop none true st a r o = validateAll (applicableParts a r) o ∧
    (a = ⟨true, true, false⟩ → applicableParts a r = [r.iface, r.tags]) := by
  refine ⟨rfl, ?_⟩
  rintro rfl
  rfl

/-- whatever the configuration, the result of `Validate` is capped, provided every strategy caps its own result
    (which `errors_capped`, `full_capped`, `interface_capped` establish for tags and interface) -/
theorem top_capped (custom : Option (List FieldErr)) (runAll : Bool) (st : Strat) (a : Applic) (r : StratRes) (o : Opts)
    (hm : o.maxErrors > 0)
    (hi : (fieldsOf r.iface).length ≤ o.maxErrors) (ht : (fieldsOf r.tags).length ≤ o.maxErrors)
    (hs : (fieldsOf r.schema).length ≤ o.maxErrors) :
    (fieldsOf (validateTop custom runAll st a r o)).length ≤ o.maxErrors := by
  have hby : ∀ s, (fieldsOf (byStrategy s r)).length ≤ o.maxErrors := fun s => by cases s <;> assumption
  cases custom with
  | some errs => exact (coerce_outcome errs o).le hm
  | none =>
    cases runAll with
    | true => exact runall_capped _ o hm
    | false => exact hby _

-- non-vacuity: a type with a `Validate()` method and tags: Auto takes the interface, run-all takes both in order
example : determineStrategy ⟨true, true, false⟩ = .iface := by decide
example (i t : Option Result) (o : Opts) :
    validateTop none false .auto ⟨true, true, false⟩ ⟨i, t, none⟩ o = i := rfl
example (i t : Option Result) (o : Opts) :
    validateTop none false .tags ⟨true, true, false⟩ ⟨i, t, none⟩ o = t := rfl

/-! ## the app layer: PATCH handlers get partial validation over the presence of the body they bound -/

/-- `Bind(out, WithPartial(), …)`, `BindPatch[T]`: partial validation over the presence map the context computed
    from the JSON body, whatever other (non-partial, non-presence) options come along -/
theorem app_partial_follows_body (pm : List Path) (vs : List VOpt) (hvs : ∀ v ∈ vs, v = VOpt.other) :
    bindMode [.part, .validation vs] (some pm) = some pm ∧ bindPatchMode [.validation vs] (some pm) = some pm := by
  -- options that are neither `WithPartial` nor `WithPresence` leave the folded configuration as it is
  have hfold : ∀ (c : VCfg), vs.foldl applyVOpt c = c := by
    induction vs with
    | nil => exact fun _ => rfl
    | cons v rest ih =>
      intro c
      rw [List.foldl_cons, hvs v List.mem_cons_self]
      exact ih (fun w hw => hvs w (List.mem_cons_of_mem _ hw)) c
  -- `BindPatch` is `Bind` with `WithPartial()` in front: one computation, and the options handed to
  -- `validation.Validate` are `WithContext`, `WithPartial(true)`, `WithPresence(pm)`, then `vs`
  have h : bindMode [.part, .validation vs] (some pm) = some pm := by
    show tagsMode (vs.foldl applyVOpt ⟨true, some pm⟩) = some pm
    rw [hfold]; rfl
  exact ⟨h, h⟩

/-- partial mode asked for through the validation options (`WithValidationOptions(validation.WithPartial(true))`,
    or `BindOnly` + `Validate(validation.WithPartial(true))`) is partial validation over the same presence map -/
theorem app_partial_through_validation_options (pm : List Path) :
    bindMode [.validation [.part true]] (some pm) = some pm ∧
    validateMode [.part true] (some pm) = some pm := by
  constructor <;> rfl

/-- an explicit `app.WithPresence(pm')` takes the place of the computed map; a presence map given among the
    validation options comes last and wins over both -/
theorem app_explicit_presence_wins (pm pm' pm'' : List Path) :
    bindMode [.part, .presence pm'] (some pm) = some pm' ∧
    bindMode [.part, .presence pm', .validation [.presence pm'']] (some pm) = some pm'' := by
  constructor <;> rfl

/-- without `WithPartial` the body's presence map is handed over all the same but validation is full; and when no
    JSON body was bound there is no presence map: a partial request falls back to full validation (documented in
    `validateWithTags`: `cfg.partial && cfg.presence != nil`) -/
theorem app_full_otherwise (pm : List Path) :
    bindMode [] (some pm) = none ∧ bindMode [.part] none = none ∧ validateMode [] (some pm) = none := by
  refine ⟨rfl, rfl, rfl⟩

/-! ## model ⊨ oracle for the remaining driver branches: interface-only mode and a custom validator's error -/

/-- interface strategy alone / custom validator's error, model ⊨ oracle: what a `Validate()` method or a custom
    validator returned (`errs`, which carry no value to hide), cut and sorted by `coerceToValidationErrors`, passes the
    oracle the driver runs (`want` = those errors) — for every list and option set -/
theorem errorsOK_model_interface (errs : List FieldErr) (o : Opts) (single : Bool)
    (hh : ∀ e ∈ errs, e.hidden = false → e.path ∉ o.redacted) :
    errorsOK (errs.map fun e => (⟨e.path, e.code, []⟩ : Want)) o single (coerce errs o) = true := by
  apply lemma_errorsOK_of_outcome single (coerce_outcome errs o)
  · intro e he
    exact ⟨⟨e.path, e.code, []⟩, List.mem_map.mpr ⟨e, he, rfl⟩, rfl, rfl,
      fun h => h.elim (fun hr => Bool.of_not_eq_false fun hf => hh e he hf hr) fun ⟨_, hq, _⟩ => nomatch hq⟩
  · intro w hw
    obtain ⟨e, he, rfl⟩ := List.mem_map.mp hw
    exact ⟨e, he, rfl, rfl⟩

/-- the custom-validator branch and the interface-only branch of `Validate` reduce to it -/
theorem errorsOK_model_custom (errs : List FieldErr) (runAll : Bool) (st : Strat) (a : Applic) (r : StratRes) (o : Opts)
    (single : Bool) (hh : ∀ e ∈ errs, e.hidden = false → e.path ∉ o.redacted) :
    errorsOK (errs.map fun e => (⟨e.path, e.code, []⟩ : Want)) o single (validateTop (some errs) runAll st a r o) = true :=
  errorsOK_model_interface errs o single hh

end Rivaas.C05
