import Rivaas.Model.Bind
import Rivaas.Model.BindAsIs
import Rivaas.Spec.Bind
import Rivaas.Lemmas.BindVal
import Rivaas.Lemmas.BindFlatten
import Rivaas.Lemmas.BindConv
import Rivaas.Lemmas.BindRef
import Rivaas.Lemmas.BindSound
import Rivaas.Lemmas.BindMap
import Rivaas.Lemmas.BindAllTyped
import Rivaas.Lemmas.BindMain
import Rivaas.Lemmas.BindMultiSound
import Rivaas.Model.BindObs
/-
C04 — Request binding is faithful, total and bounded. Property theorems about the model of /repo/binding
(`Model/Bind.lean`: `bind` for one source, `bindMulti` for Bind / BindTo over several), the oracle `Spec/Bind.lean`,
and the as-shipped variants (`…AsIs`) behind the findings K04a–K04g and K04i. Where the proof is an induction over the
struct type it stands in `Lemmas/Bind*` (under a `lemma_` name, or the same name in namespace `Bind`), because further
lemmas there rest on it; the theorem here states it once more.
-/
namespace Rivaas.C04
open Rivaas Rivaas.Bind

/-! ## 1. Index paths of flattened (promoted) fields are faithful — every embedding depth -/

/-- **K04a, repaired code, all shapes.** The index path cached for every flattened field — at any
    embedding depth, through embedded structs and embedded pointers — leads to exactly that field
    of the type (same type, same Go name, same default tag). -/
theorem flatten_faithful (P : Params) (tag : Tag) (fs : List Fld) (f : FieldInfo)
    (hf : f ∈ flatten P tag fs) : Faithful fs f.index f := by
  obtain ⟨q, _, hq, hall⟩ := lemma_flattenFs P tag fs [] 0 f hf
  have : f.index = q := by simpa using hq
  rw [this]
  exact hall fs (fun k => by simp)


def hdr (n : String) (anon : Bool) : FieldHdr :=
  { name := B n, exported := true, anon := anon, tags := [B n, B n, B n, B n, B n], dflt := [] }

-- non-vacuity: `tyD3` has embedding depth 3 (through an embedded pointer) and two promoted fields, `x` and `y`
def tyIn : Ty := .struct [(hdr "x" false, .prim (.int 8)), (hdr "y" false, .prim (.uint 8))]
def tyD3 : List Fld := [(hdr "L1" true, .struct [(hdr "L2" true, .ptr (.struct [(hdr "In" true, tyIn)]))])]
def P0 : Params := fun _ => {}

example : (flatten P0 .query tyD3).map (·.index) = [[0, 0, 0, 0], [0, 0, 0, 1]] := by decide +kernel
example : (fieldAt tyD3 [0, 0, 0, 1]).map (·.1.name) = some (B "y") := by decide +kernel

/-- **K04a, as shipped.** With `index := append(indexPrefix, i)` the two promoted fields of a struct
    at embedding depth 3 end up with the *same* cached index path (the last one written), so the
    path of `x` does not lead to `x`. -/
theorem flatten_asis_witness :
    (flattenAsIs P0 .query tyD3).map (·.index) = [[0, 0, 0, 1], [0, 0, 0, 1]] ∧
    ¬ (∀ f ∈ flattenAsIs P0 .query tyD3, Faithful tyD3 f.index f) := by
  constructor
  · decide +kernel
  · intro h
    -- the first entry is named `x`, and the path cached for it leads to the field named `y`
    have hmem : (flattenAsIs P0 .query tyD3).head! ∈ flattenAsIs P0 .query tyD3 := by
      have : flattenAsIs P0 .query tyD3 ≠ [] := by
        intro e
        have : (flattenAsIs P0 .query tyD3).length = 2 := by decide +kernel
        simp [e] at this
      cases hl : flattenAsIs P0 .query tyD3 with
      | nil => exact absurd hl this
      | cons a r => simp [List.head!]
    obtain ⟨h', t, h1, _, h3, _⟩ := h _ hmem
    have e1 : ((flattenAsIs P0 .query tyD3).head!).index = [0, 0, 0, 1] := by decide +kernel
    have e2 : ((flattenAsIs P0 .query tyD3).head!).name = B "x" := by decide +kernel
    have e3 : (fieldAt tyD3 [0, 0, 0, 1]).map (·.1.name) = some (B "y") := by decide +kernel
    rw [e1] at h1
    rw [h1] at e3
    simp only [Option.map_some, Option.some.injEq] at e3
    rw [e2, e3] at h3
    exact absurd h3 (by decide +kernel)

/-! ## 2. Conversion never truncates, wraps or overflows to infinity -/

/-- **K04b, repaired code.** A successful integer conversion yields exactly the parsed number, and
    that number fits the field's width: nothing is truncated or wrapped. -/
theorem convert_no_truncation_int (P : Params) (cfg : Cfg) (w : Nat) (s : Bytes) (v : Val)
    (h : convPrim P cfg (.int w) s = some v) :
    ∃ i, (if cfg.baseAuto then (P s).i0 else (P s).i10) = some i ∧ v = .int i ∧ Spec.fitsInt w i :=
  Bind.convert_no_truncation_int P cfg w s v h

theorem convert_no_truncation_uint (P : Params) (cfg : Cfg) (w : Nat) (s : Bytes) (v : Val)
    (h : convPrim P cfg (.uint w) s = some v) :
    ∃ n, (if cfg.baseAuto then (P s).u0 else (P s).u10) = some n ∧ v = .uint n ∧ Spec.fitsUint w n :=
  Bind.convert_no_truncation_uint P cfg w s v h

/-- a finite value never becomes an infinity in a float32 field -/
theorem convert_no_infinity (P : Params) (hP : FloatSane P) (cfg : Cfg) (s : Bytes) (v : Val)
    (h : convPrim P cfg .f32 s = some v) :
    ∃ b64 b32, (P s).f = some (b64, b32, false, false) ∧ v = .flt b32 :=
  Bind.convert_no_infinity P hP cfg s v h

/-- the model's conversion meets the oracle's reading of "converted value" for every leaf kind -/
theorem conv_meets_denote (P : Params) (hP : FloatSane P) (cfg : Cfg) (p : Prim) (s : Bytes) :
    (∀ v, convPrim P cfg p s = some v → (Spec.denote P cfg p s).val = some v) ∧
    (convPrim P cfg p s = none → (Spec.denote P cfg p s).refusable = true) :=
  Bind.conv_meets_denote P hP cfg p s

/-- the string `300` with what strconv says about it -/
def P300 : Params := fun s => if s = B "300" then { i10 := some 300, u10 := some 300 } else {}

example : convPrim P300 Cfg.default (.int 16) (B "300") = some (.int 300) := by decide +kernel

/-- **K04b, as shipped.** `300` into an int8 field was accepted as 44 (and into uint8 as 44): the
    oracle denotes no value there, the repaired conversion refuses. -/
theorem convert_asis_witness :
    convPrimAsIs P300 Cfg.default (.int 8) (B "300") = some (.int 44) ∧
    convPrimAsIs P300 Cfg.default (.uint 8) (B "300") = some (.uint 44) ∧
    (Spec.denote P300 Cfg.default (.int 8) (B "300")).val = none ∧
    convPrim P300 Cfg.default (.int 8) (B "300") = none := by
  refine ⟨by decide, by decide, by decide, by decide⟩


/-! ## 3. The bind loop over cached index paths is the field-by-field recursion -/

/-- **K04a at bind level, all shapes.** For every struct type, every well-typed destination, every
    source and options, looping over the cached index paths computes exactly what the structural
    recursion over the type computes (each promoted field handled with its own value and key;
    embedded nil pointers allocated iff a promoted field below receives a value). -/
theorem bind_loop_is_structural (P : Params) (cfg : Cfg) (nest : Nest) (tag : Tag) (g : Getter) (d : Nat)
    (sty : List Fld) (vs : List Val) (hw : wts sty vs = true) :
    loopWith P cfg nest sty (flatten P tag sty) (.struct vs) g d = refOut [] (refFs P cfg nest tag g d sty vs) :=
  lemma_loop_eq_ref P cfg nest tag g d sty vs hw

/-! ## 4. Binding meets the oracle: faithful, total, bounded -/

/-- **C04, main theorem.** For every struct type of the grammar (nested, embedded to any depth,
    pointers, slices, maps, aliases, defaults), every well-typed destination (zero or pre-filled),
    every source of the five kinds and every option setting, what the model of `binding` returns is
    admitted by the oracle: on success every leaf holds exactly the converted value of its own key,
    its default, or what it held before, and every field outside the bind is untouched; every error
    names an offending field with an admissible class (unrepresentable value, slice / map / depth
    limit); binding never panics. -/
theorem bind_meets_spec (P : Params) (hP : FloatSane P) (cfg : Cfg) (tag : Tag) (fs : List Fld) (ivs : List Val)
    (src : Src) (hw : wts fs ivs = true) (hg : Spec.inGrammarFs fs = true) (hs : Spec.srcOK src = true) :
    Spec.specOK P cfg tag fs (.struct ivs) src (toObs (bind P cfg tag (.struct fs) (.struct ivs) src)) = true :=
  lemma_bind_meets_spec P hP cfg tag fs ivs src hw hg hs

/-- **total.** Binding into a well-typed destination never panics — whatever the source holds,
    whatever the shape of the type (nil embedded pointers, pointers to slices and maps included). -/
theorem bind_total (P : Params) (hP : FloatSane P) (cfg : Cfg) (tag : Tag) (fs : List Fld) (ivs : List Val)
    (src : Src) (hw : wts fs ivs = true) (hg : Spec.inGrammarFs fs = true) (hs : Spec.srcOK src = true) :
    bind P cfg tag (.struct fs) (.struct ivs) src ≠ .panic := by
  intro h
  have := bind_meets_spec P hP cfg tag fs ivs src hw hg hs
  rw [h] at this
  simp [toObs, Spec.specOK] at this

/-- **bounded depth.** A bind that succeeds has not descended below the configured depth: every
    nested struct of the type lies within `maxDepth`. -/
theorem bind_depth_bound (P : Params) (hP : FloatSane P) (cfg : Cfg) (tag : Tag) (fs : List Fld) (ivs : List Val)
    (src : Src) (hw : wts fs ivs = true) (hg : Spec.inGrammarFs fs = true) (hs : Spec.srcOK src = true) (v : Val)
    (h : bind P cfg tag (.struct fs) (.struct ivs) src = .ok v) :
    ∀ n ∈ Spec.nodesOf tag fs, n.depth ≤ cfg.maxDepth := by
  have := bind_meets_spec P hP cfg tag fs ivs src hw hg hs
  rw [h] at this
  simp only [toObs, Spec.specOK, Bool.and_eq_true, Bool.not_eq_true', Spec.mustFail, Bool.or_eq_false_iff,
    List.any_eq_false] at this
  intro n hn
  have := this.1.1.2 n hn
  simpa using this

/-- **errors name the field.** An error outcome is a `BindError` chain that names a field of the type
    (a leaf with an admissible error class, or the nested struct that exceeds the depth limit). -/
theorem bind_error_names_field (P : Params) (hP : FloatSane P) (cfg : Cfg) (tag : Tag) (fs : List Fld) (ivs : List Val)
    (src : Src) (hw : wts fs ivs = true) (hg : Spec.inGrammarFs fs = true) (hs : Spec.srcOK src = true) (e : Err)
    (h : bind P cfg tag (.struct fs) (.struct ivs) src = .err e) :
    e ∈ Spec.causes P cfg tag fs (.struct ivs) src := by
  have := bind_meets_spec P hP cfg tag fs ivs src hw hg hs
  rw [h] at this
  simpa [toObs, Spec.specOK] using this

/-- **untouched outside the bind.** A bind that succeeds leaves every field it does not bind under
    this tag (unexported, untagged, `-`) exactly as it was. -/
theorem bind_frame (P : Params) (hP : FloatSane P) (cfg : Cfg) (tag : Tag) (fs : List Fld) (ivs : List Val)
    (src : Src) (hw : wts fs ivs = true) (hg : Spec.inGrammarFs fs = true) (hs : Spec.srcOK src = true) (v : Val)
    (h : bind P cfg tag (.struct fs) (.struct ivs) src = .ok v) :
    ∀ f ∈ Spec.framesOf tag fs, Spec.holdsFrame (.struct ivs) v f = true := by
  have := bind_meets_spec P hP cfg tag fs ivs src hw hg hs
  rw [h] at this
  simp only [toObs, Spec.specOK, Bool.and_eq_true, List.all_eq_true] at this
  exact this.2

/-- **bounded slices.** setSliceField never stores more elements than `maxSliceLen` (0 = no limit). -/
theorem slice_len_bound (P : Params) (cfg : Cfg) (ty : Ty) (cur : Val) (values : List Bytes) (vs : List Val)
    (h : setSlice P cfg ty cur values = .ok (.list vs) ∨ setSlice P cfg ty cur values = .ok (.ptr (.list vs)))
    (hne : values ≠ []) : cfg.maxSlice = 0 ∨ vs.length ≤ cfg.maxSlice := by
  rcases lemma_setSlice_cases P cfg ty cur values _ rfl with ⟨hemp, _⟩ | he | he | ⟨e, ys, hlen, ⟨_, hr⟩ | ⟨_, hr⟩⟩
  · cases values with
    | nil => exact absurd rfl hne
    | cons _ _ => cases hemp
  · rw [he] at h; rcases h with h | h <;> cases h
  · rw [he] at h; rcases h with h | h <;> cases h
  · rw [hr] at h; rcases h with h | h <;> cases h; exact hlen
  · rw [hr] at h; rcases h with h | h <;> cases h; exact hlen

/-- **bounded maps.** A map field that was bound holds at most `maxMapSize` entries from this
    source (0 = no limit): neither the dot/bracket keys nor a JSON object under the bare key exceed it. -/
theorem map_size_bound (P : Params) (cfg : Cfg) (p : Prim) (isPtr : Bool) (cur : Val) (g : Getter) (name : Bytes) (v : Val)
    (h : setMap P cfg (if isPtr then .ptr (.map (.prim p)) else .map (.prim p)) cur g name = .ok v) :
    cfg.maxMap = 0 ∨
      ((entriesOf g.src (g.pre ++ name)).length ≤ cfg.maxMap ∧
       ((entriesOf g.src (g.pre ++ name)) = [] → g.has name = true → (g.get name).isEmpty = false →
          ∀ es, (P (g.get name)).j = some es → es.length ≤ cfg.maxMap)) := by
  rw [lemma_setMap_core P cfg p isPtr cur g name _ rfl, lemma_setMapCore_eq] at h
  by_cases hz : cfg.maxMap = 0
  · exact Or.inl hz
  · right
    generalize entriesOf g.src (g.pre ++ name) = E at h ⊢
    -- the one list that is bound - the entries or, when there are none, the JSON object - has passed the size test
    generalize hb : (if E.isEmpty = true then _ else _) = bound at h
    split at h
    · cases h
    · next hlim =>
      have hlen : bound.length ≤ cfg.maxMap := by
        simp only [Bool.and_eq_true, decide_eq_true_eq, not_and, Nat.not_lt] at hlim
        exact hlim (by omega)
      subst hb
      constructor
      · cases E with
        | nil => exact Nat.zero_le _
        | cons e r => simpa using hlen
      · intro hE hhas hjv es hes
        subst hE
        simpa [hhas, hjv, hes] using hlen

/-! ### non-vacuity: the hypotheses of the main theorem on a concrete, non-trivial input -/

def P7 : Params := fun s =>
  if s = B "7" then { i10 := some 7, i0 := some 7, u10 := some 7, u0 := some 7 }
  else if s = B "300" then { i10 := some 300, i0 := some 300, u10 := some 300, u0 := some 300 }
  else {}

theorem lemma_P7_sane : FloatSane P7 := by
  intro s b64 b32 above inf32 h
  unfold P7 at h
  split at h
  · simp at h
  · split at h <;> simp at h

def srcXY (x y : String) : Src := { kind := .query, kvs := [(B "x", [B x]), (B "y", [B y])] }

-- the type of embedding depth 3 through an embedded pointer, destination zero (the pointer is nil)
example : wts tyD3 (zeroFs tyD3) = true ∧ Spec.inGrammarFs tyD3 = true ∧ Spec.srcOK (srcXY "7" "7") = true := by decide +kernel

def okVal : Outcome → Option Val
  | .ok v => some v
  | _ => none

def errOf : Outcome → Option Err
  | .err e => some e
  | _ => none

/-- both promoted fields at depth 3 are bound, the nil embedded pointer is allocated -/
example : okVal (bind P7 Cfg.default .query (.struct tyD3) (.struct (zeroFs tyD3)) (srcXY "7" "7")) =
    some (.struct [.struct [.ptr (.struct [.struct [.int 7, .uint 7]])]]) := by decide +kernel

/-- `300` for the uint8 field `y`: an error naming `y`, nothing truncated -/
example : errOf (bind P7 Cfg.default .query (.struct tyD3) (.struct (zeroFs tyD3)) (srcXY "7" "300")) =
    some (.bind (B "y") .conv) := by decide +kernel

example : Spec.specOK P7 Cfg.default .query tyD3 (.struct (zeroFs tyD3)) (srcXY "7" "7")
    (toObs (bind P7 Cfg.default .query (.struct tyD3) (.struct (zeroFs tyD3)) (srcXY "7" "7"))) = true :=
  bind_meets_spec P7 lemma_P7_sane Cfg.default .query tyD3 (zeroFs tyD3) (srcXY "7" "7") (by decide +kernel) (by decide +kernel) (by decide +kernel)

example : Spec.specOK P7 Cfg.default .query tyD3 (.struct (zeroFs tyD3)) (srcXY "7" "7")
    (.ok (.struct [.struct [.ptr (.struct [.struct [.int 7, .uint 7]])]])) = true :=
  by decide +kernel

/-- the oracle is not trivially true: the as-shipped outcome (only `y` bound) is rejected -/
example : Spec.specOK P7 Cfg.default .query tyD3 (.struct (zeroFs tyD3)) (srcXY "7" "7")
    (.ok (.struct [.struct [.ptr (.struct [.struct [.int 0, .uint 7]])]])) = false :=
  by decide +kernel

/-- … and so is a truncated value -/
example : Spec.specOK P7 Cfg.default .query tyD3 (.struct (zeroFs tyD3)) (srcXY "7" "300")
    (.ok (.struct [.struct [.ptr (.struct [.struct [.int 7, .uint 44]])]])) = false :=
  by decide +kernel

/-! ### the other as-shipped behaviours (K04c–K04g), each against the repaired model -/

def tyEP : List Fld := [(hdr "In" true, .ptr tyIn)]
def fTags : FieldInfo :=
  { index := [0], name := B "T", tagName := B "tags", aliases := [B "t"], ty := .slice (.prim .str), dflt := [], typedDefault := none }
def gAlias : Getter := { src := { kind := .query, kvs := [(B "t", [B "a", B "b"])] } }
def gNested : Getter := { src := { kind := .query, kvs := [(B "n.m.a", [B "v"])] }, pre := B "n.", nested := true }

/-- **K04c.** `FieldByIndex` through the nil embedded pointer of a zero `struct{ *In }` panics; the
    repaired loop allocates the pointer when — and only when — a promoted field receives a value. -/
theorem nil_embedded_asis_witness :
    reachAsIs (.struct (zeroFs tyEP)) [0, 0] = none ∧
    okVal (bind P7 Cfg.default .query (.struct tyEP) (.struct (zeroFs tyEP)) (srcXY "7" "7")) =
      some (.struct [.ptr (.struct [.int 7, .uint 7])]) ∧
    okVal (bind P7 Cfg.default .query (.struct tyEP) (.struct (zeroFs tyEP)) { kind := .query, kvs := [] }) =
      some (.struct [.nil]) := by
  refine ⟨by decide +kernel, by decide +kernel, by decide +kernel⟩

/-- **K04d.** The value arrives under the alias `t`: `GetAll` with the primary name finds nothing,
    with the key that matched it finds both values. -/
theorem slice_alias_asis_witness :
    (lookupField gAlias fTags).1 = B "t" ∧
    gAlias.getAll (sliceKeyAsIs fTags (lookupField gAlias fTags).1) = [] ∧
    gAlias.getAll (lookupField gAlias fTags).1 = [B "a", B "b"] := by
  refine ⟨by decide +kernel, by decide +kernel, by decide +kernel⟩

/-- **K04e, K04g, K04f.** A `*[]string` field with a value panicked (`none`), `WithMaxMapSize(3)`
    rejected an empty map on the fallback capacity 8, a map below a nested struct saw no entries. -/
theorem ptrslice_maplimit_nestedmap_asis_witness :
    setSliceAsIs P0 Cfg.default (.ptr (.slice (.prim .str))) .nil [B "a"] = none ∧
    okVal (match setSlice P0 Cfg.default (.ptr (.slice (.prim .str))) .nil [B "a"] with
      | .ok v => Outcome.ok v
      | .error e => .err e) = some (.ptr (.list [.str (B "a")])) ∧
    mapLimitAsIs { Cfg.default with maxMap := 3 } 0 = true ∧
    okVal (match setMap P0 { Cfg.default with maxMap := 3 } (.map (.prim .str)) .nil gAlias (B "m") with
      | .ok v => Outcome.ok v
      | .error e => .err e) = some (.map []) ∧
    mapVisibleAsIs gNested = false ∧
    okVal (match setMap P0 Cfg.default (.map (.prim .str)) .nil gNested (B "m") with
      | .ok v => Outcome.ok v
      | .error e => .err e) = some (.map [(B "a", .str (B "v"))]) := by
  refine ⟨by decide +kernel, by decide +kernel, by decide +kernel, by decide +kernel, by decide +kernel, by decide +kernel⟩

/-! ## 5. Several sources (Bind / BindTo, app.Context.Bind) -/

/-- **type preservation.** What a bind returns is again a well-typed value of the destination type
    (so it can be the destination of the next source). -/
theorem bind_preserves_type (P : Params) (cfg : Cfg) (tag : Tag) (fs : List Fld) (ivs : List Val) (src : Src) (v : Val)
    (hw : wts fs ivs = true) (hg : Spec.inGrammarFs fs = true)
    (h : bind P cfg tag (.struct fs) (.struct ivs) src = .ok v) : ∃ rvs, v = .struct rvs ∧ wts fs rvs = true := by
  have ha := lemma_agree_bind P cfg tag (.struct fs) (.struct ivs) src
  rw [h] at ha
  exact lemma_bindAll_typed P cfg tag fs ivs src v [] hw hg ha

theorem lemma_strip_wt : ∀ (t : Ty) (v : Val), wt (stripTy t) v = wt t v := lemma_strip_wt'

theorem lemma_strip_grammar : ∀ t : Ty, Spec.inGrammar (stripTy t) = Spec.inGrammar t := lemma_strip_grammar'

/-- **total, several sources.** Bind / BindTo from any list of sources never panics. -/
theorem bindMulti_total (P : Params) (hP : FloatSane P) (cfg : Cfg) (fs : List Fld) (ivs : List Val) (srcs : List Src)
    (hw : wts fs ivs = true) (hg : Spec.inGrammarFs fs = true) (hs : ∀ s ∈ srcs, Spec.srcOK s = true) :
    bindMulti P cfg fs (.struct ivs) srcs ≠ .panic := by
  intro h
  have := lemma_bindMulti_meets_spec P hP cfg fs ivs srcs hw hg hs
  rw [h] at this
  simp [toObs, Spec.specMulti] at this

/-- with one source, Bind / BindTo is the plain bind (when the type mentions the source's tag) -/
theorem bindMulti_single (P : Params) (cfg : Cfg) (fs : List Fld) (init : Val) (s : Src)
    (ht : hasTagFs s.kind fs = true) :
    bindMulti P cfg fs init [s] = bind P cfg s.kind (.struct fs) init s := by
  simp only [bindMulti, List.isEmpty_cons, Bool.false_eq_true, if_false, List.length_singleton, beq_self_eq_true,
    if_true, bindPass, ht]
  cases bind P cfg s.kind (.struct fs) init s <;> rfl


/-- **C04, several sources (Bind / BindTo, app.Context.Bind).** What `bindMultiSource` returns —
    for any list of sources of the five kinds in any order, any struct type of the grammar, any
    well-typed destination — is admitted by the folded oracle `Spec.specMulti`: leaf by leaf the value
    of the last source that holds the leaf's key, else the declared default, else what the leaf held
    before; fields that no participating source binds are untouched; every error names an offending
    field; never a panic. -/
theorem bindMulti_meets_spec (P : Params) (hP : FloatSane P) (cfg : Cfg) (fs : List Fld) (ivs : List Val)
    (srcs : List Src) (hw : wts fs ivs = true) (hg : Spec.inGrammarFs fs = true) (hs : ∀ s ∈ srcs, Spec.srcOK s = true) :
    Spec.specMulti P cfg fs (.struct ivs) srcs (toObs (bindMulti P cfg fs (.struct ivs) srcs)) = true :=
  lemma_bindMulti_meets_spec P hP cfg fs ivs srcs hw hg hs

-- non-vacuity: a field with a default, bound from the query and absent in the header source —
-- the value of the query survives (K04i), and the as-shipped outcome (the default) is rejected
def tyDef : List Fld :=
  [({ name := B "A", exported := true, anon := false, tags := [B "a", [], [], B "X-A", []], dflt := B "7" }, .prim (.int 0))]
def srcsQH : List Src := [{ kind := .query, kvs := [(B "a", [B "300"])] }, { kind := .header, kvs := [] }]

example : okVal (bindMulti P7 Cfg.default tyDef (.struct (zeroFs tyDef)) srcsQH) = some (.struct [.int 300]) := by decide +kernel
example : okVal (bindMultiAsIs P7 Cfg.default tyDef (.struct (zeroFs tyDef)) srcsQH) = some (.struct [.int 7]) := by decide +kernel
example : Spec.specMulti P7 Cfg.default tyDef (.struct (zeroFs tyDef)) srcsQH (.ok (.struct [.int 300])) = true := by decide +kernel
example : Spec.specMulti P7 Cfg.default tyDef (.struct (zeroFs tyDef)) srcsQH (.ok (.struct [.int 7])) = false := by decide +kernel

def tyQOnly : List Fld :=
  [({ name := B "A", exported := true, anon := false, tags := [B "a", [], [], [], []], dflt := [] }, .prim (.int 0))]
/-- no source whose tag occurs in the type takes part: the oracle demands that the destination come out as it went
    in (`tyQOnly` bound from a cookie source: a stray 999 over the 5 it held is rejected, the 5 is admitted) -/
theorem specMulti_untouched_witness :
    Spec.specMulti P7 Cfg.default tyQOnly (.struct [.int 5]) [{ kind := .cookie, kvs := [] }] (.ok (.struct [.int 999])) = false ∧
    Spec.specMulti P7 Cfg.default tyQOnly (.struct [.int 5]) [{ kind := .cookie, kvs := [] }] (.ok (.struct [.int 5])) = true := by
  decide +kernel

end Rivaas.C04
