import Rivaas.Lemmas.RadixDispatch
/-
C01 — Route dispatch is sound, complete and priority-respecting.

Model   : Model/Radix.lean   (`build`, `serve`: the tree engine of rivaas.dev/router, text level)
Oracle  : Spec/Match.lean    (`refMatch`, `specOK`: declarative segment-wise matcher)
Classes : Spec/MatchClass.lean (`dReplaced`: K01c, the one recorded class the theorems exclude;
          `dNames`, `dShadow`, `dCfall`: K01a/K01b/K01f, repaired, used by the as-shipped witnesses below)

The theorems quantify over every constraint verdict table `sat`, every registration script whose
patterns are in the vocabulary of the property, and every request path that starts with `/`
(empty and trailing segments included).
-/
namespace Rivaas.C01
open Rivaas.Route Rivaas.Radix Rivaas.Match Rivaas.MatchL Rivaas.RadixL

/-- **C01, equality without a guard.** What the tree engine does is exactly the reference outcome over the routes
that no later registration of the same method and shape replaced (`live R`): a registration overwrites the leaf of
an earlier one of its shape, and that is all that separates the engine from the declarative matcher. The request
method is a standard one if anything is registered for it (other methods have no tree). -/
theorem dispatch_eq_ref_live (sat : Nat → Bytes → Bool) (noRoute : Bool) (script : List Reg) (R : List Route)
    (hR : specRoutes script = some R) (hN : normal R = true)
    (req : Req) (hstd : ∀ g ∈ script, g.method = req.method → req.method ∈ stdMethods) (hp : req.path.head? = some '/') :
    serve sat (build noRoute script) req = refMatch sat noRoute (live R) req (cutAny req.path) := by
  rw [lemma_serve_lookup, lemma_lookupM_live sat noRoute script R hR hN req.method req.path hstd hp]
  unfold refMatch
  cases href : refRoute sat (live R) req.method (cutAny req.path) with
  | some ρ =>
    simp only [Option.map_some]
    -- the route that ran reads its own bindings
    obtain ⟨hρL, _, hρm⟩ := lemma_mem_cands.mp (lemma_ref_max href).1
    obtain ⟨b, hb, hkeys⟩ := lemma_bindings hN (live_sub hρL) hρm
    have htext : ρ.text ≠ [] := by rw [(lemma_normalR R hN ρ (live_sub hρL)).1.text]; simp [render]
    simp only [hb, Option.getD_some, served, leafOf, htext, if_false, all_pushAll, lemma_lookups b hkeys]
  | none =>
    simp only [Option.map_none]
    unfold notFound
    rw [lemma_allowed sat noRoute script R hR hN req.path hp]
    have hnr : (build noRoute script).noRoute = noRoute := by
      unfold build
      rw [buildFrom_eq script 0 R hR, noRoute_fold]
    rw [hnr]
    -- what is left differs only in how the empty context of the NoRoute handler is written
    rfl

/-- **C01, equality form.** For every script of the vocabulary, every constraint table and every
request whose path starts with `/`: unless the route the reference selects (for the request method or, for
the 405 answer, for one of the seven probed methods) was replaced by a later registration of exactly its
shape (`overwrite`, K01c — the one recorded class; requests in `names` K01a, `shadow` K01b and `cfall` K01f, the
classes of the engine as shipped, are covered), what the tree engine does is exactly the reference outcome: the
route the declarative matcher selects (static over parameter over wildcard, segment-wise, with backtracking,
constraints part of matching, last registration among equals) runs and reads its own bindings, or the answer is
405 with exactly the matching methods, or 404 / the NoRoute handler. -/
theorem dispatch_eq_ref_partial (sat : Nat → Bytes → Bool) (noRoute : Bool) (script : List Reg) (R : List Route)
    (hR : specRoutes script = some R) (hN : normal R = true) (hstd : ∀ g ∈ script, g.method ∈ stdMethods)
    (req : Req) (hp : req.path.head? = some '/')
    (hOw : dReplaced sat R req (cutAny req.path) = false) :
    serve sat (build noRoute script) req = refMatch sat noRoute R req (cutAny req.path) := by
  rw [dispatch_eq_ref_live sat noRoute script R hR hN req (fun g hg e => e ▸ hstd g hg) hp, refMatch_live hOw]

/-- **Every deviation is classified** (the form DESIGN.md §2.4 uses): if the tree engine does not
produce the reference outcome, the request is in the one recorded class. -/
theorem deviation_classified (sat : Nat → Bytes → Bool) (noRoute : Bool) (script : List Reg) (R : List Route)
    (hR : specRoutes script = some R) (hN : normal R = true) (hstd : ∀ g ∈ script, g.method ∈ stdMethods)
    (req : Req) (hp : req.path.head? = some '/')
    (hdev : serve sat (build noRoute script) req ≠ refMatch sat noRoute R req (cutAny req.path)) :
    dReplaced sat R req (cutAny req.path) = true := by
  cases hOw : dReplaced sat R req (cutAny req.path) with
  | true => rfl
  | false => exact absurd (dispatch_eq_ref_partial sat noRoute script R hR hN hstd req hp hOw) hdev

/-- the class token the driver prints is `-` only where the equality holds -/
theorem classify_dash (sat : Nat → Bytes → Bool) (noRoute : Bool) (script : List Reg) (R : List Route)
    (hR : specRoutes script = some R) (hN : normal R = true) (hstd : ∀ g ∈ script, g.method ∈ stdMethods)
    (req : Req) (hp : req.path.head? = some '/')
    (hcls : classify sat R req (cutAny req.path) = "-") :
    serve sat (build noRoute script) req = refMatch sat noRoute R req (cutAny req.path) := by
  unfold classify at hcls
  cases hOw : dReplaced sat R req (cutAny req.path) with
  | true => simp [hOw] at hcls
  | false => exact dispatch_eq_ref_partial sat noRoute script R hR hN hstd req hp hOw

/-- **Allow is exact**: outside the class a 405 lists exactly (sorted) the standard methods that have a
matching route, and a 405 is answered exactly when the request method has none but some method has. -/
theorem allow_exact (sat : Nat → Bytes → Bool) (noRoute : Bool) (script : List Reg) (R : List Route)
    (hR : specRoutes script = some R) (hN : normal R = true) (hstd : ∀ g ∈ script, g.method ∈ stdMethods)
    (req : Req) (hp : req.path.head? = some '/')
    (hOw : dReplaced sat R req (cutAny req.path) = false)
    (hnone : cands sat R req.method (cutAny req.path) = []) :
    (serve sat (build noRoute script) req).ran = none ∧
    ((allowedSet sat R (cutAny req.path) ≠ [] →
        (serve sat (build noRoute script) req).status = 405 ∧
        (serve sat (build noRoute script) req).allow = sortBytes (allowedSet sat R (cutAny req.path))) ∧
     (allowedSet sat R (cutAny req.path) = [] →
        (serve sat (build noRoute script) req).status = 404 ∧
        (serve sat (build noRoute script) req).noRoute = noRoute)) := by
  rw [dispatch_eq_ref_partial sat noRoute script R hR hN hstd req hp hOw]
  unfold refMatch
  simp only [lemma_refRoute_none hnone]
  refine ⟨?_, ?_, ?_⟩
  · split
    · rfl
    · split <;> rfl
  · intro ha
    simp [ha]
  · intro ha
    simp only [ha, ne_eq, not_true_eq_false, if_false]
    cases noRoute <;> simp

/-- **Soundness, without any guard** (pattern, constraints and bindings): whenever a route handler runs, it
belongs to a registered route of the request method that matches the path segment-wise with its constraints
satisfied, and the handler reads — through `AllParams` and through `Param(name)` — exactly the bindings of its
own pattern (for a wildcard, the remaining path). For every script of the vocabulary, overwritten leaves
included. -/
theorem lookup_sound (sat : Nat → Bytes → Bool) (noRoute : Bool) (script : List Reg) (R : List Route)
    (hR : specRoutes script = some R) (hN : normal R = true)
    (req : Req) (hp : req.path.head? = some '/') (rid : Nat)
    (h : (serve sat (build noRoute script) req).ran = some rid) :
    ∃ r ∈ R, r.rid = rid ∧ r.method = req.method ∧
      ∃ b, routeMatch sat r (cutAny req.path) = some b ∧
        (serve sat (build noRoute script) req).params = SMap.ofList b ∧
        (serve sat (build noRoute script) req).lookups = lookupAsk b req.ask := by
  have hm := lemma_ran_std sat _ req rid h
  rw [dispatch_eq_ref_live sat noRoute script R hR hN req (fun _ _ _ => hm) hp] at h ⊢
  obtain ⟨r, b, href, hrid, hb, hpar, hlook⟩ := lemma_refMatch_ran h
  obtain ⟨hr, hrm, _⟩ := lemma_mem_cands.mp (lemma_ref_max href).1
  exact ⟨r, live_sub hr, hrid, hrm, b, hb, hpar, hlook⟩

/-- **No handler without a match, without any guard**: when no route registered for the request method
matches the path (constraints included), no route handler runs. -/
theorem no_match_no_handler (sat : Nat → Bytes → Bool) (noRoute : Bool) (script : List Reg) (R : List Route)
    (hR : specRoutes script = some R) (hN : normal R = true)
    (req : Req) (hp : req.path.head? = some '/')
    (hnone : cands sat R req.method (cutAny req.path) = []) :
    (serve sat (build noRoute script) req).ran = none := by
  cases hran : (serve sat (build noRoute script) req).ran with
  | none => rfl
  | some rid =>
    exfalso
    obtain ⟨r, hr, _, hrm, b, hb, _⟩ := lookup_sound sat noRoute script R hR hN req hp rid hran
    have : r ∈ cands sat R req.method (cutAny req.path) := lemma_mem_cands.mpr ⟨hr, hrm, by rw [hb]; rfl⟩
    rw [hnone] at this
    cases this

/-- **Priority, without any guard**: whenever a route handler runs, no registered route of the request method
that matches the path with its constraints satisfied — and that was not replaced by a later registration of
exactly its shape — beats it segment-wise (static over parameter over wildcard at the first differing
segment). -/
theorem lookup_priority (sat : Nat → Bytes → Bool) (noRoute : Bool) (script : List Reg) (R : List Route)
    (hR : specRoutes script = some R) (hN : normal R = true)
    (req : Req) (hp : req.path.head? = some '/') (rid : Nat)
    (h : (serve sat (build noRoute script) req).ran = some rid) :
    ∃ r ∈ R, r.rid = rid ∧ r.method = req.method ∧
      ∀ r' ∈ R, r'.method = req.method → (routeMatch sat r' (cutAny req.path)).isSome = true →
        ((laterThan r' R).any fun r1 => r1.method = req.method && shapeEq r1.pat r'.pat) = false →
        better r'.pat r.pat = false := by
  have hm := lemma_ran_std sat _ req rid h
  rw [dispatch_eq_ref_live sat noRoute script R hR hN req (fun _ _ _ => hm) hp] at h
  obtain ⟨r, _, href, hrid, _⟩ := lemma_refMatch_ran h
  obtain ⟨hrc, hmax⟩ := lemma_ref_max href
  obtain ⟨hr, hrm, _⟩ := lemma_mem_cands.mp hrc
  refine ⟨r, live_sub hr, hrid, hrm, fun r' hr' hrm' hmatch' hlast' => ?_⟩
  exact hmax r' (lemma_mem_cands.mpr ⟨mem_live_of_last hr' hrm' hlast', hrm', hmatch'⟩)

/-- **Completeness with priority**: outside the class, a route runs whenever one matches, and it is not beaten
segment-wise (static over parameter over wildcard at the first differing segment) by any registered route of the
request method that matches the path with its constraints satisfied. -/
theorem lookup_best (sat : Nat → Bytes → Bool) (noRoute : Bool) (script : List Reg) (R : List Route)
    (hR : specRoutes script = some R) (hN : normal R = true) (hstd : ∀ g ∈ script, g.method ∈ stdMethods)
    (req : Req) (hp : req.path.head? = some '/')
    (hOw : dReplaced sat R req (cutAny req.path) = false)
    (hsome : cands sat R req.method (cutAny req.path) ≠ []) :
    ∃ r ∈ cands sat R req.method (cutAny req.path), (serve sat (build noRoute script) req).ran = some r.rid ∧
      ∀ r' ∈ cands sat R req.method (cutAny req.path), better r'.pat r.pat = false := by
  rw [dispatch_eq_ref_partial sat noRoute script R hR hN hstd req hp hOw]
  obtain ⟨ρ, href⟩ := lemma_refRoute_some hsome
  obtain ⟨hρc, hmax⟩ := lemma_ref_max href
  exact ⟨ρ, hρc, by simp [refMatch, href], hmax⟩

/-- **`RouteExists` is exact**: outside the class, `RouteExists(method, path)` is true exactly when some
registered route of the method matches the path (constraints included). -/
theorem routeExists_exact (sat : Nat → Bytes → Bool) (noRoute : Bool) (script : List Reg) (R : List Route)
    (hR : specRoutes script = some R) (hN : normal R = true) (hstd : ∀ g ∈ script, g.method ∈ stdMethods)
    (m path : Bytes) (hm : m ∈ stdMethods) (hp : path.head? = some '/')
    (hOw : dReplaced1 sat R m (cutAny path) = false) :
    routeExists sat (build noRoute script) m path = !(cands sat R m (cutAny path)).isEmpty := by
  rw [lemma_routeExists sat noRoute script R hR hN m path hm hp, lemma_lookupM sat noRoute script R hR hN hstd m path hp hOw,
    Option.isSome_map]
  exact lemma_pick_isSome _

/-! ### the reference outcome meets the relational oracle the driver evaluates -/

theorem lemma_mem_insertSorted (x y : Bytes) (l : List Bytes) : y ∈ insertSorted x l ↔ y = x ∨ y ∈ l := by
  induction l with
  | nil => simp [insertSorted]
  | cons a rest ih =>
    simp only [insertSorted]
    split
    · simp only [List.mem_cons, ih]
      constructor
      · rintro (h | h | h)
        · right; left; exact h
        · left; exact h
        · right; right; exact h
      · rintro (h | h | h)
        · right; left; exact h
        · left; exact h
        · right; right; exact h
    · simp

theorem lemma_mem_sortBytes (y : Bytes) (l : List Bytes) : y ∈ sortBytes l ↔ y ∈ l := by
  unfold sortBytes
  induction l with
  | nil => simp
  | cons a rest ih => simp only [List.foldr_cons, lemma_mem_insertSorted, ih, List.mem_cons]

theorem lemma_sameSet_sort (l : List Bytes) : sameSet (sortBytes l) l = true := by
  unfold sameSet
  simp only [Bool.and_eq_true, List.all_eq_true, List.contains_iff_mem]
  exact ⟨fun x hx => (lemma_mem_sortBytes x l).mp hx, fun x hx => (lemma_mem_sortBytes x l).mpr hx⟩

theorem lemma_bindGet_lookupAsk (b : List (Bytes × Bytes)) (ask : List Bytes) (n : Bytes) :
    bindGet n (lookupAsk b ask) = if n ∈ ask then some ((bindGet n b).getD []) else none := by
  unfold lookupAsk
  induction ask with
  | nil => simp [bindGet]
  | cons a rest ih =>
    simp only [List.map_cons, bindGet, ih, List.mem_cons]
    by_cases ha : a = n
    · subst ha; simp
    · have : ¬ n = a := fun e => ha e.symm
      simp [ha, this]

/-- the deterministic reference outcome is one of the outcomes the relational oracle admits -/
theorem ref_meets_oracle (sat : Nat → Bytes → Bool) (noRoute : Bool) (R : List Route) (hN : normal R = true)
    (req : Req) (p : RPath) : specOK sat R req p (refMatch sat noRoute R req p) = true := by
  unfold specOK refMatch
  by_cases hc : cands sat R req.method p ≠ []
  · obtain ⟨ρ, href⟩ := lemma_refRoute_some hc
    obtain ⟨hρc, hmax⟩ := lemma_ref_max href
    obtain ⟨hρR, _, hρm⟩ := lemma_mem_cands.mp hρc
    obtain ⟨b, hb, hkeys⟩ := lemma_bindings hN hρR hρm
    simp only [hc, ne_eq, not_false_eq_true, if_true, href, List.any_eq_true, Bool.and_eq_true, decide_eq_true_eq]
    refine ⟨ρ, hρR, ⟨rfl, ?_⟩, ?_⟩
    · unfold admissible
      simp only [Bool.and_eq_true, List.contains_iff_mem, List.all_eq_true, Bool.not_eq_true']
      exact ⟨hρc, hmax⟩
    · unfold readsOwn
      simp only [hb, Option.getD_some, List.all_eq_true, Bool.and_eq_true, decide_eq_true_eq]
      intro kv hkv
      obtain ⟨n, v⟩ := kv
      have hbg := bindGet_mem b hkeys n v hkv
      refine ⟨?_, ?_⟩
      · simp only
        rw [get_ofList n b hkeys, hbg]
      · simp only
        rw [lemma_bindGet_lookupAsk]
        by_cases hask : n ∈ req.ask
        · simp [hask, hbg]
        · simp [hask]
  · have hc' : cands sat R req.method p = [] := Decidable.not_not.mp hc
    simp only [hc', ne_eq, not_true_eq_false, if_false, lemma_refRoute_none hc']
    by_cases ha : allowedSet sat R p ≠ []
    · simp [ha, lemma_sameSet_sort]
    · simp only [ha, if_false]
      cases noRoute <;> simp

/-- **C01, oracle form**: outside the class the observation of the tree engine satisfies the relational
oracle (`specOK`) that the driver evaluates on the implementation's observation. -/
theorem C01_meets_oracle (sat : Nat → Bytes → Bool) (noRoute : Bool) (script : List Reg) (R : List Route)
    (hR : specRoutes script = some R) (hN : normal R = true) (hstd : ∀ g ∈ script, g.method ∈ stdMethods)
    (req : Req) (hp : req.path.head? = some '/')
    (hOw : dReplaced sat R req (cutAny req.path) = false) :
    specOK sat R req (cutAny req.path) (serve sat (build noRoute script) req) = true := by
  rw [dispatch_eq_ref_partial sat noRoute script R hR hN hstd req hp hOw]
  exact ref_meets_oracle sat noRoute R hN req _

/-! ### witnesses of the recorded findings (each replayed on the implementation: corpus/C01) and of the
repaired ones (the as-shipped definitions are kept in the model as `…AsIs` / `wildUnchecked`).

Each is a finite fact, proved by evaluation. The string literals are first turned into character lists, since
the kernel would otherwise decode a `String.toList` again at every comparison: by rewriting with
`String.toList_ofList` (a literal is `String.ofList` of its characters), which spares the kernel the decoding
altogether (it is quadratic in the length of the literal); or, where the literals are many and short and the
rewrites would cost more than they spare, by `String.reduceToList`, after which the kernel decodes each once. -/

def B (s : String) : Bytes := s.toList
def anySat : Nat → Bytes → Bool := fun _ _ => true
def G : Bytes := B "GET"
def reg (m p : String) (cons : List (Bytes × Nat) := []) : Reg := ⟨B m, [], B p, cons, none⟩

/-- K01a (repaired) — as shipped, one parameter child per node kept the first registered name and the handler
of `/a/:y/c` read `x=1`, `y=""`; as repaired, the captured values are named after the matched route's own pattern:
the request is in the class `names`, and the engine answers exactly like the reference -/
def k01aScript : List Reg := [reg "GET" "/a/:x/b", reg "GET" "/a/:y/c"]
def k01aReq : Req := ⟨G, B "/a/1/c", [B "x", B "y"]⟩

theorem K01a_asIs_witness : ∃ R, specRoutes k01aScript = some R ∧ normal R = true ∧
    dNames R k01aReq (cutAny k01aReq.path) = true ∧
    (let c := (getRouteGen false true true anySat ((treeOf (build false k01aScript) G).getD Tree.empty) k01aReq.path Ctx.fresh).2
     (c.param (B "x"), c.param (B "y")) = (B "1", [])) ∧
    (serve anySat (build false k01aScript) k01aReq).lookups = [(B "x", []), (B "y", B "1")] ∧
    serve anySat (build false k01aScript) k01aReq = refMatch anySat false R k01aReq (cutAny k01aReq.path) := by
  refine ⟨(specRoutes k01aScript).getD [], ?_⟩
  dsimp only [k01aScript, k01aReq, reg, G, B]
  repeat rewrite [String.toList_ofList]
  decide +kernel

/-- K01b (repaired) — as shipped, a static edge shadowed the parameter sibling and the descent did not
backtrack: `/users/admin/posts` was answered 404 although `/users/:id/posts` matches; as repaired, the first route
runs with `id=admin`, exactly the reference outcome -/
def k01bScript : List Reg := [reg "GET" "/users/:id/posts", reg "GET" "/users/admin/:x/y"]
def k01bReq : Req := ⟨G, B "/users/admin/posts", [B "id"]⟩

theorem K01b_asIs_witness : ∃ R, specRoutes k01bScript = some R ∧ normal R = true ∧
    dShadow R k01bReq (cutAny k01bReq.path) = true ∧
    (getRouteGen false false true anySat ((treeOf (build false k01bScript) G).getD Tree.empty) k01bReq.path Ctx.fresh).1 = none ∧
    (serve anySat (build false k01bScript) k01bReq).ran = some 0 ∧
    (serve anySat (build false k01bScript) k01bReq).lookups = [(B "id", B "admin")] ∧
    serve anySat (build false k01bScript) k01bReq = refMatch anySat false R k01bReq (cutAny k01bReq.path) := by
  refine ⟨(specRoutes k01bScript).getD [], ?_⟩
  dsimp only [k01bScript, k01bReq, reg, G, B]
  repeat rewrite [String.toList_ofList]
  decide +kernel

/-- K01c — routes of one shape overwrite each other (one leaf per shape holds the last registration):
constraint 0 accepts only digits, constraint 1 only letters; `/u/123` is answered 404 although `/u/:id` matches -/
def k01cSat : Nat → Bytes → Bool := fun cid v => (cid == 0 && v == B "123") || (cid == 1 && v == B "abc")
def k01cScript : List Reg := [reg "GET" "/u/:id" [(B "id", 0)], reg "GET" "/u/:name" [(B "name", 1)]]
def k01cReq1 : Req := ⟨G, B "/u/123", [B "id"]⟩
def k01cReq2 : Req := ⟨G, B "/u/abc", [B "name"]⟩

theorem K01c_witness : ∃ R, specRoutes k01cScript = some R ∧ normal R = true ∧
    (serve k01cSat (build false k01cScript) k01cReq1).status = 404 ∧
    (serve k01cSat (build false k01cScript) k01cReq2).ran = some 1 ∧
    (refMatch k01cSat false R k01cReq1 (cutAny k01cReq1.path)).ran = some 0 ∧
    (refMatch k01cSat false R k01cReq2 (cutAny k01cReq2.path)).ran = some 1 ∧
    classify k01cSat R k01cReq1 (cutAny k01cReq1.path) = "overwrite" := by
  refine ⟨(specRoutes k01cScript).getD [], ?_⟩
  dsimp only [k01cScript, k01cReq1, k01cReq2, k01cSat, reg, G, B]
  repeat rewrite [String.toList_ofList]
  decide +kernel

/-- K01f (repaired) — as shipped, constraints were checked only at the one leaf the descent reached:
`/u/abc` was answered 404 although `/u/*` matches; as repaired, the wildcard route runs, exactly the reference
outcome -/
def k01fSat : Nat → Bytes → Bool := fun _ v => v == B "12"
def k01fScript : List Reg := [reg "GET" "/u/:id" [(B "id", 0)], reg "GET" "/u/*"]
def k01fReq : Req := ⟨G, B "/u/abc", [B "filepath"]⟩

theorem K01f_asIs_witness : ∃ R, specRoutes k01fScript = some R ∧ normal R = true ∧
    dCfall k01fSat R k01fReq (cutAny k01fReq.path) = true ∧
    (getRouteGen false false true k01fSat ((treeOf (build false k01fScript) G).getD Tree.empty) k01fReq.path Ctx.fresh).1 = none ∧
    (serve k01fSat (build false k01fScript) k01fReq).ran = some 1 ∧
    (serve k01fSat (build false k01fScript) k01fReq).lookups = [(B "filepath", B "abc")] ∧
    serve k01fSat (build false k01fScript) k01fReq = refMatch k01fSat false R k01fReq (cutAny k01fReq.path) := by
  refine ⟨(specRoutes k01fScript).getD [], ?_⟩
  dsimp only [k01fScript, k01fReq, k01fSat, reg, G, B]
  repeat rewrite [String.toList_ofList]
  decide +kernel

/-- K01d (repaired in e1ada5b) — as shipped, the parameter in a wildcard prefix was a literal edge -/
def k01dScript : List Reg := [reg "GET" "/users/:id/files/*"]
def k01dReq : Req := ⟨G, B "/users/42/files/a/b.txt", [B "id", B "filepath"]⟩

theorem K01d_asIs_witness :
    (serve anySat (buildAsIs false k01dScript) k01dReq).status = 404 ∧
    (serve anySat (build false k01dScript) k01dReq).ran = some 0 ∧
    (serve anySat (build false k01dScript) k01dReq).lookups = [(B "id", B "42"), (B "filepath", B "a/b.txt")] := by
  dsimp only [k01dScript, k01dReq, reg, G, B]
  repeat rewrite [String.toList_ofList]
  decide +kernel

/-- K01e (repaired in 14d2124) — as shipped, the constraints of a wildcard route were never validated -/
def k01eSat : Nat → Bytes → Bool := fun _ v => v == B "12"
def k01eScript : List Reg := [reg "GET" "/f/:id/*" [(B "id", 0)]]

theorem K01e_asIs_witness :
    ((getRouteGen true false false k01eSat ((treeOf (build false k01eScript) G).getD Tree.empty) (B "/f/abc/x") Ctx.fresh).1.map (·.rid)) = some 0 ∧
    (getRoute k01eSat ((treeOf (build false k01eScript) G).getD Tree.empty) (B "/f/abc/x") Ctx.fresh).1 = none ∧
    ((getRoute k01eSat ((treeOf (build false k01eScript) G).getD Tree.empty) (B "/f/12/x") Ctx.fresh).1.map (·.rid)) = some 0 := by
  dsimp only [k01eScript, k01eSat, reg, G, B]
  repeat rewrite [String.toList_ofList]
  decide +kernel

/-! ### non-vacuity: the hypotheses of the theorems are met by concrete non-trivial inputs -/

def exSat : Nat → Bytes → Bool := fun _ v => v == B "42"
def exScript : List Reg :=
  [reg "GET" "/users/:id" [(B "id", 0)], reg "GET" "/users/list", reg "POST" "/users/:id",
   ⟨B "GET", [B "/files", B "/v1"], B "/*", [], none⟩, reg "DELETE" "/",
   ⟨B "GET", [B "/items"], B "/:id", [], some (B "api/")⟩, ⟨B "GET", [], B "/", [], some (B "/api/")⟩]
def exReq : Req := ⟨G, B "/users/42", [B "id"]⟩
def exReq405 : Req := ⟨B "PUT", B "/users/7", []⟩

/-- the three examples on `exScript` below, evaluated together: registration and the oracle's reading of the script
are computed once -/
theorem lemma_exScript : ∃ R, specRoutes exScript = some R ∧
    (normal R = true ∧ (∀ g ∈ exScript, g.method ∈ stdMethods) ∧
      exReq.path.head? = some '/' ∧ dReplaced exSat R exReq (cutAny exReq.path) = false ∧
      (serve exSat (build false exScript) exReq).ran = some 0 ∧
      (serve exSat (build false exScript) exReq).lookups = [(B "id", B "42")]) ∧
    (dReplaced exSat R exReq405 (cutAny exReq405.path) = false ∧
      cands exSat R exReq405.method (cutAny exReq405.path) = [] ∧
      (serve exSat (build false exScript) exReq405).status = 405 ∧
      (serve exSat (build false exScript) exReq405).allow = [B "POST"]) ∧
    (dReplaced exSat R ⟨G, B "/api/items/7", [B "id"]⟩ (cutAny (B "/api/items/7")) = false ∧
      (serve exSat (build false exScript) ⟨G, B "/api/items/7", [B "id"]⟩).ran = some 5 ∧
      (serve exSat (build false exScript) ⟨G, B "/api", []⟩).ran = some 6) := by
  refine ⟨(specRoutes exScript).getD [], ?_⟩
  dsimp only [exScript, exReq, exReq405, exSat, reg, G, B, String.reduceToList]
  decide +kernel

/-- the hypotheses of `dispatch_eq_ref_partial` hold for a script with a constrained parameter route, a
static sibling, a second method, a wildcard registered through two groups, a root route and two routes of a
mounted sub-router; the outcome is the constrained route with its binding -/
example : ∃ R, specRoutes exScript = some R ∧ normal R = true ∧ (∀ g ∈ exScript, g.method ∈ stdMethods) ∧
    exReq.path.head? = some '/' ∧ dReplaced exSat R exReq (cutAny exReq.path) = false ∧
    (serve exSat (build false exScript) exReq).ran = some 0 ∧
    (serve exSat (build false exScript) exReq).lookups = [(B "id", B "42")] :=
  let ⟨R, h, h1, _⟩ := lemma_exScript
  ⟨R, h, h1⟩

/-- … for a request that ends in 405 (the only other method with a matching route is POST) -/
example : ∃ R, specRoutes exScript = some R ∧ normal R = true ∧
    dReplaced exSat R exReq405 (cutAny exReq405.path) = false ∧
    cands exSat R exReq405.method (cutAny exReq405.path) = [] ∧
    (serve exSat (build false exScript) exReq405).status = 405 ∧
    (serve exSat (build false exScript) exReq405).allow = [B "POST"] :=
  let ⟨R, h, h1, h2, _⟩ := lemma_exScript
  ⟨R, h, h1.1, h2⟩

/-- … and for a route of the mounted sub-router (`Mount("api/", sub)`, `sub.Group("/items").GET("/:id")`) -/
example : ∃ R, specRoutes exScript = some R ∧
    dReplaced exSat R ⟨G, B "/api/items/7", [B "id"]⟩ (cutAny (B "/api/items/7")) = false ∧
    (serve exSat (build false exScript) ⟨G, B "/api/items/7", [B "id"]⟩).ran = some 5 ∧
    (serve exSat (build false exScript) ⟨G, B "/api", []⟩).ran = some 6 :=
  let ⟨R, h, _, _, h3⟩ := lemma_exScript
  ⟨R, h, h3⟩

/-- the class is per request: a replaced leaf in ANOTHER method's tree does not exclude a request that its own
method's tree answers (`GET /u/:id`, `POST /u/:id` (constraint 0), `POST /u/:name` (constraint 1); `GET /u/123`) -/
example : ∃ R, specRoutes [reg "GET" "/u/:id", reg "POST" "/u/:id" [(B "id", 0)], reg "POST" "/u/:name" [(B "name", 1)]] = some R ∧
    dReplaced k01cSat R ⟨G, B "/u/123", []⟩ (cutAny (B "/u/123")) = false ∧
    dReplaced1 k01cSat R (B "POST") (cutAny (B "/u/123")) = true := by
  refine ⟨(specRoutes [reg "GET" "/u/:id", reg "POST" "/u/:id" [(B "id", 0)], reg "POST" "/u/:name" [(B "name", 1)]]).getD [], ?_⟩
  dsimp only [k01cSat, reg, G, B]
  repeat rewrite [String.toList_ofList]
  decide +kernel

/-- `lookup_sound` / `lookup_priority` are not vacuous on a script that *is* in the recorded class (K01c): the last
registration of the shape runs and reads its own binding -/
example : (serve k01cSat (build false k01cScript) k01cReq2).ran = some 1 ∧
    (serve k01cSat (build false k01cScript) k01cReq2).lookups = [(B "name", B "abc")] := by
  dsimp only [k01cScript, k01cReq2, k01cSat, reg, G, B]
  repeat rewrite [String.toList_ofList]
  decide +kernel

/-- the equality also covers requests of the repaired classes `names`, `shadow`, `cfall` (the as-shipped witnesses) -/
example : ∃ R, specRoutes k01aScript = some R ∧ dReplaced anySat R k01aReq (cutAny k01aReq.path) = false ∧
    dNames R k01aReq (cutAny k01aReq.path) = true := by
  refine ⟨(specRoutes k01aScript).getD [], ?_⟩
  dsimp only [k01aScript, k01aReq, reg, G, B]
  repeat rewrite [String.toList_ofList]
  decide +kernel

end Rivaas.C01
