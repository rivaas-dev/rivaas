import Rivaas.Lemmas.ConfigMerge
import Rivaas.Lemmas.ConfigSM
import Rivaas.Lemmas.ConfigEnv
/-
C14 — Configuration merging is last-source-wins and reload is atomic.

Property theorems about the model of `config/config.go` (`Model/Config.lean`) against the
declarative oracle (`Spec/Config.lean`). The model follows the code after the `fix:` commit for
K14 (the bound struct is zeroed before decoding); the behaviour as shipped is `loadAsIs` with a
`decide` witness.
-/
namespace Rivaas.C14
open Rivaas.Config

/-! ## 1. each key has the value given by the last source that defines it -/

/-- For every list of sources and every key path: the merged map holds at the path what the
    last source that defines the path gives — a non-map value as it is (falsy or not: leaves are
    opaque), "a map" where that source has a map, nothing where that source replaced an enclosing
    subtree by a non-map value — with keys compared case-insensitively at every level. -/
theorem get_last_wins (srcs : List Kvs) (p : List Bytes) (hp : p ≠ []) :
    classify (getPath (mergeAll srcs) p) = lastWins srcs p :=
  classify_getPath_lastWins srcs p

/-- not vacuous, falsy values included: `port` is 8080 in the first source and `0` in the second
    (under `SERVER.PORT`), `name` is overridden by the empty string; the last source wins -/
example :
    lastWins [[("server".toList, .map [("port".toList, .leaf "int:8080".toList)]), ("name".toList, .leaf "s:one".toList)],
              [("SERVER".toList, .map [("PORT".toList, .leaf "int:0".toList)]), ("Name".toList, .leaf "s:".toList)]]
      ["server".toList, "port".toList] = .leaf "int:0".toList := by
  -- the kernel decodes a string literal by evaluation, at a cost quadratic in its length: `String.toList_ofList`
  -- replaces each literal by its characters by a lemma first
  repeat rewrite [String.toList_ofList]
  decide +kernel

/-- a scalar leaf of a later source wins at any depth, whatever the earlier sources hold there
    (the one-step form of the statement) -/
theorem later_leaf_wins (d s : Kvs) (p : List Bytes) (hp : p ≠ []) (r : Bytes)
    (h : probe (normalize s) p = .leaf r) :
    classify (getPath (mergeKvs d (normalize s)) p) = .leaf r := by
  rw [classify_getPath_merge p d _ (wf_normalize s), h]

/-- a source that does not reach a path leaves the value there alone -/
theorem untouched_path_kept (d s : Kvs) (p : List Bytes) (hp : p ≠ [])
    (h : probe (normalize s) p = .absent) :
    classify (getPath (mergeKvs d (normalize s)) p) = classify (getPath d p) := by
  rw [classify_getPath_merge p d _ (wf_normalize s), h]

theorem lemma_classify_none {v : Option CVal} : classify v = .none ↔ v = none := by
  cases v with
  | none => simp [classify]
  | some x => cases x <;> simp [classify]

theorem lemma_classify_getValue (vals : Kvs) (path : Bytes) :
    classify (getValue vals path) =
      match classify (lookup (lower path) vals) with
      | .none => classify (getPath vals (splitDots (lower path)))
      | r => r := by
  unfold getValue
  rcases lookup (lower path) vals with _ | _ | _ <;> rfl

theorem lemma_classify_get (vals : Kvs) (key : Bytes) :
    classify (get vals key) =
      if key = [] then .none
      else if classify (getValue vals key) = .leaf nilLeaf then .none else classify (getValue vals key) := by
  unfold Config.get
  by_cases hk : key = []
  · simp only [hk, if_true, classify]
  · simp only [hk, if_false]
    rcases getValue vals key with _ | r | _
    · rfl
    · by_cases hr : r = nilLeaf <;> simp [hr, classify]
    · rfl

/-- `Get(key)` — the direct top-level match first, then the dotted path, nil as absent — is the
    last-wins value for every key string -/
theorem get_spec (srcs : List Kvs) (key : Bytes) :
    classify (get (mergeAll srcs) key) = specGet srcs key := by
  have h1 : classify (lookup (lower key) (mergeAll srcs)) = lastWins srcs [lower key] :=
    classify_getPath_lastWins srcs [lower key]
  rw [lemma_classify_get, lemma_classify_getValue, h1, classify_getPath_lastWins, specGet]
  rcases lastWins srcs [lower key] with _ | _ | _ <;> rfl

/-! ## 2. case-insensitively -/

theorem lemma_tableLookup_eq (c : Char) (t : List (Char × Char)) : tableLookup c t = t.lookup c := by
  induction t with
  | nil => rfl
  | cons ul rest ih => obtain ⟨u, l⟩ := ul; rw [tableLookup, ih, List.lookup_cons_ite]; simp only [eq_comm]

theorem lemma_tableLookup_mem {c l : Char} {t : List (Char × Char)} (h : tableLookup c t = some l) : (c, l) ∈ t :=
  List.mem_of_lookup_some _ _ _ (lemma_tableLookup_eq .. ▸ h)

theorem lemma_upperTable_entries : ∀ ul ∈ upperTable,
    ul.1.isUpper = true ∧ ul.2 = ul.1.toLower ∧ ul.2.isUpper = false := by decide +kernel

theorem lemma_lowerChar_idem (c : Char) : lowerChar (lowerChar c) = lowerChar c := by
  unfold lowerChar
  cases h : tableLookup c upperTable with
  | none => simp [h]
  | some l =>
    -- `l` is a value of the table, so not a capital, so not a key
    cases h2 : tableLookup l upperTable with
    | none => rfl
    | some l2 =>
      have hl := (lemma_upperTable_entries _ (lemma_tableLookup_mem h)).2.2
      rw [(lemma_upperTable_entries _ (lemma_tableLookup_mem h2)).1] at hl
      cases hl

theorem lemma_lower_idem (s : Bytes) : lower (lower s) = lower s := by
  simp [lower, lemma_lowerChar_idem]

/-- a key is looked up the same way however it is capitalised -/
theorem case_insensitive (vals : Kvs) (k₁ k₂ : Bytes) (h : lower k₁ = lower k₂) :
    get vals k₁ = get vals k₂ := by
  -- `get` looks at its key through `lower` only, except for the test `key = []`, which `lower` preserves
  have hnil : (k₁ = []) = (k₂ = []) := by simpa [lower] using congrArg (· = []) h
  simp only [Config.get, getValue, hnil, h]

/-- not vacuous -/
example : lower "Server.PORT".toList = lower "server.port".toList := by
  repeat rewrite [String.toList_ofList]
  decide +kernel

/-- what `normalizeMapKeys` does to a map whose keys do not collide when lower-cased: the entry of
    key `K` is found under `lower K`, with its value normalised — nothing else changes -/
theorem normalize_lookup (s : Kvs) (hnc : (s.map fun kv => lower kv.1).Nodup) (k : Bytes) (v : CVal)
    (hm : (k, v) ∈ s) : lookup (lower k) (normalize s) = some (normalizeVal v) := by
  induction s with
  | nil => simp at hm
  | cons kv rest ih =>
    obtain ⟨k', v'⟩ := kv
    simp only [List.map_cons, List.nodup_cons] at hnc
    simp only [normalize]
    rcases List.mem_cons.mp hm with heq | hrest
    · simp only [Prod.mk.injEq] at heq
      rw [heq.1, heq.2]; exact lookup_put_self _ _ _
    · have hne : lower k ≠ lower k' := by
        intro e
        apply hnc.1
        rw [← e]
        exact List.mem_map.mpr ⟨(k, v), hrest, rfl⟩
      rw [lookup_put_other _ _ _ _ hne]
      exact ih hnc.2 hrest

/-! ## 3. a Load that fails at any stage leaves values and bound struct untouched -/

/-- failure at any stage — a source, the JSON schema, a custom validator (error or recovered
    panic), binding decode or `Validate()` — returns the state it started from -/
theorem load_failure_atomic (schema : Bool) (nv : Nat) (st : State) (inp : LoadInput)
    (h : (load schema nv st inp).2 ≠ .ok) : (load schema nv st inp).1 = st := by
  rcases load_outcome schema nv inp with ⟨-, r, _, e⟩ | ⟨-, _, _, e⟩
  · rw [e]
  · rw [e] at h; exact absurd rfl h

/-- every failure stage is reachable (the hypothesis of `load_failure_atomic` is not vacuous); `merge` is defined by
    well-founded recursion, which the kernel does not unfold: the tests on the merged map are evaluated on the
    last-wins side -/
example : (load true 2 ⟨[], []⟩ ⟨[.fail], none, []⟩).2 = .source 0 := by decide +kernel
example : (load true 2 ⟨[], []⟩ ⟨[.ok [("schemafail".toList, .leaf "b:true".toList)]], none, []⟩).2 = .schema := by
  rw [load_schema_fail rfl (by rw [schemaRejects_mergeAll]; (repeat rewrite [String.toList_ofList]); decide +kernel)]
example : (load true 2 ⟨[], []⟩ ⟨[.ok [("vpanic1".toList, .leaf "b:true".toList)]], none, []⟩).2 = .validator 1 := by
  rw [load_validator_fail (i := 1) rfl
    (by rw [schemaRejects_mergeAll]; (repeat rewrite [String.toList_ofList]); decide +kernel)
    (by rw [firstRejecting, validatorRejects_mergeAll]; (repeat rewrite [String.toList_ofList]); decide +kernel)]
example : (load true 2 ⟨[], []⟩ ⟨[.ok []], some .reject, []⟩).2 = .binding := by
  rw [load_binding_fail rfl
    (by rw [schemaRejects_mergeAll]; (repeat rewrite [String.toList_ofList]); decide +kernel)
    (by rw [firstRejecting, validatorRejects_mergeAll]; (repeat rewrite [String.toList_ofList]); decide +kernel) rfl]

/-- where a Load stops does not depend on what had been loaded before -/
theorem stage_history_independent (schema : Bool) (nv : Nat) (s₁ s₂ : State) (inp : LoadInput) :
    (load schema nv s₁ inp).2 = (load schema nv s₂ inp).2 := by
  rcases load_outcome schema nv inp with ⟨-, r, _, e⟩ | ⟨-, _, _, e⟩ <;> rw [e, e]

/-- after a successful Load the values are the merge of this Load's sources, whatever was there -/
theorem load_success_values (schema : Bool) (nv : Nat) (st : State) (inp : LoadInput)
    (h : (load schema nv st inp).2 = .ok) :
    ∃ maps, loadSources inp.srcs 0 [] = .ok maps ∧ (load schema nv st inp).1.values = mergeAll maps := by
  rcases load_outcome schema nv inp with ⟨-, r, hr, e⟩ | ⟨-, hm, _, e⟩
  · rw [e] at h; exact absurd h hr
  · exact ⟨_, hm, by rw [e]⟩

/-- history independence: after a successful Load, values and — when a struct is bound — the
    bound struct are the same from any two starting states: what a fresh `Config` produces -/
theorem history_independent (schema : Bool) (nv : Nat) (s₁ s₂ : State) (inp : LoadInput)
    (h : (load schema nv s₁ inp).2 = .ok) :
    (load schema nv s₁ inp).1.values = (load schema nv s₂ inp).1.values ∧
    (inp.bind ≠ none → (load schema nv s₁ inp).1.bound = (load schema nv s₂ inp).1.bound) := by
  rcases load_outcome schema nv inp with ⟨-, r, hr, e⟩ | ⟨-, -, hrej, e⟩
  · rw [e] at h; exact absurd h hr
  · rw [e, e]
    refine ⟨rfl, fun hb => ?_⟩
    rcases hbb : inp.bind with _ | f | _
    · exact absurd hbb hb
    · rfl
    · exact absurd hbb hrej

/-- the bound struct after a successful Load is the one a fresh `Config` decodes -/
theorem bound_is_fresh (schema : Bool) (nv : Nat) (st : State) (inp : LoadInput) (fresh : List (Bytes × Bytes))
    (hb : inp.bind = some (.ok fresh)) (h : (load schema nv st inp).2 = .ok) :
    (load schema nv st inp).1.bound = fresh := by
  rcases load_outcome schema nv inp with ⟨-, r, hr, e⟩ | ⟨-, _, _, e⟩
  · rw [e] at h; exact absurd h hr
  · rw [e]; simp only [hb]

def finalState (schema : Bool) (nv : Nat) (st : State) : List LoadInput → State
  | [] => st
  | inp :: rest => finalState schema nv (load schema nv st inp).1 rest

theorem lemma_finalState_append (schema : Bool) (nv : Nat) (st : State) (a b : List LoadInput) :
    finalState schema nv st (a ++ b) = finalState schema nv (finalState schema nv st a) b := by
  induction a generalizing st with
  | nil => rfl
  | cons x xs ih => exact ih _

theorem lemma_finalState_failing (schema : Bool) (nv : Nat) (tl : List LoadInput)
    (h : ∀ st, ∀ x ∈ tl, (load schema nv st x).2 ≠ .ok) (st : State) : finalState schema nv st tl = st := by
  induction tl with
  | nil => rfl
  | cons x xs ih =>
    simp only [finalState]
    rw [load_failure_atomic schema nv st x (h st x (List.mem_cons_self ..))]
    exact ih fun s y hy => h s y (List.mem_cons_of_mem _ hy)

/-- a whole history: with arbitrary Loads before and only failing Loads after it, the last
    successful Load alone determines values and bound struct -/
theorem last_success_wins (schema : Bool) (nv : Nat) (s₁ s₂ : State)
    (before₁ before₂ after : List LoadInput) (inp : LoadInput)
    (hok : (load schema nv s₁ inp).2 = .ok) (hb : inp.bind ≠ none)
    (hafter : ∀ st, ∀ x ∈ after, (load schema nv st x).2 ≠ .ok) :
    finalState schema nv s₁ (before₁ ++ inp :: after) = finalState schema nv s₂ (before₂ ++ inp :: after) := by
  simp only [lemma_finalState_append, finalState, lemma_finalState_failing schema nv after hafter]
  rcases load_outcome schema nv inp with ⟨-, r, hr, e⟩ | ⟨-, -, hrej, e⟩
  · rw [e] at hok; exact absurd hok hr
  · rw [e, e]
    rcases hbb : inp.bind with _ | f | _
    · exact absurd hbb hb
    · rfl
    · exact absurd hbb hrej

/-- K14, as shipped: the decoder wrote into the existing struct, so `name`, set by the first Load
    and absent from the second, survived — while a fresh `Config` over the second Load's sources
    has the zero value there; the repaired `load` agrees with the fresh one -/
theorem asis_history_witness :
    let l1 : LoadInput := ⟨[.ok [("name".toList, .leaf "s:one".toList)]], some (.ok [("name".toList, "one".toList)]),
                           [⟨"name".toList, true, []⟩]⟩
    let l2 : LoadInput := ⟨[.ok []], some (.ok [("name".toList, [])]), [⟨"name".toList, false, []⟩]⟩
    let z : State := ⟨[], [("name".toList, [])]⟩
    (loadAsIs false 0 (loadAsIs false 0 z l1).1 l2).1.bound = [("name".toList, "one".toList)] ∧
    (loadAsIs false 0 z l2).1.bound = [("name".toList, [])] ∧
    (load false 0 (load false 0 z l1).1 l2).1.bound = [("name".toList, [])] := by
  repeat rewrite [String.toList_ofList]
  decide +kernel

/-! ## 4. concurrent readers see the old or the new configuration, never a mixture -/

/-- what the atomic model can reach — its final state, and the state behind every map a read saw — is the state it
    started from or the result of one successful Load of the schedule -/
theorem lemma_coarse_installed (schema : Bool) (nv : Nat) (inputs : List LoadInput) (st : State) (ops : List Op) :
    let P := fun s => s = st ∨ ∃ i inp st', Op.commit i ∈ ops ∧ inputs[i]? = some inp ∧
      (load schema nv st' inp).2 = .ok ∧ s = (load schema nv st' inp).1
    P (ConfigSM.coarse schema nv inputs st ops).1 ∧
      ∀ rm ∈ (ConfigSM.coarse schema nv inputs st ops).2, ∃ s, P s ∧ rm.2 = s.values := by
  intro P
  refine ConfigSM.coarse_inv P ops (fun s i inp hs hi hinp => ?_) st (Or.inl rfl)
  by_cases hok : (load schema nv s inp).2 = .ok
  · exact Or.inr ⟨i, inp, s, hi, hinp, hok, rfl⟩
  · rw [load_failure_atomic schema nv s inp hok]; exact hs

/-- For every schedule of commits (the locked regions of Loads, in lock order) and reads (the
    read-locked pointer loads of `Get`/`Values`): whatever a reader sees is, as a whole, either the
    map that was installed at the start or the merge of the sources of one Load that had committed
    successfully before the read. A map is never modified after it has been installed, so there is
    nothing else a reader could see. -/
theorem readers_see_installed (schema : Bool) (nv : Nat) (inputs : List LoadInput) (st : State)
    (sched : List Op) (seen0 : List (Nat × Kvs)) (rm : Nat × Kvs)
    (h : rm ∈ runSched schema nv inputs st sched seen0) :
    rm ∈ seen0 ∨ rm.2 = st.values ∨
      ∃ i inp maps, Op.commit i ∈ sched ∧ inputs[i]? = some inp ∧
        loadSources inp.srcs 0 [] = .ok maps ∧ rm.2 = mergeAll maps := by
  rw [ConfigSM.runSched_coarse] at h
  rcases List.mem_append.mp h with h | h
  · exact Or.inl (List.mem_reverse.mp h)
  · obtain ⟨s, hs, e⟩ := (lemma_coarse_installed schema nv inputs st sched).2 rm h
    rcases hs with rfl | ⟨i, inp, st', hi, hinp, hok, rfl⟩
    · exact Or.inr (Or.inl e)
    · obtain ⟨maps, hm, hv⟩ := load_success_values schema nv st' inp hok
      exact Or.inr (Or.inr ⟨i, inp, maps, hi, hinp, hm, e.trans hv⟩)

/-- old or new: readers interleaved in any way with one Load (committed any number of times)
    see the configuration before it or the configuration after it -/
theorem readers_old_or_new (schema : Bool) (nv : Nat) (inp : LoadInput) (st : State) (sched : List Op)
    (rm : Nat × Kvs) (h : rm ∈ runSched schema nv [inp] st sched []) :
    rm.2 = st.values ∨ rm.2 = (load schema nv st inp).1.values := by
  rw [ConfigSM.runSched_coarse] at h
  obtain ⟨s, hs, e⟩ := (lemma_coarse_installed schema nv [inp] st sched).2 rm (by simpa using h)
  rcases hs with rfl | ⟨i, y, st', -, hy, hok, rfl⟩
  · exact Or.inl e
  · cases List.mem_singleton.mp (List.mem_of_getElem? hy)
    exact Or.inr (e.trans (history_independent schema nv st' st inp hok).1)

/-- not vacuous: a read before and a read after a successful commit are both recorded (the statement compares reader
    and length of the map seen, not its contents) -/
example :
    (runSched false 0 [⟨[.ok [("a".toList, .leaf "s:new".toList)]], none, []⟩]
      ⟨[("a".toList, .leaf "s:old".toList)], []⟩ [.read 0, .commit 0, .read 1] []).map (fun rm => (rm.1, rm.2.length)) =
      [(0, 1), (1, 1)] := by
  simp [runSched, load, loadSources, mergeAll, mergeKvs, upsert, normalize, normalizeVal, put, firstRejecting,
    schemaRejects, List.range, List.range.loop]

/-! ## 5. the model passes the very oracle the driver evaluates on the implementation -/

/-- what the driver would observe of the model's Load -/
def obsOf (keys : List Bytes) (r : State × Stage) : LoadObs :=
  { failed := r.2 != .ok, values := r.1.values, bound := r.1.bound,
    gets := keys.map fun k => (k, classify (Config.get r.1.values k)),
    typed := true, panicked := false }

theorem lemma_valuesOK (maps : List Kvs) : valuesOK maps (mergeAll maps) = true := by
  simp only [valuesOK, List.all_eq_true, beq_iff_eq]
  exact fun p _ => classify_getPath_lastWins maps p

/-- the two outcomes of a Load, with the oracle's fault test: it fails exactly when a fault is
    injected (state untouched), otherwise it installs the merge of its sources and the fresh struct -/
theorem load_cases (schema : Bool) (nv : Nat) (st : State) (inp : LoadInput) :
    (mustFail schema nv inp = true ∧ (load schema nv st inp).1 = st ∧ (load schema nv st inp).2 ≠ .ok) ∨
    (mustFail schema nv inp = false ∧ (load schema nv st inp).2 = .ok ∧
      (load schema nv st inp).1.values = mergeAll (okMaps inp) ∧
      (load schema nv st inp).1.bound =
        (match inp.bind with | some (.ok fresh) => fresh | _ => st.bound)) := by
  rcases load_outcome schema nv inp with ⟨hf, r, hr, e⟩ | ⟨hf, -, -, e⟩
  · exact .inl ⟨hf, by rw [e], by rw [e]; exact hr⟩
  · exact .inr ⟨hf, by rw [e], by rw [e], by rw [e]; rfl⟩

/-- model ⊨ oracle: from every well-formed state, for every Load input and every set of probe
    keys, what the model does passes `loadOK` — failure ⇒ everything as before; success ⇒ the
    last-wins values at every path, the fresh struct, the last-wins `Get` for every probe -/
theorem loadOK_model (schema : Bool) (nv : Nat) (st : State) (hd : DistinctKeys st.values)
    (hw : WFs st.values) (inp : LoadInput) (keys : List Bytes) :
    loadOK schema nv st.values st.bound inp (obsOf keys (load schema nv st inp)) = true := by
  unfold loadOK obsOf
  rcases load_cases schema nv st inp with ⟨hf, hs, hn⟩ | ⟨hf, hok, hv, hb⟩
  · simp [hf, hs, hn, kvsEq_refl st.values ⟨hd, hw⟩]
  · simp only [hf, hok, hv, hb, lemma_valuesOK]
    rcases inp.bind with _ | f | _ <;> simp [get_spec]

/-- two racing Loads, model ⊨ oracle: whichever locked region runs first, the final state
    passes `raceOK` — values and bound struct stem from the same successful Load. `hsame`: the two Loads are calls
    on one `Config`, which has a binding or has none -/
theorem raceOK_model (schema : Bool) (nv : Nat) (st : State) (hd : DistinctKeys st.values)
    (hw : WFs st.values) (a b : LoadInput) (hsame : a.bind = none ↔ b.bind = none) :
    let s1 := (load schema nv st a).1
    let s2 := (load schema nv s1 b).1
    raceOK schema nv st.values st.bound a b ((load schema nv st a).2 != .ok)
      ((load schema nv s1 b).2 != .ok) s2.values s2.bound = true := by
  simp only [raceOK]
  rcases load_outcome schema nv a with ⟨hfa, ra, hra, ea⟩ | ⟨hfa, -, hba, ea⟩ <;>
    rcases load_outcome schema nv b with ⟨hfb, rb, hrb, eb⟩ | ⟨hfb, -, hbb, eb⟩ <;>
    simp only [ea, eb, hfa, hfb, lemma_valuesOK]
  · -- both fail: nothing has changed
    simp [kvsEq_refl st.values ⟨hd, hw⟩, hra, hrb]
  · -- only B succeeds, over the struct A left alone
    rcases b.bind with _ | f | _ <;> simp [hra]
  · -- only A succeeds
    rcases a.bind with _ | f | _ <;> simp [hrb]
  · -- both succeed, B last, over the struct A left: with no binding (then A has none either, `hsame`) that is
    -- the initial struct; a rejected binding would have been a fault
    rcases hbindb : b.bind with _ | f | _
    · simp [hsame.mpr hbindb]
    · simp
    · exact absurd hbindb hbb

/-- the invariant `loadOK_model` asks for holds in every reachable state -/
theorem values_wellformed (schema : Bool) (nv : Nat) (st : State) (hd : DistinctKeys st.values)
    (hw : WFs st.values) (inp : LoadInput) :
    DistinctKeys (load schema nv st inp).1.values ∧ WFs (load schema nv st inp).1.values := by
  by_cases hok : (load schema nv st inp).2 = .ok
  · obtain ⟨maps, _, hv⟩ := load_success_values schema nv st inp hok
    rw [hv]; exact wf_mergeAll maps
  · rw [load_failure_atomic schema nv st inp hok]; exact ⟨hd, hw⟩

/-- a reader that saw the map before or after the Load passes the reader oracle -/
theorem readerOK_model (before after seen : Kvs) (hb : DistinctKeys before ∧ WFs before)
    (ha : DistinctKeys after ∧ WFs after) (h : seen = before ∨ seen = after) :
    readerOK before after seen = true := by
  unfold readerOK
  rcases h with rfl | rfl
  · simp [kvsEq_refl _ hb]
  · simp [kvsEq_refl _ ha]

/-! ## 6. `Load` statement by statement: every interleaving of Loads and readers is explained by the atomic model

`Model/ConfigSM.lean` runs the *program* of `Load` (`modelLoad`, ten statement groups — `Tie/C14Load.lean` proves it
equal to the skeleton regenerated from `config/config.go` on every run) one statement group at a time, any number
of loader and reader threads, any schedule, with an explicit `sync.RWMutex`. The atomic steps of sections 4 and 5
(`Op.commit`, `Op.read`) are not assumed here: they are derived. -/

section statement_level
open Rivaas.ConfigSM

/-- refinement: for every schedule of statement-level steps the pointer loads of the readers returned exactly
    what the atomic model `runSched` returns on the linearisation the run recorded (a `commit t` when loader `t`
    returned, a `read r` when reader `r` loaded the pointer), and whenever nobody holds the write lock the shared
    state (values and bound struct) is the atomic model's state after those commits. -/
theorem sm_refines_atomic (schema : Bool) (nv : Nat) (inputs : List LoadInput) (st0 : State) (sched : List Act) :
    let s := run modelLoad schema nv inputs (Sys.init st0) sched
    s.seen.reverse = runSched schema nv inputs st0 s.ops.reverse [] ∧
    (s.writer = none → s.conc = (coarse schema nv inputs st0 s.ops.reverse).1) := by
  intro s
  have h : Inv schema nv inputs st0 s := inv_run (inv_init schema nv inputs st0) sched
  constructor
  · rw [runSched_coarse, h.seen, absOf_coarse]; simp
  · intro hw; rw [h.idle hw, absOf_coarse]

/-- readers, statement level: whatever a `Get`/`Values()` saw at any point of any interleaving is, as a whole,
    the initial map or the merge of the sources of one Load that had returned successfully before -/
theorem sm_readers_see_installed (schema : Bool) (nv : Nat) (inputs : List LoadInput) (st0 : State)
    (sched : List Act) (rm : Nat × Kvs)
    (h : rm ∈ (run modelLoad schema nv inputs (Sys.init st0) sched).seen) :
    rm.2 = st0.values ∨
      ∃ i inp maps, Op.commit i ∈ (run modelLoad schema nv inputs (Sys.init st0) sched).ops ∧
        inputs[i]? = some inp ∧ loadSources inp.srcs 0 [] = .ok maps ∧ rm.2 = mergeAll maps := by
  have hr := (sm_refines_atomic schema nv inputs st0 sched).1
  have hm : rm ∈ runSched schema nv inputs st0
      (run modelLoad schema nv inputs (Sys.init st0) sched).ops.reverse [] := by
    rw [← hr]; exact List.mem_reverse.mpr h
  rcases readers_see_installed schema nv inputs st0 _ [] rm hm with h0 | h0 | ⟨i, inp, maps, hi, h1, h2, h3⟩
  · cases h0
  · exact Or.inl h0
  · exact Or.inr ⟨i, inp, maps, List.mem_reverse.mp hi, h1, h2, h3⟩

/-- what a call of `Load` returned (error stage or success) is what the atomic `load` reports on the same sources —
    for every interleaving; by `stage_history_independent` it does not depend on what was loaded before -/
theorem sm_result_is_load_stage (schema : Bool) (nv : Nat) (inputs : List LoadInput) (st0 : State)
    (sched : List Act) (t : Nat) (inp : LoadInput) (r : Stage) (hin : inputs[t]? = some inp)
    (h : ((run modelLoad schema nv inputs (Sys.init st0) sched).ls t).done = some r) (st : State) :
    (load schema nv st inp).2 = r :=
  ((inv_run (inv_init schema nv inputs st0) sched).loc t inp hin).res r h st

/-- no mixture of two Loads, statement level: whenever no Load is inside its locked region, values and bound
    struct are the initial ones, or both stem from one and the same successful Load (its merged sources, and —
    with a binding — the struct a fresh `Config` decodes from them: `load_success_values`, `bound_is_fresh`) -/
theorem sm_quiescent_consistent (schema : Bool) (nv : Nat) (inputs : List LoadInput) (st0 : State)
    (sched : List Act) (hw : (run modelLoad schema nv inputs (Sys.init st0) sched).writer = none) :
    (run modelLoad schema nv inputs (Sys.init st0) sched).conc = st0 ∨
      ∃ i inp maps, Op.commit i ∈ (run modelLoad schema nv inputs (Sys.init st0) sched).ops ∧
        inputs[i]? = some inp ∧ loadSources inp.srcs 0 [] = .ok maps ∧
        (run modelLoad schema nv inputs (Sys.init st0) sched).conc.values = mergeAll maps ∧
        (∀ fresh, inp.bind = some (.ok fresh) →
          (run modelLoad schema nv inputs (Sys.init st0) sched).conc.bound = fresh) := by
  have hc := (sm_refines_atomic schema nv inputs st0 sched).2 hw
  rcases (lemma_coarse_installed schema nv inputs st0
      (run modelLoad schema nv inputs (Sys.init st0) sched).ops.reverse).1 with h | ⟨i, inp, st', hi, h1, h2, h3⟩
  · exact Or.inl (hc.trans h)
  · obtain ⟨maps, hm, hv⟩ := load_success_values schema nv st' inp h2
    refine Or.inr ⟨i, inp, maps, List.mem_reverse.mp hi, h1, hm, ?_, ?_⟩
    · rw [hc, h3, hv]
    · intro fresh hb; rw [hc, h3]; exact bound_is_fresh schema nv st' inp fresh hb h2

/-- not vacuous: two loaders and a reader, interleaved statement by statement — the second loader reads its sources
    and validates while the first holds the lock, the reader is admitted between the two locked regions -/
example :
    let inputs : List LoadInput := [⟨[.ok [("a".toList, .leaf "s:one".toList)]], none, []⟩,
                                    ⟨[.ok [("a".toList, .leaf "s:two".toList)]], none, []⟩]
    let s := run modelLoad false 0 inputs (Sys.init ⟨[("a".toList, .leaf "s:old".toList)], []⟩)
      ([.loader 0, .loader 0, .loader 0, .loader 0, .loader 0, .reader 0, .loader 1, .loader 1, .loader 1, .loader 1,
        .loader 1, .loader 0, .loader 0, .loader 0, .loader 0, .loader 0, .reader 0, .reader 0, .reader 0,
        .loader 1, .loader 1, .loader 1, .loader 1, .loader 1, .loader 1] : List Act)
    (s.ops.reverse, s.seen.map (·.1), s.writer, (s.ls 0).done, (s.ls 1).done) =
      ([.commit 0, .read 0, .commit 1], [0], none, some .ok, some .ok) := by
  decide +kernel

end statement_level

/-! ## 7. the environment source (`config/source/env.go`, `config/codec/env.go`) is inside the model

`envSource prefix os.Environ()` (`Model/ConfigEnv.lean`) is what the driver feeds into `load` for a `WithEnv` source;
the harness ships `os.Environ()` and the prefix, nothing it computed itself. -/

theorem lemma_envDef_ne_nil {l : Bytes} {q : List Bytes} {w : Bytes} (h : envDef l = some (q, w)) : q ≠ [] := by
  unfold envDef at h
  split at h
  · cases h
  · simp only [] at h
    split at h
    · cases h
    · split at h
      · cases h
      · rename_i hne
        injection h with h; injection h with h1 _
        rw [← h1]; exact hne

/-- last assignment wins inside the environment too: a variable is visible, as a string with blanks trimmed, at
    the key path its name spells (prefix stripped, lower-cased, split at `_`, empty parts dropped) provided no variable
    listed after it in `os.Environ()` assigns the same path, a prefix of it (that would replace the enclosing map by
    a string) or an extension of it (that would replace the string by a map). -/
theorem env_var_visible (pre post : List Bytes) (line : Bytes) (p : List Bytes) (v : Bytes)
    (hdef : envDef line = some (p, v))
    (hpost : ∀ l ∈ post, ∀ q w, envDef l = some (q, w) → ¬ q <+: p ∧ ¬ p <+: q) :
    getPath (envDecode (pre ++ line :: post)) p = some (strLeaf v) := by
  have hp : p ≠ [] := lemma_envDef_ne_nil hdef
  unfold envDecode
  rw [List.foldl_append, List.foldl_cons]
  -- the line installs the value; no later line touches the path
  refine List.foldlRecOn (motive := fun acc => getPath acc p = some (strLeaf v)) post _ ?_ fun acc h0 l hl => ?_
  · simp only [envLine, hdef]
    exact getPath_insertPath_self _ p hp _
  · unfold envLine
    cases hd : envDef l with
    | none => exact h0
    | some qw =>
      obtain ⟨h1, h2⟩ := hpost l hl qw.1 qw.2 hd
      exact (getPath_insertPath_other acc qw.1 p h1 h2 _).trans h0

/-- lines the codec skips change nothing: no `=`, an empty name, a name made of `_` only -/
theorem env_skipped_line (conf : Kvs) (line : Bytes) (h : envDef line = none) : envLine conf line = conf := by
  simp [envLine, h]

/-- not vacuous, and the quirks the model shares with the code: the prefix must match as a whole (`PX_NAME` is not
    `P_…`); `A_B=1` then `A=2` then `A_C=3`: the string replaces the map, the map replaces the string; a value with a
    line feed smuggles in a second variable; names are trimmed and lower-cased, values trimmed -/
example :
    let m := envSource "P_".toList
      ["P_A_B=1".toList, "PX_NAME=decoy".toList, "P_ Name = x ".toList, "P_A=2".toList, "P_A_C=3\nINJ_X=4".toList,
       "P__RATE_=".toList, "P__=5".toList]
    (classify (getPath m ["a".toList, "c".toList]), classify (getPath m ["a".toList, "b".toList]),
     classify (getPath m ["name".toList]), classify (getPath m ["inj".toList, "x".toList]),
     classify (getPath m ["rate".toList]), classify (getPath m ["a".toList]), m.length) =
    (.leaf "s:3".toList, .none, .leaf "s:x".toList, .leaf "s:4".toList, .leaf "s:".toList, .isMap, 4) := by
  repeat rewrite [String.toList_ofList]
  decide +kernel

/-! ## 8. the binding step: what is a theorem and what is a parameter

`load` takes the struct a decode of the merged values yields (`inp.bind = some (.ok fresh)`) as an input: mapstructure,
`applyDefaults` and `Validate()` are parameters, shipped per case from a fresh `Config`. With `bound := fresh` in the
model, `bound_is_fresh` and the second conjunct of `history_independent` hold by construction — they say that the
model has no other influence on the struct, not that the code has none. The part of the binding step that is rivaas's
own is *what the decoder starts from*: as shipped it decoded into the existing struct (`overlay old fresh fields`:
fields whose key is absent keep their old non-zero value — `loadAsIs`, K14), since the fix `bind` zeroes the struct
first. That step is modelled and proved here; that the real decoder behaves like `overlay` is correspondence. -/

/-- the struct `bind` starts from since the fix: every field at its zero value -/
def zeroBound (fields : List FieldInfo) : List (Bytes × Bytes) := fields.map fun f => (f.name, f.zero)

theorem lemma_lookup_zeroBound (fields : List FieldInfo) (name : Bytes) :
    (zeroBound fields).lookup name = (fields.find? fun f => f.name == name).map (·.zero) := by
  induction fields with
  | nil => rfl
  | cons f rest ih =>
    rw [zeroBound, List.map_cons, List.lookup_cons, List.find?_cons, BEq.comm]
    cases f.name == name
    · exact ih
    · rfl

/-- zero first, then decode: decoding into the zeroed struct gives exactly what a fresh `Config` gives, whatever
    the field list, whatever was bound before — the K14 repair as a theorem about the overlay semantics of the decoder
    (present fields are written; absent ones keep what the struct held, and defaults fill what is still zero) -/
theorem zeroed_bind_is_fresh (fields : List FieldInfo) (fresh : List (Bytes × Bytes)) :
    overlay (zeroBound fields) fresh fields = fresh := by
  unfold overlay
  conv => rhs; rw [← List.map_id fresh]
  apply List.map_congr_left
  intro nf _
  obtain ⟨name, fv⟩ := nf
  simp only [id]
  rw [lemma_lookup_zeroBound]
  cases hf : fields.find? (fun f => f.name == name) with
  | none => rfl
  | some f =>
    simp only [Option.map_some]
    by_cases hp : f.present = true
    · simp [hp]
    · simp [hp]

/-- … whereas decoding into the struct as it is (as shipped) keeps a removed key's old value: the two differ -/
theorem unzeroed_bind_depends_on_history :
    overlay [("name".toList, "\"old\"".toList)] [("name".toList, "\"\"".toList)]
        [{ name := "name".toList, present := false, zero := "\"\"".toList }] ≠
      overlay (zeroBound [{ name := "name".toList, present := false, zero := "\"\"".toList }])
        [("name".toList, "\"\"".toList)] [{ name := "name".toList, present := false, zero := "\"\"".toList }] := by
  repeat rewrite [String.toList_ofList]
  decide +kernel

/-! ## 9. the oracle's case folding is the standard one

`lastWins` / `specGet` fold case with the same `lower` the model uses. `lower` is a 26-entry table; here it is proved
equal to Lean core's `Char.toLower` on every character, so the oracle's notion of "case-insensitively" is the
standard ASCII one and not an artefact of the model. (`normalize` itself is characterised through lookups by
`normalize_lookup` and `case_insensitive`.) -/

theorem lemma_upperTable_keys : ∀ n : Fin 26, (tableLookup (Char.ofNat (65 + n.val)) upperTable).isSome = true := by
  decide +kernel

theorem lowerChar_is_toLower (c : Char) : lowerChar c = c.toLower := by
  unfold lowerChar
  cases h : tableLookup c upperTable with
  | some l => exact (lemma_upperTable_entries _ (lemma_tableLookup_mem h)).2.1
  | none =>
    -- not a key, hence not a capital: `Char.toLower` leaves it alone too
    have hnu : ¬ (c.val ≥ 'A'.val ∧ c.val ≤ 'Z'.val) := by
      intro ⟨h1, h2⟩
      have h1 : 65 ≤ c.toNat := UInt32.le_iff_toNat_le.mp h1
      have h2 : c.toNat ≤ 90 := UInt32.le_iff_toNat_le.mp h2
      have hk := lemma_upperTable_keys ⟨c.toNat - 65, by omega⟩
      rw [show 65 + (c.toNat - 65) = c.toNat by omega, Char.ofNat_toNat, h] at hk
      cases hk
    simp only [Char.toLower, hnu, dite_false]

theorem lower_is_toLower (s : Bytes) : lower s = s.map Char.toLower := by
  unfold lower
  exact List.map_congr_left fun c _ => lowerChar_is_toLower c

end Rivaas.C14
