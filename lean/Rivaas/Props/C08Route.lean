import Rivaas.Model.Radix
import Rivaas.Lemmas.RadixServe
/-
C08: on the per-tree static-table exit of ServeHTTP the end callback's label is the request path
(`serveStaticRoute(…, path, …)`). "Never the raw path" holds there because that table (`staticPaths`, compiled into the
per-tree table at warm-up) is keyed by registered paths: a hit for `path` means `path` is one of the registered
patterns. This is derived here from the routing model (Model/Radix, the model C01's theorems are about, and the one the
C08 driver recomputes `tree.getRoute` with). It is what the third conjunct of `C08.RoutesIn` (Props/C08) asks for when
the fact `tree.compiled.getRoute(path)` is the routing model's answer; `C08.serve_meets_spec` keeps `RoutesIn` as a
hypothesis, and no theorem connects the two files.
-/
namespace Rivaas.C08
open Rivaas.Radix

theorem lemma_addRoute_static (t : Tree) (path : Bytes) (rid : Nat) (cons : List (Bytes × Nat)) (p : Bytes)
    (h : compiledStatic (addRoute t path rid cons) p = true) : path = p ∨ compiledStatic t p = true := by
  -- of the five ways a registration goes into the tree only the plain static one (no wildcard suffix, no `:`) touches
  -- `statics`, and it sets the key `path`: a hit for `p` afterwards is that key or was a hit before
  unfold addRoute addRouteGen addLeafGen at h
  split at h
  · exact Or.inr h
  · split at h
    · split at h <;> exact Or.inr h
    · split at h
      · simp only [compiledStatic, RadixL.getStatic_setStatic] at h
        split at h
        · next hk => exact Or.inl hk
        · exact Or.inr h
      · exact Or.inr h

/-- the tree a router builds from a list of registrations (pattern, constraints), in order -/
def buildTree (regs : List (Bytes × List (Bytes × Nat))) : Tree :=
  (regs.foldl (fun (ti : Tree × Nat) r => (addRoute ti.1 r.1 ti.2 r.2, ti.2 + 1)) (Tree.empty, 0)).1

/-- **the static table is keyed by registered patterns**: a hit of the per-tree static table for the request path means
    the path is a registered pattern — the label `serveStaticRoute` reports is a registered pattern, not an arbitrary
    raw path -/
theorem static_hit_is_registered (regs : List (Bytes × List (Bytes × Nat))) (path : Bytes)
    (h : compiledStatic (buildTree regs) path = true) : path ∈ regs.map (·.1) := by
  revert h
  apply List.foldlRecOn (motive := fun ti : Tree × Nat => compiledStatic ti.1 path = true → path ∈ regs.map (·.1))
  · exact nofun
  · exact fun ti ih r hr h => (lemma_addRoute_static ti.1 r.1 ti.2 r.2 path h).elim (· ▸ List.mem_map_of_mem hr) ih

/-- non-vacuity: the static table of a small router; a parameter route is not in it -/
example : compiledStatic (buildTree [("/s/a".toList, []), ("/d/:id".toList, [])]) "/s/a".toList = true ∧
    compiledStatic (buildTree [("/s/a".toList, []), ("/d/:id".toList, [])]) "/d/7".toList = false := by decide +kernel

end Rivaas.C08
