import Rivaas.Spec.Contain
import Rivaas.Model.RecoveryOpts
import Rivaas.Model.TimeoutAsIs
import Rivaas.Lemmas.ChainStep
/-
C10 — Panics and timeouts are contained.

Part 1 (recovery) is about the shared chain machine `Rivaas.Chain` (Model/Chain.lean) with the
recovery middleware — `recovers := true`, body `[Next]` — at position 0, as `app.New` installs it.
Part 2 (timeout) is about the two-thread system `Rivaas.Timeout` (Model/Timeout.lean), for every
schedule; `runAsIs` (Model/TimeoutAsIs.lean) is the middleware as shipped. The parameter `waitH : Hooks` of its theorems is
the whole hook configuration (fields `waitH`, `waitL`); `run true …` / `run false …` in the examples go through the coercion
`Bool → Hooks`, which sets the field `waitH` alone.
Part 3 is about the option list of the timeout middleware (Model/TimeoutOpts.lean) and the requests it leaves alone:
an exempt request is served straight through (`runSkipped`), and so — transparency — is every request on which
nothing times out. Part 4 is about the options of the recovery middleware (Model/RecoveryOpts.lean).
-/
namespace Rivaas.C10

/-! ## Part 1 — recovery contains every panic -/
section Recovery
open Rivaas.Chain

/-- the real recovery middleware as a chain position: deferred `recover`, then `c.Next()` -/
def recoveryMw : Prog := { recovers := true, acts := [.next] }

/-- As shipped (before the K10c `fix:` commit `handlePanic` did not abort the chain):
    `[recovery; A panics; B panics]` — B is entered *after* the recovered panic, outside the
    recovery frame, and its panic leaves `ServeHTTP`. Reproduced on the real code (corpus/C10). -/
theorem asis_escape :
    let cfg : Cfg := { abortOnRecover := false }
    let progs : List Prog := [recoveryMw, { acts := [.panic 0] }, { acts := [.panic 1] }]
    (exec cfg progs).escaped = some 1 ∧
    (exec cfg progs).trace = [.enter 0, .enter 1, .unwound 1, .exit 0, .enter 2, .unwound 2] := by
  decide +kernel

/-- as shipped, second shape: the next handler writes behind the 500 body -/
theorem asis_second_write :
    let cfg : Cfg := { abortOnRecover := false }
    let progs : List Prog := [recoveryMw, { acts := [.panic 1] }, { acts := [.write] }]
    (exec cfg progs).body = [.rec500, .h 2] := by
  decide +kernel

/-- the repaired code on the same chains: B never starts, nothing escapes, one 500 body -/
theorem fixed_same_chains :
    let p1 : List Prog := [recoveryMw, { acts := [.panic 0] }, { acts := [.panic 1] }]
    let p2 : List Prog := [recoveryMw, { acts := [.panic 1] }, { acts := [.write] }]
    (exec {} p1).escaped = none ∧ (exec {} p1).trace = [.enter 0, .enter 1, .unwound 1, .exit 0] ∧
    (exec {} p2).body = [.rec500] ∧ (exec {} p2).status = some .rec500 := by
  decide +kernel

/-- the chain is over: aborted / cancelled-with-check, or the next `c.index++` takes the cursor past the last position -/
def Done (cfg : Cfg) (progs : List Prog) (s : St) : Prop :=
  s.stopped cfg = true ∨ (progs.length : Int) ≤ s.idx + 1

/-- the recovery frame of position 0 after it has called `Next()`, above `ServeHTTP`'s own `Next` activation -/
def base : List Frame := [Frame.fn 0 .recover [], Frame.loop]

/-- Invariant of the repaired recovery: nothing has escaped, and the stack is one of
    * recovery about to call `Next()`;
    * anything at all (`top`) on top of the `Next` activation called by recovery;
    * recovery about to return, ServeHTTP's own `Next` activation, or nothing — and then the chain is `Done`. -/
def Inv (cfg : Cfg) (progs : List Prog) (s : St) : Prop :=
  s.escaped = none ∧ 0 ≤ s.idx ∧
  (s.stack = [Frame.fn 0 .recover [.next], Frame.loop] ∨
   (∃ top, s.stack = top ++ Frame.loop :: base) ∨
   ((s.stack = base ∨ s.stack = [Frame.loop] ∨ s.stack = []) ∧ Done cfg progs s))

/-- A panic under recovery is caught: the unwinding stops at the first recovering frame — recovery's own at the
    latest —, which aborts the chain and answers 500 where nothing had been answered. -/
theorem lemma_unwind_caught (cfg : Cfg) (hab : cfg.abortOnRecover = true) (progs : List Prog) (v : Nat)
    (top : List Frame) (s : St) (hesc : s.escaped = none) (hidx : 0 ≤ s.idx) :
    Inv cfg progs (unwind cfg v (top ++ Frame.loop :: base) s) ∧
    (unwind cfg v (top ++ Frame.loop :: base) s).status = s.status.or (some Chunk.rec500) := by
  induction top generalizing s with
  | nil =>
    refine ⟨⟨hesc, hidx, Or.inr (Or.inr ⟨Or.inl rfl, Or.inl ?_⟩)⟩, rfl⟩
    show (s.aborted || cfg.abortOnRecover || (cfg.check && s.cancelled)) = true
    rw [hab, Bool.or_true, Bool.true_or]
  | cons f t ih =>
    cases f with
    | loop => exact ih s hesc hidx
    | fn k fk acts =>
      cases fk with
      | sub => exact ih s hesc hidx
      | plain => exact ih { s with trace := s.trace ++ [Ev.unwound k] } hesc hidx
      | recover => exact ⟨⟨hesc, hidx, Or.inr (Or.inl ⟨Frame.fn k .recover [] :: t, rfl⟩)⟩, rfl⟩

/-- the loop head of a `Next` called by recovery itself, from anywhere above the `Next` recovery called, or by
    `ServeHTTP` when the chain is over -/
theorem lemma_loopHead_inv (cfg : Cfg) (progs : List Prog) (s : St) (hesc : s.escaped = none) (hidx : 0 ≤ s.idx)
    (hst : s.stack = base ∨ (∃ t, s.stack = t ++ Frame.loop :: base) ∨
      s.stack = [] ∧ (s.stopped cfg = true ∨ (progs.length : Int) ≤ s.idx)) :
    Inv cfg progs (loopHead cfg progs s) := by
  rcases loopHead_cases cfg progs s with ⟨hd, e⟩ | ⟨_, hlt, hs, p, _, e⟩ <;> rw [e]
  · rcases hst with hst | hst | ⟨hst, hd'⟩
    · exact ⟨hesc, hidx, Or.inr (Or.inr ⟨Or.inl hst, hd.imp id fun h => by omega⟩)⟩
    · exact ⟨hesc, hidx, Or.inr (Or.inl hst)⟩
    · exact ⟨hesc, hidx, Or.inr (Or.inr ⟨Or.inr (Or.inr hst), hd'.imp id fun h => by omega⟩)⟩
  · refine ⟨hesc, hidx, Or.inr (Or.inl ?_)⟩
    show ∃ top, Frame.fn _ p.fk p.acts :: Frame.loop :: s.stack = _
    rcases hst with hst | ⟨t, hst⟩ | ⟨_, hd'⟩
    · exact ⟨[_], by rw [hst]; rfl⟩
    · exact ⟨_ :: Frame.loop :: t, by rw [hst]; rfl⟩
    · rcases hd' with h | h
      · rw [hs] at h; cases h
      · omega

theorem lemma_step_inv (cfg : Cfg) (hab : cfg.abortOnRecover = true) (progs : List Prog) (s : St)
    (h : Inv cfg progs s) : Inv cfg progs (step cfg progs s) := by
  obtain ⟨hesc, hidx, hshape⟩ := h
  obtain ⟨idx, aborted, cancelled, stack, trace, status, body, escaped⟩ := s
  have hidx' : (0 : Int) ≤ idx + 1 := Int.le_add_one hidx
  rcases hshape with hst | ⟨top, hst⟩ | ⟨hst, hd⟩
  · -- recovery calls Next()
    subst hst
    exact lemma_loopHead_inv cfg progs _ hesc hidx' (Or.inl rfl)
  · subst hst
    cases top with
    | nil => exact lemma_loopHead_inv cfg progs _ hesc hidx' (Or.inl rfl)
    | cons f t =>
      cases f with
      | loop => exact lemma_loopHead_inv cfg progs _ hesc hidx' (Or.inr (Or.inl ⟨t, rfl⟩))
      | fn k fk acts =>
        cases acts with
        | nil => exact ⟨hesc, hidx, Or.inr (Or.inl ⟨t, rfl⟩)⟩
        | cons a as =>
          cases a with
          | ret => exact ⟨hesc, hidx, Or.inr (Or.inl ⟨t, rfl⟩)⟩
          | call b => exact ⟨hesc, hidx, Or.inr (Or.inl ⟨Frame.fn k .sub b :: Frame.fn k fk as :: t, rfl⟩)⟩
          | next => exact lemma_loopHead_inv cfg progs _ hesc hidx' (Or.inr (Or.inl ⟨Frame.fn k fk as :: t, rfl⟩))
          | panic v => exact (lemma_unwind_caught cfg hab progs v (Frame.fn k fk as :: t) _ hesc hidx).1
          | _ => exact ⟨hesc, hidx, Or.inr (Or.inl ⟨Frame.fn k fk as :: t, rfl⟩)⟩
  · -- the chain is over: whatever is left on the stack returns, nothing is entered
    rcases hst with hst | hst | hst <;> subst hst
    · exact ⟨hesc, hidx, Or.inr (Or.inr ⟨Or.inr (Or.inl rfl), hd⟩)⟩
    · exact lemma_loopHead_inv cfg progs _ hesc hidx' (Or.inr (Or.inr ⟨rfl, hd⟩))
    · exact ⟨hesc, hidx, Or.inr (Or.inr ⟨Or.inr (Or.inr rfl), hd⟩)⟩

theorem lemma_start_inv (cfg : Cfg) (rest : List Prog) :
    Inv cfg (recoveryMw :: rest) (start cfg (recoveryMw :: rest)) := by
  have h : start cfg (recoveryMw :: rest) =
      { init with idx := 0, stack := [Frame.fn 0 .recover [.next], Frame.loop], trace := [Ev.enter 0] } := by
    simp [start, callNext, loopHead, init, St.stopped, recoveryMw, Prog.fk]
  rw [h]
  exact ⟨rfl, by simp, Or.inl rfl⟩

theorem lemma_reachable_inv (cfg : Cfg) (hab : cfg.abortOnRecover = true) (rest : List Prog) (n : Nat) :
    Inv cfg (recoveryMw :: rest) (run cfg (recoveryMw :: rest) n (start cfg (recoveryMw :: rest))) :=
  run_ind cfg _ (lemma_step_inv cfg hab _) n _ (lemma_start_inv cfg rest)

/-- **Containment.** With the recovery middleware first in the chain (the app default) and
    `handlePanic` aborting the chain (the code after the K10c fix), no panic — whatever its value,
    at whatever position, before or after `Next()`, before or after a write, inside nested calls,
    however many handlers panic — ever leaves `ServeHTTP`: for every chain, every handler program
    and every number of steps. -/
theorem recovery_contains (cfg : Cfg) (hab : cfg.abortOnRecover = true) (rest : List Prog) (n : Nat) :
    (run cfg (recoveryMw :: rest) n (start cfg (recoveryMw :: rest))).escaped = none :=
  (lemma_reachable_inv cfg hab rest n).1

/-- non-vacuity: panics do happen and are caught — five handlers, three of them panic at different
    sites; without recovery in front the first of them escapes -/
example :
    let rest : List Prog := [{ acts := [.write, .next, .panic 3] }, { acts := [.call [.next, .panic 0]] },
                             { acts := [.next] }, { acts := [.panic 4] }, { acts := [.panic 1] }]
    (exec {} (recoveryMw :: rest)).escaped = none ∧
    (exec {} (recoveryMw :: rest)).body = [.h 1, .rec500] ∧
    (exec {} rest).escaped = some 4 := by decide +kernel

/-! ### "the client receives a 500 if nothing had been written" -/

theorem lemma_unwind_status_keep (cfg : Cfg) (v : Nat) (st : List Frame) (s : St) (c : Chunk)
    (h : s.status = some c) : (unwind cfg v st s).status = some c := by
  induction st generalizing s with
  | nil => exact h
  | cons f t ih =>
    cases f with
    | loop => exact ih s h
    | fn k fk acts =>
      cases fk with
      | sub => exact ih s h
      | plain => exact ih _ h
      | recover => show s.status.or _ = _; rw [h]; rfl

theorem lemma_loopHead_status (cfg : Cfg) (progs : List Prog) (s : St) :
    (loopHead cfg progs s).status = s.status := by
  rcases loopHead_cases cfg progs s with ⟨_, e⟩ | ⟨_, _, _, p, _, e⟩ <;> rw [e]

theorem lemma_step_status_keep (cfg : Cfg) (progs : List Prog) (s : St) (c : Chunk) (h : s.status = some c) :
    (step cfg progs s).status = some c := by
  apply step_cases (P := (·.status = some c))
  · exact h
  · intros; exact h
  · intros; rw [lemma_loopHead_status]; exact h
  · intros; exact lemma_unwind_status_keep cfg _ _ s c h
  · intro _ s' _ _ _ _ _ hst; exact hst c h

theorem status_sticky (cfg : Cfg) (progs : List Prog) (n : Nat) (s : St) (c : Chunk) (h : s.status = some c) :
    (run cfg progs n s).status = some c :=
  run_ind cfg progs (P := (·.status = some c)) (fun s => lemma_step_status_keep cfg progs s c) n s h

def aboutToPanic (s : St) : Prop :=
  ∃ k fk v as rest, s.stack = Frame.fn k fk (Act.panic v :: as) :: rest

/-- **500 if nothing had been written.** In any reachable state of a chain with recovery first: if
    the next thing to happen is a panic and no status line has been sent yet, then from the next
    step on — forever — the status line is recovery's 500. -/
theorem recovery_answers_500 (cfg : Cfg) (hab : cfg.abortOnRecover = true) (rest : List Prog) (n m : Nat) :
    let s := run cfg (recoveryMw :: rest) n (start cfg (recoveryMw :: rest))
    aboutToPanic s → s.status = none →
    (run cfg (recoveryMw :: rest) (m + 1) s).status = some Chunk.rec500 := by
  intro s hp hs
  obtain ⟨hesc, hidx, hshape⟩ := lemma_reachable_inv cfg hab rest n
  obtain ⟨k, fk, v, as, rst, hst⟩ := hp
  -- a frame about to panic is neither recovery's own nor the bare loop: it sits above the `Next` recovery called
  have hstep : (step cfg (recoveryMw :: rest) s).status = some Chunk.rec500 := by
    rw [hst] at hshape
    rcases hshape with h | ⟨top, h⟩ | ⟨h | h | h, _⟩
    · cases h
    · cases top with
      | nil => cases h
      | cons f t =>
        obtain ⟨_, h2⟩ := List.cons.inj h
        have := (lemma_unwind_caught cfg hab (recoveryMw :: rest) v (Frame.fn k fk as :: t) s hesc hidx).2
        rw [hs] at this
        simp only [step, hst, h2]
        exact this
    · cases h
    · cases h
    · cases h
  exact status_sticky cfg _ m _ _ hstep

/-- non-vacuity: a reachable state that is about to panic with nothing written -/
example :
    let rest : List Prog := [{ acts := [.next] }, { acts := [.call [.panic 2]] }]
    let s := run {} (recoveryMw :: rest) 3 (start {} (recoveryMw :: rest))
    (∃ k fk v as rst, s.stack = Frame.fn k fk (Act.panic v :: as) :: rst) ∧ s.status = none :=
  ⟨⟨2, .sub, 2, [], [.fn 2 .plain [], .loop, .fn 1 .plain [], .loop, .fn 0 .recover [], .loop], rfl⟩, by decide⟩

/-! ### later requests are served normally, also on reused pooled contexts -/

theorem lemma_serveOn_reset (cfg : Cfg) (progs : List Prog) (c : PCtx) (h : c.aborted = false) :
    serveOn cfg progs c = exec cfg progs := by
  unfold serveOn exec start
  rw [h]
  rfl

/-- **Later requests are unaffected.** Whatever the earlier requests did — recovered panics (which
    leave `aborted = true` behind until `reset()`), escaped panics, aborts — and whichever serve
    path released their contexts, every request of the sequence behaves exactly like a request on
    a brand-new context: the pool only ever holds reset contexts. -/
theorem later_requests_unaffected (cfg : Cfg) (pool : List PCtx) (hp : ∀ c ∈ pool, c.aborted = false)
    (reqs : List (List Prog × Bool)) :
    serveAll cfg pool reqs = reqs.map fun (p, _) => exec cfg p := by
  induction reqs generalizing pool with
  | nil => rfl
  | cons q qs ih =>
    obtain ⟨p, d⟩ := q
    have hc : (pool.headD PCtx.reset).aborted = false := by
      cases pool with
      | nil => rfl
      | cons c r => exact hp c (List.mem_cons_self ..)
    have htail : ∀ c ∈ pool.tail, c.aborted = false := fun c hc' => hp c (List.mem_of_mem_tail hc')
    simp only [serveAll, List.map_cons, lemma_serveOn_reset cfg p _ hc]
    congr 1
    apply ih
    intro c hc'
    unfold release at hc'
    split at hc'
    · exact htail c hc'
    · rcases List.mem_cons.mp hc' with h | h
      · rw [h]; rfl
      · exact htail c h

/-- non-vacuity: a recovered panic leaves the context aborted, and the next request on the same
    pool still runs its whole chain -/
example :
    let bad : List Prog := [recoveryMw, { acts := [.panic 0] }, { acts := [.write] }]
    let good : List Prog := [recoveryMw, { acts := [.next] }, { acts := [.write] }]
    (exec {} bad).aborted = true ∧
    ((serveAll {} [] [(bad, false), (good, true), (good, false)]).map (·.body)) = [[.rec500], [.h 2], [.h 2]] := by
  decide +kernel

end Recovery

/-! ## Part 2 — the timeout middleware, over all schedules -/
section TimeoutMw
open Rivaas.Timeout

theorem lemma_t_run_cons (waitH : Hooks) (t : Tok) (ts : List Tok) (s : St) :
    run waitH (t :: ts) s = run waitH ts (step waitH s t) := rfl

/-! ### as shipped: the three ways in which the response was not "exactly one" (findings K10a, K10b,
K10d — fixed; `runAsIs` is the middleware before the `fix:` commits, `run` the repaired one) -/

/-- K10a as shipped: deadline, timeout body, then the handler (which ignores the context) writes: the
    body holds both JSON values. Reproduced on the pre-fix code with this very order forced by channels. -/
theorem timeout_interleave_witness :
    let s := runAsIs false [.h, .h, .rc, .h, .rc, .h, .h, .h, .rd]
      (init [.fireDl, .awaitCtx, .awaitE, .awaitT, .write])
    s.rpc = .returned ∧ s.body = [.t408, .h] ∧ timeoutOK (obsOf s) = false := by decide +kernel

/-- K10a as shipped with nothing but the real timer and a handler that is merely slow: `dl` fires, the
    middleware answers 408, the handler's write lands behind it -/
theorem timeout_interleave_timer_witness :
    let s := runAsIs false [.dl, .rc, .rc, .h, .h, .rd] (init [.write])
    s.rpc = .returned ∧ s.body = [.t408, .h] ∧ timeoutOK (obsOf s) = false := by decide +kernel

/-- K10a as shipped, the other order: the handler has started the response, the 408 body lands behind it -/
theorem timeout_interleave_started_witness :
    let s := runAsIs false [.h, .h, .h, .rc, .rc, .h, .h, .h, .rd] (init [.write, .fireDl, .awaitCtx, .hold, .write])
    s.rpc = .returned ∧ s.body = [.h, .t408, .h] ∧ timeoutOK (obsOf s) = false := by decide +kernel

/-- K10b as shipped: the parent context is cancelled — the middleware returns (and `ServeHTTP` puts the
    context back into the pool) while the handler goroutine is still running -/
theorem parent_cancel_releases_early_witness :
    let s := runAsIs false [.h, .h, .rc] (init [.firePc, .awaitCtx, .hold, .panic 1])
    s.rpc = .returned ∧ s.hDone = false ∧ s.releasedEarly = true ∧ timeoutOK (obsOf s) = false := by decide +kernel

/-- K10d as shipped: the handler panics after the timeout body was written; the re-raised panic reaches
    recovery, whose 500 body follows the 408 body -/
theorem timeout_then_panic_witness :
    let s := runAsIs false [.h, .h, .rc, .h, .rc, .h, .h, .rd]
      (init [.fireDl, .awaitCtx, .awaitE, .awaitT, .panic 0])
    s.rpc = .returned ∧ s.body = [.t408, .rec500] ∧ s.recovered = some 0 ∧ timeoutOK (obsOf s) = false := by decide +kernel

/-- the repaired middleware on the same five handler programs, under the schedules that force the same order of events
    (its request goroutine has the additional step `RPc.logging`, and after a parent cancel it stays until `done`): one
    response each, the handler waited for, the panic handed to recovery -/
theorem timeout_fixed_on_witnesses :
    (let s := run false [.h, .h, .rc, .rc, .h, .rc, .h, .h, .h, .rd] (init [.fireDl, .awaitCtx, .awaitE, .awaitT, .write])
     s.rpc = .returned ∧ s.body = [.t408] ∧ timeoutOK (obsOf s) = true) ∧
    (let s := run false [.dl, .rc, .rc, .rc, .h, .h, .rd] (init [.write])
     s.rpc = .returned ∧ s.body = [.t408] ∧ timeoutOK (obsOf s) = true) ∧
    (let s := run false [.h, .h, .h, .rc, .rc, .h, .h, .h, .rd] (init [.write, .fireDl, .awaitCtx, .hold, .write])
     s.rpc = .returned ∧ s.body = [.h, .h] ∧ timeoutOK (obsOf s) = true) ∧
    (let s := run false [.h, .h, .rc, .h, .h, .rd] (init [.firePc, .awaitCtx, .hold, .panic 1])
     s.rpc = .returned ∧ s.hDone = true ∧ s.recovered = some 1 ∧ s.body = [.rec500] ∧ timeoutOK (obsOf s) = true) ∧
    (let s := run false [.h, .h, .rc, .rc, .h, .rc, .h, .h, .rd] (init [.fireDl, .awaitCtx, .awaitE, .awaitT, .panic 0])
     s.rpc = .returned ∧ s.body = [.t408] ∧ s.recovered = some 0 ∧ timeoutOK (obsOf s) = true) := by decide +kernel

/-! ### the repaired middleware: the whole oracle, every program, every schedule -/

/-- A move of thread H as the invariants see it: it touches only its own program, `done`, `panicChan`, the handler's
    signal and the context — or it writes, through the guard, so only while the response is unclaimed. -/
theorem lemma_stepH_effect (s : St) :
    stepH s = s ∨ s.hDone = false ∧
      ((∃ p d g pc c, stepH s = { s with hprog := p, hDone := d, hGo := g, panicChan := pc, ctx := c }) ∨
       s.timedOut = false ∧ ∃ p, stepH s = ({ s with hprog := p, started := true }).write .h) := by
  obtain ⟨hprog, hDone, panicChan, ctx, rpc, timedOut, started, tLogging, tEntered, tWritten, hGo, status, body,
    recovered, releasedEarly⟩ := s
  cases hDone
  · refine Or.inr ⟨rfl, ?_⟩
    cases hprog with
    | nil => exact Or.inl ⟨_, _, _, _, _, rfl⟩
    | cons a r =>
      cases a with
      | write =>
        cases timedOut
        · exact Or.inr ⟨rfl, _, rfl⟩
        · exact Or.inl ⟨_, _, _, _, _, rfl⟩
      | awaitCtx => cases ctx <;> exact Or.inl ⟨_, _, _, _, _, rfl⟩
      | awaitL => cases tLogging <;> exact Or.inl ⟨_, _, _, _, _, rfl⟩
      | awaitE => cases tEntered <;> exact Or.inl ⟨_, _, _, _, _, rfl⟩
      | awaitT => cases tWritten <;> exact Or.inl ⟨_, _, _, _, _, rfl⟩
      | awaitRet => cases rpc <;> exact Or.inl ⟨_, _, _, _, _, rfl⟩
      | _ => exact Or.inl ⟨_, _, _, _, _, rfl⟩
  · exact Or.inl rfl

theorem lemma_stepH_done (s : St) (hd : s.hDone = true) : stepH s = s :=
  (lemma_stepH_effect s).resolve_right fun h => by rw [hd] at h; cases h.1

/-- A move of thread R, in this order: it waits; it leaves the middleware (`finishR`) because the handler is done; it walks
    from the `select` towards `<-done`; it claims the untouched response at the deadline; the timeout handler answers. -/
theorem lemma_stepR_cases (waitH : Hooks) (pd : Bool) (s : St) :
    stepR waitH pd s = s ∨
    (s.hDone = true ∧ (s.rpc = .select ∨ s.rpc = .waitDone) ∧ stepR waitH pd s = finishR s) ∨
    ((s.rpc = .select ∨ s.rpc = .logging) ∧ ∃ l pc, (pc = .logging ∨ pc = .waitDone) ∧
      stepR waitH pd s = { s with tLogging := l, rpc := pc }) ∨
    (s.rpc = .logging ∧ s.started = false ∧
      stepR waitH pd s = { s with timedOut := true, tEntered := true, rpc := .thandler }) ∨
    (s.rpc = .thandler ∧ stepR waitH pd s = ({ s with tWritten := true, rpc := .waitDone }).write .t408) := by
  obtain ⟨hprog, hDone, panicChan, ctx, rpc, timedOut, started, tLogging, tEntered, tWritten, hGo, status, body,
    recovered, releasedEarly⟩ := s
  obtain ⟨wH, wL⟩ := waitH
  cases rpc with
  | select =>
    cases hDone
    · cases ctx
      · exact Or.inl rfl
      · exact Or.inr (Or.inr (Or.inl ⟨Or.inl rfl, _, _, Or.inl rfl, rfl⟩))
      · exact Or.inr (Or.inr (Or.inl ⟨Or.inl rfl, _, _, Or.inr rfl, rfl⟩))
    · cases pd
      · cases ctx
        · exact Or.inr (Or.inl ⟨rfl, Or.inl rfl, rfl⟩)
        · exact Or.inr (Or.inr (Or.inl ⟨Or.inl rfl, _, _, Or.inl rfl, rfl⟩))
        · exact Or.inr (Or.inr (Or.inl ⟨Or.inl rfl, _, _, Or.inr rfl, rfl⟩))
      · exact Or.inr (Or.inl ⟨rfl, Or.inl rfl, by cases ctx <;> rfl⟩)
  | logging =>
    cases started
    · cases wL
      · exact Or.inr (Or.inr (Or.inr (Or.inl ⟨rfl, rfl, rfl⟩)))
      · cases hGo
        · exact Or.inl rfl
        · exact Or.inr (Or.inr (Or.inr (Or.inl ⟨rfl, rfl, rfl⟩)))
    · cases wL
      · exact Or.inr (Or.inr (Or.inl ⟨Or.inr rfl, _, _, Or.inr rfl, rfl⟩))
      · cases hGo
        · exact Or.inl rfl
        · exact Or.inr (Or.inr (Or.inl ⟨Or.inr rfl, _, _, Or.inr rfl, rfl⟩))
  | thandler =>
    cases wH
    · exact Or.inr (Or.inr (Or.inr (Or.inr ⟨rfl, rfl⟩)))
    · cases hGo
      · exact Or.inl rfl
      · exact Or.inr (Or.inr (Or.inr (Or.inr ⟨rfl, rfl⟩)))
  | waitDone =>
    cases hDone
    · exact Or.inl rfl
    · exact Or.inr (Or.inl ⟨rfl, Or.inr rfl, rfl⟩)
  | returned => exact Or.inl rfl

theorem lemma_finishR_frame (s : St) :
    (finishR s).rpc = .returned ∧ (finishR s).hDone = s.hDone ∧ (finishR s).timedOut = s.timedOut ∧
    (finishR s).ctx = s.ctx ∧ (finishR s).hprog = s.hprog := by
  unfold finishR
  split
  · split <;> exact ⟨rfl, rfl, rfl, rfl, rfl⟩
  · exact ⟨rfl, rfl, rfl, rfl, rfl⟩

/-- The invariant. The status line is the first chunk written (`St.write`); `ServeHTTP` has not returned before
    the handler goroutine is done and its panic is with recovery, answered if nothing else was; and the response is
    the chain's (only handler output and recovery's body, nothing before the chain starts it), or claimed by the
    timeout handler and still empty, or exactly the timeout response. -/
def InvF (s : St) : Prop :=
  s.status = s.body.head? ∧ s.releasedEarly = false ∧
  (s.rpc = .returned → s.hDone = true ∧ s.recovered = s.panicChan ∧ (s.panicChan.isSome → s.body ≠ [])) ∧
  (s.rpc ≠ .returned → s.recovered = none) ∧
  (  s.timedOut = false ∧ s.rpc ≠ .thandler ∧ (∀ c ∈ s.body, c = .h ∨ c = .rec500) ∧
       (s.rpc ≠ .returned → s.started = false → s.body = [])
   ∨ s.timedOut = true ∧ s.rpc = .thandler ∧ s.body = []
   ∨ s.timedOut = true ∧ (s.rpc = .waitDone ∨ s.rpc = .returned) ∧ s.body = [.t408])

theorem lemma_write_head (s : St) (c : Chunk) (h : s.status = s.body.head?) : (s.write c).status = (s.write c).body.head? := by
  show s.status.or (some c) = (s.body ++ [c]).head?
  rw [h]
  cases s.body <;> rfl

theorem lemma_mem_write {P : Chunk → Prop} {b : List Chunk} {c : Chunk} (hb : ∀ x ∈ b, P x) (hc : P c) : ∀ x ∈ b ++ [c], P x :=
  List.forall_mem_append.mpr ⟨hb, List.forall_mem_singleton.mpr hc⟩

/-- not timed out: the first alternative of the invariant's last clause -/
theorem lemma_invF_chain (s : St) (h : InvF s) (ht : s.timedOut = false) :
    s.rpc ≠ .thandler ∧ ∀ c ∈ s.body, c = .h ∨ c = .rec500 := by
  rcases h.2.2.2.2 with ⟨_, a2, a3, _⟩ | ⟨b1, _⟩ | ⟨b1, _⟩
  · exact ⟨a2, a3⟩
  · rw [ht] at b1; cases b1
  · rw [ht] at b1; cases b1

theorem lemma_write_invF (s : St) (p : List HAct) (h : InvF s) (ht : s.timedOut = false) (hnr : s.rpc ≠ .returned) :
    InvF (({ s with hprog := p, started := true }).write .h) := by
  obtain ⟨a2, a3⟩ := lemma_invF_chain s h ht
  obtain ⟨h0, h1, _, h3, _⟩ := h
  exact ⟨lemma_write_head _ _ h0, h1, fun hr => absurd hr hnr, h3, Or.inl ⟨ht, a2, lemma_mem_write a3 (Or.inl rfl), nofun⟩⟩

theorem lemma_stepH_invF (s : St) (h : InvF s) : InvF (stepH s) := by
  have hret := h.2.2.1
  -- H moves only before `ServeHTTP` has returned
  have hnr : s.hDone = false → s.rpc ≠ .returned := fun hd hr => by rw [(hret hr).1] at hd; cases hd
  rcases lemma_stepH_effect s with e | ⟨hd, ⟨p, d, g, pc, c, e⟩ | ⟨ht, p, e⟩⟩ <;> rw [e]
  · exact h
  · exact ⟨h.1, h.2.1, fun hr => absurd hr (hnr hd), h.2.2.2⟩
  · exact lemma_write_invF s p h ht (hnr hd)

theorem lemma_finishR_invF (s : St) (h : InvF s) (hd : s.hDone = true) (hpc : s.rpc = .select ∨ s.rpc = .waitDone) :
    InvF (finishR s) := by
  obtain ⟨h0, h1, h2, h3, h4⟩ := h
  have hnr : s.rpc ≠ .returned := by rcases hpc with e | e <;> rw [e] <;> decide
  have hre : (!s.hDone) = false := by rw [hd]; rfl
  unfold finishR
  rcases h4 with ⟨a1, _, a3, _⟩ | ⟨_, b2, _⟩ | ⟨c1, _, c3⟩
  · -- the response is the chain's: recovery's body, if there is a panic, goes behind it
    split
    · rename_i v hv
      rw [if_neg (by rw [a1]; decide)]
      exact ⟨lemma_write_head _ _ h0, hre,
        fun _ => ⟨hd, hv.symm, fun _ => List.append_ne_nil_of_right_ne_nil _ (List.cons_ne_nil _ _)⟩, fun hx => absurd rfl hx,
        Or.inl ⟨a1, nofun, lemma_mem_write a3 (Or.inr rfl), fun hx => absurd rfl hx⟩⟩
    · rename_i hv
      exact ⟨h0, hre, fun _ => ⟨hd, (h3 hnr).trans hv.symm, fun hp => by rw [hv] at hp; cases hp⟩, fun hx => absurd rfl hx,
        Or.inl ⟨a1, nofun, a3, fun hx => absurd rfl hx⟩⟩
  · rcases hpc with e | e <;> rw [e] at b2 <;> cases b2
  · -- the timeout response stands: recovery's body is dropped by the guard
    split
    · rename_i v hv
      rw [if_pos c1]
      exact ⟨h0, hre, fun _ => ⟨hd, hv.symm, fun _ => by rw [c3]; exact List.cons_ne_nil _ _⟩,
        fun hx => absurd rfl hx, Or.inr (Or.inr ⟨c1, Or.inr rfl, c3⟩)⟩
    · rename_i hv
      exact ⟨h0, hre, fun _ => ⟨hd, (h3 hnr).trans hv.symm, fun hp => by rw [hv] at hp; cases hp⟩, fun hx => absurd rfl hx,
        Or.inr (Or.inr ⟨c1, Or.inr rfl, c3⟩)⟩

/-- R walks from the `select` towards `<-done` while the response is the chain's -/
theorem lemma_goto_invF (s : St) (h : InvF s) (l : Bool) (pc : RPc) (hs : s.rpc = .select ∨ s.rpc = .logging)
    (hpc : pc = .logging ∨ pc = .waitDone) : InvF { s with tLogging := l, rpc := pc } := by
  obtain ⟨h0, h1, _, h3, h4⟩ := h
  have hnr : s.rpc ≠ .returned := by rcases hs with e | e <;> rw [e] <;> decide
  have hpr : pc ≠ .returned := by rcases hpc with e | e <;> rw [e] <;> decide
  have hpt : pc ≠ .thandler := by rcases hpc with e | e <;> rw [e] <;> decide
  refine ⟨h0, h1, fun hr => absurd hr hpr, fun _ => h3 hnr, Or.inl ?_⟩
  rcases h4 with ⟨a1, _, a3, a4⟩ | ⟨_, b2, _⟩ | ⟨_, c2, _⟩
  · exact ⟨a1, hpt, a3, fun _ => a4 hnr⟩
  · rcases hs with e | e <;> rw [e] at b2 <;> cases b2
  · rcases hs with e | e <;> rcases c2 with c | c <;> rw [e] at c <;> cases c

theorem lemma_stepR_invF (waitH : Hooks) (pd : Bool) (s : St) (h : InvF s) : InvF (stepR waitH pd s) := by
  rcases lemma_stepR_cases waitH pd s with e | ⟨hd, hpc, e⟩ | ⟨hpc, l, pc, hto, e⟩ | ⟨hpc, hst, e⟩ | ⟨hpc, e⟩ <;> rw [e]
  · exact h
  · exact lemma_finishR_invF s h hd hpc
  · exact lemma_goto_invF s h l pc hpc hto
  · -- the claim: the chain has not started the response, so it is still empty
    obtain ⟨h0, h1, _, h3, h4⟩ := h
    have hnr : s.rpc ≠ .returned := by rw [hpc]; decide
    refine ⟨h0, h1, nofun, fun _ => h3 hnr, Or.inr (Or.inl ⟨rfl, rfl, ?_⟩)⟩
    rcases h4 with ⟨_, _, _, a4⟩ | ⟨_, b2, _⟩ | ⟨_, c2, _⟩
    · exact a4 hnr hst
    · rw [hpc] at b2; cases b2
    · rcases c2 with c | c <;> rw [hpc] at c <;> cases c
  · -- the timeout handler answers on the empty, claimed response
    obtain ⟨h0, h1, _, h3, h4⟩ := h
    have hnr : s.rpc ≠ .returned := by rw [hpc]; decide
    refine ⟨lemma_write_head _ _ h0, h1, nofun, fun _ => h3 hnr, Or.inr (Or.inr ?_)⟩
    rcases h4 with ⟨_, a2, _⟩ | ⟨b1, _, b3⟩ | ⟨_, c2, _⟩
    · exact absurd hpc a2
    · exact ⟨b1, Or.inl rfl, show s.body ++ [Chunk.t408] = _ by rw [b3]; rfl⟩
    · rcases c2 with c | c <;> rw [hpc] at c <;> cases c

theorem lemma_step_invF (waitH : Hooks) (s : St) (t : Tok) (h : InvF s) : InvF (step waitH s t) := by
  cases t with
  | h => exact lemma_stepH_invF s h
  | rd => exact lemma_stepR_invF waitH true s h
  | rc => exact lemma_stepR_invF waitH false s h
  | dl => exact h
  | pc => exact h

theorem lemma_init_invF (prog : List HAct) : InvF (init prog) :=
  ⟨rfl, rfl, nofun, fun _ => rfl, Or.inl ⟨rfl, nofun, nofun, fun _ _ => rfl⟩⟩

theorem lemma_reachable_invF (waitH : Hooks) (prog : List HAct) (sched : List Tok) : InvF (run waitH sched (init prog)) :=
  List.foldlRecOn (motive := InvF) sched _ (lemma_init_invF prog) fun s h t _ => lemma_step_invF waitH s t h

/-- the oracle on a response that is the chain's alone: no timeout body and no foreign bytes in it, hence no 408 status
    line; what is left to ask is that a panic has reached recovery and is answered — by handler output, or else by
    recovery's body, which then comes first -/
theorem lemma_timeoutOK_chain (o : TObs) (he : o.escaped = false) (hre : o.releasedEarly = false) (hcl : o.claimed = false)
    (hs : o.status = o.body.head?) (hb : ∀ c ∈ o.body, c = .h ∨ c = .rec500)
    (hrec : o.hPanicked = true → o.recovered = true ∧ o.body ≠ []) : timeoutOK o = true := by
  have hT : Chunk.t408 ∉ o.body := fun hm => by rcases hb _ hm with e | e <;> cases e
  have hO : Chunk.other ∉ o.body := fun hm => by rcases hb _ hm with e | e <;> cases e
  have hst : o.status ≠ some Chunk.t408 := fun e => hT (List.mem_of_mem_head? (by rw [← hs, e]; rfl))
  have hans : o.hPanicked = true → Chunk.h ∈ o.body ∨ o.status = some Chunk.rec500 := fun hp => by
    cases hbody : o.body with
    | nil => exact absurd hbody (hrec hp).2
    | cons c r =>
      rw [hbody] at hb hs
      rcases hb c (List.mem_cons_self ..) with e | e
      · exact Or.inl (e ▸ List.mem_cons_self ..)
      · exact Or.inr (by rw [hs, e]; rfl)
  -- without a timeout body and unclaimed, `hT`, `hO`, `hst` settle every clause but the last two: those are `hrec`, `hans`
  cases hp : o.hPanicked <;> simp [timeoutOK, he, hre, hcl, hT, hO, hst, hp, hrec, hans, List.count_eq_zero.mpr hT]

/-- the oracle on the timeout response: it is complete as it stands; a panic must still have reached recovery -/
theorem lemma_timeoutOK_408 (o : TObs) (he : o.escaped = false) (hre : o.releasedEarly = false) (hcl : o.claimed = true)
    (hs : o.status = some .t408) (hb : o.body = [.t408]) (hrec : o.hPanicked = true → o.recovered = true) :
    timeoutOK o = true := by
  cases hp : o.hPanicked <;> simp [timeoutOK, he, hre, hcl, hs, hb, hp, hrec]

theorem lemma_invF_ok (s : St) (h : InvF s) (hr : s.rpc = .returned) : timeoutOK (obsOf s) = true := by
  obtain ⟨h0, h1, h2, _, h4⟩ := h
  obtain ⟨_, hrec, hne⟩ := h2 hr
  have hrecd : s.panicChan.isSome = true → s.recovered.isSome = true := fun hp => by rw [hrec]; exact hp
  rcases h4 with ⟨a1, _, a3, _⟩ | ⟨_, b2, _⟩ | ⟨c1, _, c3⟩
  · exact lemma_timeoutOK_chain (obsOf s) rfl h1 a1 h0 a3 fun hp => ⟨hrecd hp, hne hp⟩
  · rw [hr] at b2; cases b2
  · exact lemma_timeoutOK_408 (obsOf s) rfl h1 c1 (h0.trans (congrArg List.head? c3)) c3 hrecd

/-- the response has one owner at a time: the chain (no timeout body), nobody yet (claimed, still empty, not yet
    returned), or the timeout handler (exactly its response) -/
theorem lemma_invF_owner (s : St) (h : InvF s) :
    s.timedOut = false ∧ Chunk.t408 ∉ s.body ∨ s.timedOut = true ∧ s.rpc ≠ .returned ∧ s.body = [] ∨
    s.timedOut = true ∧ s.body = [Chunk.t408] ∧ s.status = some Chunk.t408 := by
  obtain ⟨h0, _, _, _, h4⟩ := h
  rcases h4 with ⟨a1, _, a3, _⟩ | ⟨b1, b2, b3⟩ | ⟨c1, _, c3⟩
  · exact Or.inl ⟨a1, fun hm => by rcases a3 _ hm with e | e <;> cases e⟩
  · exact Or.inr (Or.inl ⟨b1, by rw [b2]; nofun, b3⟩)
  · exact Or.inr (Or.inr ⟨c1, c3, by rw [h0, c3]; rfl⟩)

/-- **Exactly one well-formed response.** For every handler program and every schedule of request
    goroutine, handler goroutine, timer and client: when `ServeHTTP` has returned the whole timeout
    oracle holds — at most one timeout body, never together with handler output or recovery's body,
    status 408 with it, the handler goroutine is over, its panic has reached recovery and is answered
    with recovery's 500 when nothing had been written. -/
theorem timeout_single_response (waitH : Hooks) (prog : List HAct) (sched : List Tok) :
    (run waitH sched (init prog)).rpc = .returned → timeoutOK (obsOf (run waitH sched (init prog))) = true :=
  lemma_invF_ok _ (lemma_reachable_invF waitH prog sched)

/-- non-vacuity: runs that end `returned` — after a deadline and a late panic; with the response
    started before the deadline -/
example :
    let s := run true [.h, .h, .rc, .rc, .h, .h, .rd, .rd] (init [.fireDl, .awaitCtx, .awaitE, .panic 3])
    s.rpc = .returned ∧ s.recovered = some 3 ∧ s.timedOut = true ∧ s.body = [.t408] := by decide +kernel

example :
    let s := run false [.h, .h, .h, .rc, .rc, .h, .h, .rd] (init [.write, .fireDl, .awaitCtx, .write, .panic 2])
    s.rpc = .returned ∧ s.timedOut = false ∧ s.body = [.h, .h, .rec500] ∧ s.status = some .h := by decide +kernel

/-- the window between the `select` and the claim: the timeout is being logged (the logger waits), the handler
    starts the response in that very moment — the claim fails, the response stays the handler's -/
example :
    let s := run { waitL := true } [.h, .h, .rc, .h, .h, .h, .rc, .h, .rd]
      (init [.fireDl, .awaitCtx, .awaitL, .write, .signalH])
    s.rpc = .returned ∧ s.timedOut = false ∧ s.body = [.h] ∧ timeoutOK (obsOf s) = true := by decide +kernel

/-- **Re-panic.** For every handler program and every schedule: when the middleware has returned,
    whatever panic the handler goroutine raised — before or after the deadline, with or without a
    parent cancel — has been re-raised on the request goroutine and handled by recovery
    (`recovered = panicChan`, also when there was no panic). -/
theorem timeout_repanics (waitH : Hooks) (prog : List HAct) (sched : List Tok) :
    let s := run waitH sched (init prog)
    s.rpc = .returned → s.recovered = s.panicChan :=
  -- the invariant's clause for a returned `ServeHTTP`
  fun hr => ((lemma_reachable_invF waitH prog sched).2.2.1 hr).2.1

/-- **The request waits for its handler.** The context is never handed back while the handler
    goroutine runs — for every schedule: deadline, parent cancel or neither. -/
theorem timeout_waits_for_handler (waitH : Hooks) (prog : List HAct) (sched : List Tok) :
    let s := run waitH sched (init prog)
    s.rpc = .returned → s.hDone = true :=
  fun hr => ((lemma_reachable_invF waitH prog sched).2.2.1 hr).1

/-- the timeout body is written at most once, at every moment of every execution -/
theorem timeout_body_at_most_once (waitH : Hooks) (prog : List HAct) (sched : List Tok) :
    (run waitH sched (init prog)).body.count Chunk.t408 ≤ 1 := by
  rcases lemma_invF_owner _ (lemma_reachable_invF waitH prog sched) with ⟨_, h⟩ | ⟨_, _, h⟩ | ⟨_, h, _⟩
  · rw [List.count_eq_zero.mpr h]; exact Nat.zero_le 1
  · rw [h]; exact Nat.zero_le 1
  · rw [h]; exact Nat.le_refl 1

/-- the response has one owner at every moment of every execution, not only at the end -/
theorem timeout_never_interleaved (waitH : Hooks) (prog : List HAct) (sched : List Tok) :
    let s := run waitH sched (init prog)
    Chunk.t408 ∈ s.body → s.body = [Chunk.t408] ∧ s.status = some Chunk.t408 := by
  intro s hm
  rcases lemma_invF_owner _ (lemma_reachable_invF waitH prog sched) with ⟨_, h⟩ | ⟨_, _, h⟩ | ⟨_, h⟩
  · exact absurd hm h
  · rw [h] at hm; cases hm
  · exact h

/-! ### the liveness half of "exactly one response": an overrun is answered, and only the timeout handler answers it -/

theorem lemma_step_timedOut_mono (waitH : Hooks) (s : St) (t : Tok) (h : s.timedOut = true) :
    (step waitH s t).timedOut = true := by
  have hR : ∀ pd, (stepR waitH pd s).timedOut = true := fun pd => by
    rcases lemma_stepR_cases waitH pd s with e | ⟨_, _, e⟩ | ⟨_, _, _, _, e⟩ | ⟨_, _, e⟩ | ⟨_, e⟩ <;> rw [e]
    · exact h
    · rw [(lemma_finishR_frame s).2.2.1]; exact h
    · exact h
    · exact h
  cases t with
  | h =>
    show (stepH s).timedOut = true
    rcases lemma_stepH_effect s with e | ⟨_, ⟨p, d, g, pc, c, e⟩ | ⟨_, p, e⟩⟩ <;> rw [e] <;> exact h
  | rd => exact hR true
  | rc => exact hR false
  | dl => exact h
  | pc => exact h

/-- **The response is the timeout response iff the guard was claimed.** For every program and schedule, once
    `ServeHTTP` has returned: the timeout body is in the response iff the middleware claimed the response at the
    deadline, and then the response is exactly the timeout response (status 408, body = the one 408 document) -/
theorem timeout_response_iff_claimed (waitH : Hooks) (prog : List HAct) (sched : List Tok) :
    let s := run waitH sched (init prog)
    s.rpc = .returned →
      (Chunk.t408 ∈ s.body ↔ s.timedOut = true) ∧
      (s.timedOut = true → s.body = [Chunk.t408] ∧ s.status = some Chunk.t408) := by
  intro s hr
  rcases lemma_invF_owner _ (lemma_reachable_invF waitH prog sched) with ⟨hf, h⟩ | ⟨_, h, _⟩ | ⟨ht, h⟩
  · exact ⟨⟨fun hm => absurd hm h, fun ht => by rw [hf] at ht; cases ht⟩, fun ht => by rw [hf] at ht; cases ht⟩
  · exact absurd hr h
  · exact ⟨⟨fun _ => ht, fun _ => by rw [h.1]; exact List.mem_singleton.mpr rfl⟩, fun _ => h⟩

/-- **An overrun is answered.** Whenever the request goroutine reaches its timeout decision (`tw.timeout()`, the
    step out of `RPc.logging`) while the chain has not started the response — the deadline passed on an untouched
    response — and its hooks let it proceed, the response of the request, when `ServeHTTP` returns, is exactly the
    timeout response: whatever the handler does afterwards, however the rest is scheduled. -/
theorem timeout_answers_overrun (waitH : Hooks) (prog : List HAct) (s1 s2 : List Tok) (pd : Bool) :
    let mid := run waitH s1 (init prog)
    let fin := run waitH s2 (stepR waitH pd mid)
    mid.rpc = .logging → mid.started = false → (waitH.waitL && !mid.hGo) = false →
    fin.rpc = .returned → fin.body = [Chunk.t408] ∧ fin.status = some Chunk.t408 := by
  intro mid fin hlog hst hgo hret
  have hclaim : (stepR waitH pd mid).timedOut = true := by
    simp [stepR, hlog, hgo, hst]
  have hto : fin.timedOut = true :=
    List.foldlRecOn (motive := (·.timedOut = true)) s2 _ hclaim fun s h t _ => lemma_step_timedOut_mono waitH s t h
  -- the invariant holds at `mid`, survives the step of R and the rest of the schedule
  have hinv : InvF fin := List.foldlRecOn (motive := InvF) s2 _
    (lemma_stepR_invF waitH pd mid (lemma_reachable_invF waitH prog s1)) fun s h t _ => lemma_step_invF waitH s t h
  rcases lemma_invF_owner fin hinv with ⟨hf, _⟩ | ⟨_, h, _⟩ | ⟨_, h⟩
  · rw [hto] at hf; cases hf
  · exact absurd hret h
  · exact h

/-- non-vacuity: the decision point is reached on an untouched response, the handler writes and panics afterwards -/
example :
    let prog : List HAct := [.fireDl, .awaitCtx, .awaitE, .write, .panic 1]
    let mid := run false [.h, .h, .rc] (init prog)
    mid.rpc = .logging ∧ mid.started = false ∧
    (run false [.rc, .h, .h, .h, .rd] (stepR false false mid)).rpc = .returned ∧
    (run false [.rc, .h, .h, .h, .rd] (stepR false false mid)).body = [.t408] := by decide +kernel

theorem lemma_sched_cons {waitH : Hooks} {s x : St} (t : Tok) :
    (∃ sched, x = run waitH sched (step waitH s t)) → ∃ sched, x = run waitH sched s :=
  fun ⟨sched, h⟩ => ⟨t :: sched, h⟩

theorem lemma_sched_ite {waitH : Hooks} {s a b : St} {c : Prop} [Decidable c] (ha : ∃ sched, a = run waitH sched s)
    (hb : ∃ sched, b = run waitH sched s) : ∃ sched, (if c then a else b) = run waitH sched s := by
  split
  · exact ha
  · exact hb

/-- what the driver computes for a harness case (`fair`, the handler-first / request-first
    scheduler) is the run of *a* schedule — so every theorem above that quantifies over schedules
    applies to it -/
theorem fair_is_a_schedule (waitH : Hooks) (hFirst : Bool) (n : Nat) (s : St) :
    ∃ sched : List Tok, fair waitH hFirst n s = run waitH sched s := by
  induction n generalizing s with
  | zero => exact ⟨[], rfl⟩
  | succ n ih =>
    -- each branch of the scheduler's conditionals puts one token in front of a schedule, or stops
    cases hFirst
    · exact lemma_sched_ite (lemma_sched_cons .rd (ih _))
        (lemma_sched_ite (lemma_sched_cons .h (ih _)) ⟨[], rfl⟩)
    · exact lemma_sched_ite (lemma_sched_cons .h (ih _))
        (lemma_sched_ite (lemma_sched_cons .rd (ih _)) ⟨[], rfl⟩)

/-- the same for the scheduler used under a real budget (it may let the timer fire) -/
theorem fairT_is_a_schedule (waitH : Hooks) (hFirst : Bool) (n : Nat) (s : St) :
    ∃ sched : List Tok, fairT waitH hFirst n s = run waitH sched s := by
  induction n generalizing s with
  | zero => exact ⟨[], rfl⟩
  | succ n ih =>
    cases hFirst
    · exact lemma_sched_ite (lemma_sched_cons .rd (ih _))
        (lemma_sched_ite (lemma_sched_cons .h (ih _)) (lemma_sched_ite (lemma_sched_cons .dl (ih _)) ⟨[], rfl⟩))
    · exact lemma_sched_ite (lemma_sched_cons .h (ih _))
        (lemma_sched_ite (lemma_sched_cons .rd (ih _)) (lemma_sched_ite (lemma_sched_cons .dl (ih _)) ⟨[], rfl⟩))

/-- the timed chain behind the middleware: after the deadline the `Next` loop of the handler
    goroutine starts no further position — `[awaitCtx, awaitE, awaitT] ; guard ; [write] ; guard ; [write]` under
    the real timer answers 408 once and nothing else -/
example :
    let prog : List HAct := [.guard 7, .awaitCtx, .awaitE, .awaitT, .guard 3, .write, .guard 1, .write]
    let s := fairT false true 40 (init prog)
    s.rpc = .returned ∧ s.body = [.t408] ∧ s.status = some .t408 ∧ timeoutOK (obsOf s) = true := by decide +kernel

end TimeoutMw

/-! ## Part 3 — the options of the timeout middleware (`options.go`, `shouldSkip`) -/
section TimeoutOptions
open Rivaas.Timeout

def pathSkips (c : Config) (path : List Char) : Bool :=
  c.skipPaths.contains path || c.skipPrefixes.any (·.isPrefixOf path) || c.skipSuffixes.any (·.isSuffixOf path)

theorem lemma_shouldSkip_or (c : Config) (path : List Char) :
    shouldSkip c path = (pathSkips c path || c.skipFunc == some true) := by
  simp only [shouldSkip, pathSkips, Bool.if_true_left, Bool.if_false_right, Bool.and_true, Bool.or_assoc, Bool.decide_eq_true]

theorem lemma_applyOpt_pathSkips (path : List Char) (c : Config) (o : Opt) :
    pathSkips (applyOpt c o) path = (pathSkips c path || optSkips path o) := by
  cases o with
  | skipPaths ps =>
    simp only [pathSkips, applyOpt, optSkips, List.contains_append]
    rw [Bool.or_right_comm _ (ps.contains path), Bool.or_right_comm _ (ps.contains path)]
  | skipPrefix ps =>
    simp only [pathSkips, applyOpt, optSkips, List.any_append]
    rw [← Bool.or_assoc, Bool.or_right_comm _ (ps.any _)]
  | skipSuffix ps =>
    simp only [pathSkips, applyOpt, optSkips, List.any_append]
    rw [← Bool.or_assoc]
  | _ => exact (Bool.or_false _).symm

theorem lemma_fold_pathSkips (path : List Char) (opts : List Opt) (c : Config) :
    pathSkips (opts.foldl applyOpt c) path = (pathSkips c path || opts.any (optSkips path)) := by
  induction opts generalizing c with
  | nil => simp
  | cons o os ih => rw [List.foldl_cons, ih, lemma_applyOpt_pathSkips, List.any_cons, Bool.or_assoc]

theorem lemma_fold_skipFunc (opts : List Opt) (c : Config) :
    (opts.foldl applyOpt c).skipFunc = if opts.any isSkipOpt then lastSkipFn opts else c.skipFunc := by
  induction opts generalizing c with
  | nil => rfl
  | cons o os ih =>
    rw [List.foldl_cons, ih]
    cases o <;> rfl

theorem lemma_lastSkip_none (opts : List Opt) (h : opts.any isSkipOpt = false) : lastSkipFn opts = none := by
  induction opts with
  | nil => rfl
  | cons o os ih =>
    cases o with
    | skip r => cases h
    | _ => exact ih h

/-- **Options.** Whatever options are given in whatever order, the request is left alone iff some
    `WithSkipPaths` / `WithSkipPrefix` / `WithSkipSuffix` option covers its path or the last `WithSkip` function
    returns true. -/
theorem skip_decision_meets_spec (opts : List Opt) (path : List Char) :
    shouldSkip (configure opts) path = skipSpec opts path := by
  unfold skipSpec configure
  rw [lemma_shouldSkip_or, lemma_fold_pathSkips, lemma_fold_skipFunc]
  cases hany : opts.any isSkipOpt
  · rw [lemma_lastSkip_none opts hany]; rfl
  · rfl

/-- the last `WithDuration`, the last of `WithoutLogging` / `WithLogger`, the last `WithHandler` win; defaults
    30 s, logging on, the default 408 handler -/
theorem option_defaults : configure [] = { durationMs := 30000, logging := true, handlerTag := 0 } := rfl

theorem lemma_fold_durationMs (rest : List Opt) (h : ∀ o ∈ rest, ∀ m, o ≠ .duration m) (c : Config) :
    (rest.foldl applyOpt c).durationMs = c.durationMs :=
  List.foldlRecOn (motive := fun c' : Config => c'.durationMs = c.durationMs) rest _ rfl fun c' hc o ho => by
    cases o with
    | duration m => exact absurd rfl (h _ ho m)
    | _ => exact hc

theorem last_duration_wins (opts : List Opt) (ms : Nat) (rest : List Opt)
    (h : ∀ o ∈ rest, ∀ m, o ≠ .duration m) : (configure (opts ++ .duration ms :: rest)).durationMs = ms := by
  unfold configure
  rw [List.foldl_append, List.foldl_cons, lemma_fold_durationMs rest h]
  rfl

theorem lemma_runSkipped_invF (d : Nat) (p : List HAct) (s : St) (h : InvF s) (ht : s.timedOut = false)
    (hr : s.rpc ≠ .returned) (hp : s.panicChan = none) :
    InvF (runSkipped d p s) ∧ (runSkipped d p s).rpc = .returned ∧ (runSkipped d p s).timedOut = false := by
  induction p generalizing d s with
  | nil =>
    -- `h.2.2.2.1 hr`: nothing is recovered before `ServeHTTP` returns
    have : InvF { s with hDone := true, rpc := .returned } :=
      ⟨h.1, h.2.1, fun _ => ⟨rfl, (h.2.2.2.1 hr).trans hp.symm, fun hs => by rw [hp] at hs; cases hs⟩, fun hx => absurd rfl hx,
        Or.inl ⟨ht, nofun, (lemma_invF_chain s h ht).2, fun hx => absurd rfl hx⟩⟩
    cases d <;> exact ⟨this, rfl, ht⟩
  | cons a r ih =>
    cases d with
    | succ k => exact ih k s h ht hr hp
    | zero =>
      cases a with
      | write => exact ih 0 _ (lemma_write_invF s s.hprog h ht hr) ht hr hp
      | panic v =>
        exact ⟨⟨lemma_write_head _ _ h.1, h.2.1,
          fun _ => ⟨rfl, rfl, fun _ => List.append_ne_nil_of_right_ne_nil _ (List.cons_ne_nil _ _)⟩, fun hx => absurd rfl hx,
          Or.inl ⟨ht, nofun, lemma_mem_write (lemma_invF_chain s h ht).2 (Or.inr rfl), fun hx => absurd rfl hx⟩⟩, rfl, ht⟩
      | _ => exact ih _ _ h ht hr hp

/-- **Skipped requests.** A request the options exempt is served straight through: it returns, its response never
    contains a timeout body, and the single-response oracle holds — for every program. -/
theorem skipped_single_response (prog : List HAct) :
    let s := runSkipped 0 prog (init prog)
    timeoutOK (obsOf s) = true ∧ s.rpc = .returned ∧ Chunk.t408 ∉ s.body := by
  obtain ⟨h, hr, ht⟩ := lemma_runSkipped_invF 0 prog (init prog) (lemma_init_invF prog) rfl nofun rfl
  refine ⟨lemma_invF_ok _ h hr, hr, ?_⟩
  rcases lemma_invF_owner _ h with ⟨_, h⟩ | ⟨h, _⟩ | ⟨h, _⟩
  · exact h
  · rw [ht] at h; cases h
  · rw [ht] at h; cases h

/-- non-vacuity: an exact path and a prefix are exempt, the skip function (the last one given, here saying no) is asked only
    for the other paths, the last duration stands -/
example :
    let opts := [Opt.skipPrefix ["/adm".toList], .duration 5, .skip (some false), .skipPaths ["/t".toList]]
    shouldSkip (configure opts) "/t".toList = true ∧ shouldSkip (configure opts) "/admin/x".toList = true ∧
    shouldSkip (configure opts) "/x".toList = false ∧ skipFuncCalled (configure opts) "/x".toList = true ∧
    skipFuncCalled (configure opts) "/t".toList = false ∧ (configure opts).durationMs = 5 := by decide +kernel

/-! ### transparency: without a deadline and without a client cancel the middleware changes nothing -/

/-- the observation of a request served straight through does not depend on what is left of the handler's own
    program or on its signal: `runSkipped` is given the program as an argument -/
theorem lemma_runSkipped_hprog (d : Nat) (p : List HAct) (s : St) (q : List HAct) (g : Bool) :
    obsOf (runSkipped d p { s with hprog := q, hGo := g }) = obsOf (runSkipped d p s) := by
  induction p generalizing d s with
  | nil => cases d <;> rfl
  | cons a r ih =>
    cases d with
    | succ k => exact ih k s
    | zero =>
      cases a with
      | panic v => rfl
      | write => exact ih 0 (St.write { s with started := true } .h)
      | fireDl => exact ih 0 { s with ctx := if s.ctx = .live then .deadline else s.ctx }
      | firePc => exact ih 0 { s with ctx := if s.ctx = .live then .cancelled else s.ctx }
      | _ => exact ih _ s

/-- no deadline and no cancel can happen: neither the program nor the schedule produces one -/
def quietProg (p : List HAct) : Prop := ∀ a ∈ p, a ≠ .fireDl ∧ a ≠ .firePc
def quietSched (s : List Tok) : Prop := ∀ t ∈ s, t ≠ .dl ∧ t ≠ .pc

/-- Without a deadline or a cancel the two goroutines go through three phases, and in each the request is bound to
    end with the observation `T`: the handler runs and what is left of it, served straight through from here, ends in
    `T`; the handler is over and `R` leaving the middleware gives `T`; `ServeHTTP` has returned with `T`. -/
def InvQ (T : TObs) (s : St) : Prop :=
  s.ctx = .live ∧ s.timedOut = false ∧ quietProg s.hprog ∧
  ((s.rpc = .select ∧ s.hDone = false ∧ s.panicChan = none ∧ s.releasedEarly = false ∧
      obsOf (runSkipped 0 s.hprog s) = T) ∨
   (s.rpc = .select ∧ s.hDone = true ∧ obsOf (finishR s) = T) ∨
   (s.rpc = .returned ∧ s.hDone = true ∧ obsOf s = T))

theorem lemma_invQ_running (T : TObs) (s : St) (r : List HAct) (g : Bool) (hobs : obsOf (runSkipped 0 r s) = T)
    (hq : quietProg r) (hc : s.ctx = .live) (ht : s.timedOut = false) (hr : s.rpc = .select) (hd : s.hDone = false)
    (hp : s.panicChan = none) (hre : s.releasedEarly = false) : InvQ T { s with hprog := r, hGo := g } :=
  ⟨hc, ht, hq, Or.inl ⟨hr, hd, hp, hre, (lemma_runSkipped_hprog 0 r s r g).trans hobs⟩⟩

theorem lemma_stepH_invQ (T : TObs) (s : St) (h : InvQ T s) : InvQ T (stepH s) := by
  obtain ⟨hc, ht, hq, h4⟩ := h
  rcases h4 with ⟨hr, hd, hp, hre, hobs⟩ | ⟨hr, hd, hs⟩ | ⟨hr, hd, ho⟩
  · obtain ⟨hprog, hDone, panicChan, ctx, rpc, timedOut, started, tLogging, tEntered, tWritten, hGo, status, body,
      recovered, releasedEarly⟩ := s
    subst hc ht hr hd hp hre
    cases hprog with
    | nil => exact ⟨rfl, rfl, hq, Or.inr (Or.inl ⟨rfl, rfl, hobs⟩)⟩
    | cons a r =>
      have hq' : quietProg r := fun x hx => hq x (List.mem_cons_of_mem _ hx)
      -- an act that still waits leaves the state as it is (`stay`); any other is consumed, and serving the rest straight
      -- through from the new state is, by computation, serving `a :: r` from the old one (`lemma_invQ_running`)
      have stay : InvQ T _ := ⟨rfl, rfl, hq, Or.inl ⟨rfl, rfl, rfl, rfl, hobs⟩⟩
      have ha := hq a (List.mem_cons_self ..)
      cases a with
      | fireDl => exact absurd rfl ha.1
      | firePc => exact absurd rfl ha.2
      | awaitCtx => exact stay
      | awaitRet => exact stay
      | awaitL =>
        cases tLogging
        · exact stay
        · exact lemma_invQ_running T _ r hGo hobs hq' rfl rfl rfl rfl rfl rfl
      | awaitE =>
        cases tEntered
        · exact stay
        · exact lemma_invQ_running T _ r hGo hobs hq' rfl rfl rfl rfl rfl rfl
      | awaitT =>
        cases tWritten
        · exact stay
        · exact lemma_invQ_running T _ r hGo hobs hq' rfl rfl rfl rfl rfl rfl
      | signalH => exact lemma_invQ_running T _ r true hobs hq' rfl rfl rfl rfl rfl rfl
      | panic v => exact ⟨rfl, rfl, nofun, Or.inr (Or.inl ⟨rfl, rfl, hobs⟩)⟩
      | _ => exact lemma_invQ_running T _ r hGo hobs hq' rfl rfl rfl rfl rfl rfl
  · rw [lemma_stepH_done s hd]; exact ⟨hc, ht, hq, Or.inr (Or.inl ⟨hr, hd, hs⟩)⟩
  · rw [lemma_stepH_done s hd]; exact ⟨hc, ht, hq, Or.inr (Or.inr ⟨hr, hd, ho⟩)⟩

theorem lemma_stepR_invQ (T : TObs) (waitH : Hooks) (pd : Bool) (s : St) (h : InvQ T s) : InvQ T (stepR waitH pd s) := by
  obtain ⟨hc, ht, hq, h4⟩ := h
  rcases h4 with ⟨hr, hd, hp, hre, hobs⟩ | ⟨hr, hd, hs⟩ | ⟨hr, hd, ho⟩
  · have hstep : stepR waitH pd s = s := by simp [stepR, hr, hd, hc]
    rw [hstep]; exact ⟨hc, ht, hq, Or.inl ⟨hr, hd, hp, hre, hobs⟩⟩
  · have hstep : stepR waitH pd s = finishR s := by simp [stepR, hr, hd, hc]
    rw [hstep]
    obtain ⟨f1, f2, f3, f4, f5⟩ := lemma_finishR_frame s
    exact ⟨f4.trans hc, f3.trans ht, by rw [f5]; exact hq, Or.inr (Or.inr ⟨f1, f2.trans hd, hs⟩)⟩
  · have hstep : stepR waitH pd s = s := by simp [stepR, hr]
    rw [hstep]; exact ⟨hc, ht, hq, Or.inr (Or.inr ⟨hr, hd, ho⟩)⟩

/-- **The timeout middleware is transparent when nothing times out.** If neither the program nor the schedule lets
    the deadline pass or the client go away, then for every interleaving of the two goroutines the request ends —
    when it ends — exactly as if the chain had been served straight through (`runSkipped`, the path of an exempt
    request): same status, same body, same recovery. -/
theorem timeout_transparent_when_quiet (waitH : Hooks) (prog : List HAct) (sched : List Tok)
    (hp : quietProg prog) (hs : quietSched sched) :
    (run waitH sched (init prog)).rpc = .returned →
      obsOf (run waitH sched (init prog)) = obsOf (runSkipped 0 prog (init prog)) := by
  intro hret
  generalize hT : obsOf (runSkipped 0 prog (init prog)) = T
  have hstep : ∀ s, InvQ T s → ∀ t ∈ sched, InvQ T (step waitH s t) := by
    intro s h t ht
    cases t with
    | h => exact lemma_stepH_invQ _ s h
    | rd => exact lemma_stepR_invQ _ waitH true s h
    | rc => exact lemma_stepR_invQ _ waitH false s h
    | dl => exact absurd rfl (hs _ ht).1
    | pc => exact absurd rfl (hs _ ht).2
  obtain ⟨_, _, _, h4⟩ : InvQ T (run waitH sched (init prog)) :=
    List.foldlRecOn sched _ ⟨rfl, rfl, hp, Or.inl ⟨rfl, rfl, rfl, rfl, hT⟩⟩ hstep
  rcases h4 with ⟨hr, _⟩ | ⟨hr, _⟩ | ⟨_, _, ho⟩
  · rw [hr] at hret; cases hret
  · rw [hr] at hret; cases hret
  · exact ho

example :
    let prog : List HAct := [.write, .guard 1, .write, .panic 4]
    quietProg prog ∧ quietSched [.h, .rd, .h, .h, .h, .rc] ∧
    (run false [.h, .rd, .h, .h, .h, .rc] (init prog)).rpc = .returned ∧
    (run false [.h, .rd, .h, .h, .h, .rc] (init prog)).body = [.h, .h, .rec500] := by
  refine ⟨by unfold quietProg; decide, by unfold quietSched; decide, by decide, by decide⟩
end TimeoutOptions

/-! ## Part 4 — the options of the recovery middleware (`options.go`, `captureStack`) -/
section RecoveryOptions
open Rivaas.Recovery

/-- `captureStack` never fails and never keeps more than there is, for every stack and every `int` given to
    `WithStackSize` -/
theorem capture_stack_total (len : Nat) (maxSize : Int) :
    ∃ kept, captureStack len maxSize = some kept ∧ kept ≤ len ∧ (0 ≤ maxSize → (kept : Int) ≤ maxSize ∨ kept = len) := by
  -- the clamped limit is never negative, and is the limit itself when that is not
  have hm : (0 : Int) ≤ (if maxSize < 0 then 0 else maxSize) ∧
      (0 ≤ maxSize → (if maxSize < 0 then 0 else maxSize) = maxSize) := by
    split
    · exact ⟨Int.le_refl 0, fun h => absurd ‹maxSize < 0› (Int.not_lt.mpr h)⟩
    · exact ⟨Int.not_lt.mp ‹_›, fun _ => rfl⟩
  unfold captureStack
  generalize (if maxSize < 0 then 0 else maxSize) = m at hm
  dsimp only
  split
  · rw [if_neg (Int.not_lt.mpr hm.1)]
    exact ⟨m.toNat, rfl, Int.toNat_le.mpr (Int.le_of_lt ‹_›),
      fun h => Or.inl (by rw [Int.toNat_of_nonneg hm.1, hm.2 h]; exact Int.le_refl _)⟩
  · exact ⟨len, rfl, Nat.le_refl _, fun _ => Or.inr rfl⟩

/-- **Recovery's own path cannot fail on configuration.** For every option list in every order and every stack
    length, `handlePanic` gets from `c.Abort()` to the response handler. -/
theorem recovery_options_reach_handler (opts : List Opt) (stackLen : Nat) :
    reachesHandler (configure opts) stackLen = true := by
  unfold reachesHandler
  split
  · obtain ⟨k, hk, _⟩ := capture_stack_total stackLen (configure opts).stackSize
    simp [hk]
  · rfl

/-- K10e as shipped: `WithStackSize(-1)` with the default logging and stack traces — the slice expression panics
    inside the deferred recover; the repaired code keeps nothing instead -/
theorem asis_negative_stack_size_panics :
    reachesHandlerAsIs (configure [.withStackSize (-1)]) 2048 = false ∧
    reachesHandler (configure [.withStackSize (-1)]) 2048 = true ∧
    captureStack 2048 (-1) = some 0 ∧ captureStack 2048 16 = some 16 ∧ captureStack 10 4096 = some 10 := by decide +kernel

end RecoveryOptions

end Rivaas.C10
