import Rivaas.Lemmas.C15Trailer
import Rivaas.Lemmas.C15Accept
/-
C15 — Response compression is transparent.

Model: `Model/HttpBase` (net/http's response writer), `Model/Compress` (the middleware as it is
now), `Model/CompressAsIs` (as it was shipped).  Oracle: `Spec/Compress`.  The coupling relation
and its preservation lemmas are in `Lemmas/C15*.lean`; this file holds the property theorems,
each with an example showing that its hypotheses are met by a non-trivial input.

All statements quantify over every sniffing function `sn` (http.DetectContentType is a parameter),
every configuration, request path, Accept-Encoding string and handler program.
-/
namespace Rivaas.C15
open Rivaas.Http Rivaas.Compress Rivaas.CompressSpec

/-! ### the main theorem -/

theorem lemma_runWith_eq (sn : Sniff) (cfg : Cfg) (path ae : Bytes) (h0 : Hdrs) (ops : List Op) :
    runWith sn cfg path ae h0 ops =
      if (active cfg path ae h0).isEmpty then
        { panicked := (runPlain sn h0 ops).1.panicked, resp := (runPlain sn h0 ops).1.resp,
          decoded := some (runPlain sn h0 ops).1.resp.body, outs := (runPlain sn h0 ops).2 }
      else respOf sn (finalCW sn cfg (active cfg path ae h0) h0 ops).1 (finalCW sn cfg (active cfg path ae h0) h0 ops).2 := by
  unfold runWith respOf
  rfl

theorem lemma_safe_no_panic (os : List Op) (h : os.any isPanicOp = false) : ∀ seen, Safe seen os := by
  induction os with
  | nil => exact fun _ => trivial
  | cons o os ih =>
    simp only [List.any_cons, Bool.or_eq_false_iff] at h
    exact fun _ => ⟨fun e => by rw [e] at h; exact absurd h.1 (by decide), ih h.2 _⟩

theorem lemma_safe_of_not_midstream (ops : List Op) (h : panicMidstream ops = false) : Safe false ops := by
  induction ops with
  | nil => trivial
  | cons o os ih =>
    cases o with
    | setH k vs | delH k | writeHeader c | panic => exact ⟨fun _ => rfl, ih h⟩
    | write d | copy cs | flush => exact ⟨fun e => Op.noConfusion e, lemma_safe_no_panic os h _⟩

theorem lemma_transparent_safe (sn : Sniff) (cfg : Cfg) (path ae : Bytes) (h0 : Hdrs) (ops : List Op)
    (hv : ∀ o ∈ ops, OpValid o) (hs : Safe false ops) :
    Transparent (active cfg path ae h0) (runWith sn cfg path ae h0 ops) (runPlain sn h0 ops) := by
  rw [lemma_runWith_eq]
  by_cases ha : (active cfg path ae h0).isEmpty = true
  · simp only [ha, if_true]
    exact ⟨rfl, rfl, fun _ _ _ _ => rfl, rfl, rfl, Or.inl rfl⟩
  · simp only [ha]
    obtain ⟨hend, houts⟩ := lemma_run_end sn cfg _ h0 ops (mt List.isEmpty_iff.mpr ha) hv hs
    have := lemma_end_transparent sn _ _ (runPlain sn h0 ops).2 hend
    rw [lemma_finalCW_enc] at this
    rw [houts]
    exact this

/-- C15, with the one recorded exclusion (K15m).  For every sniffing function, configuration,
    path, Accept-Encoding and handler program with acceptable status codes in which no panic
    follows a body operation, the exchange with the middleware is transparent: no panic, same
    status, same headers apart from Content-Encoding / Content-Length / Vary, the body decodes to
    the plain body, every Write / io.Copy returns what the bare writer returns, and the
    Content-Encoding is the plain one or the encoding chosen for the request. -/
theorem transparent_partial (sn : Sniff) (cfg : Cfg) (path ae : Bytes) (h0 : Hdrs) (ops : List Op)
    (hv : ∀ o ∈ ops, OpValid o) (hD : panicMidstream ops = false) :
    Transparent (active cfg path ae h0) (runWith sn cfg path ae h0 ops) (runPlain sn h0 ops) :=
  lemma_transparent_safe sn cfg path ae h0 ops hv (lemma_safe_of_not_midstream ops hD)

/-- C15 on the statement's own domain (programs of header operations, WriteHeader, Write,
    io.Copy and Flush — no panic): full strength, no exclusion.
    Domain note: the model does not carry Content-Length (the statement excludes it from the comparison, `Base.resp` drops
    it). A handler that declares a wrong Content-Length is outside the domain: the bare writer then truncates or reports
    ErrContentLength, which the model does not see. HEAD requests are correspondence only. -/
theorem transparent (sn : Sniff) (cfg : Cfg) (path ae : Bytes) (h0 : Hdrs) (ops : List Op)
    (hv : ∀ o ∈ ops, OpValid o) (hnp : ops.any isPanicOp = false) :
    Transparent (active cfg path ae h0) (runWith sn cfg path ae h0 ops) (runPlain sn h0 ops) :=
  lemma_transparent_safe sn cfg path ae h0 ops hv (lemma_safe_no_panic ops hnp false)

/-- the hypotheses of `transparent` are met by a program that writes without a status, crosses a
    threshold with its second write and flushes in between (and the conclusion is not trivial: the
    middleware is active and compresses) -/
example :
    let ops := [Op.setH kCT ["text/plain".toList], .write "aaaa".toList, .flush, .write "bbbbbbbbbb".toList,
                .writeHeader 404, .copy ["cc".toList, "d".toList]]
    (∀ o ∈ ops, OpValid o) ∧ ops.any isPanicOp = false ∧
    active ⟨10, true, true, [], [], []⟩ "/p".toList "gzip".toList [] = "gzip".toList := by
  refine ⟨?_, by decide, by decide +kernel⟩
  intro o ho
  simp only [List.mem_cons, List.not_mem_nil, or_false] at ho
  rcases ho with rfl | rfl | rfl | rfl | rfl | rfl <;> first | trivial | (constructor <;> decide)

/-- …and by a program that panics before any body output (the K15f scenario), which only
    `transparent_partial` covers -/
example :
    let ops := [Op.writeHeader 202, .panic, .setH kCT ["application/json".toList], .writeHeader 500, .write "{}".toList]
    (∀ o ∈ ops, OpValid o) ∧ panicMidstream ops = false ∧ ops.any isPanicOp = true := by
  refine ⟨?_, by decide, by decide⟩
  intro o ho
  simp only [List.mem_cons, List.not_mem_nil, or_false] at ho
  rcases ho with rfl | rfl | rfl | rfl | rfl <;> first | trivial | (constructor <;> decide)

/-! ### consequences, one per clause of the statement -/

/-- the middleware never makes the exchange panic (K15b: it used to, on a Write without WriteHeader) -/
theorem no_panic (sn : Sniff) (cfg : Cfg) (path ae : Bytes) (h0 : Hdrs) (ops : List Op)
    (hv : ∀ o ∈ ops, OpValid o) (hD : panicMidstream ops = false) :
    (runWith sn cfg path ae h0 ops).panicked = false := by
  rw [(transparent_partial sn cfg path ae h0 ops hv hD).noPanic]
  exact lemma_plain_no_panic sn h0 ops hv

/-- the io.Writer contract holds of every program, whatever its status codes and wherever it panics: it is a fact
    about each Write by itself, not about the exchange -/
theorem lemma_write_contract (sn : Sniff) (cfg : Cfg) (path ae : Bytes) (h0 : Hdrs) (ops : List Op) :
    writeContract (writeLens ops) ((runWith sn cfg path ae h0 ops).outs.map toObs) = true := by
  rw [lemma_runWith_eq]
  split
  · exact lemma_contract _ (lemma_plainStep_out sn) ops _
  · unfold respOf
    split <;> exact lemma_contract _ (lemma_cwStep_out sn) ops _

/-- io.Writer contract: every Write through the middleware returns `(len p, nil)` or an error
    with `n ≤ len p`, every io.Copy copies everything or reports an error — stated with the
    oracle's own `writeContract` on the results as the harness records them (`hv`, `hD` are not needed:
    `lemma_write_contract`) -/
theorem write_contract (sn : Sniff) (cfg : Cfg) (path ae : Bytes) (h0 : Hdrs) (ops : List Op)
    (hv : ∀ o ∈ ops, OpValid o) (hD : panicMidstream ops = false) :
    writeContract (writeLens ops) ((runWith sn cfg path ae h0 ops).outs.map toObs) = true :=
  lemma_write_contract sn cfg path ae h0 ops

/-- a streaming codec: what the wire carries for a sequence of encoder events (`some d` a Write,
    `none` a Flush) followed by Close, and the decoder; the contract is the concatenation law the
    harness checks on the real gzip / brotli codecs by decoding every response -/
structure Codec where
  enc : List (Option Bytes) → Bytes
  dec : Bytes → Option Bytes
  law : ∀ evs, dec (enc evs) = some (plainOf evs)

def wireBody (c : Codec) (sn : Sniff) (cfg : Cfg) (path ae : Bytes) (h0 : Hdrs) (ops : List Op) : Option Bytes :=
  let enc := active cfg path ae h0
  if enc.isEmpty then some (runPlain sn h0 ops).1.resp.body
  else
    let w := (finalCW sn cfg enc h0 ops).1
    let b := w.base.finish sn
    if w.compress && w.hasWriter then
      (if w.closed && b.body.isEmpty then some (c.enc w.evs) else none)
    else some b.resp.body

/-- whether the response is encoded (by the middleware) -/
def encoded (sn : Sniff) (cfg : Cfg) (path ae : Bytes) (h0 : Hdrs) (ops : List Op) : Bool :=
  let enc := active cfg path ae h0
  !enc.isEmpty && (finalCW sn cfg enc h0 ops).1.compress && (finalCW sn cfg enc h0 ops).1.hasWriter

theorem lemma_wire_decoded (c : Codec) (sn : Sniff) (cfg : Cfg) (path ae : Bytes) (h0 : Hdrs) (ops : List Op) :
    (wireBody c sn cfg path ae h0 ops).bind
        (fun wire => if encoded sn cfg path ae h0 ops then c.dec wire else some wire) =
      (runWith sn cfg path ae h0 ops).decoded := by
  unfold wireBody encoded runWith
  by_cases ha : (active cfg path ae h0).isEmpty = true
  · simp [ha]
  · simp only [ha, Bool.not_false, Bool.true_and, Bool.false_eq_true, if_false]
    generalize (finalCW sn cfg (active cfg path ae h0) h0 ops).1 = W
    by_cases hc : (W.compress && W.hasWriter) = true
    · by_cases hcl : (W.closed && (W.base.finish sn).body.isEmpty) = true
      · simp [hc, hcl, c.law, CW.plain]
      · simp [hc, hcl]
    · simp [hc]

/-- Decoding yields the handler's bytes, for every codec that satisfies the streaming contract -/
theorem transparent_wire (c : Codec) (sn : Sniff) (cfg : Cfg) (path ae : Bytes) (h0 : Hdrs) (ops : List Op)
    (hv : ∀ o ∈ ops, OpValid o) (hD : panicMidstream ops = false) :
    ∃ wire, wireBody c sn cfg path ae h0 ops = some wire ∧
      (if encoded sn cfg path ae h0 ops then c.dec wire else some wire) = some (runPlain sn h0 ops).1.resp.body :=
  Option.bind_eq_some_iff.mp
    ((lemma_wire_decoded c sn cfg path ae h0 ops).trans (transparent_partial sn cfg path ae h0 ops hv hD).body)

theorem lemma_choose_eq (ae : Bytes) (cfg : Cfg) :
    chooseEncoding ae cfg =
      if ((scanAE ae none none).1.any fun b => cfg.br && decide (b > 0) && qGe b (scanAE ae none none).2) = true then brB
      else if ((scanAE ae none none).2.any fun g => cfg.gzip && decide (g > 0)) = true then gzipB else [] := by
  unfold chooseEncoding
  generalize scanAE ae none none = r
  obtain ⟨_ | b, _ | g⟩ := r <;> rfl

theorem lemma_choose_cases (ae : Bytes) (cfg : Cfg) :
    (chooseEncoding ae cfg = brB ∧ cfg.br = true ∧ ∃ b, (scanAE ae none none).1 = some b ∧ b > 0) ∨
    (chooseEncoding ae cfg = gzipB ∧ cfg.gzip = true ∧ ∃ g, (scanAE ae none none).2 = some g ∧ g > 0) ∨
    chooseEncoding ae cfg = [] := by
  rw [lemma_choose_eq]
  split
  · next h =>
    obtain ⟨b, hb, hf⟩ := (Option.any_eq_true _ _).mp h
    simp only [Bool.and_eq_true, decide_eq_true_eq] at hf
    exact Or.inl ⟨rfl, hf.1.1, b, hb, hf.1.2⟩
  · split
    · next h =>
      obtain ⟨g, hg, hf⟩ := (Option.any_eq_true _ _).mp h
      simp only [Bool.and_eq_true, decide_eq_true_eq] at hf
      exact Or.inr (Or.inl ⟨rfl, hf.1, g, hg, hf.2⟩)
    · exact Or.inr (Or.inr rfl)

/-- Encoding only if listed.  Whatever `chooseEncoding` picks is named by an element of the
    client's Accept-Encoding list whose weight is not a valid zero — for every header string
    (odd spacing, unknown tokens, malformed weights, repeated elements) and every configuration. -/
theorem encoding_only_if_listed (ae : Bytes) (cfg : Cfg) (h : chooseEncoding ae cfg ≠ []) :
    listed (chooseEncoding ae cfg) ae = true := by
  obtain ⟨sb, sg⟩ := lemma_scanAE ae none none
  rcases lemma_choose_cases ae cfg with ⟨he, _, b, hb, hq⟩ | ⟨he, _, g, hg, hq⟩ | he
  · rw [he]
    rw [hb] at sb
    rcases sb with sb | ⟨el, hel, _, h1, h2⟩
    · exact absurd sb (by simp)
    · simp only [Option.some.injEq] at h2
      exact lemma_listed_of_elem brB ae el hel h1 (by decide) (by rw [← h2]; exact hq)
  · rw [he]
    rw [hg] at sg
    rcases sg with sg | ⟨el, hel, _, h1, h2⟩
    · exact absurd sg (by simp)
    · simp only [Option.some.injEq] at h2
      exact lemma_listed_of_elem gzipB ae el hel h1 (by decide) (by rw [← h2]; exact hq)
  · exact absurd he h

theorem lemma_active_cases (cfg : Cfg) (path ae : Bytes) (h0 : Hdrs) :
    active cfg path ae h0 = [] ∨ active cfg path ae h0 = chooseEncoding ae cfg := by
  unfold active
  split
  · exact Or.inl rfl
  · split
    · exact Or.inl rfl
    · split
      · exact Or.inl rfl
      · exact Or.inr rfl

/-- An encoding is used only if the client lists it with non-zero quality: the response's
    Content-Encoding is the one of the plain run, or it is the coding `chooseEncoding` picked and
    that coding is listed (token level) in the request's Accept-Encoding -/
theorem encoding_used_only_if_listed (sn : Sniff) (cfg : Cfg) (path ae : Bytes) (h0 : Hdrs) (ops : List Op)
    (hv : ∀ o ∈ ops, OpValid o) (hD : panicMidstream ops = false) :
    hget (runWith sn cfg path ae h0 ops).resp.hdrs kCE = hget (runPlain sn h0 ops).1.resp.hdrs kCE ∨
    ∃ e, hget (runWith sn cfg path ae h0 ops).resp.hdrs kCE = some [e] ∧ listed e ae = true := by
  rcases (transparent_partial sn cfg path ae h0 ops hv hD).coding with h | h
  · exact Or.inl h
  · by_cases ha : active cfg path ae h0 = []
    · -- the middleware is not installed: the exchange is the plain one
      left
      rw [lemma_runWith_eq]
      simp [ha]
    · refine Or.inr ⟨active cfg path ae h0, h, ?_⟩
      rcases lemma_active_cases cfg path ae h0 with e | e
      · exact absurd e ha
      · rw [e] at ha ⊢
        exact encoding_only_if_listed ae cfg ha

/-- `encoding_only_if_listed` is not vacuous: odd spacing, a look-alike token and a refused coding -/
example : chooseEncoding "x-gzip, GZip ; Q=0.5 ,br;q=0".toList ⟨0, true, true, [], [], []⟩ = "gzip".toList := by
  -- the header is replaced by its characters by a lemma: left to evaluation, the kernel decodes a string literal
  -- at a cost quadratic in its length
  rewrite [String.toList_ofList]
  decide +kernel

/-! ### trailers -/

def plainTrailers (sn : Sniff) (h0 : Hdrs) (ops : List Op) : Hdrs :=
  (runOps (plainStep sn) { live := h0 } ops).1.trailersAtFinish sn false

/-- Trailers are transparent.  Every header field the plain server sends after the body arrives with
    the same value through the middleware and vice versa — whatever the encoder's output size (`wireBig`).
    Hypotheses beyond those of `transparent_partial`: the plain response declares no Content-Length (with one,
    net/http sends no trailers at all while the compressed response is chunked), and its trailers are either
    announced in `Trailer` or there is no `http.TrailerPrefix` key (the complement of open finding K15p). -/
theorem trailers_transparent_partial (sn : Sniff) (cfg : Cfg) (path ae : Bytes) (h0 : Hdrs) (ops : List Op)
    (hv : ∀ o ∈ ops, OpValid o) (hD : panicMidstream ops = false)
    (hA : hhas (runPlain sn h0 ops).1.snap kCL = false)
    (hB : announced (runPlain sn h0 ops).1.snap ≠ [] ∨
          ∀ kv ∈ (runPlain sn h0 ops).1.live, startsWith trailerPrefix kv.1 = false)
    (wireBig : Bool) (k : Bytes) :
    hget (withTrailers sn cfg path ae h0 ops wireBig) k = hget (plainTrailers sn h0 ops) k := by
  unfold withTrailers plainTrailers
  simp only
  by_cases hact : (active cfg path ae h0).isEmpty = true
  · simp only [hact, if_true]
  · simp only [hact]
    exact lemma_end_trailers sn _ _
      (lemma_run_end sn cfg _ h0 ops (mt List.isEmpty_iff.mpr hact) hv (lemma_safe_of_not_midstream ops hD)).1 hA hB wireBig k

/-! ### the code as it was shipped (witnesses of the repaired findings), and the open finding -/

/-- a stand-in for http.DetectContentType in the witnesses -/
def sn0 : Sniff := fun _ => "text/sniffed".toList
def cfg0 (minSize : Nat) : Cfg := ⟨minSize, true, true, [], [], []⟩
def pth : Bytes := "/p".toList
def gz : Bytes := "gzip".toList
def tp : Op := .setH kCT ["text/plain".toList]

/-- The `asis_*` and `open_*` witnesses below that run an exchange, evaluated together (each of them is a projection
    of this conjunction): the kernel then turns every string constant of the models
    (header names, the content types `shouldSkipContentType` knows) into characters once, not once per theorem.
    `A` is the exchange as shipped, `P` the one without the middleware. -/
theorem lemma_witnesses :
    let A := runWithAsIs sn0 (cfg0 0) pth gz
    let P := fun ops => (runPlain sn0 [] ops).1
    let twice := [tp, .writeHeader 201, .writeHeader 200, .write "x".toList]
    let flushed := [tp, .flush, .writeHeader 404, .write "x".toList]
    let late := [tp, .writeHeader 200, .setH "X-Late".toList ["v".toList], .write "x".toList]
    let own := [.setH kCE ["x-own".toList], tp, .write "data".toList]
    let mid := [tp, .write "partial".toList, .panic, .setH kCT ["application/json".toList], .writeHeader 500,
                .write "{}".toList]
    let w := (finalCWFrom sn0 (cfg0 0) gz (preBase sn0 [] [Op.writeHeader 201]) [tp, .write "hello hello hello".toList]).1
    ((A [.writeHeader 201]).resp.status = 200 ∧ (P [.writeHeader 201]).resp.status = 201) ∧
    ((A [tp, .write "hello".toList]).panicked = true ∧
      (runWithAsIs sn0 (cfg0 10) pth gz [tp, .write "tiny".toList]).panicked = true ∧
      (P [tp, .write "hello".toList]).panicked = false) ∧
    (runWithAsIs sn0 (cfg0 10) pth gz [tp, .writeHeader 200, .write "aaaa".toList, .write "bbbbbbbbbb".toList]).outs
      = [⟨4, .ok⟩, ⟨14, .ok⟩] ∧
    (hget (A [.writeHeader 200, .write "<html>".toList]).resp.hdrs kCT = none ∧
      hget (P [.writeHeader 200, .write "<html>".toList]).resp.hdrs kCT = some ["text/sniffed".toList]) ∧
    ((A twice).resp.status = 200 ∧ (P twice).resp.status = 201) ∧
    ((A flushed).resp.status = 404 ∧ (P flushed).resp.status = 200) ∧
    (hget (A late).resp.hdrs "X-Late".toList = some ["v".toList] ∧ hget (P late).resp.hdrs "X-Late".toList = none) ∧
    (A [.panic, .setH kCT ["application/json".toList], .writeHeader 500, .write "{}".toList]).decoded = none ∧
    (hget (A own).resp.hdrs kCE = some [gz] ∧ hget (P own).resp.hdrs kCE = some ["x-own".toList]) ∧
    ((respOf sn0 (finalCW sn0 (cfg0 0) gz [] mid).1 (finalCW sn0 (cfg0 0) gz [] mid).2).decoded = none ∧
      (P mid).resp.body = "partial{}".toList ∧ panicMidstream mid = true) ∧
    (w.unlabelled sn0 = true ∧ hget (w.base.finish sn0).resp.hdrs kCE = none ∧ (w.base.finish sn0).resp.status = 201 ∧
      w.plain = "hello hello hello".toList ∧
      (runPlainFrom sn0 [] [Op.writeHeader 201] [tp, .write "hello hello hello".toList]).1.resp.body
        = "hello hello hello".toList ∧
      preCommits [Op.writeHeader 201] = true) := by
  -- the two long literals by `String.toList_ofList`, as above; for the short ones the rewrite costs more than it saves
  rewrite [(String.toList_ofList : "hello hello hello".toList = _), (String.toList_ofList : "application/json".toList = _)]
  decide +kernel

/-- K15a as shipped: `c.Status(201)` alone came out as 200 -/
theorem asis_status_only_lost :
    (runWithAsIs sn0 (cfg0 0) pth gz [.writeHeader 201]).resp.status = 200 ∧
    (runPlain sn0 [] [.writeHeader 201]).1.resp.status = 201 := lemma_witnesses.1

/-- K15b as shipped: a Write without WriteHeader panicked (status 0) -/
theorem asis_bare_write_panics :
    (runWithAsIs sn0 (cfg0 0) pth gz [tp, .write "hello".toList]).panicked = true ∧
    (runWithAsIs sn0 (cfg0 10) pth gz [tp, .write "tiny".toList]).panicked = true ∧
    (runPlain sn0 [] [tp, .write "hello".toList]).1.panicked = false := lemma_witnesses.2.1

/-- K15c as shipped: minimum size 10, writes of 4 then 10 bytes: the second Write returned 14 -/
theorem asis_write_returns_too_much :
    (runWithAsIs sn0 (cfg0 10) pth gz [tp, .writeHeader 200, .write "aaaa".toList, .write "bbbbbbbbbb".toList]).outs
      = [⟨4, .ok⟩, ⟨14, .ok⟩] := lemma_witnesses.2.2.1

/-- K15d as shipped: the compressed response had no Content-Type, the plain one a sniffed one -/
theorem asis_no_sniffed_type :
    hget (runWithAsIs sn0 (cfg0 0) pth gz [.writeHeader 200, .write "<html>".toList]).resp.hdrs kCT = none ∧
    hget (runPlain sn0 [] [.writeHeader 200, .write "<html>".toList]).1.resp.hdrs kCT = some ["text/sniffed".toList] :=
  lemma_witnesses.2.2.2.1

/-- K15e as shipped: `x-gzip` selected gzip although the client does not list gzip -/
theorem asis_substring_match :
    chooseEncodingAsIs "x-gzip".toList (cfg0 0) = gz ∧ listed gz "x-gzip".toList = false ∧
    chooseEncodingAsIs "brotli".toList (cfg0 0) = "br".toList ∧ listed "br".toList "brotli".toList = false := by
  decide +kernel

/-- K15g as shipped: a later WriteHeader replaced the recorded status -/
theorem asis_second_writeHeader_wins :
    (runWithAsIs sn0 (cfg0 0) pth gz [tp, .writeHeader 201, .writeHeader 200, .write "x".toList]).resp.status = 200 ∧
    (runPlain sn0 [] [tp, .writeHeader 201, .writeHeader 200, .write "x".toList]).1.resp.status = 201 := lemma_witnesses.2.2.2.2.1

/-- K15h as shipped: the handler could not Flush, so `Flush; WriteHeader(404)` answered 404, not 200 -/
theorem asis_flush_hidden :
    (runWithAsIs sn0 (cfg0 0) pth gz [tp, .flush, .writeHeader 404, .write "x".toList]).resp.status = 404 ∧
    (runPlain sn0 [] [tp, .flush, .writeHeader 404, .write "x".toList]).1.resp.status = 200 := lemma_witnesses.2.2.2.2.2.1

/-- K15k as shipped: a header set after WriteHeader leaked into the response -/
theorem asis_late_header_leaks :
    hget (runWithAsIs sn0 (cfg0 0) pth gz [tp, .writeHeader 200, .setH "X-Late".toList ["v".toList], .write "x".toList]).resp.hdrs
      "X-Late".toList = some ["v".toList] ∧
    hget (runPlain sn0 [] [tp, .writeHeader 200, .setH "X-Late".toList ["v".toList], .write "x".toList]).1.resp.hdrs
      "X-Late".toList = none := lemma_witnesses.2.2.2.2.2.2.1

/-- K15f as shipped: a handler panic behind recovery left an unfinished stream (undecodable body) -/
theorem asis_panic_truncates :
    (runWithAsIs sn0 (cfg0 0) pth gz [.panic, .setH kCT ["application/json".toList], .writeHeader 500, .write "{}".toList]).decoded
      = none := lemma_witnesses.2.2.2.2.2.2.2.1

/-- K15j as shipped: a response the handler encoded itself was encoded again and relabelled -/
theorem asis_double_encoding :
    hget (runWithAsIs sn0 (cfg0 0) pth gz [.setH kCE ["x-own".toList], tp, .write "data".toList]).resp.hdrs kCE
      = some [gz] ∧
    hget (runPlain sn0 [] [.setH kCE ["x-own".toList], tp, .write "data".toList]).1.resp.hdrs kCE
      = some ["x-own".toList] := lemma_witnesses.2.2.2.2.2.2.2.2.1

/-- K15m, open: the code as it is now, handler writes then panics behind recovery — the body no
    longer decodes (the plain run delivers `partial{}`); the program is in the class `panicMidstream` -/
theorem open_panic_midstream_witness :
    let ops := [tp, .write "partial".toList, .panic, .setH kCT ["application/json".toList], .writeHeader 500,
                .write "{}".toList]
    (respOf sn0 (finalCW sn0 (cfg0 0) gz [] ops).1 (finalCW sn0 (cfg0 0) gz [] ops).2).decoded = none ∧
    (runPlain sn0 [] ops).1.resp.body = "partial{}".toList ∧ panicMidstream ops = true :=
  lemma_witnesses.2.2.2.2.2.2.2.2.2.1

/-- the hypotheses of `trailers_transparent_partial` are met by a program that announces a trailer, writes a body
    that is held back and sets the trailer afterwards (and the trailer does arrive: the statement is not about
    empty lists) -/
example :
    let ops := [Op.setH kTrailer ["X-T".toList], .write "body".toList, .setH "X-T".toList ["late".toList]]
    hhas (runPlain sn0 [] ops).1.snap kCL = false ∧ announced (runPlain sn0 [] ops).1.snap ≠ [] ∧
    hget (plainTrailers sn0 [] ops) "X-T".toList = some ["late".toList] := by decide +kernel

/-! ### option handling (`defaultConfig`, the `With…` options, `New`'s fold) -/

/-- whatever options are given, in whatever order, the brotli encoder pool is asked for a level the encoder
    accepts (`WithBrotliLevel` clamps, the default is 4) -/
theorem options_brotli_level_valid (opts : List Opt) :
    0 ≤ (config opts).brotliLevel ∧ (config opts).brotliLevel ≤ 11 :=
  List.foldlRecOn (motive := fun c : Config => 0 ≤ c.brotliLevel ∧ c.brotliLevel ≤ 11) opts _ (by decide) fun c h o _ => by
    cases o <;> simp only [applyOpt] <;> first | exact h | omega

theorem lemma_fold_flags (opts : List Opt) (c : Config) :
    (opts.foldl applyOpt c).enableGzip = (c.enableGzip && !opts.contains .gzipDisabled) ∧
    (opts.foldl applyOpt c).enableBrotli = (c.enableBrotli && !opts.contains .brotliDisabled) := by
  induction opts generalizing c with
  | nil => simp
  | cons o os ih =>
    rw [List.foldl_cons, (ih _).1, (ih _).2]
    cases o <;> simp [applyOpt]

/-- a coding is enabled iff its `With…Disabled` option does not occur — no option switches a coding back on,
    and no other option touches the flags (position and repetition do not matter) -/
theorem options_codings (opts : List Opt) :
    (config opts).enableGzip = !opts.contains .gzipDisabled ∧
    (config opts).enableBrotli = !opts.contains .brotliDisabled := by
  simpa [config, defaultConfig] using lemma_fold_flags opts defaultConfig

theorem lemma_fold_paths (opts : List Opt) (c : Config) (p : Bytes) :
    p ∈ (opts.foldl applyOpt c).exclPaths ↔ p ∈ c.exclPaths ∨ ∃ l, Opt.exclPaths l ∈ opts ∧ p ∈ l := by
  induction opts generalizing c with
  | nil => simp
  | cons o os ih =>
    rw [List.foldl_cons, ih]
    cases o <;> simp [applyOpt, or_assoc]

/-- the excluded paths are exactly the union of all `WithExcludePaths` arguments -/
theorem options_excluded_paths (opts : List Opt) (p : Bytes) :
    p ∈ (config opts).exclPaths ↔ ∃ l, Opt.exclPaths l ∈ opts ∧ p ∈ l := by
  simpa [config, defaultConfig] using lemma_fold_paths opts defaultConfig p

theorem lemma_choose_enabled (ae : Bytes) (cfg : Cfg) :
    (chooseEncoding ae cfg = brB → cfg.br = true) ∧ (chooseEncoding ae cfg = gzipB → cfg.gzip = true) := by
  rcases lemma_choose_cases ae cfg with ⟨he, hb, _⟩ | ⟨he, hg, _⟩ | he <;> rw [he]
  · exact ⟨fun _ => hb, fun h => absurd h (by decide)⟩
  · exact ⟨fun h => absurd h (by decide), fun _ => hg⟩
  · exact ⟨fun h => absurd h (by decide), fun h => absurd h (by decide)⟩

/-- a disabled coding is never chosen, whatever the client sends and whatever else is configured -/
theorem options_disabled_never_used (opts : List Opt) (ae : Bytes) :
    (opts.contains .brotliDisabled = true → chooseEncoding ae (config opts).toCfg ≠ brB) ∧
    (opts.contains .gzipDisabled = true → chooseEncoding ae (config opts).toCfg ≠ gzipB) := by
  have hc := options_codings opts
  constructor
  · intro h e
    have := (lemma_choose_enabled ae _).1 e
    simp only [Config.toCfg, hc.2, h] at this
    exact absurd this (by decide)
  · intro h e
    have := (lemma_choose_enabled ae _).2 e
    simp only [Config.toCfg, hc.1, h] at this
    exact absurd this (by decide)

/-- transparency for every list of options, in the order `New` applies them: `transparent` instantiated
    with the configuration the fold produces -/
theorem transparent_for_options (sn : Sniff) (opts : List Opt) (path ae : Bytes) (h0 : Hdrs) (ops : List Op)
    (hv : ∀ o ∈ ops, OpValid o) (hnp : ops.any isPanicOp = false) :
    Transparent (active (config opts).toCfg path ae h0) (runWith sn (config opts).toCfg path ae h0 ops)
      (runPlain sn h0 ops) :=
  transparent sn (config opts).toCfg path ae h0 ops hv hnp

/-- non-vacuity: repeated, overridden and clamped options; the last threshold wins, a negative one is no threshold -/
example :
    config [.minSize 100, .brotliLevel 15, .exclPaths ["/a".toList], .gzipDisabled, .minSize (-5), .exclPaths ["/b".toList], .logger]
      = { gzipLevel := -1, brotliLevel := 11, minSize := -5, enableGzip := false, enableBrotli := true,
          exclPaths := ["/a".toList, "/b".toList], exclExts := [], exclCT := [] } ∧
    (config [.minSize 100, .minSize (-5)]).toCfg.minSize = 0 ∧
    (config [.gzipDisabled, .brotliLevel 3]).toCfg.gzip = false := by decide +kernel

/-! ### a middleware in front that uses the writer first (open finding K15r) -/

theorem runWithFrom_nil (sn : Sniff) (cfg : Cfg) (path ae : Bytes) (h0 : Hdrs) (ops : List Op) :
    runWithFrom sn cfg path ae h0 [] ops = runWith sn cfg path ae h0 ops := rfl

theorem lemma_preBase (sn : Sniff) (h0 : Hdrs) (pre : List Op) (hp : preCommits pre = false) :
    ∃ h, preBase sn h0 pre = { live := h } := by
  refine lemma_runOps_inv (plainStep sn) (fun b => ∃ h, b = { live := h }) (fun o => preCommits [o] = false) ?_ pre _
    (fun o ho => ?_) ⟨h0, rfl⟩
  · rintro _ o hq ⟨h, rfl⟩
    cases o with
    | setH k vs => exact ⟨_, rfl⟩
    | delH k => exact ⟨_, rfl⟩
    | writeHeader c =>
      have hi : informational c = true := by simpa [preCommits] using hq
      have hvc : validCode c = true := by
        simp only [informational, validCode, Bool.and_eq_true, decide_eq_true_eq] at hi ⊢
        omega
      exact ⟨h, by simp [plainStep, Base.writeHeader, hi, hvc]⟩
    | _ => simp [preCommits] at hq
  · simp only [preCommits, List.any_cons, List.any_nil, Bool.or_false]
    simpa using List.any_eq_false.mp hp o ho

/-- C15 behind a middleware that only prepares headers / sends informational responses: as long as the middleware in
    front has not committed the response (`preCommits pre = false`), the exchange is transparent — `transparent` on the
    header map that middleware leaves behind. Partial: excludes the class of the open finding K15r. -/
theorem transparent_after_prelude_partial (sn : Sniff) (cfg : Cfg) (path ae : Bytes) (h0 : Hdrs) (pre ops : List Op)
    (hp : preCommits pre = false) (hv : ∀ o ∈ ops, OpValid o) (hnp : ops.any isPanicOp = false) :
    ∃ h, preBase sn h0 pre = { live := h } ∧
      runWithFrom sn cfg path ae h0 pre ops = runWith sn cfg path ae h ops ∧
      Transparent (active cfg path ae h) (runWith sn cfg path ae h ops) (runPlain sn h ops) := by
  obtain ⟨h, hh⟩ := lemma_preBase sn h0 pre hp
  refine ⟨h, hh, ?_, transparent sn cfg path ae h ops hv hnp⟩
  unfold runWithFrom runPlainFrom finalCWFrom
  simp only [hh]
  rfl

/-- K15r, open: a middleware in front sets the status before the chain goes on (`c.Status(201)`); the handler then writes
    text; the middleware compresses it — and the header block, committed before Content-Encoding was set, does not
    announce the coding. The prelude is in the class `preCommits`. -/
theorem open_pre_committed_witness :
    let pre := [Op.writeHeader 201]
    let ops := [tp, .write "hello hello hello".toList]
    let w := (finalCWFrom sn0 (cfg0 0) gz (preBase sn0 [] pre) ops).1
    w.unlabelled sn0 = true ∧ hget (w.base.finish sn0).resp.hdrs kCE = none ∧ (w.base.finish sn0).resp.status = 201 ∧
    w.plain = "hello hello hello".toList ∧
    (runPlainFrom sn0 [] pre ops).1.resp.body = "hello hello hello".toList ∧ preCommits pre = true :=
  lemma_witnesses.2.2.2.2.2.2.2.2.2.2

/-- non-vacuity of `transparent_after_prelude_partial`: headers and an Early Hints response in front -/
example : preCommits [Op.setH "Link".toList ["</s.css>; rel=preload".toList], .writeHeader 103, .delH "X-Tmp".toList] = false := by
  decide

end Rivaas.C15
