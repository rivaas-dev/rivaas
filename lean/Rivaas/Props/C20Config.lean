import Rivaas.Spec.LogConfig
import Rivaas.Lemmas.ListCore
/-
C20 — construction and acceptance (`Model/LogConfig.lean`): option handling and which calls level and sampling accept
(the notion the buffering half quantifies over) agree with the oracle of `Spec/LogConfig.lean` (`specInfo`,
`specAccepted`); what `Validate` lets through is read off the fields of the configuration (`newRes_ok_iff`), not compared
with the oracle's `specValid`.
-/
namespace Rivaas.C20
open Rivaas.LogConfig

theorem foldl_last {α β σ : Type} (step : σ → α → σ) (π : σ → β) (sel : α → Option β)
    (hstep : ∀ c o, π (step c o) = (sel o).getD (π c)) (l : List α) (c : σ) :
    π (l.foldl step c) = (l.reverse.findSome? sel).getD (π c) :=
  (List.foldl_hom π fun c o => (hstep c o).symm).symm.trans (List.foldl_getD sel l (π c))

theorem lemma_fold_level (opts : List Opt) (c : Cfg) :
    (opts.foldl apply c).level = (opts.reverse.findSome? fun o => match o with
      | .level l => some l | .debugLevel => some 0 | .debugMode true => some 0 | _ => none).getD c.level :=
  foldl_last apply (·.level) _ (fun c o => by cases o with | debugMode b => cases b <;> rfl | _ => rfl) opts c

theorem lemma_fold_source (opts : List Opt) (c : Cfg) :
    (opts.foldl apply c).addSource = (opts.reverse.findSome? fun o => match o with
      | .source b => some b | .debugMode true => some true | _ => none).getD c.addSource :=
  foldl_last apply (·.addSource) _ (fun c o => by cases o with | debugMode b => cases b <;> rfl | _ => rfl) opts c

theorem lemma_fold_debug (opts : List Opt) (c : Cfg) :
    (opts.foldl apply c).debugMode = (opts.reverse.findSome? fun o => match o with
      | .debugMode b => some b | _ => none).getD c.debugMode :=
  foldl_last apply (·.debugMode) _ (fun c o => by cases o with | debugMode b => cases b <;> rfl | _ => rfl) opts c

/-- option handling: for every list of options the constructed Logger has the level, source flag and debug flag the
    last relevant option asks for (`WithDebugMode(true)` counts as `WithSource(true)` and `WithDebugLevel()`) -/
theorem options_last_one_wins (opts : List Opt) :
    ({ level := (configure opts).level, addSource := (configure opts).addSource,
       debugMode := (configure opts).debugMode } : Info) = specInfo opts := by
  simp only [configure, specInfo, specLevel, lemma_fold_level, lemma_fold_source, lemma_fold_debug]
  rfl

theorem lemma_sampling (opts : List Opt) : (configure opts).sampling = specSampling opts := by
  have h := foldl_last apply (·.sampling) (fun o => match o with | .sampling i t => some (some (i, t)) | _ => none)
    (fun c o => by cases o with | debugMode b => cases b <;> rfl | _ => rfl) opts {}
  rw [configure, h, specSampling]
  -- the selector above is `some ∘ f` for the oracle's `f`; `findSome? (some ∘ f)` read with `getD none` is `findSome? f`
  induction opts.reverse with
  | nil => rfl
  | cons o rest ih => cases o with | sampling i t => rfl | _ => exact ih

/-- one log call: the step of `Logger.log` is the oracle's reading of that call -/
theorem lemma_step_log (c : Cfg) (level count : Nat) (down : Bool) (lvl : Nat) :
    stepCall c { level := level, count := count, down := down } (.log lvl) =
      let enabled := !down && decide (level ≤ lvl)
      let seen' := if (enabled && decide (lvl < 3) && c.sampling.isSome) then count + 1 else count
      ({ level := level, count := seen', down := down },
       some (enabled && match c.sampling with
         | none => true
         | some (i, t) => decide (3 ≤ lvl) || decide ((seen' : Int) ≤ i) || t == 0 || ((seen' : Int) - i) % t == 0)) := by
  -- the branches of `Logger.log`: shut down; below the level; an error (never sampled); no sampler; sampled. In each
  -- the tests are decided and both sides evaluate to the same state and verdict
  cases down with
  | true => rfl
  | false =>
    by_cases hl : lvl < level
    · simp [stepCall, hl, Nat.not_le.mpr hl]
    · by_cases h3 : 3 ≤ lvl
      · cases hs : c.sampling <;> simp [stepCall, hl, Nat.le_of_not_lt hl, h3, Nat.not_lt.mpr h3]
      · cases hs : c.sampling with
        | none => simp [stepCall, hl, Nat.le_of_not_lt hl, h3, hs]
        | some it =>
          obtain ⟨i, t⟩ := it
          simp [stepCall, hl, Nat.le_of_not_lt hl, h3, Nat.lt_of_not_le h3, hs, samplePass, Bool.or_assoc]
          rfl

theorem lemma_run_eq_spec (c : Cfg) (calls : List Call) (level count : Nat) (down : Bool) :
    runCalls c { level := level, count := count, down := down } calls = specGo c.sampling level count down calls := by
  induction calls generalizing level count down with
  | nil => rfl
  | cons x rest ih =>
    cases x with
    | setLevel l => exact ih l count down
    | shutdown => exact ih level count true
    | log lvl =>
      rw [runCalls, lemma_step_log]
      exact congrArg _ (ih ..)

/-- acceptance (model = oracle): for every option list and every history of level-method calls, `SetLevel` and
    `Shutdown`, the calls that go on to the handler are exactly those the documentation promises -/
theorem accepted_eq_spec (opts : List Opt) (calls : List Call) : accepted opts calls = specAccepted opts calls := by
  simp only [accepted, specAccepted]
  rw [lemma_run_eq_spec, lemma_sampling]
  congr 1
  simp only [configure, specLevel, lemma_fold_level]
  rfl

/-- errors are never sampled out and do not advance the sampling counter -/
theorem errors_bypass_sampling (c : Cfg) (st : ASt) (lvl : Nat) (h3 : lvl ≥ 3) (hup : st.down = false)
    (hl : st.level ≤ lvl) : stepCall c st (.log lvl) = (st, some true) := by
  have : ¬ lvl < st.level := by omega
  simp [stepCall, hup, this, h3]

/-- the first `Initial` sampled calls all pass; with `Thereafter = 0` every call passes; after the first `Initial`
    ones exactly every `Thereafter`-th passes -/
theorem sampling_schedule (i t : Int) (n : Nat) :
    ((n : Int) ≤ i → samplePass (some (i, t)) n = true) ∧
    (t = 0 → samplePass (some (i, t)) n = true) ∧
    (¬ (n : Int) ≤ i → t ≠ 0 → samplePass (some (i, t)) n = (((n : Int) - i) % t == 0)) := by
  refine ⟨fun h => by simp [samplePass, h], fun h => by simp [samplePass, h], fun h1 h2 => ?_⟩
  have : (t == 0) = false := by simpa using h2
  simp [samplePass, h1, this]

/-- a shut-down Logger accepts nothing through its level methods; a call below the level in force is not accepted -/
theorem nothing_accepted_after_shutdown (c : Cfg) (st : ASt) (lvl : Nat) (h : st.down = true) :
    stepCall c st (.log lvl) = (st, some false) := by
  simp [stepCall, h]

/-- `Validate` and `initialize` let a configuration through iff none of their four tests fires -/
theorem newRes_ok_iff (c : Cfg) :
    newRes c = .ok ↔ (c.outputNil = false ∧ ¬ (c.useCustom = true ∧ c.customNil = true) ∧
      (∀ i t, c.sampling = some (i, t) → 0 ≤ i ∧ 0 ≤ t) ∧ (c.useCustom = false → c.handler ≤ 2)) := by
  have h2 : ¬ (c.useCustom = true ∧ c.customNil = true) ↔ (c.useCustom && c.customNil) = false := by simp
  have h3 : (∀ i t, c.sampling = some (i, t) → 0 ≤ i ∧ 0 ≤ t) ↔
      (match c.sampling with | some (i, t) => decide (i < 0) || decide (t < 0) | none => false) = false := by
    cases c.sampling with
    | none => simp
    | some it => obtain ⟨i, t⟩ := it; simp [Int.not_lt]
  have h4 : (c.useCustom = false → c.handler ≤ 2) ↔ (!c.useCustom && decide (c.handler > 2)) = false := by
    cases c.useCustom <;> simp [Nat.not_lt]
  have tests : ∀ b1 b2 b3 b4 : Bool,
      (if b1 then NewRes.invalid else if b2 then .invalid else if b3 then .invalid else if b4 then .badHandler else .ok) = .ok ↔
        b1 = false ∧ b2 = false ∧ b3 = false ∧ b4 = false := by decide
  rw [h2, h3, h4]
  exact tests _ _ _ _

/-- `New` rejects a nil output, a nil custom logger, negative sampling values and an unknown handler type — for every
    option list, and accepts everything else -/
theorem new_rejects_exactly_invalid (opts : List Opt) :
    let c := configure opts
    (newRes c = .ok ↔ (c.outputNil = false ∧ ¬ (c.useCustom = true ∧ c.customNil = true) ∧
      (∀ i t, c.sampling = some (i, t) → 0 ≤ i ∧ 0 ≤ t) ∧ (c.useCustom = false → c.handler ≤ 2))) :=
  newRes_ok_iff _

/-! non-vacuity / witnesses -/
example : accepted [.sampling 2 3, .level 0] [.log 1, .log 1, .log 1, .log 3, .log 1, .log 1, .log 0, .shutdown, .log 3] =
    [true, true, false, true, false, true, false, false] := by decide
example : (configure [.debugMode true, .level 2, .debugMode false]).level = 2 ∧
    (configure [.debugMode true, .level 2, .debugMode false]).addSource = true := by decide
example : newRes (configure [.sampling (-1) 0]) = .invalid ∧ newRes (configure [.handler 7]) = .badHandler ∧
    newRes (configure [.handler 7, .custom false]) = .ok := by decide

end Rivaas.C20
