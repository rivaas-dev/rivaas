import Rivaas.Model.BindBody
import Rivaas.Spec.BindBody
import Rivaas.Lemmas.BindVal
/-
C04 — the body side of binding (JSON / XML entry points, body sources of Bind / BindTo,
app.Context.Bind: the dispatch on the content type, and which container a form or multipart request is bound
from, `app_form_source`) and registered converters. Property theorems over `Model/BindBody.lean`.
-/
namespace Rivaas.C04
open Rivaas Rivaas.Bind

def toBObs : BOut → Spec.BObs
  | .ok v => .ok v
  | .err e => .err e
  | .panic => .panic

/-- **Reader and byte entry points agree.** A reader that ends with EOF is bound exactly as the byte
    slice of what it delivers — for JSON under every unknown-field policy, and for XML. -/
theorem body_reader_eq_bytes (r : BodyReq) (h : r.readFails = 0) :
    decodeBody { r with reader := true } = decodeBody { r with reader := false } := by
  simp [decodeBody, h]

theorem isOkWith_self (v : Val) : Spec.isOkWith v (.ok v) = true := by
  simp [Spec.isOkWith]

theorem isErrWith_self (e : BErr) : Spec.isErrWith e (.error e) = true := by
  simp [Spec.isErrWith]

/-- the policy part of `decodeBody` (no reader involved) -/
def byPolicy (r : BodyReq) : Except BErr Val :=
  match r.fmt, r.policy with
  | .xml, _ => r.doc.lax.out
  | .json, .ignore => r.doc.lax.out
  | .json, .warn => if r.doc.object then r.doc.lax.out else .error .decode
  | .json, .error => r.doc.strict.out

theorem dec_out_eq (d : Dec) : d.out = Spec.decOut d := by cases d <;> rfl

theorem byPolicy_admissible (r : BodyReq) (hr : r.reader = false ∨ r.readFails ≠ 1) :
    byPolicy r ∈ Spec.admissible r := by
  have hmem : byPolicy r ∈ (match r.fmt, r.policy with
      | .json, .error => [Spec.decOut r.doc.strict]
      | .json, .warn => if r.doc.object then [Spec.decOut r.doc.lax] else [Spec.decOut r.doc.lax, .error .decode]
      | _, _ => [Spec.decOut r.doc.lax] : List (Except BErr Val)) := by
    -- arm by arm, the result is the element the oracle lists first; only a non-object under `warn` yields the second
    unfold byPolicy
    rw [dec_out_eq, dec_out_eq]
    cases r.fmt with
    | xml => cases r.policy <;> exact List.mem_cons_self
    | json =>
      cases r.policy with
      | ignore => exact List.mem_cons_self
      | error => exact List.mem_cons_self
      | warn =>
        cases r.doc.object with
        | true => exact List.mem_cons_self
        | false => exact List.mem_cons_of_mem _ List.mem_cons_self
  unfold Spec.admissible
  simp only []
  by_cases h0 : (!r.reader || r.readFails == 0) = true
  · simp only [h0, if_true]; exact hmem
  · simp only [h0, Bool.false_eq_true, if_false]
    have h1 : (r.readFails == 1) = false := by
      cases hr with
      | inl h => simp [h] at h0
      | inr h => simpa using h
    simp only [h1, Bool.false_eq_true, if_false]
    exact List.mem_cons_of_mem _ hmem

theorem decodeBody_mem_admissible (r : BodyReq) : decodeBody r ∈ Spec.admissible r := by
  unfold decodeBody
  simp only []
  by_cases hc : (r.reader && (r.readFails == 1 || (r.readFails == 2 && (r.fmt == .json && r.policy != .ignore)))) = true
  · -- the reader fails before the decoder is through (`readFails` 1, or 2 where the whole body is read first): in both
    -- cases the oracle lists the read error first
    rw [if_pos hc]
    simp only [Bool.and_eq_true, Bool.or_eq_true, beq_iff_eq] at hc
    obtain ⟨hrd, h1 | ⟨h2, _⟩⟩ := hc
    · simp [Spec.admissible, hrd, h1]
    · simp [Spec.admissible, hrd, h2]
  · -- otherwise the decoder's answer under the policy, which the oracle lists unless the document never arrived
    rw [if_neg hc]
    show byPolicy r ∈ Spec.admissible r
    apply byPolicy_admissible
    by_cases hrd : r.reader = true
    · right
      intro h1
      simp [hrd, h1] at hc
    · left; simpa using hrd

/-- **The body entry points meet the oracle.** What JSON / JSONTo / JSONReader / JSONReaderTo / XML… and
    the Binder's forms return for a document — under every policy, for a reader that works, fails inside
    the document or fails after it — is an outcome `Spec.specBody` admits: the decoder's value of *this*
    document, an UnknownFieldError exactly when the strict decoder reports one, the reader's error
    when the document did not arrive. -/
theorem body_meets_spec (r : BodyReq) : Spec.specBody r (toBObs (bindBody r)) = true := by
  unfold bindBody
  cases hd : decodeBody r with
  | ok dv =>
    simp only [toBObs, Spec.specBody]
    exact List.any_eq_true.mpr ⟨_, hd ▸ decodeBody_mem_admissible r, isOkWith_self dv⟩
  | error e =>
    simp only [toBObs, Spec.specBody]
    exact List.any_eq_true.mpr ⟨_, hd ▸ decodeBody_mem_admissible r, isErrWith_self e⟩

/-- **Strict mode.** Under `UnknownError` (WithStrictJSON, app.WithStrict) a JSON document with a field
    the destination does not have is refused with that field's name, whatever else the document holds. -/
theorem body_strict_rejects_unknown (r : BodyReq) (n : Bytes) (hf : r.fmt = .json) (hp : r.policy = .error)
    (hs : r.doc.strict = .unknown n) (hr : r.reader = false ∨ r.readFails = 0) :
    decodeBody r = .error (.unknown n) := by
  unfold decodeBody
  cases hr with
  | inl h => simp [h, hf, hp, hs, Dec.out]
  | inr h => simp [h, hf, hp, hs, Dec.out]

/-- a single body source binds what the decoder returns and nothing else -/
theorem bindSteps_body_only (P : Params) (cfg : Cfg) (fs : List Fld) (init : Val) (r : BodyReq) :
    bindSteps P cfg fs init [.body r] =
      match decodeBody r with
      | .ok dv => .ok (mergeDec init dv init)
      | .error e => .err e := by
  simp only [bindSteps, List.filterMap, Step.src?, List.isEmpty_cons, Bool.false_eq_true, if_false, List.length_nil,
    Nat.zero_le, if_true, runSteps]
  cases decodeBody r <;> rfl

theorem mergeVals_self : ∀ (is js : List Val), is.length = js.length → mergeVals is js is = js
  | [], [], _ => rfl
  | i :: is, j :: js, h => by
    have hl : is.length = js.length := by simpa using h
    simp only [mergeVals, mergeVals_self is js hl]
    by_cases hji : j = i
    · simp [hji]
    · have : (j == i) = false := by simpa using hji
      simp [this]
  | [], _ :: _, h => by simp at h
  | _ :: _, [], h => by simp at h

/-- **The Content-Type dispatch** reads the media type only: case, surrounding blanks and parameters do
    not matter; an absent Content-Type means JSON; anything else is refused rather than guessed. -/
theorem classifyCT_examples :
    classifyCT (B "application/json") = .json ∧
    classifyCT (B "application/json; charset=utf-8") = .json ∧
    classifyCT (B "APPLICATION/JSON") = .json ∧
    classifyCT (B " application/json ;x=y") = .json ∧
    classifyCT (B "") = .json ∧
    classifyCT (B "application/merge-patch+json") = .json ∧
    classifyCT (B "application/x-www-form-urlencoded") = .form ∧
    classifyCT (B "Application/X-WWW-Form-Urlencoded; charset=UTF-8") = .form ∧
    classifyCT (B "text/plain") = .other ∧
    classifyCT (B "application/jsonx") = .other ∧
    classifyCT (B "application/xml") = .other := by
  -- the kernel evaluates `String.toList` slowly; a literal is `String.ofList` of its characters, so rewrite instead
  unfold classifyCT
  repeat rw [B_ofList]
  decide +kernel

/-- the request a context's bind decodes: document `d` of the case under the bind's policy -/
def appReq (h : Http) (strict : Bool) (d : Nat) : BodyReq :=
  { fmt := .json, policy := if strict then .error else .ignore, reader := false, readFails := 0, doc := h.docs.getD d default }

/-- **A context remembers the body it has read.** A bind on a context that has read document `d` decodes
    `d` again, whatever the request body holds now … -/
theorem app_bind_remembers (P : Params) (fs : List Fld) (init v : Val) (h : Http) (strict : Bool) (st : CtxState) (c d : Nat)
    (hp : bindMulti P Cfg.default fs init h.params = .ok v) (hb : h.bodyTags = true) (hct : classifyCT h.ctype = .json)
    (hcur : st.cur = some c) (hcache : st.cached = some d) :
    (appBind P fs init h strict st).last =
      match decodeBody (appReq h strict d) with
      | .ok dv => .ok (mergeDec init dv v)
      | .error e => .err e := by
  simp only [appBind, hp, hb, hct, hcur, hcache, Option.getD_some, Bool.not_true, Bool.false_eq_true, if_false, appReq]
  cases decodeBody _ <;> rfl

/-- … **and `ResetBinding` makes it forget**: the next bind decodes the body the request holds at that
    moment (the document a handler or an earlier hook put there), not the one read before. -/
theorem app_reset_then_bind (P : Params) (fs : List Fld) (init v : Val) (h : Http) (strict : Bool) (st : CtxState) (c : Nat)
    (hp : bindMulti P Cfg.default fs init h.params = .ok v) (hb : h.bodyTags = true) (hct : classifyCT h.ctype = .json)
    (hcur : st.cur = some c) :
    (appBind P fs init h strict (appStep P fs init h st .reset)).last =
      match decodeBody (appReq h strict c) with
      | .ok dv => .ok (mergeDec init dv v)
      | .error e => .err e := by
  simp only [appStep, appBind, hp, hb, hct, hcur, Option.getD_none, Bool.not_true, Bool.false_eq_true, if_false, appReq]
  cases decodeBody _ <;> rfl

/-- a Content-Type that is neither JSON nor a form is refused, never guessed -/
theorem app_unsupported_ctype (P : Params) (fs : List Fld) (init v : Val) (h : Http) (strict : Bool) (st : CtxState)
    (hp : bindMulti P Cfg.default fs init h.params = .ok v) (hb : h.bodyTags = true) (hct : classifyCT h.ctype = .other) :
    (appBind P fs init h strict st).last = .err .ctype := by
  simp [appBind, hp, hb, hct]

/-- **bindForm binds from the container its own test of the raw header selects**: `MultipartForm.Value` - the
    fields of the multipart body alone - exactly when the raw Content-Type starts with `multipart/form-data`,
    `Request.Form` otherwise (also for a multipart type written in another case, which the dispatch accepts). -/
theorem app_form_source (h : Http) :
    (hasPrefix h.ctype (B "multipart/form-data") = true → formSrc h = h.mform.getD { kind := .form, kvs := [] }) ∧
    (hasPrefix h.ctype (B "multipart/form-data") = false → formSrc h = h.form) := by
  constructor <;> intro hp <;> simp [formSrc, hp]

theorem app_form_source_examples :
    (formSrc { ctype := B "multipart/form-data; boundary=x", params := [], form := { kind := .form, kvs := [(B "a", [B "url", B "body"])] },
               mform := some { kind := .form, kvs := [(B "a", [B "body"])] }, docs := [], bodyTags := true }).kvs = [(B "a", [B "body"])] ∧
    (formSrc { ctype := B "Multipart/Form-Data; boundary=x", params := [], form := { kind := .form, kvs := [(B "a", [B "url"])] },
               mform := none, docs := [], bodyTags := true }).kvs = [(B "a", [B "url"])] ∧
    classifyCT (B "multipart/form-data; boundary=x") = .multipart ∧ classifyCT (B "Multipart/Form-Data; boundary=x") = .multipart := by
  unfold classifyCT formSrc
  repeat rw [B_ofList]
  decide +kernel

/-! ## registered converters -/

/-- **A registered converter decides alone.** For a leaf type with a converter in force (the Binder's,
    or the per-call one that replaces it) the bound value is the converter's result and its refusal is
    the bind's refusal; the built-in parsing of that type plays no part. Leaf types without a converter
    are converted as before (`conv_meets_denote` covers both). -/
theorem converter_decides (P : Params) (cfg : Cfg) (k c : Nat) (s : Bytes) (h : cfg.convs.lookup k = some c) :
    convPrim P cfg (.opq k) s = ((P s).c.lookup c).map .time := by
  simp [convPrim, h]

theorem converter_decides_time (P : Params) (cfg : Cfg) (c : Nat) (s : Bytes) (h : cfg.convs.lookup timeKey = some c) :
    convPrim P cfg .time s = ((P s).c.lookup c).map .time := by
  simp [convPrim, h]

/-- defaults computed once per type are converted without any converter (parseStructType uses the default
    configuration): the built-in parsing -/
theorem default_cfg_has_no_converter (P : Params) (k : Nat) (s : Bytes) :
    convPrim P Cfg.default (.opq k) s = ((P s).o.lookup k).map .time := by
  simp [convPrim, Cfg.default]

end Rivaas.C04
