import Rivaas.Spec.Log
import Rivaas.Lemmas.LogBuf
/-
C20 — logs (package `logging` of /repo) are redacted and not lost.

Part 1: redaction (`Model/Log.lean`), for every handler type, every user replacer, every derivation
chain (`With` / `WithGroup` in any order and depth) and every attribute tree.
Part 2: buffering (`Model/LogBuf.lean`); the invariants of `Lemmas/LogBuf.lean` along every schedule.
The BatchLogger is in `Props/C20Batch.lean`, construction and acceptance (options, `Validate`, level, sampling) in
`Props/C20Config.lean`.
-/
namespace Rivaas.C20
open Rivaas.Log

/-! ## Part 1: redaction -/

/-- how an output value relates to the input attribute it came from -/
def Prov (k v out : Bytes) : Prop :=
  (k ∈ sensitive ∧ out = redactedVal) ∨ (k ∉ sensitive ∧ out = v)

/-- the key an attribute is printed under: its own, unless the user replacer renames it (the sensitive
    keys never reach the user replacer) -/
def outKey (u : UserRep) (k : Bytes) : Bytes :=
  if k ∈ sensitive then k
  else match u with
    | .addPrefix p => p ++ k
    | _ => k

def SafeRep (u : UserRep) : Prop := ∀ k, k ∉ sensitive → outKey u k ∉ sensitive

theorem lemma_replace (u : UserRep) (groups : List Bytes) (k v : Bytes) (kv : Bytes × Bytes)
    (h : replaceAttr u groups k v = some kv) : kv = (outKey u k, if k ∈ sensitive then redactedVal else v) := by
  unfold replaceAttr at h
  unfold outKey
  by_cases hs : k ∈ sensitive
  · rw [if_pos hs] at h ⊢
    rw [if_pos hs]
    exact (Option.some.inj h).symm
  · rw [if_neg hs] at h ⊢
    rw [if_neg hs]
    -- a dropping replacer either elides the attribute or leaves it alone
    have hdrop : ∀ (c : Prop) [Decidable c], (if c then none else some (k, v)) = some kv → kv = (k, v) := by
      intro c _ h
      split at h <;> cases h
      rfl
    cases u with
    | addPrefix p => exact (Option.some.inj h).symm
    | none => exact (Option.some.inj h).symm
    | dropTop d => exact hdrop _ h
    | dropAny d => exact hdrop _ h

theorem lemma_key_concat (g : List Bytes) (k v : Bytes) : Pair.key (g ++ [k], v) = some k := by
  simp [Pair.key]

def From (u : UserRep) (leaves : List (Bytes × Bytes)) (p : Pair) : Prop :=
  ∃ kv ∈ leaves, Pair.key p = some (outKey u kv.1) ∧ Prov kv.1 kv.2 p.2

/-- what the oracle reads of an output pair: the key it is printed under and the value -/
def keyVal (p : Pair) : Option Bytes × Bytes := (Pair.key p, p.2)

/-- what ReplaceAttr leaves of an input attribute, if it does not elide it, as the oracle reads it -/
def shown (u : UserRep) (kv : Bytes × Bytes) : Option Bytes × Bytes :=
  (some (outKey u kv.1), if kv.1 ∈ sensitive then redactedVal else kv.2)

mutual
  theorem slogAttr_sub : ∀ (u : UserRep) (groups : List Bytes) (a : Attr),
      ((slogAttr u groups a).map keyVal).Sublist ((leavesOf a).map (shown u))
    | u, groups, .leaf k v => by
      cases heq : replaceAttr u groups k v with
      | none => simp only [slogAttr, heq]; exact List.nil_sublist _
      | some kv =>
        simp only [slogAttr, heq, leavesOf, List.map_cons, List.map_nil, keyVal, lemma_key_concat,
          lemma_replace u groups k v kv heq]
        exact List.Sublist.refl _
    | u, groups, .group k as => slogAttrs_sub u _ as
  theorem slogAttrs_sub : ∀ (u : UserRep) (groups : List Bytes) (as : List Attr),
      ((slogAttrs u groups as).map keyVal).Sublist ((leavesOfAll as).map (shown u))
    | _, _, [] => List.Sublist.refl _
    | u, groups, a :: as => by
      simp only [slogAttrs, leavesOfAll, List.map_append]
      exact (slogAttr_sub u groups a).append (slogAttrs_sub u groups as)
end

theorem slogChain_sub (u : UserRep) (groups : List Bytes) (chain : List ChainOp) (call : List Attr) :
    ((slogChain u groups chain call).map keyVal).Sublist ((chainLeaves chain ++ leavesOfAll call).map (shown u)) := by
  induction chain generalizing groups with
  | nil => exact slogAttrs_sub u groups call
  | cons op rest ih =>
    cases op with
    | withAttrs as =>
      simp only [slogChain, chainLeaves, List.map_append, List.append_assoc]
      exact (slogAttrs_sub u groups as).append (List.map_append ▸ ih groups)
    | withGroup n => exact ih _

/-! the console handler: printing does not invent or change values (a fact of `consolePrint` by itself: the theorems below
go through `console_eq_slog` and do not use it) … -/
mutual
  theorem lemma_print : ∀ (pre : List Bytes) (a : Attr) (p : Pair),
      p ∈ consolePrint pre a → ∃ kv ∈ leavesOf a, Pair.key p = some kv.1 ∧ p.2 = kv.2
    | pre, .leaf k v, p, h => by
      cases List.mem_singleton.mp h
      exact ⟨(k, v), List.mem_cons_self .., lemma_key_concat pre k v, rfl⟩
    | pre, .group k as, p, h => lemma_printAll (pre ++ [k]) as p h
  theorem lemma_printAll : ∀ (pre : List Bytes) (as : List Attr) (p : Pair),
      p ∈ consolePrintAll pre as → ∃ kv ∈ leavesOfAll as, Pair.key p = some kv.1 ∧ p.2 = kv.2
    | _, [], p, h => nomatch h
    | pre, a :: as, p, h => by
      rcases List.mem_append.mp h with h | h
      · obtain ⟨kv, hm, hk⟩ := lemma_print pre a p h
        exact ⟨kv, List.mem_append_left _ hm, hk⟩
      · obtain ⟨kv, hm, hk⟩ := lemma_printAll pre as p h
        exact ⟨kv, List.mem_append_right _ hm, hk⟩
end

/-! … and it prints, key for key and value for value, what slog's handlers print: `consoleReplace` walks the tree the way
`slogAttr` does and `consolePrint` differs from it only in the path in front of the key (the names of all enclosing groups,
where slog leaves out the empty ones and puts the `WithGroup` names in front) -/
mutual
  theorem console_eq_slog : ∀ (u : UserRep) (groups pre : List Bytes) (a : Attr),
      ((consoleReplace u groups a).elim [] (consolePrint pre)).map keyVal = (slogAttr u groups a).map keyVal
    | u, groups, pre, .leaf k v => by
      simp only [consoleReplace, slogAttr]
      cases replaceAttr u groups k v with
      | none => rfl
      | some x => simp [consolePrint, keyVal, Pair.key]
    | u, groups, pre, .group k as => console_eq_slogAll u _ (pre ++ [k]) as
  theorem console_eq_slogAll : ∀ (u : UserRep) (groups pre : List Bytes) (as : List Attr),
      (consolePrintAll pre (consoleReplaceAll u groups as)).map keyVal = (slogAttrs u groups as).map keyVal
    | _, _, _, [] => rfl
    | u, groups, pre, a :: as => by
      have h1 := console_eq_slog u groups pre a
      have h2 := console_eq_slogAll u groups pre as
      simp only [consoleReplaceAll, slogAttrs, List.map_append, ← h1, ← h2]
      cases consoleReplace u groups a with
      | none => rfl
      | some a' => simp [consolePrintAll]
end

theorem consolePrintAll_append (pre : List Bytes) (xs ys : List Attr) :
    consolePrintAll pre (xs ++ ys) = consolePrintAll pre xs ++ consolePrintAll pre ys := by
  induction xs with
  | nil => rfl
  | cons x xs ih =>
    show consolePrint pre x ++ consolePrintAll pre (xs ++ ys) = (consolePrint pre x ++ consolePrintAll pre xs) ++ _
    rw [ih, List.append_assoc]

theorem consoleChain_eq_slog (u : UserRep) (h : Console) (chain : List ChainOp) (call : List Attr) :
    (consoleHandle u (consoleChain u h chain) call).map keyVal =
      (consolePrintAll [] h.attrs).map keyVal ++ (slogChain u h.groups chain call).map keyVal := by
  induction chain generalizing h with
  | nil => simp only [consoleChain, consoleHandle, slogChain, List.map_append, console_eq_slogAll]
  | cons op rest ih =>
    cases op with
    | withAttrs as =>
      simp only [consoleChain, slogChain, ih, consolePrintAll_append, List.map_append, console_eq_slogAll,
        List.append_assoc]
    | withGroup n =>
      simp only [consoleChain, slogChain, ih, openGroup]
      split <;> rfl

/-- whatever the handler type: the output is a subsequence of what ReplaceAttr leaves of the input attributes -/
theorem emit_sub (c : Case) : ((emit c).map keyVal).Sublist ((inputLeaves c).map (shown c.user)) := by
  -- `inputLeaves c` is `chainLeaves (.withAttrs c.root :: c.chain) ++ leavesOfAll c.call` by unfolding
  have hslog := slogChain_sub c.user [] (.withAttrs c.root :: c.chain) c.call
  unfold emit
  cases c.h with
  | json => exact hslog
  | text => exact hslog
  | console => exact consoleChain_eq_slog c.user {} _ c.call ▸ hslog

/-- Provenance. Whatever handler type, user replacer, derivation chain and attribute trees: every
    `key=value` that reaches the output comes from an input attribute with that key, and its value
    is the marker if the key is sensitive and the attribute's own value otherwise. -/
theorem provenance (c : Case) (p : Pair) (h : p ∈ emit c) : From c.user (inputLeaves c) p := by
  obtain ⟨kv, hm, hkv⟩ := List.mem_map.mp ((emit_sub c).subset (List.mem_map_of_mem (f := keyVal) h))
  obtain ⟨hk, hv⟩ := Prod.mk.inj hkv
  refine ⟨kv, hm, hk.symm, ?_⟩
  by_cases hs : kv.1 ∈ sensitive
  · exact .inl ⟨hs, by rw [← hv, if_pos hs]⟩
  · exact .inr ⟨hs, by rw [← hv, if_neg hs]⟩

/-- Redaction (the statement's first sentence): a pair printed under a sensitive key shows the
    marker, for JSON, text and console, however the attribute reached the record. -/
theorem redacted (c : Case) (hu : SafeRep c.user) (p : Pair) (h : p ∈ emit c) (k : Bytes)
    (hk : Pair.key p = some k) (hs : k ∈ sensitive) : p.2 = redactedVal := by
  obtain ⟨kv, _, hk', hp⟩ := provenance c p h
  rw [hk] at hk'
  cases hk'
  rcases hp with ⟨_, h2⟩ | ⟨h1, _⟩
  · exact h2
  · exact absurd hs (hu kv.1 h1)

/-- every replacer that does not rename is safe -/
theorem safeRep_of_no_rename (u : UserRep) (h : ∀ p, u ≠ .addPrefix p) : SafeRep u := by
  intro k hk
  have : outKey u k = k := by
    unfold outKey
    rw [if_neg hk]
    cases u with
    | addPrefix p => exact absurd rfl (h p)
    | _ => rfl
  rw [this]; exact hk

/-- a prefixing replacer is safe when no sensitive key starts with the prefix (`app_`, `x-`, …) -/
theorem safeRep_prefix (p : Bytes) (h : ∀ s ∈ sensitive, ¬ p <+: s) : SafeRep (.addPrefix p) := by
  intro k hk hmem
  unfold outKey at hmem
  simp only [hk, if_false] at hmem
  exact h _ hmem (List.prefix_append p k)

/-- the model passes the executable oracle the driver applies to the implementation's output -/
theorem emit_meets_spec (c : Case) (hu : SafeRep c.user) : (emit c).all pairOK = true := by
  rw [List.all_eq_true]
  intro p hp
  unfold pairOK
  split
  · rename_i k hk
    split
    · rename_i hs
      simp [redacted c hu p hp k hk hs]
    · rfl
  · rfl

/-- No sensitive value in the output: every value that appears, other than the marker, is the value
    of an attribute whose key is not sensitive. -/
theorem sensitive_value_never_emitted (c : Case) (p : Pair) (h : p ∈ emit c) (hne : p.2 ≠ redactedVal) :
    ∃ kv ∈ inputLeaves c, kv.1 ∉ sensitive ∧ kv.2 = p.2 := by
  obtain ⟨kv, hm, _, hp⟩ := provenance c p h
  rcases hp with ⟨_, h2⟩ | ⟨h1, h2⟩
  · exact absurd h2 hne
  · exact ⟨kv, hm, h1, h2.symm⟩

/-- buffering is transparent for what is printed (K20b/K20d repaired: a buffered record is replayed
    through the handler it was logged through) -/
theorem buffering_transparent (c : Case) : emit { c with buffered := true } = emit { c with buffered := false } := rfl

/-! ### non-vacuity and as-shipped witnesses -/

def wPw : Attr := .leaf "password".toList "hunter2".toList
def wUser : Attr := .leaf "user".toList "bob".toList
def wCase (h : HType) : Case :=
  { h := h, user := .none, root := [], chain := [.withAttrs [.leaf "token".toList "T1".toList], .withGroup "g".toList],
    call := [wPw, wUser, .group "h".toList [.leaf "api_key".toList "K1".toList]] }

example : SafeRep (.addPrefix "app_".toList) := safeRep_prefix _ (by decide +kernel)

/-- the hypotheses of `redacted` are met: three sensitive pairs are printed by the JSON and by the console handler -/
example : ((emit (wCase .json)).filter fun p => decide (p.2 = redactedVal)).length = 3 := by decide +kernel
example : ((emit (wCase .console)).filter fun p => decide (p.2 = redactedVal)).length = 3 := by decide +kernel
example : (["g".toList, "user".toList], "bob".toList) ∈ emit (wCase .text) := by decide +kernel
example : (["user".toList], "bob".toList) ∈ emit (wCase .console) := by decide +kernel

/-- K20a, as shipped: the console handler prints `password=hunter2` -/
theorem console_asis_leaks :
    (["password".toList], "hunter2".toList) ∈ emitAsIs (wCase .console) ∧ ¬ (emitAsIs (wCase .console)).all pairOK = true := by
  decide +kernel

/-- the replay path is transparent: a buffered record, replayed through the handler it was logged through (what the
    source does: `LogBuf.Flags.fixed.keepHandler`, tied by `flush_matches_fixed_flags`), yields exactly the pairs of the
    unbuffered call — for every handler type, chain, tree and replacer; hence `redacted` / `sensitive_value_never_emitted`
    hold of what `FlushBuffer` writes -/
theorem replay_through_own_handler_is_transparent (c : Case) :
    emitReplayed Rivaas.LogBuf.Flags.fixed.keepHandler c = emit c := rfl

/-- … and that is the flag's doing: replayed through the root handler (as shipped) the attribute bound with `With` is gone -/
theorem replay_through_root_handler_drops_bound_attrs :
    (["token".toList], redactedVal) ∈ emitReplayed true (wCase .json) ∧
    (["token".toList], redactedVal) ∉ emitReplayed false (wCase .json) ∧
    emitReplayed false (wCase .console) ≠ emit (wCase .console) := by
  decide +kernel

/-- K20d, as shipped: a record logged through `With(...)` while buffering loses the bound attribute -/
theorem buffered_asis_drops_bound_attrs :
    (["token".toList], redactedVal) ∈ emitAsIs (wCase .json) ∧
    (["token".toList], redactedVal) ∉ emitAsIs { wCase .json with buffered := true } := by
  decide +kernel

/-! ## Part 2: buffering — not lost, exactly once, in order, over all schedules

The machine of `Model/LogBuf.lean` with the five repairs on (`Flags.fixed`, what /repo contains now).
Every theorem quantifies over every set of worker programs (any number of workers, any ops) whose log
calls carry increasing sequence numbers per worker, and over every schedule (any list of steps). -/

open Rivaas.LogBuf

structure BInv (custom : Bool) (progs : List (List Op)) (s : St) : Prop where
  st : SInv progs s
  ord : OInv progs s
  del : DInv custom progs s

theorem lemma_binv_advance {custom : Bool} {progs : List (List Op)} {s : St} (hwf : WF progs) (g : Nat)
    (h : BInv custom progs s) : BInv custom progs (advance Flags.fixed s g) :=
  ⟨sinv_advance g h.st, oinv_advance g hwf h.st h.ord, drel_advance g h.st h.del⟩

theorem lemma_binv_runToIdle {custom : Bool} {progs : List (List Op)} (hwf : WF progs) (fuel : Nat) {s : St} (g : Nat)
    (h : BInv custom progs s) : BInv custom progs (runToIdle Flags.fixed fuel s g) := by
  induction fuel generalizing s with
  | zero => exact h
  | succ n ih =>
    simp only [runToIdle]
    have h' := lemma_binv_advance hwf g h
    split
    · split
      · exact ih h'
      · exact h'
    · exact h'

theorem lemma_binv_step {custom : Bool} {progs : List (List Op)} (hwf : WF progs) (fuel : Nat) {s : St} (st : Step)
    (h : BInv custom progs s) : BInv custom progs (step Flags.fixed fuel s st) := by
  cases st with
  | seg g => exact lemma_binv_advance hwf g h
  | run g => exact lemma_binv_runToIdle hwf fuel g h

theorem lemma_binv_init (custom : Bool) (progs : List (List Op)) :
    BInv custom progs (initSt true custom progs) := by
  have hget : ∀ (g : Nat) (w : Worker), (initSt true custom progs).ws[g]? = some w →
      ∃ p, progs[g]? = some p ∧ w = { ops := p, idx := 0, gate := none } := by
    intro g w hw
    simp only [initSt, List.getElem?_map, Option.map_eq_some_iff] at hw
    obtain ⟨p, hp, rfl⟩ := hw
    exact ⟨p, hp, rfl⟩
  -- every worker is idle at the start of its program, nothing is pending and the monitors have seen nothing
  refine ⟨⟨?_, fun _ => rfl, fun _ => ⟨rfl, rfl⟩, rfl⟩, ⟨rfl, ?_⟩,
    ⟨rfl, rfl, rfl, rfl, fun _ _ _ h => absurd h List.not_mem_nil, fun _ _ h => absurd h List.not_mem_nil,
      fun _ _ _ h => absurd h List.not_mem_nil⟩⟩
  · intro g w hw
    obtain ⟨p, hp, rfl⟩ := hget g w hw
    exact ⟨by simp [hp], (nomatch ·), fun _ => (nomatch ·)⟩
  · -- every worker's line is all its program logs
    intro g
    show (futureSeqs (initSt true custom progs) g).Sublist (loggedSeqs progs g)
    unfold futureSeqs
    cases hw : (initSt true custom progs).ws[g]? with
    | none => exact List.nil_sublist _
    | some w =>
      obtain ⟨p, hp, rfl⟩ := hget g w hw
      unfold loggedSeqs
      rw [hp]
      exact List.Sublist.refl _

theorem lemma_binv_run (custom : Bool) (progs : List (List Op)) (sched : List Step) (hwf : WF progs) :
    BInv custom progs (sched.foldl (step Flags.fixed (totalOps progs + 2)) (initSt true custom progs)) :=
  List.foldlRecOn sched _ (lemma_binv_init custom progs) fun _ h st _ => lemma_binv_step hwf _ st h

/-- Main theorem, buffering half (model satisfies the whole oracle): for every set of
    worker programs (also those in which a worker logs through a `slog.Logger` obtained before
    `StartBuffering` — K20f, repaired) and every schedule, the trace of the repaired logger
    passes both monitors — every write is of a logged record, intact, in per-worker order and never
    repeated; every call that had returned before a `FlushBuffer` began and must be delivered is in the
    output when that `FlushBuffer` returns. -/
theorem buffering_meets_spec (custom : Bool) (progs : List (List Op)) (sched : List Step) (hwf : WF progs) :
    LogBuf.specOK custom progs (run Flags.fixed custom progs sched) = true := by
  have h := lemma_binv_run custom progs sched hwf
  simp only [LogBuf.specOK, run, Bool.and_eq_true]
  exact ⟨h.ord.ok, h.del.ok⟩

/-! ### what the order monitor's verdict means, and the clauses of the statement one by one -/

/-- the records that reached the output, in order: (worker, seq, intact) -/
def writesOf (tr : List Ev) : List (Nat × Nat × Bool) :=
  tr.filterMap fun ev => match ev with | .write g s i => some (g, s, i) | _ => none

theorem lemma_oMon_fold (progs : List (List Op)) (tr : List Ev) (m : OMon)
    (h : (tr.foldl (oStep progs) m).ok = true) :
    m.ok = true ∧
    (∀ w ∈ writesOf tr, w.2.2 = true ∧ w.2.1 ∈ loggedSeqs progs w.1 ∧ ∀ p ∈ m.written, p.1 = w.1 → p.2 < w.2.1) ∧
    (writesOf tr).Pairwise (fun a b => a.1 = b.1 → a.2.1 < b.2.1) := by
  induction tr generalizing m with
  | nil => exact ⟨h, nofun, List.Pairwise.nil⟩
  | cons e rest ih =>
    simp only [List.foldl_cons] at h
    cases e with
    | write g sq i =>
      obtain ⟨hok', hw', hp'⟩ := ih _ h
      obtain ⟨hmok, hint, hlog, hall⟩ := (oStep_write_ok ..).mp hok'
      refine ⟨hmok, ?_, ?_⟩
      · intro w hwm
        rcases List.mem_cons.mp hwm with hwm | hwm
        · subst hwm
          exact ⟨hint, hlog, hall⟩
        · obtain ⟨h1, h2, h3⟩ := hw' w hwm
          exact ⟨h1, h2, fun p hp hpg => h3 p (List.mem_cons_of_mem _ hp) hpg⟩
      · refine List.pairwise_cons.mpr ⟨?_, hp'⟩
        intro w hwm hg
        exact (hw' w hwm).2.2 (g, sq) (List.mem_cons_self ..) hg
    | begin g i => exact ih m h
    | done g i => exact ih m h

/-- the order monitor accepts a trace only if its writes are genuine, intact and in per-worker order -/
theorem order_monitor_sound (progs : List (List Op)) (tr : List Ev) (h : (orderMonitor progs tr).ok = true) :
    (∀ w ∈ writesOf tr, w.2.2 = true ∧ w.2.1 ∈ loggedSeqs progs w.1) ∧
    (writesOf tr).Pairwise (fun a b => a.1 = b.1 → a.2.1 < b.2.1) := by
  obtain ⟨_, h2, h3⟩ := lemma_oMon_fold progs tr {} h
  exact ⟨fun w hw => ⟨(h2 w hw).1, (h2 w hw).2.1⟩, h3⟩

/-- The records of one goroutine are emitted in the order they were logged — every set of programs,
    every schedule (flush interleaved with logging at every point the final handler can be stalled). -/
theorem per_goroutine_order (custom : Bool) (progs : List (List Op)) (sched : List Step) (hwf : WF progs) :
    (writesOf (run Flags.fixed custom progs sched)).Pairwise (fun a b => a.1 = b.1 → a.2.1 < b.2.1) :=
  (order_monitor_sound progs _ (lemma_binv_run custom progs sched hwf).ord.ok).2

/-- Exactly once: no record reaches the output twice … -/
theorem delivered_at_most_once (custom : Bool) (progs : List (List Op)) (sched : List Step) (hwf : WF progs) :
    ((writesOf (run Flags.fixed custom progs sched)).map fun w => (w.1, w.2.1)).Nodup := by
  have h := per_goroutine_order custom progs sched hwf
  rw [List.Nodup, List.pairwise_map]
  refine h.imp ?_
  intro a b hab heq
  simp only [Prod.mk.injEq] at heq
  have := hab heq.1
  omega

/-- … what reaches it is a record that was logged, with the attributes it was logged with (K20d) -/
theorem delivered_records_genuine (custom : Bool) (progs : List (List Op)) (sched : List Step) (hwf : WF progs) :
    ∀ w ∈ writesOf (run Flags.fixed custom progs sched), w.2.2 = true ∧ w.2.1 ∈ loggedSeqs progs w.1 :=
  (order_monitor_sound progs _ (lemma_binv_run custom progs sched hwf).ord.ok).1

/-- Not lost: in every reachable state in which buffering is off (no `StartBuffering` yet, or a
    `FlushBuffer` has completed), every log call that has returned and had to be delivered is in the
    output — whatever `SetLevel`, `Shutdown`, failed writes and other workers did in between. -/
theorem nothing_lost_once_buffering_is_off (custom : Bool) (progs : List (List Op)) (sched : List Step)
    (hwf : WF progs) :
    let s := sched.foldl (step Flags.fixed (totalOps progs + 2)) (initSt true custom progs)
    s.buffering = false →
    ∀ gs ∈ (deliveryMonitor custom progs s.trace).returned, gs ∈ (deliveryMonitor custom progs s.trace).written := by
  intro s hb gs hgs
  have h : BInv custom progs s := lemma_binv_run custom progs sched hwf
  have hemp := h.st.fl.off hb
  rcases h.del.ret gs.1 gs.2 hgs with hw | ⟨r, hr, _⟩
  · exact hw
  · rw [hemp.1, hemp.2] at hr; cases hr

/-! ### non-vacuity and as-shipped witnesses -/

def wLog (seq : Nat) (derived : Bool := false) (fail : Bool := false) : Op :=
  .log { seq := seq, lvl := 3, derived := derived, fail := fail }

def wProgs : List (List Op) := [[.startBuffering, wLog 0, wLog 1, wLog 2], [.flush]]
/-- worker 1's flush is stalled on its first replayed record while worker 0 logs its third record -/
def wSched : List Step := [.seg 0, .seg 0, .seg 0, .seg 1, .seg 0, .seg 0, .seg 1, .seg 1, .seg 1, .seg 1, .seg 1]

example : WF wProgs := by
  intro p hp
  simp only [wProgs, List.mem_cons, List.not_mem_nil, or_false] at hp
  rcases hp with rfl | rfl <;> decide

/-- the theorem is not vacuous: in that history all three records reach the output, in order -/
example : writesOf (run Flags.fixed true wProgs wSched) = [(0, 0, true), (0, 1, true), (0, 2, true)] := by decide +kernel

/-- K20c, as shipped: in the same history the third record overtakes the two older ones -/
theorem flush_overtake_asis :
    writesOf (run Flags.asIs true wProgs wSched) = [(0, 2, true), (0, 0, true), (0, 1, true)] ∧
    LogBuf.specOK true wProgs (run Flags.asIs true wProgs wSched) = false := by decide +kernel

/-- … and it is the loop in `flush` that repairs it (`loopFlush` off, the other four repairs on) -/
theorem flush_overtake_needs_loop :
    LogBuf.specOK true wProgs (run ⟨true, true, false, true, true⟩ true wProgs wSched) = false := by decide +kernel

def wRun (n : Nat) : List Step := List.replicate n (.run 0)

/-- K20b, as shipped: StartBuffering; log; SetLevel; FlushBuffer — the record never reaches the output -/
theorem setlevel_drops_buffer_asis :
    writesOf (run Flags.asIs false [[.startBuffering, wLog 0, .setLevel 0, .flush]] (wRun 4)) = [] ∧
    LogBuf.specOK false [[.startBuffering, wLog 0, .setLevel 0, .flush]]
      (run Flags.asIs false [[.startBuffering, wLog 0, .setLevel 0, .flush]] (wRun 4)) = false ∧
    LogBuf.specOK false [[.startBuffering, wLog 0, .setLevel 0, .flush]]
      (run ⟨false, true, true, true, true⟩ false [[.startBuffering, wLog 0, .setLevel 0, .flush]] (wRun 4)) = false ∧
    writesOf (run Flags.fixed false [[.startBuffering, wLog 0, .setLevel 0, .flush]] (wRun 4)) = [(0, 0, true)] := by
  decide +kernel

/-- K20d, as shipped: a record logged through `With(...)` while buffering is replayed without its attribute -/
theorem derived_record_mutilated_asis :
    writesOf (run Flags.asIs false [[.startBuffering, wLog 0 true, .flush]] (wRun 3)) = [(0, 0, false)] ∧
    LogBuf.specOK false [[.startBuffering, wLog 0 true, .flush]]
      (run ⟨true, false, true, true, true⟩ false [[.startBuffering, wLog 0 true, .flush]] (wRun 3)) = false := by
  decide +kernel

/-- K20e, as shipped: the write of the first buffered record fails and the second record is dropped with it -/
theorem failed_write_drops_rest_asis :
    writesOf (run Flags.asIs false [[.startBuffering, wLog 0 false true, wLog 1, .flush]] (wRun 4)) = [] ∧
    LogBuf.specOK false [[.startBuffering, wLog 0 false true, wLog 1, .flush]]
      (run ⟨true, true, true, false, true⟩ false [[.startBuffering, wLog 0 false true, wLog 1, .flush]] (wRun 4)) = false ∧
    writesOf (run Flags.fixed false [[.startBuffering, wLog 0 false true, wLog 1, .flush]] (wRun 4)) = [(0, 1, true)] := by
  decide +kernel

/-! ### K20f (repaired): a `slog.Logger` obtained before `StartBuffering` no longer bypasses the buffer -/

def wStale (seq : Nat) : Op := .log { seq := seq, lvl := 3, derived := false, fail := false, stale := true }

/-- the other four repairs on, the wrapper installed only by `StartBuffering` (as shipped) -/
def Flags.lazyWrap : Flags := ⟨true, true, true, true, false⟩

/-- as shipped — StartBuffering; log through the Logger (buffered); log through the stale logger (written at
    once); FlushBuffer: the second record reaches the output before the first. With the wrapper installed at
    construction (`Flags.fixed`) both come out in the order they were logged. -/
theorem stale_logger_overtakes_asis :
    writesOf (run Flags.lazyWrap false [[.startBuffering, wLog 0, wStale 1, .flush]] (wRun 4)) = [(0, 1, true), (0, 0, true)] ∧
    LogBuf.specOK false [[.startBuffering, wLog 0, wStale 1, .flush]]
      (run Flags.lazyWrap false [[.startBuffering, wLog 0, wStale 1, .flush]] (wRun 4)) = false ∧
    hasStale [[.startBuffering, wLog 0, wStale 1, .flush]] = true ∧
    writesOf (run Flags.fixed false [[.startBuffering, wLog 0, wStale 1, .flush]] (wRun 4)) = [(0, 0, true), (0, 1, true)] := by
  decide +kernel

/-- the buffering half of the statement with no exclusion on the programs: what `buffering_meets_spec` proves -/
def FullStatementBuffering : Prop :=
  ∀ (custom : Bool) (progs : List (List Op)) (sched : List Step), WF progs →
    LogBuf.specOK custom progs (run Flags.fixed custom progs sched) = true

/-- … holds of the code as it is now (it did not before the K20f repair: `stale_logger_overtakes_asis`) -/
theorem full_statement_buffering : FullStatementBuffering := buffering_meets_spec

/-- a stale logger's record is buffered and delivered by the FlushBuffer that follows (the oracle requires it like any
    other record accepted by the level its logger was built with: `mustDeliver`) -/
theorem stale_record_buffered_and_flushed :
    writesOf (run Flags.fixed false [[.startBuffering, wStale 0, .flush]] (wRun 3)) = [(0, 0, true)] ∧
    writesOf (run Flags.fixed false [[.startBuffering, wStale 0]] (wRun 2)) = [] := by decide +kernel

/-! ### stress histories: what the oracle's verdict means, and that the expectation meets it -/

theorem lemma_expand_single (n : Nat) : expandRuns [(0, n)] = List.range n := by
  simp [expandRuns]

/-- the stress oracle accepts only if every goroutine's output is 0, 1, …, n-1 -/
theorem stress_ok_means_all_in_order (logged : List Nat) (runs : List (List (Nat × Nat)))
    (h : stressOK logged runs = true) : ∀ nr ∈ logged.zip runs, expandRuns nr.2 = List.range nr.1 := by
  intro nr hnr
  simp only [stressOK, Bool.and_eq_true, List.all_eq_true] at h
  have := h.2 nr hnr
  split at this
  · rename_i h0
    have h0' : nr.1 = 0 := by simpa using h0
    have h1 : nr.2 = [] := by simpa using this
    rw [h0', h1]; rfl
  · have h1 : nr.2 = [(0, nr.1)] := by simpa using this
    rw [h1, lemma_expand_single]

theorem stress_expected_ok (logged : List Nat) : stressOK logged (stressExpected logged) = true := by
  simp only [stressOK, stressExpected, List.length_map, beq_self_eq_true, Bool.true_and]
  induction logged with
  | nil => rfl
  | cons n rest ih =>
    simp only [List.map_cons, List.zip_cons_cons, List.all_cons, ih, Bool.and_true]
    by_cases hn : n = 0
    · simp [hn]
    · simp [hn]

end Rivaas.C20
