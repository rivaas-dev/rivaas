/- C03 — Pooled contexts never leak state between requests: theorems about `Model/Pool.lean`.
   The facts about the real source the model relies on (field list, what reset does to each field, that every
   serve path assigns Request/Response/router/index/paramCount before a handler runs, that parameters are written
   only after `paramCount = 0`, that every get has exactly one release and no use after it) are re-proved on the
   regenerated `Gen/*.lean` in `Tie/C03.lean` on every run. Besides `fresh_view` and `pooled_objects_clean` the file holds
   `param` with `unknown_param_empty`, `app_fresh` (the pool of app.Context) and the witnesses of finding K03a. -/
import Rivaas.Model.Pool

namespace Rivaas.C03
open Rivaas.Pool

/-- `Sim a c d`: c and d agree on everything a handler can observe, except possibly the fields of `a` that have
    not been assigned yet (router, index, paramCount — the only ones in which a pooled context may differ from a
    brand-new one). Parameter slots are compared only below `paramCount`; a nil and an empty map are the same. -/
structure Sim (a : Assigned) (c d : Ctx) : Prop where
  request : c.request = d.request
  response : c.response = d.response
  handlers : c.handlers = d.handlers
  version : c.version = d.version
  routePattern : c.routePattern = d.routePattern
  acceptHeader : c.acceptHeader = d.acceptHeader
  acceptSpecs : c.acceptSpecs = d.acceptSpecs
  arena : c.arena = d.arena
  aborted : c.aborted = d.aborted
  errors : c.errors = d.errors
  params : c.params.getD [] = d.params.getD []
  router : a.router = true → c.router = d.router
  index : a.index = true → c.index = d.index
  countT : a.count = true → c.paramCount = d.paramCount ∧ 0 ≤ c.paramCount ∧
    ∀ i, i < min c.paramCount.toNat 8 → c.slots i = d.slots i
  countF : a.count = false → c.paramCount ≤ 0 ∧ d.paramCount = 0

def Clean (c : Ctx) : Prop := Sim {} c brandNew

/-- **reset leaves nothing behind**: whatever a request and its handlers did to the context — every field, any
    value, more than 8 parameters, a populated Params map, a negative or huge paramCount — after `reset` the object
    differs from a brand-new context only in `router`, `index`, an empty-instead-of-nil map and parameter slots
    that no accessor reads. -/
theorem reset_clean (c : Ctx) : Clean (reset c) := by
  -- ten fields go back to the zero value; then `params`; `router`, `index`, `countT` ask nothing of an unassigned field
  refine ⟨rfl, rfl, rfl, rfl, rfl, rfl, rfl, rfl, rfl, rfl, ?_, nofun, nofun, nofun, fun _ => ⟨?_, rfl⟩⟩
  · cases h : c.params <;> simp [reset, brandNew, h]
  · simp only [reset]
    split <;> omega

theorem brandNew_clean : Clean brandNew :=
  ⟨rfl, rfl, rfl, rfl, rfl, rfl, rfl, rfl, rfl, rfl, rfl, nofun, nofun, nofun, fun _ => ⟨Int.le_refl 0, rfl⟩⟩

/-- after a parameter went into slot `n`, a visible slot other than `n` was visible before -/
theorem lemma_slot_below {n : Int} {i : Nat} (hi : i < min (n + 1).toNat 8) (hne : ¬ i = n.toNat) :
    i < min n.toNat 8 := by
  rw [Nat.lt_min] at hi ⊢
  exact ⟨by omega, hi.2⟩

theorem lemma_step_sim (a : Assigned) (c d : Ctx) (s : Step) (h : Sim a c d)
    (hw : ∀ k v, s = Step.writeParam k v → a.count = true) :
    Sim (a.step s) (s.apply c) (s.apply d) := by
  cases s with
  | setRequest n => exact { h with request := rfl }
  | setResponse n => exact { h with response := rfl }
  | setHandlers n => exact { h with handlers := rfl }
  | setRouter n => exact { h with router := fun _ => rfl }
  | setIndex i => exact { h with index := fun _ => rfl }
  | setVersion b => exact { h with version := rfl }
  | setPattern b => exact { h with routePattern := rfl }
  | zeroCount =>
    exact { h with
      countT := fun _ => ⟨rfl, by simp [Step.apply], by intro i hi; simp [Step.apply] at hi⟩
      countF := fun hf => by simp [Assigned.step] at hf }
  | writeParam k v =>
    have hc := hw k v rfl
    obtain ⟨heq, hpos, hslots⟩ := h.countT hc
    have hF {P : Prop} (hf : a.count = false) : P := by rw [hc] at hf; cases hf
    -- both contexts have the same count, so both take the same branch and write the same slot
    simp only [Step.apply, ← heq, Assigned.step]
    split
    · refine { h with countF := hF, countT := fun _ => ⟨rfl, Int.le_add_one hpos, fun i hi => ?_⟩ }
      simp only at hi ⊢
      split
      · rfl
      · next hne => exact hslots i (lemma_slot_below hi hne)
    · exact { h with params := by simp [h.params], countF := hF, countT := fun _ => ⟨rfl, hpos, hslots⟩ }

/-- **a prepared pooled context looks brand-new**: if the preparation of a serve path assigns Request, Response,
    router, index and paramCount and writes parameters only after `paramCount = 0` (`covers`, established on the
    extracted skeleton by `Tie/C03.covers_on_paths`), then what the first handler observes on a clean pooled object is
    exactly what it would observe on a brand-new one. -/
theorem prepare_fresh (steps : List Step) (a : Assigned) (c d : Ctx) (h : Sim a c d) (hc : covers a steps = true) :
    view (prepare steps c) = view (prepare steps d) := by
  induction steps generalizing a c d with
  | nil =>
    simp only [covers, Bool.and_eq_true] at hc
    obtain ⟨⟨⟨⟨hr, hi⟩, hcnt⟩, _⟩, _⟩ := hc
    obtain ⟨heq, _, hslots⟩ := h.countT hcnt
    simp only [prepare, List.foldl_nil, view]
    have hv : (List.range (min c.paramCount.toNat 8)).map c.slots = (List.range (min d.paramCount.toNat 8)).map d.slots := by
      rw [← heq]
      apply List.map_congr_left
      intro i hi
      exact hslots i (by simpa using hi)
    rw [hv, h.request, h.response, h.handlers, h.router hr, h.index hi, heq, h.params, h.version, h.routePattern,
      h.acceptHeader, h.acceptSpecs, h.arena, h.aborted, h.errors]
  | cons s rest ih =>
    simp only [prepare, List.foldl_cons]
    cases s with
    | writeParam k v =>
      simp only [covers, Bool.and_eq_true] at hc
      have := lemma_step_sim a c d (.writeParam k v) h (fun _ _ _ => hc.1)
      exact ih _ _ _ this hc.2
    | _ =>
      simp only [covers] at hc
      exact ih _ _ _ (lemma_step_sim a c d _ h (by intro k v hkv; cases hkv)) hc

/-- the pool invariant: every pooled object is clean, every recorded handler view is the fresh view -/
def Inv (p : Pool) : Prop := (∀ c ∈ p.free, Clean c) ∧ ∀ v ∈ p.views, v.1 = v.2

/-- serve operations of a history respect the preparation discipline -/
def _root_.Rivaas.Pool.Op.ok : Op → Prop
  | .serve _ steps _ => covers {} steps = true
  | _ => True

theorem lemma_take_clean (p : Pool) (reuse : Option Nat) (hf : ∀ c ∈ p.free, Clean c) :
    Clean (take p reuse).1 ∧ ∀ c ∈ (take p reuse).2, Clean c := by
  unfold take
  cases reuse with
  | none => exact ⟨brandNew_clean, hf⟩
  | some k =>
    simp only
    cases hk : p.free[k]? with
    | none => exact ⟨brandNew_clean, hf⟩
    | some c =>
      exact ⟨hf c (List.mem_of_getElem? hk), fun x hx => hf x (List.mem_of_mem_eraseIdx hx)⟩

theorem pool_inv_step (p : Pool) (o : Op) (h : Inv p) (ho : o.ok) : Inv (step p o) := by
  obtain ⟨hf, hv⟩ := h
  -- a context goes back through `reset`, next to the clean ones `take` left in the pool
  have back (reuse : Option Nat) (c : Ctx) : ∀ x ∈ reset c :: (take p reuse).2, Clean x :=
    List.forall_mem_cons.mpr ⟨reset_clean c, (lemma_take_clean p reuse hf).2⟩
  cases o with
  | serve reuse steps dirty =>
    refine ⟨back reuse _, fun v hv' => ?_⟩
    rcases List.mem_append.mp hv' with hv' | hv'
    · exact hv v hv'
    · rw [List.mem_singleton.mp hv']
      exact prepare_fresh steps {} _ _ (lemma_take_clean p reuse hf).1 ho
  | probe reuse dirty => exact ⟨back reuse _, hv⟩
  | dropOne k => exact ⟨fun c hc => hf c (List.mem_of_mem_eraseIdx hc), hv⟩

theorem pool_inv (ops : List Op) (hok : ∀ o ∈ ops, o.ok) : Inv (run {} ops) :=
  List.foldlRecOn ops step ⟨by simp, by simp⟩ fun p hi o ho => pool_inv_step p o hi (hok o ho)

/-- **Main theorem.** For every history of requests — any serve path, any handlers dirtying every field in any
    way, borrowed probe contexts in between, any reuse/drop pattern of sync.Pool — each handler's view of its
    context equals the view it would have on a brand-new context prepared for the same request: parameters, version,
    route pattern, abort flag, collected errors and cached negotiation results of other requests are never visible. -/
theorem fresh_view (ops : List Op) (hok : ∀ o ∈ ops, o.ok) : ∀ v ∈ (run {} ops).views, v.1 = v.2 :=
  (pool_inv ops hok).2

/-- …and after every request the pooled object is indistinguishable from a brand-new one (clean) -/
theorem pooled_objects_clean (ops : List Op) (hok : ∀ o ∈ ops, o.ok) : ∀ c ∈ (run {} ops).free, Clean c :=
  (pool_inv ops hok).1

/-- `Param`: the visible slots first, then the `Params` map; empty when the name is in neither -/
def param (v : View) (k : Bytes) : Bytes :=
  match v.visible.find? (·.1 == k) with
  | some kv => kv.2
  | none => match v.mapEntries.find? (·.1 == k) with
    | some kv => kv.2
    | none => []

/-- preparation of the tree path for `/d/:id` (same as `stepsTree` below; here for the non-vacuity example) -/
def stepsTreeW (req : Nat) (id : Bytes) : List Step :=
  [.setRequest req, .setResponse req, .setIndex (-1), .zeroCount, .setRouter 1, .setVersion [],
   .writeParam "id".toList id, .setPattern "/d/:id".toList, .setHandlers 4, .setIndex (-1)]

/-- the names a preparation writes (the parameters of the matched route) -/
def writtenKeys : List Step → List Bytes
  | [] => []
  | .writeParam k _ :: r => k :: writtenKeys r
  | _ :: r => writtenKeys r

/-- `k` is not among the keys a handler can reach through `Param` (visible slots, map entries) -/
def NoKey (c : Ctx) (k : Bytes) : Prop :=
  (∀ i, i < min c.paramCount.toNat 8 → (c.slots i).1 ≠ k) ∧ ∀ kv ∈ c.params.getD [], kv.1 ≠ k

theorem lemma_mapSet_mem (m : List KV) (k v : Bytes) : ∀ kv ∈ mapSet m k v, kv = (k, v) ∨ kv ∈ m := by
  induction m with
  | nil => exact fun kv hkv => Or.inl (List.mem_singleton.mp hkv)
  | cons x r ih =>
    intro kv hkv
    simp only [mapSet] at hkv
    split at hkv
    · rcases List.mem_cons.mp hkv with rfl | hr
      · exact Or.inl rfl
      · exact Or.inr (List.mem_cons_of_mem _ hr)
    · rcases List.mem_cons.mp hkv with rfl | hr
      · exact Or.inr List.mem_cons_self
      · exact (ih kv hr).imp_right (List.mem_cons_of_mem _)

theorem lemma_keys_step (c : Ctx) (k : Bytes) (s : Step) (h : NoKey c k)
    (hs : ∀ k' v, s = Step.writeParam k' v → k' ≠ k) : NoKey (s.apply c) k := by
  cases s with
  | writeParam k' v =>
    have hk := hs k' v rfl
    simp only [Step.apply]
    split
    · refine ⟨fun i hi => ?_, h.2⟩
      simp only at hi ⊢
      split
      · exact hk
      · next hne => exact h.1 i (lemma_slot_below hi hne)
    · refine ⟨h.1, fun kv hkv => ?_⟩
      rcases lemma_mapSet_mem _ k' v kv hkv with rfl | hm
      · exact hk
      · exact h.2 kv hm
  | zeroCount => exact ⟨fun i hi => by simp [Step.apply] at hi, h.2⟩
  | _ => exact h

theorem lemma_keys_prepare (steps : List Step) (k : Bytes) :
    ∀ c : Ctx, NoKey c k → k ∉ writtenKeys steps → NoKey (prepare steps c) k := by
  induction steps with
  | nil => exact fun c h _ => h
  | cons s rest ih =>
    intro c h hw
    cases s with
    | writeParam k' v' =>
      simp only [writtenKeys, List.mem_cons, not_or] at hw
      exact ih _ (lemma_keys_step c k _ h fun _ _ he => by cases he; exact Ne.symm hw.1) hw.2
    | _ => exact ih _ (lemma_keys_step c k _ h fun _ _ he => by cases he) hw

/-- **a name that is not a parameter of the matched route reads as empty** — on every pooled object that went through
    `reset`, after any preparation that follows the discipline (`covers`), whatever the object held before -/
theorem unknown_param_empty (steps : List Step) (c : Ctx) (hc : Clean c) (hcov : covers {} steps = true)
    (k : Bytes) (hk : k ∉ writtenKeys steps) : param (view (prepare steps c)) k = [] := by
  rw [prepare_fresh steps {} c brandNew hc hcov]
  obtain ⟨h1, h2⟩ := lemma_keys_prepare steps k brandNew
    ⟨fun i hi => by simp [brandNew] at hi, fun kv hkv => by simp [brandNew] at hkv⟩ hk
  unfold param
  have hv : (view (prepare steps brandNew)).visible.find? (·.1 == k) = none := by
    refine List.find?_eq_none.mpr fun kv hkv he => ?_
    simp only [view, List.mem_map, List.mem_range] at hkv
    obtain ⟨i, hi, rfl⟩ := hkv
    exact h1 i hi (eq_of_beq he)
  have hm : (view (prepare steps brandNew)).mapEntries.find? (·.1 == k) = none :=
    List.find?_eq_none.mpr fun kv hkv he => h2 kv hkv (eq_of_beq he)
  simp [hv, hm]

/-- non-vacuity: a second request on `/d/:id` on the object the first one used and `reset`; the name `stale`, which
    neither request wrote, reads empty -/
example : param (view (prepare (stepsTreeW 2 "7".toList) (reset (prepare (stepsTreeW 1 "42".toList) brandNew)))) "stale".toList = [] := by
  decide +kernel

/-- **app-level pool**: whatever object the app pool hands out (even one a broken `Put` left dirty) and whatever the
    handler does (Bind caches the body and the presence map), the handler of a request starts with its own router
    context, its app and no binding metadata, and a clean object goes back. The three assignments and the three
    clears are re-read from the source by `Tie/C03.app_pool_covers_fields`. -/
theorem app_fresh (pooled : AppCtx) (rc a : Nat) (handler : AppCtx → AppCtx) :
    (appWrap pooled rc a handler).1 = { context := rc, app := a, bindingMeta := 0 } ∧
    (appWrap pooled rc a handler).2 = {} := by
  simp [appWrap, appPut]

/-! ### non-vacuity and what `fresh_view` excludes -/

/-- the preparation of the tree-traversal path of ServeHTTP for `/d/:id` (as in the skeleton: Request, Response,
    index, paramCount, router, version, lookup, routePattern, handlers, index) -/
def stepsTree (req : Nat) (id : Bytes) : List Step :=
  [.setRequest req, .setResponse req, .setIndex (-1), .zeroCount, .setRouter 1, .setVersion [],
   .writeParam "id".toList id, .setPattern "/d/:id".toList, .setHandlers 4, .setIndex (-1)]

def stepsStatic (req : Nat) : List Step :=
  [.setRequest req, .setResponse req, .setHandlers 2, .setRouter 1, .setPattern "/s/a".toList, .setIndex (-1),
   .zeroCount, .setVersion []]

example : covers {} (stepsTree 1 "42".toList) = true ∧ covers {} (stepsStatic 2) = true := by decide +kernel

/-- a handler that dirties everything but Request, Response and router -/
def dirtyAll (c : Ctx) : Ctx :=
  { c with paramCount := 8, slots := fun _ => ("secret".toList, "token".toList), params := some [("p9".toList, "x".toList)],
           version := "v9".toList, routePattern := "/leak".toList, aborted := true, errors := [7],
           acceptHeader := "text/html".toList, acceptSpecs := 5, arena := 3, index := 99, handlers := 77 }

/-- request 1 matches `/d/:id` and dirties everything; request 2 (static route) reuses the object: the second handler
    reads no parameter, an empty version, its own pattern, not aborted, no errors -/
example :
    (run {} [.serve none (stepsTree 1 "42".toList) dirtyAll, .serve (some 0) (stepsStatic 2) id]).views.map
      (fun v => (param v.1 "id".toList, v.1.version, v.1.routePattern, v.1.aborted, v.1.errors, v.1.acceptHeader)) =
      [("42".toList, [], "/d/:id".toList, false, [], []), ([], [], "/s/a".toList, false, [], [])] := by rfl

/-- a `reset` that forgets one field is excluded by the theorem: with `version` left alone the second request of the
    same history reads the first request's version -/
def resetForgetsVersion (c : Ctx) : Ctx := { reset c with version := c.version }

theorem forgetful_reset_leaks :
    (view (prepare [.setRequest 2, .setResponse 2, .setHandlers 2, .setRouter 1, .setIndex (-1), .zeroCount]
      (resetForgetsVersion (dirtyAll (prepare (stepsTree 1 "42".toList) brandNew))))).version = "v9".toList := by decide

/-! ### finding K03a (fixed in /repo 47bf5ea): a failed compiled candidate left parameters behind -/

def nineOf (names : List String) : List KV :=
  names.zip ["s", "1", "2", "3", "4", "5", "6", "7", "8", "9", "zz"] |>.map fun (k, v) => (k.toList, v.toList)

/-- `/m/s/:a/…/:i/:j` (j constrained to digits) on `/m/s/1/…/9/zz`: :a…:i pass and are stored, :j fails. (`nineOf` pairs
    the names with the segments as the next route reads them; the second `zip` puts this route's values instead.) -/
def k03aFailed : List KV := nineOf ["a", "b", "c", "d", "e", "f", "g", "h", "i"] |>.zip ["1", "2", "3", "4", "5", "6", "7", "8", "9"] |>.map fun (kv, v) => (kv.1, v.toList)

/-- then `/m/:z/:a/…/:h/:x/:y` matches the same path -/
def k03aMatched : List Step :=
  (nineOf ["z", "a", "b", "c", "d", "e", "f", "g", "h", "x", "y"]).map fun (k, v) => Step.writeParam k v

/-- as shipped: the handler of the second route reads `i = "9"` although `i` is not one of its parameters -/
theorem asIs_failed_candidate_leaks :
    param (view (prepare k03aMatched (failedCandidateAsIs k03aFailed (prepare [.zeroCount] brandNew)))) "i".toList = "9".toList := by
  decide +kernel

/-- repaired (a failed candidate stores nothing): `i` reads as empty -/
theorem fixed_failed_candidate_clean :
    param (view (prepare k03aMatched (prepare [.zeroCount] brandNew))) "i".toList = [] := by
  decide +kernel

/-- a serve path that writes parameters without `paramCount = 0` first is excluded by `covers` -/
example : covers {} [.setRequest 1, .setResponse 1, .setRouter 1, .setIndex (-1), .writeParam [] [], .zeroCount] = false := by
  decide

end Rivaas.C03
