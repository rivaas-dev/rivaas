import Rivaas.Model.LifecycleWhole
import Rivaas.Model.Lifecycle
import Rivaas.Props.C09
/-
C09 — the lifecycle-language theorem over the *regenerated* control flow.

`Model/LifecycleWhole.lean` assembles the slices the extractor regenerates from `app/server.go` (entry points,
`runServer` before the loop, the arms of the event loop, the statements after the label) into one program with
a semantics for the loop/label structure (`execStart`: entry point, valuations of all branch conditions, a
schedule of the event loop). Proved here, for *any* slices `k` that pass the decidable check `checkWhole k`
(which `Tie/C09.lean` discharges by `decide` on the slices of the current source):

* `exec_start_mem_startOuts` — every execution is one of the enumerated paths;
* `whole_in_language` / `every_execution_in_language` — every execution that ends, ends in a `return` and its
  call word is in the lifecycle language (`inStartLang`): in particular no path reaches `executeReadyHooks`
  before `Listen`, leaves the loop other than through `abortStartup; return` or the whole shutdown sequence,
  or skips/repeats a step of `executeShutdownHooks → Shutdown → shutdownObservability → executeStopHooks`,
  for any number of loop iterations;
* `served_word_present` — conversely (from `liveness k`), for every number `h` of SIGHUP reloads the model's
  word `PROLOGUE Listen go recv executeReadyHooks Reload^h <shutdown sequence>` is the word of a path;
* `model_run_follows_a_path` — every run of the lifecycle model (`runSegs current`, every scenario, both values
  of `race`) that does not end in a hook panic has the result of one of the path shapes `startFailed`, `listenFailed`,
  `served h` of `ModelPath` (a key pair that cannot be loaded is a listen fault of the model: no run has the shape
  `certFailed`) and leaves empty every log segment whose producing call is not on that path. Run and path are tied
  through the result only: the number `h` of reloads in `served h` is a parameter of the statement (`nHup`);
* `model_run_executes` — the last three together: the word of that path shape is the word of an enumerated execution,
  which is in the language (`Tie/C09.lean` instantiates it on the slices of the current source;
  `model_run_is_an_execution` is its case `m = 0`);
* `stopHooks_is_exec_with_recover`, `stop_panic_without_per_hook_recover_breaks_oracle` — the OnStop loop of the model
  is the executor with a recover per hook, and with one recover around the loop or none the oracle rejects a run.
-/
namespace Rivaas.C09
open Rivaas.LifecycleSkel

section whole

theorem keepT_append (core : List Name) (a b : List (Name × Name)) :
    keepT core (a ++ b) = keepT core a ++ keepT core b := by
  simp [keepT, List.map_append, List.filter_append]

theorem word_pre (t : List (Name × Name)) (o : Out) : word (Out.pre t o) = keepT allCore t ++ word o := by
  simp [word, Out.pre, keepT_append]

theorem fin_pre (t : List (Name × Name)) (o : Out) : (Out.pre t o).fin = o.fin := rfl

/-! ### every execution is an enumerated path -/

theorem exec_loop_mem_loopOuts (arms : List Stmt) (label : Name) (after : Stmt) (ρa : Nat → Bool) :
    ∀ (sched : Sched) (o : Out), execLoop arms label after ρa sched = some o →
      o ∈ loopOuts arms label after sched.length := by
  intro sched
  induction sched with
  | nil => intro o h; simp [execLoop] at h
  | cons hd rest ih =>
    intro o h
    obtain ⟨i, ρ⟩ := hd
    simp only [execLoop] at h
    cases ha : arms[i]? with
    | none => simp [ha] at h
    | some a =>
      simp only [ha] at h
      have hmem : ∃ a', a' ∈ arms ∧ exec ρ a ∈ outs a' := ⟨a, List.mem_of_getElem? ha, exec_mem_outs ρ a⟩
      simp only [List.length_cons, loopOuts, List.mem_flatMap]
      refine ⟨exec ρ a, hmem, ?_⟩
      cases hfin : (exec ρ a).fin with
      | fall =>
        simp only [hfin, Option.map_eq_some_iff] at h
        obtain ⟨o', ho', rfl⟩ := h
        simp only [List.mem_map]
        exact ⟨o', ih o' ho', rfl⟩
      | goto l =>
        simp only [hfin] at h
        by_cases hl : (l == label) = true
        · simp only [hl, if_true, Option.some.injEq] at h
          simp only [hl, if_true, List.mem_map]
          exact ⟨exec ρa after, exec_mem_outs ρa after, h⟩
        · simp only [hl, Bool.false_eq_true, if_false, Option.some.injEq] at h
          simp only [hl, Bool.false_eq_true, if_false, List.mem_singleton]
          exact h.symm
      | ret ok => simp only [hfin, Option.some.injEq] at h; simp [h]
      | tail n => simp only [hfin, Option.some.injEq] at h; simp [h]

theorem exec_run_mem_runOuts (k : Skels) (ρp ρa : Nat → Bool) (sched : Sched) (o : Out)
    (h : execRun k ρp ρa sched = some o) : o ∈ runOuts k sched.length := by
  simp only [execRun] at h
  simp only [runOuts, List.mem_flatMap]
  refine ⟨exec ρp k.pre, exec_mem_outs ρp k.pre, ?_⟩
  by_cases hf : ((exec ρp k.pre).fin == End.fall) = true
  · simp only [hf, if_true, Option.map_eq_some_iff] at h
    obtain ⟨o', ho', rfl⟩ := h
    simp only [hf, if_true, List.mem_map]
    exact ⟨o', exec_loop_mem_loopOuts _ _ _ ρa sched o' ho', rfl⟩
  · simp only [hf, Bool.false_eq_true, if_false, Option.some.injEq] at h
    simp only [hf, Bool.false_eq_true, if_false, List.mem_singleton]
    exact h.symm

/-- every execution of the assembled program (entry point `e`, any valuations, any schedule of the event loop)
    that ends is one of the enumerated paths -/
theorem exec_start_mem_startOuts (k : Skels) (e : Stmt) (he : e ∈ k.entries) (ρe ρp ρa : Nat → Bool)
    (sched : Sched) (o : Out) (h : execStart k e ρe ρp ρa sched = some o) : o ∈ startOuts k sched.length := by
  simp only [startOuts, List.mem_flatMap]
  refine ⟨e, he, ?_⟩
  simp only [startOutsOf, List.mem_flatMap]
  refine ⟨exec ρe e, exec_mem_outs ρe e, ?_⟩
  simp only [execStart] at h
  cases hfin : (exec ρe e).fin with
  | tail r =>
    simp only [hfin] at h
    by_cases hr : (r == nm "runServer") = true
    · simp only [hr, if_true, Option.map_eq_some_iff] at h
      obtain ⟨o', ho', rfl⟩ := h
      simp only [hr, if_true, List.mem_map]
      exact ⟨o', exec_run_mem_runOuts k ρp ρa sched o' ho', rfl⟩
    · simp only [hr, Bool.false_eq_true, if_false, Option.some.injEq] at h
      simp only [hr, Bool.false_eq_true, if_false, List.mem_singleton]
      exact h.symm
  | fall => simp only [hfin, Option.some.injEq] at h; simp [h]
  | ret ok => simp only [hfin, Option.some.injEq] at h; simp [h]
  | goto l => simp only [hfin, Option.some.injEq] at h; simp [h]

/-! ### every path is in the language -/

theorem inLoopLang_reload (w : List Name) : inLoopLang (nm "Reload" :: w) = inLoopLang w := by
  simp [inLoopLang]

/-- the two ways out of the event loop, and the failed listen -/
theorem language_exits : inLoopLang [nm "abortStartup"] = true ∧ inLoopLang shutdownOrder = true ∧
    inRunLang [nm "Listen", nm "abortStartup"] = true := skel_evaluated.2.2

theorem loop_in_language (arms : List Stmt) (label : Name) (after : Stmt)
    (harms : arms.all (onAll (armOkW label)) = true) (hafter : onAll afterOkW after = true) :
    ∀ (n : Nat) (o : Out), o ∈ loopOuts arms label after n → inLoopLang (word o) = true ∧ isRet o.fin = true := by
  intro n
  induction n with
  | zero => intro o h; simp [loopOuts] at h
  | succ n ih =>
    intro o h
    simp only [loopOuts, List.mem_flatMap] at h
    obtain ⟨a, ⟨s, hs, has⟩, ho⟩ := h
    have hok := List.all_eq_true.mp (List.all_eq_true.mp harms s hs) a has
    cases hfin : a.fin with
    | fall =>
      simp only [hfin, List.mem_map] at ho
      obtain ⟨o', ho', rfl⟩ := ho
      obtain ⟨h1, h2⟩ := ih o' ho'
      simp only [armOkW, hfin, Bool.or_eq_true, beq_iff_eq] at hok
      refine ⟨?_, by rw [fin_pre]; exact h2⟩
      rw [word_pre]
      rcases hok with hk | hk
      · rw [hk]; simp only [List.singleton_append, inLoopLang_reload]; exact h1
      · rw [hk]; simpa using h1
    | goto l =>
      simp only [armOkW, hfin, Bool.and_eq_true, beq_iff_eq] at hok
      obtain ⟨hl, hk⟩ := hok
      subst hl
      simp only [hfin, beq_self_eq_true, if_true, List.mem_map] at ho
      obtain ⟨f, hf, rfl⟩ := ho
      have hfo := List.all_eq_true.mp hafter f hf
      simp only [afterOkW, Bool.and_eq_true, beq_iff_eq] at hfo
      refine ⟨?_, by rw [fin_pre]; exact hfo.1⟩
      rw [word_pre, hk, List.nil_append]
      show inLoopLang (keepT allCore f.trace) = true
      rw [hfo.2]; exact language_exits.2.1
    | ret ok =>
      simp only [hfin, List.mem_singleton] at ho
      rw [ho]
      simp only [armOkW, hfin, beq_iff_eq] at hok
      refine ⟨?_, by rw [hfin]; rfl⟩
      show inLoopLang (keepT allCore a.trace) = true
      rw [hok]; exact language_exits.1
    | tail t => simp [armOkW, hfin] at hok

theorem runServer_in_language (k : Skels) (hpre : onAll preOkW k.pre = true)
    (harms : k.arms.all (onAll (armOkW (afterLabel k.after))) = true) (hafter : onAll afterOkW k.after = true) :
    ∀ (n : Nat) (o : Out), o ∈ runOuts k n → inRunLang (word o) = true ∧ isRet o.fin = true := by
  intro n o h
  simp only [runOuts, List.mem_flatMap] at h
  obtain ⟨p, hp, ho⟩ := h
  have hpok := List.all_eq_true.mp hpre p hp
  cases hfin : p.fin with
  | fall =>
    simp only [hfin, beq_self_eq_true, if_true, List.mem_map] at ho
    obtain ⟨o', ho', rfl⟩ := ho
    obtain ⟨h1, h2⟩ := loop_in_language _ _ _ harms hafter n o' ho'
    simp only [preOkW, hfin, beq_iff_eq] at hpok
    refine ⟨?_, by rw [fin_pre]; exact h2⟩
    rw [word_pre, hpok]
    simp only [inRunLang, Bool.or_eq_true, Bool.and_eq_true]
    right
    refine ⟨by simp [readyPrefix], ?_⟩
    simpa [readyPrefix] using h1
  | ret ok =>
    have : (p.fin == End.fall) = false := by rw [hfin]; rfl
    simp only [this, Bool.false_eq_true, if_false, List.mem_singleton] at ho
    rw [ho]
    simp only [preOkW, hfin, beq_iff_eq] at hpok
    refine ⟨?_, by rw [hfin]; rfl⟩
    show inRunLang (keepT allCore p.trace) = true
    rw [hpok]; exact language_exits.2.2
  | tail t => simp [preOkW, hfin] at hpok
  | goto l => simp [preOkW, hfin] at hpok

/-- the lifecycle language over the regenerated control flow: slices that pass `checkWhole` ⇒ every path of
    the assembled program, with any number of iterations of the event loop, ends in a `return` and has a call
    word of the lifecycle language -/
theorem whole_in_language (k : Skels) (h : checkWhole k = true) :
    ∀ (n : Nat) (o : Out), o ∈ startOuts k n → inStartLang (word o) = true ∧ isRet o.fin = true := by
  simp only [checkWhole, Bool.and_eq_true] at h
  obtain ⟨⟨⟨hent, hpre⟩, harms⟩, hafter⟩ := h
  intro n o ho
  simp only [startOuts, List.mem_flatMap] at ho
  obtain ⟨e, he, ho⟩ := ho
  simp only [startOutsOf, List.mem_flatMap] at ho
  obtain ⟨x, hx, ho⟩ := ho
  have hxok := List.all_eq_true.mp (List.all_eq_true.mp hent e he) x hx
  cases hfin : x.fin with
  | tail r =>
    simp only [entryOkW, hfin, Bool.and_eq_true, beq_iff_eq] at hxok
    obtain ⟨hr, hk⟩ := hxok
    subst hr
    simp only [hfin, beq_self_eq_true, if_true, List.mem_map] at ho
    obtain ⟨o', ho', rfl⟩ := ho
    obtain ⟨h1, h2⟩ := runServer_in_language k hpre harms hafter n o' ho'
    refine ⟨?_, by rw [fin_pre]; exact h2⟩
    rw [word_pre, hk]
    simp only [inStartLang, Bool.or_eq_true, Bool.and_eq_true]
    right
    refine ⟨by simp [prologue], ?_⟩
    simpa [prologue] using h1
  | ret ok =>
    simp only [hfin, List.mem_singleton] at ho
    rw [ho]
    simp only [entryOkW, hfin] at hxok
    exact ⟨Bool.or_eq_true_iff.mpr (.inl hxok), by rw [hfin]; rfl⟩
  | fall => simp [entryOkW, hfin] at hxok
  | goto l => simp [entryOkW, hfin] at hxok

/-- … stated on executions: every entry point, every valuation of every branch condition, every schedule of
    the event loop (any length, any arm in any iteration) -/
theorem every_execution_in_language (k : Skels) (h : checkWhole k = true) (e : Stmt) (he : e ∈ k.entries)
    (ρe ρp ρa : Nat → Bool) (sched : Sched) (o : Out) (hex : execStart k e ρe ρp ρa sched = some o) :
    inStartLang (word o) = true ∧ isRet o.fin = true :=
  whole_in_language k h sched.length o (exec_start_mem_startOuts k e he ρe ρp ρa sched o hex)

/-! ### the model's words are words of paths -/

theorem loop_served_present (arms : List Stmt) (label : Name) (after : Stmt)
    (hrel : ∃ a ∈ arms.flatMap outs, a.fin = .fall ∧ word a = [nm "Reload"])
    (hgo : ∃ a ∈ arms.flatMap outs, a.fin = .goto label ∧ word a = [])
    (haf : ∃ f ∈ outs after, word f = shutdownOrder) :
    ∀ h : Nat, ∃ o ∈ loopOuts arms label after (h + 1), word o = List.replicate h (nm "Reload") ++ shutdownOrder := by
  intro h
  induction h with
  | zero =>
    obtain ⟨a, ha, hfin, hw⟩ := hgo
    obtain ⟨f, hf, hwf⟩ := haf
    refine ⟨Out.pre a.trace f, List.mem_flatMap.mpr ⟨a, ha, ?_⟩, ?_⟩
    · simp only [hfin, beq_self_eq_true, if_true, List.mem_map]
      exact ⟨f, hf, rfl⟩
    · rw [word_pre, show keepT allCore a.trace = [] from hw, hwf]; rfl
  | succ h ih =>
    obtain ⟨a, ha, hfin, hw⟩ := hrel
    obtain ⟨o, ho, hwo⟩ := ih
    refine ⟨Out.pre a.trace o, List.mem_flatMap.mpr ⟨a, ha, ?_⟩, ?_⟩
    · simp only [hfin, List.mem_map]
      exact ⟨o, ho, rfl⟩
    · rw [word_pre, hwo, show keepT allCore a.trace = [nm "Reload"] from hw, List.replicate_succ]; rfl

/-- from the slice-level facts `liveness k`: for every number `h` of SIGHUP reloads the word the lifecycle model
    follows when the server is served and stopped is the word of a path of the assembled program -/
theorem served_word_present (k : Skels) (hl : liveness k = true) (h : Nat) :
    modelWord (.served h) ∈ (startOuts k (h + 1)).map word := by
  simp only [liveness, Bool.and_eq_true, List.any_eq_true, beq_iff_eq] at hl
  obtain ⟨⟨⟨⟨⟨e, he, x, hx, hxf, hxw⟩, ⟨p, hp, hpf, hpw⟩⟩, ⟨a, ha, haf, haw⟩⟩, ⟨g, hg, hgf, hgw⟩⟩, ⟨f, hf, _, hfw⟩⟩ := hl
  obtain ⟨o, ho, hwo⟩ := loop_served_present k.arms (afterLabel k.after) k.after ⟨a, ha, haf, haw⟩ ⟨g, hg, hgf, hgw⟩
    ⟨f, hf, hfw⟩ h
  refine List.mem_map.mpr ⟨Out.pre x.trace (Out.pre p.trace o), ?_, ?_⟩
  · simp only [startOuts, List.mem_flatMap]
    refine ⟨e, he, ?_⟩
    simp only [startOutsOf, List.mem_flatMap]
    refine ⟨x, hx, ?_⟩
    simp only [hxf, beq_self_eq_true, if_true, List.mem_map]
    refine ⟨Out.pre p.trace o, ?_, rfl⟩
    simp only [runOuts, List.mem_flatMap]
    refine ⟨p, hp, ?_⟩
    simp only [hpf, beq_self_eq_true, if_true, List.mem_map]
    exact ⟨o, ho, rfl⟩
  · rw [word_pre, word_pre, hwo]
    have h1 : keepT allCore x.trace = prologue := hxw
    have h2 : keepT allCore p.trace = readyPrefix := hpw
    rw [h1, h2]
    simp [modelWord, List.append_assoc]

/-- non-vacuity: the literal skeletons of the current source (`skNow`, Props/C09) pass `checkWhole`, `liveness` and
    `modelPathsPresent` -/
example : checkWhole skNow = true ∧ liveness skNow = true ∧ modelPathsPresent skNow 2 = true := skel_evaluated.2.1

end whole

/-! ### the runs of the lifecycle model follow these paths -/

section model
open Rivaas.Lifecycle Rivaas.Lifecycle.Spec

def pathRes : ModelPath → Res → Bool
  | .startFailed, r => r == .errStartup
  | .listenFailed, r => r == .errListen
  | .certFailed, r => r == .errListen
  | .served _, r => r == .ok || r == .errDrain

/-- log segments whose producing call is not on the path are empty. Producing calls: `starts` ←
    executeStartHooks, `readies` ← executeReadyHooks, `reloads` ← Reload (and the environment's own calls), `shuts` ←
    executeShutdownHooks, `drain` ← Shutdown, `flush` ← shutdownObservability (inside abortStartup on the failure
    paths), `stops` ← executeStopHooks; `reqIns`, `sig` and `post` belong to the environment of a served run -/
def segsOnPath : ModelPath → Segs → Bool
  | .served _, _ => true
  | _, s => s.readies.isEmpty && s.reqIns.isEmpty && s.reloads.isEmpty && s.sig.isEmpty && s.shuts.isEmpty &&
      s.drain.isEmpty && s.stops.isEmpty && s.post.isEmpty

def pathOfRes (nHup : Nat) : Res → Option ModelPath
  | .errStartup => some .startFailed
  | .errListen => some .listenFailed
  | .ok => some (.served nHup)
  | .errDrain => some (.served nHup)
  | _ => none

def FollowsPath (nHup : Nat) (r : Run) : Prop :=
  r.res = .panic ∨ ∃ p, pathOfRes nHup r.res = some p ∧ pathRes p r.res = true ∧ segsOnPath p r.segs = true

theorem lemma_shutdownSeq_follows (fx : Fixes) (sc : Scenario) (race sent : Bool) (s : Segs) (rr : List RRes) (nHup : Nat) :
    FollowsPath nHup (shutdownSeq fx sc race sent s rr) := by
  have served : ∀ res, res = .ok ∨ res = .errDrain →
      ∃ p, pathOfRes nHup res = some p ∧ pathRes p res = true ∧
        segsOnPath p (shutdownSeq fx sc race sent s rr).segs = true := by
    rintro _ (rfl | rfl) <;> exact ⟨.served nHup, rfl, rfl, rfl⟩
  exact (shutdownTail_shape fx sc race sent).2.imp_right (served _)

/-- Following a path of the language rests on one repair only: K09a (no OnReady hook has run when the listen fails, so
    the `readies` segment is empty on the path that never reaches `executeReadyHooks`). -/
theorem lemma_run_follows_a_path (fx : Fixes) (ha : fx.a = true) (sc : Scenario) (race : Bool) (nHup : Nat) :
    FollowsPath nHup (runSegs fx sc race) := by
  unfold runSegs
  cases hst : (startHooks sc.metrics 0 false sc.starts).out with
  | panicked => left; simp [hst]
  | failed =>
    right
    exact ⟨.startFailed, by simp [hst, pathOfRes, pathRes, segsOnPath]⟩
  | done =>
    simp only [hst]
    by_cases hl : (sc.listen != .ok) = true
    · right
      exact ⟨.listenFailed, by simp [hl, ha, pathOfRes, pathRes, segsOnPath]⟩
    · simp only [hl, Bool.false_eq_true, if_false]
      split
      · exact lemma_shutdownSeq_follows ..
      · split
        · left; rfl
        · exact lemma_shutdownSeq_follows ..

/-- every run of the lifecycle model follows a path of the language: for every scenario and both values of
    `race`, unless a hook panic leaves `Start`, the run has the result of one of the path shapes and leaves empty
    every log segment whose producing call is not on that path -/
theorem model_run_follows_a_path (sc : Scenario) (race : Bool) (nHup : Nat) :
    FollowsPath nHup (runSegs current sc race) :=
  lemma_run_follows_a_path current rfl sc race nHup

/-- non-vacuity: a served run (`wFull2`) and a failed start (`wFail`) -/
example : ∃ sc, pathRes (.served 0) (runSegs current sc false).res = true := ⟨wFull2, by decide⟩
example : ∃ sc, (runSegs current sc false).res = .errStartup := ⟨wFail, by decide⟩

/-- every run of the model is an execution of the assembled program, at the level of call words; the two failure words
    may be found among the paths with any bound `m` on the iterations -/
theorem model_run_executes (k : Skels) (hc : checkWhole k = true) (hl : liveness k = true) {m : Nat}
    (hp : modelPathsPresent k m = true) (sc : Scenario) (race : Bool) (nHup : Nat) :
    (runSegs current sc race).res = .panic ∨
    ∃ p n o, pathOfRes nHup (runSegs current sc race).res = some p ∧ o ∈ startOuts k n ∧ word o = modelWord p ∧
      inStartLang (word o) = true ∧ isRet o.fin = true := by
  rcases model_run_follows_a_path sc race nHup with h | ⟨p, hp1, _, _⟩
  · exact Or.inl h
  · right
    simp only [modelPathsPresent, Bool.and_eq_true, List.contains_eq_mem, decide_eq_true_eq] at hp
    have hmem : ∃ n o, o ∈ startOuts k n ∧ word o = modelWord p := by
      cases p with
      | startFailed =>
        obtain ⟨o, ho, hw⟩ := List.mem_map.mp hp.1.1
        exact ⟨_, o, ho, hw⟩
      | listenFailed =>
        obtain ⟨o, ho, hw⟩ := List.mem_map.mp hp.1.2
        exact ⟨_, o, ho, hw⟩
      | certFailed => simp [pathOfRes] at hp1; split at hp1 <;> simp at hp1   -- the shape of no result
      | served h =>
        obtain ⟨o, ho, hw⟩ := List.mem_map.mp (served_word_present k hl h)
        exact ⟨_, o, ho, hw⟩
    obtain ⟨n, o, ho, hw⟩ := hmem
    obtain ⟨h1, h2⟩ := whole_in_language k hc n o ho
    exact ⟨p, n, o, hp1, ho, hw, h1, h2⟩

/-- every run of the model is an execution of the regenerated control flow (at the level of call words): for slices
    that pass `checkWhole`, `liveness` and `modelPathsPresent`, every scenario and both values of `race`: unless a hook
    panic leaves `Start`, the run follows a path shape whose word is the word of an enumerated execution of the assembled
    program (for `served h`, `h` = any number of SIGHUP reloads, in particular the scenario's) — and that execution, like
    every other, is in the lifecycle language -/
theorem model_run_is_an_execution (k : Skels) (hc : checkWhole k = true) (hl : liveness k = true)
    (hp : modelPathsPresent k 0 = true) (sc : Scenario) (race : Bool) (nHup : Nat) :
    (runSegs current sc race).res = .panic ∨
    ∃ p n o, pathOfRes nHup (runSegs current sc race).res = some p ∧ o ∈ startOuts k n ∧ word o = modelWord p ∧
      inStartLang (word o) = true ∧ isRet o.fin = true :=
  model_run_executes k hc hl hp sc race nHup

/-! ### OnStop hooks: the model's `stopHooks` is the executor with a recover per hook — and that is what it takes -/

/-- `stopHooks` (what `runSegs` uses) is `executeStopHooks` with each hook under its own recover: every hook runs, whatever
    the hooks do, and no panic leaves the loop -/
theorem stopHooks_is_exec_with_recover (i : Nat) (hs : List HB) : stopHooksExec true i hs = (stopHooks i hs, false) := by
  induction hs generalizing i with
  | nil => rfl
  | cons b rest ih => simp [stopHooksExec, stopHooks, ih]

/-- the observation of a run whose OnStop segment is produced by the executor `stopHooksExec perHook`: with the per-hook recover or
    (`perHook = false`) without it -/
def runWithStopExec (perHook : Bool) (sc : Scenario) (race : Bool) : Obs :=
  let r := runSegs current sc race
  { r.obs with log := ({ r.segs with stops := (stopHooksExec perHook 0 sc.stops).1 } : Segs).log }

/-- as it would be with one recover around the whole loop (mutation m8) or none: the second OnStop hook of `wFull2`
    panics, the third never runs, and the oracle rejects the run ("OnStop hooks run, each exactly once"; a panicking
    OnStop hook does not leave the remaining sequence intact) — with the per-hook recover the same run is accepted -/
theorem stop_panic_without_per_hook_recover_breaks_oracle :
    (stopHooksExec false 0 wFull2.stops).1.filterMap stopTag = [(true, 0), (false, 0), (true, 1), (false, 1)] ∧
    holds wFull2 (runWithStopExec false wFull2 false) = false ∧
    holds wFull2 (runWithStopExec true wFull2 false) = true := by decide +kernel

end model

end Rivaas.C09
