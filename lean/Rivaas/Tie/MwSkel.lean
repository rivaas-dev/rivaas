/-
Helpers for the Tie obligations over the middleware skeletons of `Gen/Compress.lean` (C15) and `Gen/Gates.lean` (C17).
Those skeletons are terms of `Rivaas.Skel.Stmt` whose events are `Ev.obsRaw <code>`, the code being the position of
the call / field assignment in the fixed vocabulary of the extractor (extract/mwskel.go, printed as `vocab`).
An obligation has the shape

    ∀ ρ, P (codesOf ((exec ρ s).trace.filter (keepCodes K))) = true

"for every valuation ρ of the branch conditions, the calls of K that the function makes, in order, satisfy P" —
proved by `Skel.all_exec_slice` from one kernel evaluation (`decide`) along the sliced statement (`every_exec_walk`,
which the obligations use; `every_exec` is the same over the list of enumerated paths).  Core Lean only.
-/
import Rivaas.Tie.Skel

namespace Rivaas.MwSkel
open Rivaas.Skel

def keepCodes (k : List Nat) : Ev → Bool
  | .obsRaw n => k.contains n
  | _ => false

def codesOf (t : List Ev) : List Nat :=
  t.filterMap fun e => match e with
    | .obsRaw n => some n
    | _ => none

/-- all code traces of `s` projected on `k` (what the kernel evaluates) -/
def codeTraces (s : Stmt) (k : List Nat) : List (List Nat) := (traces (slice (keepCodes k) s)).map codesOf

theorem every_exec (s : Stmt) (k : List Nat) (P : List Nat → Bool)
    (h : (codeTraces s k).all P = true) (ρ : Atom → Bool) :
    P (codesOf ((exec ρ s).trace.filter (keepCodes k))) = true := by
  have h' : (traces (slice (keepCodes k) s)).all (fun t => P (codesOf t)) = true := by
    simpa [codeTraces, List.all_map] using h
  exact all_exec_slice s (keepCodes k) (fun t => P (codesOf t)) h' ρ

/-- `every_exec` with the check evaluated along the sliced statement (`Skel.walk`: a prefix common to several paths is
    read once) instead of on the list of its paths -/
theorem every_exec_walk (s : Stmt) (k : List Nat) (P : List Nat → Bool)
    (h : walk (fun q e => e :: q) (slice (keepCodes k) s) [] (fun q _ _ => P (codesOf q.reverse)) = true)
    (ρ : Atom → Bool) : P (codesOf ((exec ρ s).trace.filter (keepCodes k))) = true :=
  all_exec_slice s (keepCodes k) (fun t => P (codesOf t)) (by rw [all_traces_eq_walk]; exact h) ρ

/-- when both occur, the first `a` comes before the first `b` -/
def before (a b : Nat) (t : List Nat) : Bool :=
  match t.findIdx? (· == a), t.findIdx? (· == b) with
  | some i, some j => i < j
  | _, _ => true

/-- `b` occurs only after an `a` -/
def dominates (a b : Nat) (t : List Nat) : Bool :=
  match t.findIdx? (· == a), t.findIdx? (· == b) with
  | some i, some j => i < j
  | _, none => true
  | none, some _ => false

def endsWith (suffix t : List Nat) : Bool := suffix.isSuffixOf t

end Rivaas.MwSkel
