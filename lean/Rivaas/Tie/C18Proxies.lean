/-
C18, translator tie (B): `Gen/Proxies.lean` is regenerated by `extract/proxies.go` from the current source of
router/proxies.go (and `IsLocalhost` in router/request.go) on every run; this file proves that the model of C18
(Model/RealIP.lean, Model/RealIPText.lean, Model/RemoteAddr.lean) agrees with those facts. An edit to the Go source
that invalidates a structural fact the model depends on breaks the theorem named after it on the next run
(`./check C18` then goes to search mode).

What the model assumes about the shape of the code, and the theorem that carries it:

* `walk` consumes the items right to left (`lastUntrustedXFF` = `walk … items.reverse`), starts with no hop counted,
  nothing seen and no boundary, skips an item `parseOneIP` rejects, and takes its items from `splitAndTrim` —
  `walk_goes_right_to_left`, `walk_starts_clean`, `walk_skips_unparsable`, `walk_items_from_splitAndTrim`.
* the two branches of the loop body are *interpreted* (`runBranch`: `breakIf`, `set boundary/hops/seen`) and proved
  equal to the corresponding equation of `walk` for every state — `trusted_branch_is_walk` (seen-untrusted test and
  hop test come before the boundary moves, the hop is counted), `untrusted_branch_is_walk`. A reordering that changes
  what the loop computes (boundary moved before the hop test = K18a, missing seen-untrusted test = K18b) makes these
  fail; the early-continue layout of the same loop (harmless/H7) extracts to the same two lists.
* after the loop the item at the boundary is returned, then the leftmost item, then "" — `tail_is_boundary_then_leftmost`.
* `clientIP`: the peer is computed from RemoteAddr first, a missing configuration and an untrusted peer return the
  peer BEFORE any request header is read, the headers are tried in configuration order and the first that yields
  wins, otherwise the peer — `clientIP_steps_are_the_models`, `no_header_read_before_the_gate`.
* `hdrValue`: X-Forwarded-For goes through the walk, every other header (X-Real-IP, CF-Connecting-IP, custom names)
  through `parseOneIP` of the header of that very name — `header_arms_are_the_models`.
* `Req.maxHops ≥ 1` (hypothesis of `clientIP_meets_spec`) and the default header order — `maxHops_normalised_to_one`,
  `compile_follows_the_source`, `default_headers_are_xff_then_realip`, `compile_headers_follows_the_source`,
  `invalid_cidr_fails_fast`.
* `isTrusted`, `parseOneIP`, `splitAndTrim`, `clientIPFromRemoteAddr` have the statement shapes the text-level models
  follow — `isTrusted_shape`, `parseOneIP_shape`, `splitAndTrim_shape`, `remoteAddr_shape`.
* "malformed header content never panics", structurally: `every_index_is_in_range`, `no_explicit_panic_on_the_clientIP_path`.
* `IsLocalhost` is a function of `ClientIP()` alone (so an untrusted peer cannot influence it either), with the literal
  table of `Model/RealIP.isLocalhost` — `isLocalhost_from_clientIP_only`, `isLocalhost_table`.
-/
import Rivaas.Gen.Proxies
import Rivaas.Model.RealIP

namespace Rivaas.Tie.C18Proxies
open Rivaas.Gen.Proxies Rivaas.RealIP

/-- every shape the extractor looked for was recognised -/
theorem extraction_complete : extractProblem = "" := rfl

/-! ## the walk -/

theorem walk_goes_right_to_left : loopHeader = ("len(parts) - 1", "i >= 0", "i--") := rfl

theorem walk_starts_clean : walkInit = [("hops", "0"), ("boundary", "len(parts)"), ("seen", "false")] := rfl

theorem walk_skips_unparsable : skipUnparsable = true := rfl

theorem walk_items_from_splitAndTrim : splitCall = "splitAndTrim(xff, ',')" := rfl

/-- state of the walk between two items: hops counted, an untrusted address seen, `parts[boundary]` -/
structure WS where
  hops : Nat
  seen : Bool
  b : Option (Bytes × Bool)

/-- one extracted statement of a branch, executed for the current item; the Boolean says "break".
    `none`: a statement this interpreter does not know (the obligation then fails). -/
def stepStmt (maxHops : Nat) (item : Bytes × Bool) (st : WS) (s : String) : Option (Bool × WS) :=
  if s = "breakIf: seen" then some (st.seen, st)
  else if s = "breakIf: maxHops > 0 && hops >= maxHops" then some (decide (maxHops > 0) && decide (st.hops ≥ maxHops), st)
  else if s = "breakIf: hops >= maxHops" then some (decide (st.hops ≥ maxHops), st)
  else if s = "set: boundary = i" then some (false, { st with b := some item })
  else if s = "set: hops ++" then some (false, { st with hops := st.hops + 1 })
  else if s = "set: seen = true" then some (false, { st with seen := true })
  else none

def runBranch (maxHops : Nat) (item : Bytes × Bool) : List String → WS → Option (Bool × WS)
  | [], st => some (false, st)
  | s :: rest, st =>
    match stepStmt maxHops item st s with
    | none => none
    | some (true, st') => some (true, st')
    | some (false, st') => runBranch maxHops item rest st'

/-- how the model continues after a branch: a break ends the walk with the boundary so far -/
def resume (maxHops : Nat) (rest : List Item) : Option (Bool × WS) → Option (Option (Bytes × Bool))
  | none => none
  | some (true, st) => some st.b
  | some (false, st) => some (walk maxHops rest st.hops st.seen st.b)

/-- the trusted branch of the loop, as extracted, is the trusted equation of `walk` — for every state
    (`maxHops ≥ 1` is what `compileProxies` guarantees, see `maxHops_normalised_to_one`) -/
theorem trusted_branch_is_walk (maxHops hops : Nat) (seen : Bool) (b : Option (Bytes × Bool)) (ip : Bytes)
    (rest : List Item) (h1 : 1 ≤ maxHops) :
    resume maxHops rest (runBranch maxHops (ip, true) trustedBranch ⟨hops, seen, b⟩) =
      some (walk maxHops (some (ip, true) :: rest) hops seen b) := by
  have hpos : decide (maxHops > 0) = true := by simp; omega
  cases seen <;> by_cases hh : hops ≥ maxHops <;>
    simp [trustedBranch, runBranch, stepStmt, resume, walk, hpos, hh]

/-- the untrusted branch of the loop, as extracted, is the untrusted equation of `walk`, for every state -/
theorem untrusted_branch_is_walk (maxHops hops : Nat) (seen : Bool) (b : Option (Bytes × Bool)) (ip : Bytes)
    (rest : List Item) :
    resume maxHops rest (runBranch maxHops (ip, false) untrustedBranch ⟨hops, seen, b⟩) =
      some (walk maxHops (some (ip, false) :: rest) hops seen b) := by
  simp [untrustedBranch, runBranch, stepStmt, resume, walk]

/-- as shipped before fix 146e639 the boundary moved before the hop test (K18a) and nothing stopped the walk at a
    trusted address left of an untrusted one (K18b): such a branch does NOT compute `walk` -/
example : resume 1 [] (runBranch 1 (['p'], true) ["set: boundary = i", "set: hops ++", "breakIf: hops >= maxHops"]
      ⟨0, true, some (['c'], false)⟩) ≠ some (walk 1 [some (['p'], true)] 0 true (some (['c'], false))) := by
  decide +kernel

theorem tail_is_boundary_then_leftmost :
    walkTail = ["if boundary < len(parts): return parseOneIP(parts[boundary]) unless empty",
                "return parseOneIP(parts[0]) unless empty", "return \"\""] := rfl

/-! ## Context.ClientIP -/

/-- the steps of the model's `clientIP` (with the peer computed by `peerOf` and the nil-configuration return of
    the Go code in front), as the extractor names them -/
def modelSteps : List String :=
  ["peer := clientIPFromRemoteAddr(RemoteAddr)", "if no configuration return peer", "if !isTrusted(peer) return peer",
   "for h in headers: first that yields", "return peer"]

theorem clientIP_steps_are_the_models : clientIPSteps = modelSteps := rfl

theorem no_header_read_before_the_gate : headerReadsBeforeGate = 0 := rfl

/-- which function the model applies to a configured header: the walk for X-Forwarded-For, `parseOneIP` otherwise -/
def modelFn (label : String) : String := if label = "X-Forwarded-For" then "lastUntrustedXFF" else "parseOneIP"

/-- spellings of a header name that `http.Header.Get` treats alike (it canonicalises its argument): the name as the
    label has it and its canonical MIME form -/
def spellings (label : String) : List String :=
  if label = "CF-Connecting-IP" then ["CF-Connecting-IP", "Cf-Connecting-Ip"]
  else if label = "X-Real-IP" then ["X-Real-IP", "X-Real-Ip"]
  else [label]

/-- every arm reads the header it is labelled with (the default arm reads the configured name) and applies the
    function the model applies; X-Forwarded-For, X-Real-IP, CF-Connecting-IP and the default arm exist -/
theorem header_arms_are_the_models :
    (headerArms.all fun a =>
      a.2.2 == modelFn a.1 &&
      (if a.1 = "default" then a.2.1 == "<the configured name>" else (spellings a.1).contains a.2.1)) = true ∧
    headerArms.map (·.1) = ["X-Forwarded-For", "X-Real-IP", "CF-Connecting-IP", "default"] := by
  decide +kernel

/-! ## configuration -/

theorem maxHops_normalised_to_one : maxHopsNormalisation = ("maxHops <= 0", 1) := rfl

/-- the extracted normalisation test, evaluated on a configured value (`none`: a test this file does not know) -/
def normTest (t : String) (mh : Int) : Option Bool :=
  if t = "maxHops <= 0" then some (decide (mh ≤ 0))
  else if t = "maxHops < 1" then some (decide (mh < 1))
  else none

/-- the model's `compileMaxHops` (Model/RealIP) is the normalisation `compileProxies` performs, for every configured
    value: the extracted test, evaluated, and the extracted replacement value give `compileMaxHops` -/
theorem compile_follows_the_source (mh : Int) :
    (normTest maxHopsNormalisation.1 mh).map (fun b => if b then maxHopsNormalisation.2 else mh.toNat) =
      some (compileMaxHops mh) := by
  unfold maxHopsNormalisation compileMaxHops
  simp only [normTest, if_true, Option.map_some, decide_eq_true_eq]

theorem default_headers_are_xff_then_realip : defaultHeaders = ["X-Forwarded-For", "X-Real-IP"] := rfl

/-- the model's `compileHeaders` (Model/RealIP) on header names: nothing configured means exactly the extracted
    default list -/
theorem compile_headers_follows_the_source :
    compileHeaders ([] : List String) defaultHeaders = ["X-Forwarded-For", "X-Real-IP"] ∧
    compileHeaders ["CF-Connecting-IP"] defaultHeaders = ["CF-Connecting-IP"] := ⟨rfl, rfl⟩

theorem invalid_cidr_fails_fast : invalidCIDRFailsFast = true := rfl

/-! ## the text-level helpers -/

theorem isTrusted_shape :
    isTrustedShape = ["v0 := net.ParseIP(arg0)", "if v0 == nil", "  return false", "range cfg.cidrs",
      "  if v1.Contains(v0)", "    return true", "return false"] := rfl

theorem parseOneIP_shape :
    parseOneIPShape = ["arg0 = strings.TrimSpace(arg0)", "if arg0 == \"\"", "  return \"\"", "v0 := net.ParseIP(arg0)",
      "if v0 == nil", "  return \"\"", "return v0.String()"] := rfl

theorem splitAndTrim_shape :
    splitAndTrimShape = ["if arg0 == \"\"", "  return nil", "v0 := strings.Split(arg0, string(arg1))",
      "v1 := make([]string, 0, len(v0))", "range v0", "  v2 = strings.TrimSpace(v2)", "  if v2 != \"\"",
      "    v1 = append(v1, v2)", "return v1"] := rfl

theorem remoteAddr_shape :
    remoteAddrShape = ["if arg0 == \"\"", "  return \"\"", "v0, _, v1 := net.SplitHostPort(arg0)", "if v1 != nil",
      "  return arg0", "return v0"] := rfl

/-! ## no panic on the ClientIP path, structurally -/

def knownGuards : List String :=
  ["index of the descending loop over the same slice (0 <= i < len)",
   "under idx < len(slice); idx only holds len(slice) or the loop index",
   "element 0 after the empty-slice return", "map lookup"]

/-- every index expression in `ClientIP`, `lastUntrustedXFF`, `parseOneIP`, `splitAndTrim`,
    `clientIPFromRemoteAddr`, `isTrusted` is kept in range by a recognised guard, and there is no slice expression
    without one (a new `parts[k]`, `s[:n]` … without such a guard breaks this obligation) -/
theorem every_index_is_in_range : (indexSites.all fun s => knownGuards.contains s.2.2) = true := by
  -- each site's guard is found as the same literal among the known ones; literals that differ are never compared,
  -- so none has to be decoded
  simp only [indexSites, knownGuards, List.all_cons, List.all_nil, List.contains_cons, List.contains_nil,
    beq_self_eq_true, Bool.true_or, Bool.or_true, Bool.and_true]

/-- no explicit `panic`, unchecked type assertion or integer division in those functions: with
    `every_index_is_in_range`, what is left to panic are the standard-library calls (`net`, `strings`: parameters) -/
theorem no_explicit_panic_on_the_clientIP_path : explicitPanicSites = [] := rfl

/-! ## IsLocalhost -/

theorem isLocalhost_from_clientIP_only : localhostFromClientIPOnly = true := rfl

theorem isLocalhost_table :
    localhostExact.map String.toList = Rivaas.RealIP.localhostExact ∧
    localhostPrefixes.map String.toList = Rivaas.RealIP.localhostPrefixes := ⟨rfl, rfl⟩

end Rivaas.Tie.C18Proxies
