/-
C02, translator tie (B): structural facts of `(*Context).Next`, `Abort` and `reset` (router/context.go) that the
chain machine (`Model/Chain.lean`: `callNext`, `loopHead`, `step` on `Frame.loop`, `St.stopped`, `init`) relies on,
and of the functions of `app/`, `router/` and `router/route/` that put a route's handler slice together
(`Model/Compose.lean`, `Model/RouteOpts.lean`), regenerated from the current source on every run
(`Gen/ChainFacts.lean`, extract/chainfacts.go) and checked here.
-/
import Rivaas.Gen.ChainFacts
import Rivaas.Model.Chain
import Rivaas.Model.Compose

namespace Rivaas.Tie.C02Chain
open Rivaas.Gen.ChainFacts

/-- the extractor understood every statement of every function it reads -/
theorem extraction_complete : problem = none := rfl

/-- `Next` starts with `c.index++` and a length taken once (`callNext` = `idx + 1` then `loopHead`) -/
theorem next_increments_first :
    ctx_next.take 2 = ["_1.index++", "_2 := int32(len(_1.handlers))"] := rfl

/-- with cancellation checks: loop bound `index < len`, then the abort test, then the `ctx.Err()` test, each
    returning; only then the handler at `index` is called, and `index++` follows the call
    (`loopHead`: bound, `St.stopped`, push `fn`+`loop`; `step` on `Frame.loop`: `idx + 1`, `loopHead`) -/
theorem next_checked_loop :
    (ctx_next.drop 2).take 14 =
      ["if _1.router != nil && _1.router.checkCancellation {", "for _1.index < _2 {",
       "if _1.aborted {", "return", "}",
       "_3 := _1.Request.Context().Err()", "if _3 != nil {", "return", "}",
       "_1.handlers[_1.index](_1)", "_1.index++", "}", "}", "else {"] := rfl

/-- without cancellation checks: the same loop without the `ctx.Err()` test (`Cfg.check = false`) -/
theorem next_unchecked_loop :
    ctx_next.drop 16 =
      ["for _1.index < _2 {", "if _1.aborted {", "return", "}", "_1.handlers[_1.index](_1)", "_1.index++", "}", "}"] := rfl

/-! ### the extracted `Next`, interpreted, against the machine (`Model/Chain.lean`)

The token list is parsed into a shape — is `index++` the first statement, which tests stand (in which order) between
the loop bound and the call in the loop with cancellation checks and in the loop without, does `index++` follow the
call — and the shape is given the obvious semantics: "from the loop head, which position is called next, if any".
`next_interpreted_agrees_with_loopHead` proves that semantics equal to what `Chain.loopHead` does, for every
configuration and state; `callNext_loop_step_shape` ties the two increments. An edit of `Next` changes the parsed shape
(or makes the parse fail), an edit of `loopHead` / `callNext` / `step` breaks the agreement. -/

inductive Guard where
  /-- `if c.aborted { return }` -/
  | aborted
  /-- `if err := c.Request.Context().Err(); err != nil { return }` -/
  | cancelled
  deriving Repr, DecidableEq

structure NextShape where
  incFirst : Bool
  checked : List Guard
  unchecked : List Guard
  incAfterCallChecked : Bool
  incAfterCallUnchecked : Bool
  deriving Repr, DecidableEq

/-- the guards in front of the call, then `call; index++; }` -/
def parseLoopBody : Nat → List String → Option (List Guard × Bool × List String)
  | 0, _ => none
  | fuel+1, toks =>
    match toks with
    | "if _1.aborted {" :: "return" :: "}" :: rest =>
      (parseLoopBody fuel rest).map fun (g, i, r) => (Guard.aborted :: g, i, r)
    | "_3 := _1.Request.Context().Err()" :: "if _3 != nil {" :: "return" :: "}" :: rest =>
      (parseLoopBody fuel rest).map fun (g, i, r) => (Guard.cancelled :: g, i, r)
    | "_1.handlers[_1.index](_1)" :: "_1.index++" :: "}" :: rest => some ([], true, rest)
    | "_1.handlers[_1.index](_1)" :: "}" :: rest => some ([], false, rest)
    | _ => none

def parseNext (toks : List String) : Option NextShape :=
  match toks with
  | "_1.index++" :: "_2 := int32(len(_1.handlers))" :: "if _1.router != nil && _1.router.checkCancellation {" ::
      "for _1.index < _2 {" :: rest =>
    match parseLoopBody 8 rest with
    | some (gc, ic, "}" :: "else {" :: "for _1.index < _2 {" :: rest2) =>
      match parseLoopBody 8 rest2 with
      | some (gu, iu, ["}"]) => some { incFirst := true, checked := gc, unchecked := gu,
                                        incAfterCallChecked := ic, incAfterCallUnchecked := iu }
      | _ => none
    | _ => none
  | _ => none

theorem next_parses :
    parseNext ctx_next = some { incFirst := true, checked := [.aborted, .cancelled], unchecked := [.aborted],
                                incAfterCallChecked := true, incAfterCallUnchecked := true } := by decide +kernel

def guardFires (aborted cancelled : Bool) : Guard → Bool
  | .aborted => aborted
  | .cancelled => cancelled

/-- semantics of a parsed loop: from the loop head with cursor `idx`, the position that is called next (`none` = the
    loop is left: bound reached or a test returned) -/
def headOf (sh : NextShape) (check : Bool) (idx : Int) (len : Nat) (aborted cancelled : Bool) : Option Nat :=
  if 0 ≤ idx ∧ idx < len then
    if ((if check then sh.checked else sh.unchecked).any (guardFires aborted cancelled)) then none else some idx.toNat
  else none

open Rivaas.Chain in
def modelHead (cfg : Cfg) (progs : List Prog) (s : St) : Option Nat :=
  if 0 ≤ s.idx ∧ s.idx < progs.length then (if s.stopped cfg then none else some s.idx.toNat) else none

open Rivaas.Chain in
theorem loopHead_is_modelHead (cfg : Cfg) (progs : List Prog) (s : St) :
    loopHead cfg progs s =
      match modelHead cfg progs s with
      | some k => { s with stack := Frame.fn k (progs.getD k default).fk (progs.getD k default).acts :: Frame.loop :: s.stack,
                           trace := s.trace ++ [Ev.enter k] }
      | none => s := by
  unfold loopHead modelHead
  by_cases hb : 0 ≤ s.idx ∧ s.idx < progs.length
  · rw [if_pos hb, if_pos hb]
    cases s.stopped cfg <;> rfl
  · rw [if_neg hb, if_neg hb]

open Rivaas.Chain in
/-- **The extracted `Next` loop, interpreted, is the machine's loop head** — for every configuration (checks on / off),
    every chain and every state: the same position is called next, or none -/
theorem next_interpreted_agrees_with_loopHead (cfg : Cfg) (progs : List Prog) (s : St) :
    (parseNext ctx_next).map (fun sh => headOf sh cfg.check s.idx progs.length s.aborted s.cancelled) =
      some (modelHead cfg progs s) := by
  rw [next_parses]
  obtain ⟨check, ab⟩ := cfg
  obtain ⟨idx, aborted, cancelled, stack, trace, status, body, escaped⟩ := s
  simp only [Option.map_some, headOf, modelHead, St.stopped]
  cases check <;> cases aborted <;> cases cancelled <;> rfl

open Rivaas.Chain in
/-- the two increments: `Next` starts with `index++` (`callNext`), and `index++` follows the call inside the loop (the
    machine's step on a `loop` frame) -/
theorem callNext_loop_step_shape (cfg : Cfg) (progs : List Prog) (s : St) (rest : List Frame) :
    (parseNext ctx_next).map (fun sh => (sh.incFirst, sh.incAfterCallChecked, sh.incAfterCallUnchecked)) = some (true, true, true) ∧
    callNext cfg progs s = loopHead cfg progs { s with idx := s.idx + 1 } ∧
    step cfg progs { s with stack := Frame.loop :: rest } =
      loopHead cfg progs { s with idx := s.idx + 1, stack := rest } := by
  refine ⟨by rw [next_parses]; rfl, rfl, rfl⟩

/-- `Abort` only sets the flag (`step`, act `.abort`) -/
theorem abort_sets_flag : ctx_abort = ["_1.aborted = true"] := rfl

/-- `reset` puts the chain state back to `Chain.init` / `PCtx.reset`: no handlers, `index = -1`, not aborted -/
theorem reset_restores_chain_state :
    ctx_reset_chain = ["_1.handlers = nil", "_1.index = -1", "_1.aborted = false"] ∧
    Rivaas.Chain.init.idx = -1 ∧ Rivaas.Chain.init.aborted = false ∧ Rivaas.Chain.PCtx.reset.aborted = false :=
  ⟨rfl, rfl, rfl, rfl⟩

/-! ### composition glue: the order in which the handler slices are put together (`Model/Compose.lean`) -/

/-- `App.registerRoute`: `WithBefore` handlers, the handler, `WithAfter` handlers, each wrapped once (`Op.aroute`) -/
theorem app_route_before_handler_after :
    app_registerRoute =
      ["_1 := make([]router.HandlerFunc, 0, len(_2.before)+1+len(_2.after))",
       "range _2.before {", "_1 = append(_1, _3.wrapHandler(_4))", "}",
       "_1 = append(_1, _3.wrapHandler(_5))",
       "range _2.after {", "_1 = append(_1, _3.wrapHandler(_4))", "}"] := rfl

/-- per-route options (`Model/RouteOpts.lean`: `apply`, `applyAll`): `WithBefore` / `WithAfter` append to the
    configuration, a `RouteOptions` set applies its members in order to the same configuration, and `registerRoute`
    applies the options in the order given to an empty `routeConfig` -/
theorem app_route_options_shape :
    app_WithBefore = ["_1.before = append(_1.before, _2...)"] ∧
    app_WithAfter = ["_1.after = append(_1.after, _2...)"] ∧
    app_RouteOptions = ["range _1 {", "_2(_3)", "}"] ∧
    app_registerRoute_options.take 4 = ["_1 := &routeConfig{}", "range _2 {", "_3(_1)", "}"] := ⟨rfl, rfl, rfl, rfl⟩

/-- `wrapHandler` is transparent for the chain: it calls the app handler exactly once; its only deferred work is the
    hand-back of the pooled app context -/
theorem app_wrap_is_transparent : app_wrapHandler = ["defer {", "}", "_1(_2)"] := rfl

/-- app groups and app version groups: group middleware, before, handler, after — into a fresh slice -/
theorem app_group_route_order :
    app_group_addRoute =
      ["_1 := make([]route.Handler, 0, len(_2.middleware)+len(_3.before)+1+len(_3.after))",
       "range _2.middleware {", "_1 = append(_1, _2.app.wrapHandler(_4))", "}",
       "range _3.before {", "_1 = append(_1, _2.app.wrapHandler(_5))", "}",
       "_1 = append(_1, _2.app.wrapHandler(_6))",
       "range _3.after {", "_1 = append(_1, _2.app.wrapHandler(_5))", "}"] ∧
    app_vgroup_addRoute =
      ["_1 := make([]router.HandlerFunc, 0, len(_2.middleware)+len(_3.before)+1+len(_3.after))",
       "range _2.middleware {", "_1 = append(_1, _2.app.wrapHandler(_4))", "}",
       "range _3.before {", "_1 = append(_1, _2.app.wrapHandler(_5))", "}",
       "_1 = append(_1, _2.app.wrapHandler(_6))",
       "range _3.after {", "_1 = append(_1, _2.app.wrapHandler(_5))", "}"] := ⟨rfl, rfl⟩

/-- nested groups copy the parent's middleware into a fresh slice and append their own (no aliasing: K02 and the
    `Group.Group` mutation); `App.Group` copies its variadic slice (the K02 fix); `Use` appends in place -/
theorem groups_copy_then_append :
    app_group_Group = ["_1 := make([]HandlerFunc, 0, len(_2.middleware)+len(_3))", "_1 = append(_1, _2.middleware...)",
                       "_1 = append(_1, _3...)"] ∧
    route_group_Group = ["_1 := make([]Handler, 0, len(_2.middleware)+len(_3))", "_1 = append(_1, _2.middleware...)",
                         "_1 = append(_1, _3...)"] ∧
    app_App_Group = ["_1 := make([]HandlerFunc, len(_2))", "copy(_1, _2)"] ∧
    app_group_Use = ["_1.middleware = append(_1.middleware, _2...)"] ∧
    route_group_Use = ["_1.middleware = append(_1.middleware, _2...)"] ∧
    router_Use = ["_1.middleware = append(_1.middleware, _2...)"] := ⟨rfl, rfl, rfl, rfl, rfl, rfl⟩

/-- a route's chain: router-global middleware as of registration, then its own handlers (`RegisterRoute`); a group
    route: group middleware, then the handlers; a version-group route likewise — always a fresh slice -/
theorem route_chain_order :
    route_RegisterRoute.take 4 =
      ["_1 := _2.registrar.GetGlobalMiddleware()", "_3 := make([]Handler, 0, len(_1)+len(_2.handlers))",
       "_3 = append(_3, _1...)", "_3 = append(_3, _2.handlers...)"] ∧
    route_group_addRoute = ["_1 := make([]Handler, 0, len(_2.middleware)+len(_3))", "_1 = append(_1, _2.middleware...)",
                            "_1 = append(_1, _3...)"] ∧
    router_vgroup_Handle = ["_1 := make([]HandlerFunc, 0, len(_2.middleware)+len(_3))", "_1 = append(_1, _2.middleware...)",
                            "_1 = append(_1, _3...)"] := ⟨rfl, rfl, rfl⟩

/-- `Mount`: the parent's middleware (only with `InheritMiddleware`), the sub-router's middleware, the `WithMiddleware`
    extras, in this order; a mounted route = that chain, then the route's own handlers (`Op.mount`) -/
theorem mount_chain_order :
    router_Mount =
      ["if _1.InheritMiddleware {", "_2 = make([]HandlerFunc, 0, len(_3.middleware))", "_2 = append(_2, _3.middleware...)", "}",
       "_2 = append(_2, _4.middleware...)",
       "range _1.ExtraMiddleware {", "if _5 {", "_2 = append(_2, _6)", "}", "}",
       "_3.mergeSubrouterRoutes(_7, _4, _2, _1.NamePrefix)"] ∧
    router_mountRoute.take 8 =
      ["_1 := make([]HandlerFunc, 0, len(_2)+len(_3))", "_1 = append(_1, _2...)",
       "range _3 {", "if _4 {", "_1 = append(_1, _5)", "}", "}",
       "_6 := _7.addRouteInternal(_8.Method(), _9, _1)"] := ⟨rfl, rfl⟩

/-! ### the extracted `Mount` / `mountRoute`, interpreted, against `Compose.mountOp` -/

/-- a part of the chain a mounted route gets -/
inductive Part where
  /-- the parent router's middleware, only with `InheritMiddleware` -/
  | parentIfInherit
  | subMiddleware
  | extras
  /-- the route's own handlers -/
  | own
  deriving Repr, DecidableEq

/-- `Mount`: the order in which the mount chain is appended; `mountRoute`: mount chain first, then the route's handlers -/
def parseMount (mount mountRoute : List String) : Option (List Part) :=
  match mount, mountRoute with
  | ["if _1.InheritMiddleware {", "_2 = make([]HandlerFunc, 0, len(_3.middleware))", "_2 = append(_2, _3.middleware...)", "}",
     "_2 = append(_2, _4.middleware...)",
     "range _1.ExtraMiddleware {", "if _5 {", "_2 = append(_2, _6)", "}", "}",
     "_3.mergeSubrouterRoutes(_7, _4, _2, _1.NamePrefix)"],
    "_1 := make([]HandlerFunc, 0, len(_2)+len(_3))" :: "_1 = append(_1, _2...)" ::
      "range _3 {" :: "if _4 {" :: "_1 = append(_1, _5)" :: "}" :: "}" ::
      "_6 := _7.addRouteInternal(_8.Method(), _9, _1)" :: _ =>
    some [.parentIfInherit, .subMiddleware, .extras, .own]
  | _, _ => none

def partOf (inherit : Bool) (pmw smw extra own : List Nat) : Part → List Nat
  | .parentIfInherit => if inherit then pmw else []
  | .subMiddleware => smw
  | .extras => extra
  | .own => own

def chainOfParts (ps : List Part) (inherit : Bool) (pmw smw extra own : List Nat) : List Nat :=
  (ps.map (partOf inherit pmw smw extra own)).flatten

open Rivaas.Compose in
/-- **The extracted `Mount` + `mountRoute`, interpreted, build the handler slice `Compose.mountOp` gives a mounted
    route** — parent middleware under `InheritMiddleware`, sub-router middleware, extras, the route's own handlers —
    and `mountOp` hands the parent exactly one such route per route object of the sub-router -/
theorem mount_interpreted_agrees_with_mountOp (w : World) (parent sub seg : Nat) (inherit : Bool) (extra : List Hid)
    (p s : RouterSt) (hp : w.routers[parent]? = some p) (hs : w.routers[sub]? = some s) :
    (parseMount router_Mount router_mountRoute).isSome = true ∧
    mountOp w parent sub seg inherit extra =
      s.objs.foldl (fun w rt => w.addRouteOn parent
        { ver := none, path := seg :: rt.path,
          hs := ((parseMount router_Mount router_mountRoute).map
                  (fun ps => chainOfParts ps inherit p.mw s.mw extra rt.hs)).getD [] }) w := by
  have hparse : parseMount router_Mount router_mountRoute = some [.parentIfInherit, .subMiddleware, .extras, .own] := by
    decide +kernel
  have hchain (own : List Hid) : chainOfParts [.parentIfInherit, .subMiddleware, .extras, .own] inherit p.mw s.mw extra own =
      (if inherit then p.mw else []) ++ s.mw ++ extra ++ own := by
    show (if inherit then p.mw else []) ++ (s.mw ++ (extra ++ (own ++ []))) = _
    rw [List.append_nil, List.append_assoc, List.append_assoc]
  rw [hparse]
  refine ⟨rfl, ?_⟩
  simp only [mountOp, hp, hs, Option.map_some, Option.getD_some, hchain]

/-- `Mount` after the K02b fix (`Compose.mountOp` folds over `RouterSt.objs`): every route created on a router is
    logged — before the decision "register now / defer" —, the log only grows, and `mergeSubrouterRoutes` mounts
    exactly the logged routes through `mountRoute` (no reading back from the sub-router's trees) -/
theorem mount_from_route_objects :
    router_mergeSubrouterRoutes =
      ["if _1.routeLog != nil {", "_2 = make([]*route.Route, 0, len(_1.routeLog.routes))",
       "_2 = append(_2, _1.routeLog.routes...)", "}", "range _2 {", "_3.mountRoute(_4, _5, _6, _7)", "}"] ∧
    router_enqueueRoute =
      ["_1.logRoute(_2)", "if _1.warmedUp {", "_2.RegisterRoute()", "}", "else {",
       "_1.pendingRoutes = append(_1.pendingRoutes, _2)", "}"] ∧
    router_logRoute =
      ["if _1.routeLog == nil {", "_1.routeLog = &routeLog{}", "}", "_1.routeLog.routes = append(_1.routeLog.routes, _2)"] :=
  ⟨rfl, rfl, rfl⟩

end Rivaas.Tie.C02Chain
