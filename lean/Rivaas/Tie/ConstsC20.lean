/- Translator tie (B), constants: every literal of the Go source that the model of C20 mirrors equals the value
   extract/ regenerates from the current source (Gen/Consts.lean) on every run. An edited threshold, list or
   marker in /repo breaks the theorem named after it. -/
import Rivaas.Gen.Consts
import Rivaas.Model.Log
namespace Rivaas.Tie.ConstsC20
open Rivaas.Gen.Consts
theorem consts_C20_sensitiveKeys : Rivaas.Log.sensitive = logging_sensitiveKeys.map String.toList := rfl
theorem consts_C20_redactedValue : Rivaas.Log.redactedVal = logging_redactedValue.toList := rfl
end Rivaas.Tie.ConstsC20
