/-
C19, translator tie (B), structure: `Gen/CtxHelpers.lean` is regenerated by `extract/ctxhelpers.go` from the current
source of router/context.go, router/response.go, router/request.go and app/context.go on every run; this file proves
that Model/Render.lean, Model/Headers.lean and the media-type table of Model/Accept.lean (`normalizeMediaType`,
router/accept.go) agree with those facts. An edit to the Go source that invalidates one of them breaks the theorem
named after it on the next run (`./check C19` then goes to search mode).

* `fastPath` (Model/Render.lean) is taken iff none of the guards of `tryFastStringFormat` holds: the extracted guard
  conditions are *interpreted* on (format, operands) and proved equivalent to the model's decision for every input —
  `fast_path_guards_are_the_models`; a new guard-free way into the fast path (another verb, a non-string operand, a
  second `%`) or a dropped guard makes it fail. What the fast path writes — `fast_path_writes_prefix_operand_suffix`;
  the general path hands format and operands to fmt unchanged — `stringf_falls_back_to_fmt`.
* `sanitize`/`header` (Model/Headers.lean): `Context.Header` tests the value for CR/LF, removes both and only then
  writes, on every path — `header_sanitises_before_it_writes`; those steps, interpreted, compute the model's
  `sanitize` for every value — `header_writes_the_sanitised_value`.
* guard dominance for every header write: every raw write into a response header map in the four files writes a
  string literal or a number, except the one in `Context.Header`, which comes after the sanitiser; all other helpers
  (AppendHeader, Vary, Link, Location, Redirect, ContentType, Download, MethodNotAllowed, Data, DataFromReader, the
  app layer's error responses) therefore reach the header map only through `Context.Header` or a literal —
  `every_raw_header_write_is_clean`, `app_layer_writes_no_header_directly`; the net/http functions that are handed
  the response writer are the ones the model treats as parameters (`OpOK`) — `foreign_header_writers_are_known`.
* the literal tables: the short media-type names of `normalizeMediaType` and `ContentType`'s fallback types —
  `mime_short_names_are_the_models`, `content_type_fallback_is_the_models`.
-/
import Rivaas.Gen.CtxHelpers
import Rivaas.Model.Render
import Rivaas.Model.Headers
import Rivaas.Model.Accept
import Rivaas.Tie.StrLit

namespace Rivaas.Tie.C19Helpers
open Rivaas.Gen.CtxHelpers Rivaas.Render

theorem extraction_complete : extractProblem = "" := by decide +kernel

/-- one extracted guard of `tryFastStringFormat`, evaluated on a call; `none` = a condition this interpreter does
    not know (the obligation then fails) -/
def guardHolds (format : Bytes) (args : List Arg) (g : String) : Option Bool :=
  if g = "len(arg1) != 1" then some (args.length != 1)
  else if g = "!isString(arg1[0])" then some (match args.head? with | some (.str _) => false | _ => true)
  else if g = "Index(arg0, \"%s\") == -1" then some (cutPctS format).isNone
  else if g = "Count(arg0, \"%\") != 1" then some (countPct format != 1)
  else none

/-- the general path is taken iff some guard holds (`none` if a guard is unknown) -/
def anyGuard (format : Bytes) (args : List Arg) : List String → Option Bool
  | [] => some false
  | g :: rest =>
    match guardHolds format args g, anyGuard format args rest with
    | some a, some b => some (a || b)
    | _, _ => none

/-- the model's fast-path decision is the conjunction of the negated guards of the source, for every format
    and every operand list -/
theorem fast_path_guards_are_the_models (format : Bytes) (args : List Arg) :
    anyGuard format args fastPathGuards = some (fastPath format args).isNone := by
  unfold fastPathGuards
  simp only [anyGuard, guardHolds]
  simp only [String.reduceEq, if_true, if_false]
  unfold fastPath
  match args with
  | [] => simp
  | [.str v] =>
    cases h : cutPctS format with
    | none => simp
    | some p => by_cases hc : countPct format = 1 <;> simp [hc]
  | [.other] => simp
  | _ :: _ :: _ => simp

theorem fast_path_writes_prefix_operand_suffix :
    fastPathWrites = ["arg0[:Index(arg0, \"%s\")]", "operand", "arg0[Index(arg0, \"%s\")+2:]"] := rfl

theorem stringf_falls_back_to_fmt : stringfFallback = "Fprintf(c.Response, arg1, arg2...)" := rfl

theorem header_sanitises_before_it_writes :
    sanitiserSteps = ["if ContainsAny(arg1, \"\\r\\n\")", "  arg1 = ReplaceAll(arg1, \"\\r\", \"\")",
                      "  arg1 = ReplaceAll(arg1, \"\\n\", \"\")", "write Set(arg0, arg1)"] := rfl

/-- guard dominance for every header write: a raw write into a response header map writes a literal or a number,
    or is the one write of `Context.Header`, which comes after its sanitiser -/
theorem every_raw_header_write_is_clean :
    (rawHeaderWrites.all fun w =>
      w.2.2.2 == "literal" || w.2.2.2 == "number" ||
      (w.2.2.2 == "sanitised parameter of Header" && w.1 == "router/context.go" && w.2.1 == "Context.Header")) = true := by
  decide +kernel

theorem app_layer_writes_no_header_directly :
    (rawHeaderWrites.all fun w => w.1 != "app/context.go") = true := by decide +kernel

theorem foreign_header_writers_are_known :
    (foreignHeaderWriters.all fun f => f.2 == "http.ServeFile" || f.2 == "http.SetCookie") = true := by decide +kernel

/-- the short media-type names of `normalizeMediaType` are the model's `mimeTable` (as a finite map: same number
    of entries, every extracted entry found in the table) -/
theorem mime_short_names_are_the_models :
    mimeShortNames.length = Rivaas.Accept.mimeTable.length ∧
    (mimeShortNames.all fun kv => Rivaas.Accept.mimeTable.lookup kv.1.toList == some kv.2.toList) = true := by
  -- `toList_lit` (Tie/StrLit) replaces each string literal by its characters by a lemma: decoding a literal by evaluation
  -- is quadratic in its length; likewise in the next theorem
  simp (disch := exact rfl) only [mimeShortNames, Rivaas.Accept.mimeTable, Rivaas.Accept.bs, List.all_cons, List.all_nil,
    toList_lit]
  decide +kernel

/-- `ContentType`'s fallback for extensions the mime package does not know is the model's (`Headers.contentType`
    with an empty `mime.TypeByExtension` result) -/
theorem content_type_fallback_is_the_models :
    (contentTypeFallback.all fun kv =>
      Rivaas.Headers.hvals (Rivaas.Headers.contentType [] kv.1.toList []) "Content-Type".toList == [kv.2.toList]) = true ∧
    Rivaas.Headers.hvals (Rivaas.Headers.contentType [] ".nosuchext".toList []) "Content-Type".toList
      = [contentTypeFallbackDefault.toList] := by
  simp (disch := exact rfl) only [contentTypeFallback, contentTypeFallbackDefault, List.all_cons, List.all_nil, toList_lit]
  decide +kernel

/-! ### the sanitiser, interpreted -/

/-- one extracted step of `Context.Header` on the value; the indented steps (the body of the `if`) run only when the
    CR/LF test held (`guard`). `none`: a step this interpreter does not know -/
def sanStep (v : Bytes) (guard : Bool) (s : String) : Option (Bytes × Bool) :=
  if s = "if ContainsAny(arg1, \"\\r\\n\")" then some (v, v.any Rivaas.Headers.isCRLF)
  else if s = "  arg1 = ReplaceAll(arg1, \"\\r\", \"\")" then some (if guard then v.filter (· != '\r') else v, guard)
  else if s = "  arg1 = ReplaceAll(arg1, \"\\n\", \"\")" then some (if guard then v.filter (· != '\n') else v, guard)
  else if s = "write Set(arg0, arg1)" then some (v, guard)
  else none

def sanRun : List String → Bytes → Bool → Option Bytes
  | [], v, _ => some v
  | s :: rest, v, g =>
    match sanStep v g s with
    | some (v', g') => sanRun rest v' g'
    | none => none

theorem lemma_filter_crlf (v : Bytes) :
    (v.filter (· != '\r')).filter (· != '\n') = v.filter (fun c => !Rivaas.Headers.isCRLF c) := by
  induction v with
  | nil => rfl
  | cons c r ih =>
    by_cases h1 : c = '\r'
    · subst h1; simp [Rivaas.Headers.isCRLF, ih]
    · by_cases h2 : c = '\n'
      · subst h2; simp [Rivaas.Headers.isCRLF, ih]
      · simp [Rivaas.Headers.isCRLF, h1, h2, ih]

theorem lemma_filter_none (v : Bytes) (h : v.any Rivaas.Headers.isCRLF = false) :
    v.filter (fun c => !Rivaas.Headers.isCRLF c) = v := by
  induction v with
  | nil => rfl
  | cons c r ih =>
    simp only [List.any_cons, Bool.or_eq_false_iff] at h
    simp [h.1, ih h.2]

/-- the value the source writes is the model's `sanitize`, for every value: the extracted steps of
    `Context.Header`, interpreted, compute `Headers.sanitize` (Model/Headers) -/
theorem header_writes_the_sanitised_value (v : Bytes) :
    sanRun sanitiserSteps v false = some (Rivaas.Headers.sanitize v) := by
  unfold sanitiserSteps
  simp only [sanRun, sanStep, String.reduceEq, if_true, if_false]
  unfold Rivaas.Headers.sanitize
  cases h : v.any Rivaas.Headers.isCRLF with
  | true => simp only [if_true]; rw [lemma_filter_crlf]
  | false => simp only [Bool.false_eq_true, if_false]; rw [lemma_filter_none v h]

end Rivaas.Tie.C19Helpers
