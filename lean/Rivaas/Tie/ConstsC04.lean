/- Translator tie (B), constants: the default limits of the model's `Cfg.default` equal the values extract/
   regenerates on every run from the constants `DefaultMaxDepth`, `DefaultMaxSliceLen`, `DefaultMaxMapSize` of
   /repo/binding/options.go (Gen/Consts.lean), so an edited default breaks the theorem. (The other literals the model of
   C04 mirrors - word lists, tag and bracket markers - are tied in Tie/C04Bind.lean, `tie_literal_tables`.) -/
import Rivaas.Gen.Consts
import Rivaas.Model.BindTypes
namespace Rivaas.Tie.ConstsC04
open Rivaas.Gen.Consts Rivaas.Bind
theorem consts_C04_defaultLimits :
    Cfg.default.maxDepth = binding_defaultMaxDepth ∧ Cfg.default.maxSlice = binding_defaultMaxSliceLen ∧
    Cfg.default.maxMap = binding_defaultMaxMapSize := by decide
end Rivaas.Tie.ConstsC04
