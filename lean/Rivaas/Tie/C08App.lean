import Rivaas.Gen.ObsApp
import Rivaas.Tie.Skel
import Rivaas.Model.ObsApp
import Rivaas.Spec.Obs
/-
C08, app layer — obligations over the facts regenerated from the current source by extract/obsapp.go
(`Gen/ObsApp.lean`: skeletons of the app recorder's three callbacks, of metrics BeginRequest / Finish, of the request
closures of metrics.Middleware / tracing.Middleware and of the tracer's span functions; canonical conditions of every
branch; provenance of the label / status / size arguments).

An obligation is a Boolean check over all paths of a skeleton (`Skel.paths`, sound by `Skel.exec_mem_paths`) or over a
regenerated table, closed by kernel evaluation (or a component of such a check): an edit of the source that breaks one
makes the next `./check C08` fail on this file. The last section states two of them of every execution (`Skel.all_exec`).
-/
namespace Rivaas.Tie.C08App
open Rivaas.Skel Rivaas.Gen.ObsApp

def opsOf (t : List Ev) : List Nat := t.filterMap fun e => match e with | .op c => some c | _ => none
def cnt (c : Nat) (o : List Nat) : Nat := (o.filter (· == c)).length
def condOf (a : Nat) : String := (conds.lookup a).getD ""

def opTraces (s : Stmt) : List (List Nat) := ((traces s).map opsOf).eraseDups
def sameSet (a b : List (List Nat)) : Bool := a.all b.contains && b.all a.contains

/-- on every path: the op occurs iff the branch with the canonical condition `c` is taken (paths through an early
    return excepted: they contain no op at all besides the return marker) -/
def guardedBy (s : Stmt) (op : Nat) (c : String) : Bool :=
  (paths s).all fun p =>
    let o := opsOf p.out.trace
    if o.contains op_retEarly then !o.contains op
    else if o.contains op then p.cond.any (fun ab => ab.2 && condOf ab.1 == c)
    else p.cond.any (fun ab => !ab.2 && condOf ab.1 == c)

/-- the branch with canonical condition `c` is taken on the path (`b`: which way) -/
def took (p : Path) (c : String) (b : Bool) : Bool := p.cond.any fun ab => ab.2 == b && condOf ab.1 == c

/-- on every path that gets past the early exits (`live`): the op occurs iff none of the conditions `cs` holds -/
def unlessAny (s : Stmt) (op : Nat) (cs : List String) (live : List Nat → Bool) : Bool :=
  (paths s).all fun p =>
    let o := opsOf p.out.trace
    !live o || (o.contains op == cs.all fun c => !took p c true)

def markerTest : String := "#0.(observabilityWrappedWriter) ; _"

/-! ### app recorder: OnRequestStart -/

/-- what the model's `runTerm` assumes: an excluded request returns the nil state before anything is started; otherwise
    a span may be started, metrics may be begun (in this order) and the state is returned -/
theorem start_traces_agree :
    sameSet (opTraces appOnRequestStart)
      [[op_retNilState], [op_retState], [op_spanStart, op_retState], [op_metricsBegin, op_retState],
       [op_spanStart, op_metricsBegin, op_retState]] = true := by decide +kernel

/-- the exclusion test is the first statement and is the path filter on the request path -/
theorem start_exclusion_first :
    ((paths appOnRequestStart).all fun p =>
      (opsOf p.out.trace).contains op_retNilState == p.cond.contains (startFirstAtom, true)) = true ∧
    condOf startFirstAtom = "_.pathFilter != nil && _.pathFilter.shouldExclude(#1.URL.Path)" :=
  ⟨by decide +kernel, rfl⟩

/-- what was started is remembered in the state fields the end callback tests -/
theorem start_results_kept :
    startSpanAssignedTo = ["span"] ∧ startMetricsAssignedTo = ["metricsData"] := ⟨rfl, rfl⟩

/-! ### app recorder: WrapResponseWriter -/

/-- the writer is wrapped unless the state is nil (excluded request) or the writer carries the marker -/
theorem wrap_traces_agree :
    sameSet (opTraces appWrapResponseWriter) [[op_retSame], [op_wrap, op_retWrap]] = true ∧
    unlessAny appWrapResponseWriter op_wrap ["#1 == nil", markerTest] (fun _ => true) = true := by
  refine ⟨by decide +kernel, by decide +kernel⟩

/-! ### app recorder: OnRequestEnd -/

/-- after the state guard nothing returns early: SetName?, FinishSpan?, metrics.Finish? in this order, each at most once -/
theorem end_shape :
    ((traces appOnRequestEnd).all fun t =>
      let o := opsOf t
      o == [op_retEarly] || o.isSublist [op_setName, op_spanFinish, op_metricsFinish]) = true := by
  rw [all_traces_eq_walk]
  decide +kernel

/-- the guard and the two pairings below in one evaluation, so that the paths of OnRequestEnd are enumerated once -/
theorem end_paths_ok :
    (((paths appOnRequestEnd).all fun p =>
        (opsOf p.out.trace).contains op_retEarly == p.cond.contains (endFirstAtom, true)) &&
      guardedBy appOnRequestEnd op_spanFinish "_.span != nil" &&
      guardedBy appOnRequestEnd op_metricsFinish "_.metricsData != nil") = true := by
  unfold guardedBy
  rw [← all_and, ← all_and]
  decide +kernel

/-- the only early return is the state guard (first statement) -/
theorem end_guard_first :
    ((paths appOnRequestEnd).all fun p =>
      (opsOf p.out.trace).contains op_retEarly == p.cond.contains (endFirstAtom, true)) = true ∧
    condOf endFirstAtom = "!_ || _ == nil" := by
  have h := end_paths_ok
  simp only [Bool.and_eq_true] at h
  exact ⟨h.1.1, rfl⟩

/-- **pairing**: the span is finished iff the state holds one (`span` is what StartSpan's result was assigned to);
    metrics are finished iff the state holds the RequestMetrics (`metricsData`, BeginRequest's result) — and Finish is
    given exactly that value -/
theorem end_finishes_what_start_began :
    guardedBy appOnRequestEnd op_spanFinish "_.span != nil" = true ∧
    guardedBy appOnRequestEnd op_metricsFinish "_.metricsData != nil" = true ∧
    endFinishState = "_.metricsData" ∧ endFinishSpanArgs.head? = some ["_.span"] := by
  have h := end_paths_ok
  simp only [Bool.and_eq_true] at h
  exact ⟨h.1.2, h.2, rfl, rfl⟩

/-- a Go string literal as the extractor prints it -/
def quoted (s : String) : String := "\"" ++ s ++ "\""

/-- **bounded labels**: the route attribute of the request rows and the last part of the span name only ever hold the
    label parameter of OnRequestEnd (#3) or the `_unmatched` literal; the span name is Method + " " + that -/
theorem end_label_provenance :
    endFinishRoute = [quoted "_unmatched", "#3"] ∧
    endSpanNameParts = [["_.req.Method"], [quoted " "], [quoted "_unmatched", "#3"]] :=
  ⟨rfl, rfl⟩

/-- the model's `routeAttr` uses the same literal, and it is one of the oracle's sentinels -/
theorem end_label_matches_model :
    ObsApp.routeAttr [] = "_unmatched".toList ∧ Obs.sentinels.contains "_unmatched".toList = true :=
  ⟨rfl, List.contains_iff_mem.mpr (List.mem_cons_of_mem _ (List.mem_cons_of_mem _ List.mem_cons_self))⟩

/-- **truthful status / size**: what is handed to FinishSpan and metrics.Finish is read from the writer argument (#2)
    through StatusCode() / Size() (default 200 / 0 when the writer exposes nothing) — never from anything else -/
theorem end_status_size_provenance :
    endStatusProv = ["_.StatusCode()", "http.StatusOK"] ∧
    endSizeProv = ["0", "_.Size()", "int64(_.Size())"] ∧
    endFinishSpanArgs = [["_.span"], ["_.StatusCode()", "http.StatusOK"]] ∧
    -- the three type assertions are on the writer argument (#2)
    (["#2.(router.ResponseInfo) ; _", "#2.(interface{ StatusCode() int }) ; _", "#2.(interface{ Size() int }) ; _"].all
      fun c => conds.any fun ac => ac.2 == c) = true :=
  ⟨rfl, rfl, rfl, by decide +kernel⟩

/-! ### metrics recorder -/

/-- BeginRequest: either nil without touching the gauge, or exactly one +1 and a value -/
theorem begin_traces_agree :
    sameSet (opTraces metricsBeginRequest) [[op_retNil], [op_gaugeInc, op_retVal]] = true := by decide +kernel

/-- Finish: after the nil guard (first statement, on the RequestMetrics parameter) every path counts the request once
    and decrements the gauge once; no path increments it or adds anything else to it -/
theorem finish_exactly_once :
    ((traces metricsFinish).all fun t =>
      let o := opsOf t
      o == [op_retEarly] || (cnt op_gaugeDec o == 1 && cnt op_countAdd o == 1 && cnt op_gaugeInc o == 0 && cnt op_gaugeOther o == 0)) = true ∧
    ((paths metricsFinish).all fun p =>
      (opsOf p.out.trace).contains op_retEarly == p.cond.contains (finishFirstAtom, true)) = true ∧
    condOf finishFirstAtom = "#1 == nil" :=
  ⟨by decide +kernel, by decide +kernel, rfl⟩

/-- increment and decrement hit the same series: both carry no attribute option (K08d) -/
theorem gauge_same_series : gaugeIncArgs = ["#0 | 1"] ∧ gaugeDecArgs = ["#0 | -1"] := ⟨rfl, rfl⟩

/-- the attributes of the request rows: fixed keys; status from the status parameter, route from the route parameter -/
theorem finish_attrs :
    finishAttrs = [["http.status_code", "Int", "#2"], ["http.status_class", "String", "statusClass(#2)"],
                   ["http.route", "String", "#4"]] := rfl

/-! ### standalone middlewares -/

/-- metrics.Middleware: the next handler runs exactly once on every path; a request that was begun is finished exactly
    once, after the handler — unless BeginRequest returned nil (`_ == nil` right after it: nothing was begun) (K08c) -/
theorem metrics_mw_paired :
    ((paths metricsMiddleware).all fun p =>
      let o := opsOf p.out.trace
      cnt op_next o == 1 &&
      (if !o.contains op_metricsBegin then !o.contains op_metricsFinish
       else if p.cond.any (fun ab => ab.2 && condOf ab.1 == "_ == nil") then !o.contains op_metricsFinish
       else o.getLast? == some op_metricsFinish && cnt op_metricsFinish o == 1 && cnt op_metricsBegin o == 1 &&
            (o.dropWhile (· != op_next)).contains op_metricsFinish)) = true ∧
    mwBeginResultIsLocal = true :=
  ⟨by decide +kernel, rfl⟩

/-- the model's `run` for the metrics layer performs exactly these op sequences -/
theorem metrics_mw_traces_agree :
    sameSet (opTraces metricsMiddleware)
      [[op_next], [op_metricsBegin, op_next], [op_metricsBegin, op_next, op_metricsFinish],
       [op_metricsBegin, op_wrap, op_next, op_metricsFinish]] = true := by decide +kernel

/-- tracing.Middleware: the next handler runs exactly once; a started span is finished exactly once, after it -/
theorem tracing_mw_paired :
    ((traces tracingMiddleware).all fun t =>
      let o := opsOf t
      cnt op_next o == 1 &&
      (if !o.contains op_spanStart then !o.contains op_spanFinish
       else o.getLast? == some op_spanFinish && cnt op_spanFinish o == 1 && cnt op_spanStart o == 1)) = true ∧
    sameSet (opTraces tracingMiddleware)
      [[op_next], [op_spanStart, op_next, op_spanFinish], [op_spanStart, op_wrap, op_next, op_spanFinish]] = true := by
  constructor <;> decide +kernel

/-- the "already wrapped" test of both middlewares is the marker interface: once something was begun / started, the
    writer is wrapped iff it does not carry the marker (and, for metrics, BeginRequest did not answer nil) -/
theorem wrapped_test_is_marker :
    unlessAny metricsMiddleware op_wrap [markerTest, "_ == nil"] (fun o => o.contains op_metricsBegin) = true ∧
    unlessAny tracingMiddleware op_wrap [markerTest] (fun o => o.contains op_spanStart) = true := by
  constructor <;> decide +kernel

/-! ### tracer: one `span.End()` per finished span -/

theorem finish_span_ends_once :
    ((traces tracerFinishSpan).all fun t => let o := opsOf t; o == [op_retEarly] || o == [op_spanEnd]) = true ∧
    ((traces tracerFinishRequestSpan).all fun t => let o := opsOf t; o == [op_retEarly] || o == [op_spanEnd]) = true ∧
    ((traces tracerStartSpan).all fun t => cnt op_spanStart (opsOf t) ≤ 1) = true := by
  refine ⟨by decide +kernel, by decide +kernel, by decide +kernel⟩

/-! ### lifted to every execution (any valuation of the branch conditions) -/

theorem end_shape_exec (ρ : Atom → Bool) :
    (let o := opsOf (exec ρ appOnRequestEnd).trace
     o == [op_retEarly] || o.isSublist [op_setName, op_spanFinish, op_metricsFinish]) = true :=
  all_exec appOnRequestEnd _ end_shape ρ

theorem finish_exactly_once_exec (ρ : Atom → Bool) :
    (let o := opsOf (exec ρ metricsFinish).trace
     o == [op_retEarly] || (cnt op_gaugeDec o == 1 && cnt op_countAdd o == 1 && cnt op_gaugeInc o == 0 && cnt op_gaugeOther o == 0)) = true :=
  all_exec metricsFinish _ finish_exactly_once.1 ρ

/-- non-vacuity: the skeletons are not empty (path counts) -/
example : pathCount appOnRequestEnd > 10 ∧ pathCount metricsMiddleware > 3 ∧ pathCount tracingMiddleware > 2 := by decide +kernel

end Rivaas.Tie.C08App
