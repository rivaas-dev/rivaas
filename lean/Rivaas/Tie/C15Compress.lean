/-
C15, translator tie (B): structural facts of middleware/compression that the model (`Model/Compress.lean`) relies on,
regenerated from the current source on every run (`Gen/Compress.lean`, extract/compress.go + extract/mwskel.go) and
compared with the model here.  An edit of the source that changes one of them breaks the theorem named after it;
`./check C15` then searches for a concrete failing input and otherwise reports the theorem.

Event codes (`Gen.Compress.vocab`; `vocab_codes` states the names in the order of their codes):
  1 c.Next · 2 defer registered · 3 deferred cw.Close · 4 deferred c.Response = original · 5 c.Response = cw ·
  6 chooseEncoding · 7 c.Response.Header().Get("Content-Encoding") · 45 cfg.excludePaths[…] · 46 range cfg.excludeExtensions ·
  11 cw.WriteHeader(200) · 12 encoder Write · 13 base Write · 14 holdBack · 15 start(pending) · 16 start(cw.buffer) ·
  17 restoreHeader · 18 base Header().Get("Content-Encoding") · 19 base WriteHeader(cw.statusCode) · 20 restoreTrailers ·
  21 http.DetectContentType · 22 initCompression · 23 Del Content-Length · 24 Set Content-Encoding · 25 Set Vary ·
  26 pool.Get · 27 w.Reset(cw.ResponseWriter) · 28 cw.writer = w · 29 encoder Close · 30 w.Reset(nil) · 31 pool.Put ·
  32 base WriteHeader(code) · 33 shouldSkipStatus · 34 shouldSkipContentType · 35 cw.committed = … · 36 cw.statusCode = … ·
  37 Flush (encoder / base) · 42 cw.buffer = … · 43 cw.trailers = … · 47 Header().Clone() · 48 clear(h)
-/
import Rivaas.Gen.Compress
import Rivaas.Tie.MwSkel
import Rivaas.Model.Compress

namespace Rivaas.Tie.C15Compress
open Rivaas.Skel Rivaas.MwSkel Rivaas.Gen.Compress

/-- the extractor understood every statement of every function it reads -/
theorem extraction_complete : problem = none := rfl

/-- the numerals used below mean what the header of this file says -/
theorem vocab_codes :
    vocab.map (·.2) =
      [".Next", "defer", "defer:.Close", "defer:=.Response", "=.Response", "chooseEncoding",
       ".Response.Header.Get(Content-Encoding)", "strings.HasSuffix", "getBrotliWriterPool(.brotliLevel)",
       "getGzipWriterPool(.gzipLevel)", ".WriteHeader(http.StatusOK)", ".writer.Write", ".ResponseWriter.Write", ".holdBack",
       ".start", ".start(.buffer)", ".restoreHeader", ".ResponseWriter.Header.Get(Content-Encoding)",
       ".ResponseWriter.WriteHeader(.statusCode)", ".restoreTrailers", "http.DetectContentType", ".initCompression",
       ".ResponseWriter.Header.Del(Content-Length)", ".ResponseWriter.Header.Set(Content-Encoding)",
       ".ResponseWriter.Header.Set(Vary)", ".pool.Get", ".Reset(.ResponseWriter)", "=.writer", ".writer.Close", ".Reset(nil)",
       ".pool.Put(.writer)", ".ResponseWriter.WriteHeader", "shouldSkipStatus", "shouldSkipContentType", "=.committed",
       "=.statusCode", ".Flush", ".Set(Content-Type)", "=.headersSent", "=.decided", "=.compress", "=.buffer", "=.trailers",
       ".Request.Header.Get(Accept-Encoding)", "[].excludePaths", "range.excludeExtensions", ".ResponseWriter.Header.Clone",
       "clear"] := rfl

/-! ### `New`: decision order of the early exits, wrap, deferred Close before `c.Next()` -/

/-- The handler closure, on every path: the early exits are consulted in the order of `Compress.active` (excluded
    path, excluded extension, Content-Encoding already set, `chooseEncoding`); a request that leaves through one of
    them goes to `c.Next()` unwrapped; otherwise the writer is wrapped (5), the finalisation is registered (2) before
    `c.Next()` (1), and when the chain returns — or panics — `cw.Close()` (3) runs before `c.Response` is put back (4).
    This is the `Op.panic` clause of `CW.step` (`close` then `restored := true`) and `finalCW`. -/
theorem new_decision_order_and_finalisation (ρ : Atom → Bool) :
    [[45, 1], [45, 46, 1], [45, 46, 7, 1], [45, 46, 7, 6, 1], [45, 46, 7, 6, 5, 2, 1, 3, 4]].contains
      (codesOf ((exec ρ newHandler).trace.filter (keepCodes [1, 2, 3, 4, 5, 6, 7, 45, 46]))) = true :=
  every_exec_walk newHandler [1, 2, 3, 4, 5, 6, 7, 45, 46] _ (by decide +kernel) ρ

/-- every request reaches the rest of the chain exactly once (the middleware never answers by itself) -/
theorem new_next_exactly_once (ρ : Atom → Bool) :
    (codesOf ((exec ρ newHandler).trace.filter (keepCodes [1]))) = [1] := by
  have := every_exec_walk newHandler [1] (fun t => t == [1]) (by decide +kernel) ρ
  simpa using this

/-! ### the compressWriter methods -/

/-- `start`: `restoreHeader` first, then the Content-Encoding test; pass-through = deferred status, `restoreTrailers`,
    bytes to the base writer; compressing = sniff (only before `initCompression`), `initCompression`, `restoreTrailers`,
    bytes to the encoder — the order of `CW.start` -/
theorem start_order (ρ : Atom → Bool) :
    [[17, 18, 19, 20, 13], [17, 18, 19, 20], [17, 18, 20, 13], [17, 18, 20], [17, 18, 21, 22, 20, 12], [17, 18, 21, 22, 20],
     [17, 18, 22, 20, 12], [17, 18, 22, 20]].contains
      (codesOf ((exec ρ cwstart).trace.filter (keepCodes [17, 18, 19, 20, 21, 22, 12, 13]))) = true :=
  every_exec_walk cwstart [17, 18, 19, 20, 21, 22, 12, 13] _ (by decide +kernel) ρ

/-- `initCompression`: Content-Length deleted, Content-Encoding and Vary set before the header block is written; a pooled
    encoder is `Reset` onto this response's writer before it becomes `cw.writer` (never used un-reset) -/
theorem init_headers_then_reset_before_use (ρ : Atom → Bool) :
    [[23, 24, 25], [23, 24, 25, 19], [23, 24, 25, 26], [23, 24, 25, 19, 26], [23, 24, 25, 26, 27, 28],
     [23, 24, 25, 19, 26, 27, 28]].contains
      (codesOf ((exec ρ cwinitCompression).trace.filter (keepCodes [23, 24, 25, 19, 26, 27, 28]))) = true :=
  every_exec_walk cwinitCompression [23, 24, 25, 19, 26, 27, 28] _ (by decide +kernel) ρ

/-- `Close`: an undecided response is decided first (`start(cw.buffer, …)`); the encoder is closed at most once, and put
    back into its pool at most once and only after it was closed -/
theorem close_finishes_then_returns_encoder_once (ρ : Atom → Bool) :
    [[], [16], [16, 29, 31], [16, 29, 30, 31], [29, 31], [29, 30, 31]].contains
      (codesOf ((exec ρ cwClose).trace.filter (keepCodes [16, 29, 30, 31]))) = true :=
  every_exec_walk cwClose [16, 29, 30, 31] _ (by decide +kernel) ρ

/-- `WriteHeader`: first call wins (nothing happens), informational codes go straight through, then the status is recorded,
    `shouldSkipStatus` is asked before `shouldSkipContentType`, a skipped response is committed at once and only an
    unskipped one snapshots the headers — the chain of `CW.writeHeader` -/
theorem writeHeader_chain (ρ : Atom → Bool) :
    [[], [32], [36, 33, 32], [36, 33, 34, 32], [36, 33, 34, 47, 35]].contains
      (codesOf ((exec ρ cwWriteHeader).trace.filter (keepCodes [32, 33, 34, 35, 36, 47]))) = true :=
  every_exec_walk cwWriteHeader [32, 33, 34, 35, 36, 47] _ (by decide +kernel) ρ

/-- `Write`: optional implied 200, then exactly one of: encoder write, base write, hold back (buffer grows, nothing is
    sent), decision (`start`) — the four arms of `CW.write` -/
theorem write_arms (ρ : Atom → Bool) :
    [[12], [13], [14, 42], [14, 15], [11, 12], [11, 13], [11, 14, 42], [11, 14, 15]].contains
      (codesOf ((exec ρ cwWrite).trace.filter (keepCodes [11, 12, 13, 14, 15, 42]))) = true :=
  every_exec_walk cwWrite [11, 12, 13, 14, 15, 42] _ (by decide +kernel) ρ

/-- the hold-back test is strict: `len(buffer)+len(data) < holdBack()` (`CW.write`: `w.buffer.length + d.length < w.holdBack`) -/
theorem holdBack_is_strict : holdBackCmp = ["<"] := rfl

def flushOK (t : List Nat) : Bool := t == [] || (endsWith [37] t && before 11 16 t && before 16 37 t)

/-- `Flush`: nothing at all without a flusher underneath; otherwise implied 200, decision, encoder flush, and the base
    flush last (`CW.flush`) -/
theorem flush_order (ρ : Atom → Bool) :
    flushOK (codesOf ((exec ρ cwFlush).trace.filter (keepCodes [11, 16, 37]))) = true :=
  every_exec_walk cwFlush [11, 16, 37] flushOK (by decide +kernel) ρ

def restoreOK (t : List Nat) : Bool := t == [] || (t.count 48 == 1 && endsWith [48, 35] t)

/-- `restoreHeader`: nothing without a committed snapshot; otherwise the trailer values are taken aside (43) first, the live
    map is emptied (`clear`, 48) on every such path — not only when it grew — and the snapshot reinstalled before it is
    dropped (35): `CW.restoreHeader` sets `live := h` whatever the map held -/
theorem restoreHeader_clears_unconditionally (ρ : Atom → Bool) :
    restoreOK (codesOf ((exec ρ cwrestoreHeader).trace.filter (keepCodes [35, 43, 48]))) = true :=
  every_exec_walk cwrestoreHeader [35, 43, 48] restoreOK (by decide +kernel) ρ

/-! ### literal tables -/

/-- `shouldSkipStatus` names exactly the codes of the model -/
theorem skipStatus_model (c : Nat) : Rivaas.Compress.shouldSkipStatus c = skipStatus.contains (c : Int) := by
  rw [Bool.eq_iff_iff]
  simp only [Rivaas.Compress.shouldSkipStatus, skipStatus, List.contains_cons, List.contains_nil, Bool.or_false,
    Bool.or_eq_true, beq_iff_eq]
  omega

/-- the content types that are always passed through are the three literals of the model -/
theorem alwaysSkipped_model (ct : Rivaas.Bytes) (excl : List Rivaas.Bytes) :
    Rivaas.Compress.shouldSkipContentType ct excl =
      (if ct.isEmpty then false
       else (alwaysSkippedTypes.map String.toList).any (fun l => Rivaas.Compress.contains (Rivaas.Compress.lowerA ct) l) ||
            excl.any (fun e => Rivaas.Compress.contains (Rivaas.Compress.lowerA ct) (Rivaas.Compress.lowerA e))) := by
  simp only [Rivaas.Compress.shouldSkipContentType, alwaysSkippedTypes, List.map, List.any, Bool.or_false,
    Bool.or_assoc]

/-! ### `defaultConfig()` and the options (`Compress.defaultConfig`, `Compress.applyOpt`) -/

theorem defaults_model :
    defaults = [("gzipLevel", "gzip.DefaultCompression"), ("brotliLevel", "4"), ("minSize", "0"), ("enableGzip", "true"),
                ("enableBrotli", "true"), ("excludePaths", "make(map[string]bool)"),
                ("excludeExtensions", "make(map[string]bool)"), ("excludeContentTypes", "make(map[string]bool)")] ∧
    Rivaas.Compress.defaultConfig =
      { gzipLevel := -1, brotliLevel := 4, minSize := 0, enableGzip := true, enableBrotli := true,
        exclPaths := [], exclExts := [], exclCT := [] } :=
  ⟨rfl, rfl⟩

/-- what each option assigns is what `Compress.applyOpt` does for the constructor of the same name: the levels and the
    threshold are stored (brotli clamped to [0, 11]), the Disabled options clear one flag, the exclusion options insert
    into their map, the logger touches nothing else -/
theorem optionWrites_model :
    optionWrites =
      [("WithBrotliDisabled", "enableBrotli := false"),
       ("WithBrotliLevel", "brotliLevel := max(0, min($0, 11))"),
       ("WithExcludeContentTypes", "excludeContentTypes[] := true"),
       ("WithExcludeExtensions", "excludeExtensions[] := true"),
       ("WithExcludePaths", "excludePaths[] := true"),
       ("WithGzipDisabled", "enableGzip := false"),
       ("WithGzipLevel", "gzipLevel := $0"),
       ("WithLogger", "logger := $0"),
       ("WithMinSize", "minSize := $0")] := rfl

end Rivaas.Tie.C15Compress
