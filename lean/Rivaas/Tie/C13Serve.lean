/-
C13, translator tie (B), the versioned arms of `router/serve.go` (`serveVersionedRequest`, `serveVersionedHandlers`): a module of
its own, so that a change of the plumbing in `serve.go` that the extractor cannot follow stops only these two obligations.
-/
import Rivaas.Gen.Version

namespace Rivaas.Tie.C13Serve
open Rivaas Rivaas.Tie.Dec

def allBits : Nat → List (List Bool)
  | 0 => [[]]
  | n + 1 => (allBits n).flatMap fun l => [false :: l, true :: l]

/-- position of a text in a table (`= length` when it is missing) -/
def at' (tbl : List String) (t : String) : Nat := tbl.findIdx (· == t)

def bitVal (bits : List Bool) : Val := pure fun a => bits.getD a false

/-- The search for a text, entry by entry, with the comparison as a proposition. Rewriting with it finds every position
    whatever order the extractor lists the texts in (the proofs name none) and leaves to the kernel only the sweep over
    the valuations: an entry that is the text ends the search by `rfl`, and `String.reduceEq` tells two distinct
    literals apart by one differing character, whereas evaluating `at'` runs `String.decEq` on the UTF-8 encodings of
    both texts, quadratic in their length. -/
theorem at'_cons (a t : String) (tbl : List String) :
    at' (a :: tbl) t = if a = t then 0 else at' tbl t + 1 := by
  unfold at'
  rw [List.findIdx_cons]
  by_cases h : a = t
  · rw [if_pos h, beq_iff_eq.2 h, cond_true]
  · rw [if_neg h, beq_eq_false_iff_ne.2 h, cond_false]

/-- a version past its sunset date answers 410 without running a handler; otherwise the handlers run and no 410 is
    written — `serveVersionedHandlers` (static version table): over all valuations of its atoms, `SetLifecycleHeaders`
    is consulted before the chain, its `true` leads to `WriteHeader(410)` and never to `Next()`, its `false` (or no
    engine) to `Next()` and never to the 410 -/
theorem serveVersionedHandlers_gone_without_handler :
    let atoms := Gen.Version.serveVersionedHandlers_atoms
    let effs := Gen.Version.serveVersionedHandlers_effects
    let eng := at' atoms "recv.versionEngine != nil"
    let sun := at' atoms "recv.versionEngine.SetLifecycleHeaders(p0, p4, p3)"
    let gone := at' effs "p0.WriteHeader(http.StatusGone)"
    let next := at' effs "getContextFromGlobalPool().Next()"
    eng < atoms.length ∧ sun < atoms.length ∧ gone < effs.length ∧ next < effs.length ∧
    (allBits atoms.length).all (fun bits =>
      let r := run noIters Gen.Version.serveVersionedHandlers (bitVal bits)
      if bits.getD eng false && bits.getD sun false then r.acts.contains gone && !r.acts.contains next
      else r.acts.contains next && !r.acts.contains gone) = true := by
  simp only [Gen.Version.serveVersionedHandlers_atoms, Gen.Version.serveVersionedHandlers_effects, at'_cons,
    String.reduceEq, if_true, if_false, Nat.reduceAdd]
  decide +kernel

/-- the same for `serveVersionedRequest` (version tree): a static-table hit is handed to `serveVersionedHandlers`; no
    route → the 404/405 path, no handler, no 410; route found → 410 without `Next()` exactly when `SetLifecycleHeaders`
    says so, else `Next()` -/
theorem serveVersionedRequest_gone_without_handler :
    let atoms := Gen.Version.serveVersionedRequest_atoms
    let effs := Gen.Version.serveVersionedRequest_effects
    let c1 := at' atoms "recv.versionCache.Load(p4 + \":\" + p1.Method)#1"
    let c2 := at' atoms "recv.versionCache.Load(p4 + \":\" + p1.Method)#0.(*CompiledRouteTable)#1 && recv.versionCache.Load(p4 + \":\" + p1.Method)#0.(*CompiledRouteTable)#0 != nil"
    let c3 := at' atoms "recv.versionCache.Load(p4 + \":\" + p1.Method)#0.(*CompiledRouteTable)#0.getRouteWithPath(p3)#0 != nil"
    let nf := at' atoms "p2.getRoute(p3, getContextFromGlobalPool())#0 == nil"
    let eng := at' atoms "recv.versionEngine != nil"
    let sun := at' atoms "recv.versionEngine.SetLifecycleHeaders(p0, p4, p2.getRoute(p3, getContextFromGlobalPool())#1)"
    let gone := at' effs "p0.WriteHeader(http.StatusGone)"
    let next := at' effs "getContextFromGlobalPool().Next()"
    let notFound := at' effs "recv.handleNotFoundWithObs(p0, p1, p5)"
    let static := at' effs "recv.serveVersionedHandlers(p0, p1, recv.versionCache.Load(p4 + \":\" + p1.Method)#0.(*CompiledRouteTable)#0.getRouteWithPath(p3)#0, recv.versionCache.Load(p4 + \":\" + p1.Method)#0.(*CompiledRouteTable)#0.getRouteWithPath(p3)#1, p4, p5)"
    [c1, c2, c3, nf, eng, sun].all (· < atoms.length) ∧ [gone, next, notFound, static].all (· < effs.length) ∧
    (allBits atoms.length).all (fun bits =>
      let b (i : Nat) := bits.getD i false
      let r := run noIters Gen.Version.serveVersionedRequest (bitVal bits)
      if b c1 && b c2 && b c3 then r.acts == [static]
      else if b nf then r.acts.contains notFound && !r.acts.contains next && !r.acts.contains gone
      else if b eng && b sun then r.acts.contains gone && !r.acts.contains next && !r.acts.contains notFound
      else r.acts.contains next && !r.acts.contains gone && !r.acts.contains notFound) = true := by
  simp only [Gen.Version.serveVersionedRequest_atoms, Gen.Version.serveVersionedRequest_effects, at'_cons,
    String.reduceEq, if_true, if_false, Nat.reduceAdd]
  decide +kernel

end Rivaas.Tie.C13Serve
