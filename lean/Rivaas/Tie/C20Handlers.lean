/-
C20, translator tie (B): `Gen/Logging.lean` is regenerated by `extract/logging.go` from the current source of
logging/*.go (non-test files) on every run; this file proves that the models of C20 agree with those facts.
An edit to the Go source that invalidates a structural fact a model depends on breaks the theorem named after it
on the next run (`./check C20` then goes to search mode).

What the models assume about the shape of the code, and the theorem that carries it:

* Model/Log.lean covers the JSON and text handlers of log/slog (a parameter: `slogAttr` / `slogChain`), `consoleHandler` (modelled
  statement by statement), and treats `contextHandler` and `bufferingHandler` as transparent for attributes —
  `every_handler_type_known`: these are all the types with a `Handle` method, and they delegate / buffer / format
  as the model says (the test utility `HandlerSpy` is listed explicitly);
  `chain_is_buffering_over_context_over_builtin`: the Logger's chain wraps the built-in handler in that order.
* `consoleReplace` / `consoleChain` / `consoleHandle` apply `replaceAttr` to every call attribute and to every
  bound attribute, descending into groups — `console_handle_goes_through_replaceAttr`,
  `console_withAttrs_goes_through_replaceAttr`, `console_replaceAttr_recurses_and_calls_option`,
  `console_options_propagate`.
* `emit` uses `replaceAttr` for every handler type — `every_constructor_redacts`.
* `replaceAttr` tests `k ∈ sensitive` before it looks at the user replacer — `sensitive_switch_before_user_replacer`;
  the keys and the marker of that switch are the model's — `sensitive_keys_and_marker_match_model`, through the constants
  of `Tie/ConstsC20.lean` (`sensitive_keys_and_marker_match_consts`).
* Model/LogBuf.lean runs the machine with `Flags.fixed` — `flush_matches_fixed_flags`,
  `buffering_handle_atomic_and_keeps_handler`; its atomic segments are delimited by the two mutexes —
  `segments_delimited_by_mutexes`; `Logger.log` checks shutdown, level, sampling in this order before the record
  reaches the handler chain — `log_checks_in_model_order`.
* Model/LogBatch.lean treats every BatchLogger method as one step on the batch — `batch_logger_matches_model`.

`extraction_complete`: the extractor recognised every shape it looked for, so the facts above are read off the code.
Every proof is `decide` / `rfl` over the regenerated definitions.
-/
import Rivaas.Gen.Logging
import Rivaas.Gen.Consts
import Rivaas.Model.Log
import Rivaas.Model.LogBuf

namespace Rivaas.Tie.C20Handlers
open Rivaas.Gen.Logging

/-- every shape the extractor looked for in logging/*.go was recognised -/
theorem extraction_complete : extractError = "" := by decide

/-- the handler types of package logging are exactly the ones the models know, each with the behaviour the model
    gives it: `bufferingHandler` buffers or delegates, `consoleHandler` formats, `contextHandler` delegates;
    `HandlerSpy` (testing.go) is a test utility that records what it is handed and is never part of a Logger's chain -/
theorem every_handler_type_known :
    handleTypes = [("HandlerSpy", "spy"), ("bufferingHandler", "buffers"), ("consoleHandler", "formats"),
                   ("contextHandler", "delegates")] := rfl

/-- `consoleHandle`: pre-bound attributes are printed as they are, call attributes only after `consoleReplaceAll` -/
theorem console_handle_goes_through_replaceAttr : consoleHandleReplacesCallAttrs = true := by decide

/-- `consoleChain`: `.withAttrs as` binds `consoleReplaceAll u h.groups as`, never `as` itself -/
theorem console_withAttrs_goes_through_replaceAttr : consoleWithAttrsReplaces = true := by decide

/-- `consoleReplace`: groups are descended into member by member, every non-group attribute meets
    `opts.ReplaceAttr`, and no return (e.g. a depth cut-off) skips either -/
theorem console_replaceAttr_recurses_and_calls_option :
    (consoleReplaceRecursesGroups && consoleReplaceCallsOption && consoleReplaceNoEarlyReturn) = true := by decide

/-- the options given to `newConsoleHandler` are the ones `replaceAttr` consults, also after `WithAttrs` / `WithGroup`
    (the model threads one `UserRep` through `consoleChain`) -/
theorem console_options_propagate : (consoleCtorStoresOpts && consoleDerivedKeepOpts) = true := by decide

/-- every formatting handler constructed in package logging (non-test files) gets
    `ReplaceAttr: l.buildReplaceAttr()`; there is at least the one construction site per handler type of `HType` -/
theorem every_constructor_redacts :
    constructors.all (·.2.2) = true ∧
    (constructors.map (·.2.1)) = ["newConsoleHandler", "slog.NewJSONHandler", "slog.NewTextHandler"] := ⟨rfl, rfl⟩

/-- `Log.replaceAttr`: `if k ∈ sensitive then some (k, redactedVal) else match u with …` — the sensitive-key switch
    is the first statement of the closure, returns the marker, and precedes the user replacer -/
theorem sensitive_switch_before_user_replacer :
    replaceAttrShape = ["switch-key", "if-user-replacer-return", "return-attr"] ∧
    sensitiveSwitchReturnsBeforeUser = true := ⟨rfl, rfl⟩

/-- the case list and the marker read off that switch are the constants `Tie/ConstsC20.lean` ties to
    `Log.sensitive` / `Log.redactedVal` (same regenerated definitions, no second copy of the literals) -/
theorem sensitive_keys_and_marker_match_consts :
    sensitiveCaseKeys = Rivaas.Gen.Consts.logging_sensitiveKeys ∧
    markerLiteral = Rivaas.Gen.Consts.logging_redactedValue := ⟨rfl, rfl⟩

/-- … and so they are the model's: `Log.sensitive`, `Log.redactedVal` -/
theorem sensitive_keys_and_marker_match_model :
    Rivaas.Log.sensitive = sensitiveCaseKeys.map String.toList ∧
    Rivaas.Log.redactedVal = markerLiteral.toList := ⟨rfl, rfl⟩

/-- `bufferingHandler.Handle` is one atomic test-and-append (machine: the `log` op decides "buffer or pass" and
    appends in one segment), the buffered record carries a clone and the handler it was logged through
    (`keepHandler`), and the pass-through write happens outside the critical section (the `pass` gate) -/
theorem buffering_handle_atomic_and_keeps_handler :
    (handleTestsBufferingUnderLock && bufferedRecordKeepsHandler && bufferedRecordCloned && passThroughAfterUnlock) = true := by
  decide

/-- the machine of Model/LogBuf.lean is run with `Flags.fixed`; each switch is what the source does now -/
theorem flush_matches_fixed_flags :
    Rivaas.LogBuf.Flags.fixed.loopFlush = (flushLoops && bufferingOffOnlyWhenEmpty) ∧
    Rivaas.LogBuf.Flags.fixed.continueOnError = replayContinuesOnError ∧
    Rivaas.LogBuf.Flags.fixed.keepHandler = (bufferedRecordKeepsHandler && replayThroughRecordHandler) ∧
    Rivaas.LogBuf.Flags.fixed.rewrap = rewrapsWhileBuffering ∧
    Rivaas.LogBuf.Flags.fixed.stable = wrapAtConstruction := by decide

/-- the model's atomic-segment assumption: whatever touches `bufferState` does so between Lock and Unlock of its
    mutex (Handle; flush takes and resets the batch in one critical section and replays outside it), and
    `FlushBuffer` / `StartBuffering` / `SetLevel` hold `Logger.mu` from their first statement to their return -/
theorem segments_delimited_by_mutexes :
    (handleTestsBufferingUnderLock && passThroughAfterUnlock &&
     batchTakenUnderLock && bufferingOffOnlyWhenEmpty && replayAfterUnlock &&
     flushHoldsLoggerMu && startHoldsLoggerMu && setLevelHoldsLoggerMu) = true := by decide

/-- the handler chain the models assume: built-in handler, wrapped in `contextHandler`, wrapped in `bufferingHandler` -/
theorem chain_is_buffering_over_context_over_builtin :
    (contextHandlerWrapsBuiltins && wrapAtConstruction) = true := by decide

/-- `Logger.log`: shutdown check, level check, sampling, then `slog.Logger.Log` — the order in which the `log` op of
    the machine decides `accepted` (shutdown and level only) and `LogConfig.stepCall` tests all three;
    `Debug` / `Info` / `Warn` / `Error` are one call of `log` each -/
theorem log_checks_in_model_order :
    logOrder = ["isShuttingDown", "Enabled", "shouldSample", "Log"] ∧ levelMethodsUseLog = true := ⟨rfl, rfl⟩

/-- the BatchLogger (Model/LogBatch.lean, Props/C20Batch.lean): every method that touches the batch takes the batch mutex as
    its first statement and keeps it until it returns (so the batch sees a sequence of operations), `add` appends and
    flushes when the batch is full, the flush hands the entries on in slice order and empties the batch afterwards,
    `Close` flushes -/
theorem batch_logger_matches_model :
    batchExtractError = "" ∧
    (batchAddHoldsMu && batchFlushCallersHoldMu && batchNoUnlockedTouch && batchAddAppendsThenFlushesWhenFull &&
      batchFlushRangesInOrder && batchFlushResetsAfter && batchCloseFlushes) = true := by decide

end Rivaas.Tie.C20Handlers
