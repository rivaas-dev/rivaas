/- Translator tie (B), constants: every literal of the Go source that the model of C06 mirrors equals the value
   extract/ regenerates from the current source (Gen/Consts.lean) on every run. An edited member list or
   Content-Type literal in /repo (errors/rfc9457.go, jsonapi.go, simple.go) breaks the theorem named after it. -/
import Rivaas.Gen.Consts
import Rivaas.Model.ErrFmt
namespace Rivaas.Tie.ConstsC06
open Rivaas.Gen.Consts
theorem consts_C06_reservedMembers : Rivaas.ErrFmt.reserved = errors_reservedMembers.map String.toList := by decide +kernel
/-- every member MarshalJSON writes itself, and every json member of the struct, is in the guard list (a member added
    to the struct or to the map but not to the `k != …` chain could be overridden by an extension) -/
theorem consts_C06_membersProtected :
    errors_writtenMembers.all (errors_reservedMembers.contains ·) = true ∧
    errors_structMembers.all (errors_reservedMembers.contains ·) = true := by decide +kernel
theorem consts_C06_mediaTypes :
    Rivaas.ErrFmt.ctRFC = errors_ctRFC9457.toList ∧ Rivaas.ErrFmt.ctJSONAPI = errors_ctJSONAPI.toList ∧
    Rivaas.ErrFmt.ctSimple = errors_ctSimple.toList := ⟨rfl, rfl, rfl⟩
end Rivaas.Tie.ConstsC06
