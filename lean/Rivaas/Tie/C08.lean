/-
C08, translator tie (B): obligations on the skeleton of `(*Router).ServeHTTP` and its helpers that
`extract/` regenerates from router/*.go on every run (`Gen/Serve.lean`).

One kernel evaluation (`serve_paths_ok`, one walk over the paths of the sliced skeleton)
establishes the *shape* of every execution's observability-relevant trace:

    startG, wrapG, (response work)*, endG label(on the tracked writer)

and everything the property says about control flow follows from the shape by list lemmas:
the end callback runs exactly once, after the start, nothing response-related follows it, its label is
a sentinel, a pattern variable or — on the static-table exit — the key of the exact lookup that succeeded
(there the key is the request path; that such a key is a registered pattern is Props/C08Route), it receives
the wrapped writer, and no observability call occurs outside the three guarded idioms. An early `return`
without the end callback, a second end call, a response write after it, or a label taken from
`req.URL.Path` anywhere else makes `decide` fail on the next run.
-/
import Rivaas.Tie.Skel
import Rivaas.Gen.Serve
import Rivaas.Props.C08

namespace Rivaas.Tie.C08
open Rivaas.Skel Rivaas.Gen.Serve

def keepObs : Ev → Bool
  | .startG | .wrapG | .endG .. | .obsRaw _ | .wuse _ | .run .. => true
  | _ => false

/-- label argument is syntactically bounded: literal sentinel, pattern result of a lookup, or the key
    of a successful exact static lookup -/
def labelOK : Label → Bool
  | .sentinel _ | .lookup _ | .exactKey _ => true
  | .raw _ => false

/-- response-related work: handler chain / error responder on a context, or a call on the writer -/
def isResp : Ev → Bool
  | .wuse _ | .run .. => true
  | _ => false

def body : List Ev → Bool
  | [.endG l ok] => ok && labelOK l
  | .wuse _ :: r => body r
  | .run _ _ :: r => body r
  | _ => false

def shape : List Ev → Bool
  | .startG :: .wrapG :: r => body r
  | _ => false

def obsTrace (ρ : Atom → Bool) : List Ev := (exec ρ serveHTTP).trace.filter keepObs

open Rivaas.Serve in
/-- router-level response operation an event stands for; `none`: start/wrap/end (covered by the shape);
    `some none`: an operation the model does not know -/
def ropOf : Ev → Option (Option ROp)
  | .run _ w =>
    some (if w = whatNext then some .next else if w = whatNotFound then some .notFound
      else if w = whatMethodNotAllowed then some .methodNotAllowed else if w = whatCallHandler then some .noRoute else none)
  | .wuse w =>
    some (if w = whatSetLifecycleHeaders then some .lifecycle else if w = whatWriteHeader then some .writeHeader
      else if w = whatWrite then some .writeBody else none)
  | _ => none

/-- regenerated obligations, in one walk: every path of the current skeleton has the shape, and its router-level
    operations are those of an exit of the model -/
theorem serve_paths_ok :
    ((traces (slice keepObs serveHTTP)).all fun t =>
      shape t && (Rivaas.C08.modelExits.map (·.map some)).contains (t.filterMap ropOf)) = true := by
  rw [all_traces_eq_walk]
  decide +kernel

theorem serve_shape_paths : (traces (slice keepObs serveHTTP)).all shape = true := by
  have h := serve_paths_ok
  rw [all_and, Bool.and_eq_true] at h
  exact h.1

theorem serve_shape (ρ : Atom → Bool) : shape (obsTrace ρ) = true :=
  all_exec_slice serveHTTP keepObs shape serve_shape_paths ρ

/-! ### what the shape means (pure list lemmas) -/

theorem lemma_body_decomp (t : List Ev) (h : body t = true) :
    ∃ mid l, t = mid ++ [Ev.endG l true] ∧ labelOK l = true ∧ ∀ e ∈ mid, isResp e = true := by
  fun_induction body t
  case case1 l ok =>   -- `[.endG l ok]`
    rw [Bool.and_eq_true] at h
    exact ⟨[], l, by rw [h.1]; rfl, h.2, nofun⟩
  case case4 => cases h   -- the fall-through clause: `body` is false
  -- a writer call or a handler run at the head
  all_goals
    rename_i ih
    obtain ⟨mid, l, rfl, h2, h3⟩ := ih h
    exact ⟨_ :: mid, l, rfl, h2, List.forall_mem_cons.mpr ⟨rfl, h3⟩⟩

theorem lemma_shape_decomp (t : List Ev) (h : shape t = true) :
    ∃ mid l, t = Ev.startG :: Ev.wrapG :: (mid ++ [Ev.endG l true]) ∧ labelOK l = true ∧
      ∀ e ∈ mid, isResp e = true := by
  unfold shape at h
  split at h
  · obtain ⟨mid, l, rfl, h2⟩ := lemma_body_decomp _ h
    exact ⟨mid, l, rfl, h2⟩
  · cases h

def isEnd : Ev → Bool | .endG .. => true | _ => false
def isStart : Ev → Bool | .startG => true | _ => false
def isRaw : Ev → Bool | .obsRaw _ => true | _ => false

theorem lemma_resp_not (mid : List Ev) (h : ∀ e ∈ mid, isResp e = true) :
    mid.filter isEnd = [] ∧ mid.filter isStart = [] ∧ mid.filter isRaw = [] := by
  have key (e : Ev) (he : isResp e = true) : isEnd e = false ∧ isStart e = false ∧ isRaw e = false :=
    match e, he with
    | .wuse _, _ | .run .., _ => ⟨rfl, rfl, rfl⟩
  simp only [List.filter_eq_nil_iff, Bool.not_eq_true]
  exact ⟨fun e he => (key e (h e he)).1, fun e he => (key e (h e he)).2.1, fun e he => (key e (h e he)).2.2⟩

theorem lemma_filter_keep (p : Ev → Bool) (hp : ∀ e, p e = true → keepObs e = true) (t : List Ev) :
    (t.filter keepObs).filter p = t.filter p := by
  rw [List.filter_filter]
  congr 1
  funext e
  by_cases h : p e = true
  · simp [h, hp e h]
  · simp [h]

/-- a class `p` of observability events no response work belongs to: filtering an execution for it sees only the
    start, the wrap and the end callback -/
theorem filter_trace (p : Ev → Bool) (hp : ∀ e, p e = true → keepObs e = true) (ρ : Atom → Bool) {mid : List Ev}
    {l : Label} (ht : obsTrace ρ = Ev.startG :: Ev.wrapG :: (mid ++ [Ev.endG l true])) (hm : mid.filter p = []) :
    (exec ρ serveHTTP).trace.filter p = [Ev.startG, Ev.wrapG, Ev.endG l true].filter p := by
  rw [← lemma_filter_keep p hp, ← obsTrace, ht]
  simp [List.filter_cons, List.filter_append, hm]

theorem isEnd_keep (e : Ev) (h : isEnd e = true) : keepObs e = true := match e, h with | .endG .., _ => rfl
theorem isStart_keep (e : Ev) (h : isStart e = true) : keepObs e = true := match e, h with | .startG, _ => rfl
theorem isRaw_keep (e : Ev) (h : isRaw e = true) : keepObs e = true := match e, h with | .obsRaw _, _ => rfl

/-- **exactly once**: on every path of the current `ServeHTTP` (static, tree, compiled, versioned, 404, 405,
    NoRoute, sunset) the guarded end callback occurs exactly once, and so does the guarded start -/
theorem end_exactly_once (ρ : Atom → Bool) :
    ((exec ρ serveHTTP).trace.filter isEnd).length = 1 ∧
    ((exec ρ serveHTTP).trace.filter isStart).length = 1 := by
  obtain ⟨mid, l, ht, _, hm⟩ := lemma_shape_decomp _ (serve_shape ρ)
  obtain ⟨h1, h2, _⟩ := lemma_resp_not mid hm
  rw [filter_trace isEnd isEnd_keep ρ ht h1, filter_trace isStart isStart_keep ρ ht h2]
  exact ⟨rfl, rfl⟩

/-- **after the response is complete**: the end callback is the last observability/response event of the
    request — the start and the writer wrap precede everything, no handler, error responder or writer call follows
    the end callback -/
theorem end_last (ρ : Atom → Bool) :
    ∃ mid l, obsTrace ρ = Ev.startG :: Ev.wrapG :: (mid ++ [Ev.endG l true]) ∧ ∀ e ∈ mid, isResp e = true := by
  obtain ⟨mid, l, ht, _, hm⟩ := lemma_shape_decomp _ (serve_shape ρ)
  exact ⟨mid, l, ht, hm⟩

/-- **bounded label, truthful writer**: every end callback of every path passes a literal sentinel or a
    pattern bound from a route lookup (never `req.URL.Path`), and passes the writer that was wrapped -/
theorem label_bounded (ρ : Atom → Bool) :
    ∀ e ∈ (exec ρ serveHTTP).trace, ∀ l ok, e = Ev.endG l ok → labelOK l = true ∧ ok = true := by
  intro e he l ok hel
  obtain ⟨mid, l', ht, hl, hm⟩ := lemma_shape_decomp _ (serve_shape ρ)
  -- the end callbacks of the execution are the one of the shape
  have hmem : e ∈ (exec ρ serveHTTP).trace.filter isEnd := List.mem_filter.mpr ⟨he, hel ▸ rfl⟩
  rw [filter_trace isEnd isEnd_keep ρ ht (lemma_resp_not mid hm).1, hel] at hmem
  cases List.mem_singleton.mp hmem
  exact ⟨hl, rfl⟩

/-- no `OnRequestStart` / `OnRequestEnd` / `WrapResponseWriter` call, no assignment to the state variable or the
    writer, no `panic` outside the three guarded idioms, on any path -/
theorem no_unguarded_obs_call (ρ : Atom → Bool) : (exec ρ serveHTTP).trace.filter isRaw = [] := by
  obtain ⟨mid, l, ht, _, hm⟩ := lemma_shape_decomp _ (serve_shape ρ)
  rw [filter_trace isRaw isRaw_keep ρ ht (lemma_resp_not mid hm).2.2]
  rfl

/-- the literal sentinels start with `_` (95): they cannot be mistaken for a request path, which starts with `/` -/
theorem sentinels_not_paths : sentinelFirstByte.all (fun p => p.2 == 95) = true := by decide

/-! ### calls made, given whether the recorder is installed and did not exclude the request -/

/-- number of `OnRequestEnd` calls the trace stands for: the idiom calls iff the state is non-nil -/
def endCalls (live : Bool) (t : List Ev) : Nat := if live then (t.filter isEnd).length else 0
/-- number of `OnRequestStart` calls that returned a non-nil state -/
def liveStarts (live : Bool) (t : List Ev) : Nat := if live then (t.filter isStart).length else 0

/-- `#OnRequestEnd == #OnRequestStart(state != nil)` on every path, whatever the recorder answered -/
theorem starts_eq_ends (ρ : Atom → Bool) (live : Bool) :
    endCalls live (exec ρ serveHTTP).trace = liveStarts live (exec ρ serveHTTP).trace ∧
    endCalls true (exec ρ serveHTTP).trace = 1 := by
  obtain ⟨h1, h2⟩ := end_exactly_once ρ
  cases live <;> simp [endCalls, liveStarts, h1, h2]

/-! ### the hand-written model and the regenerated skeleton have the same exits -/

def dedup : List (List (Option Rivaas.Serve.ROp)) → List (List (Option Rivaas.Serve.ROp))
  | [] => []
  | x :: r => if (dedup r).contains x then dedup r else x :: dedup r

/-- the distinct sequences of router-level response operations over all paths of the current skeleton -/
def skeletonExits : List (List (Option Rivaas.Serve.ROp)) :=
  dedup ((traces (slice keepObs serveHTTP)).map (·.filterMap ropOf))

theorem mem_dedup (x : List (Option Rivaas.Serve.ROp)) : ∀ l, x ∈ dedup l ↔ x ∈ l
  | [] => Iff.rfl
  | y :: r => by
    have ih := mem_dedup x r
    unfold dedup
    split
    · next h =>
      rw [List.contains_eq_mem, decide_eq_true_iff, mem_dedup y r] at h
      rw [ih, List.mem_cons]
      exact ⟨Or.inr, fun h' => h'.elim (· ▸ h) id⟩
    · rw [List.mem_cons, List.mem_cons, ih]

/-- every exit of the regenerated skeleton is an exit of the model (`Model/Serve.lean` misses no serve path of the
    code: a new helper, a new early answer or a new writer call in ServeHTTP breaks this), and every exit of the model
    occurs in the skeleton (the model invents none) -/
theorem exits_agree :
    skeletonExits.all (fun s => (Rivaas.C08.modelExits.map (·.map some)).contains s) = true ∧
    Rivaas.C08.modelExits.all (fun m => skeletonExits.contains (m.map some)) = true := by
  -- `dedup` keeps the members, so both inclusions are evaluated on the paths themselves
  have h1 : ((traces (slice keepObs serveHTTP)).all fun t =>
      (Rivaas.C08.modelExits.map (·.map some)).contains (t.filterMap ropOf)) = true := by
    have h := serve_paths_ok
    rw [all_and, Bool.and_eq_true] at h
    exact h.2
  have h2 : (Rivaas.C08.modelExits.all fun m =>
      ((traces (slice keepObs serveHTTP)).map (·.filterMap ropOf)).contains (m.map some)) = true := by decide +kernel
  simp only [List.all_eq_true, List.contains_eq_mem, decide_eq_true_iff, skeletonExits, mem_dedup] at h1 h2 ⊢
  exact ⟨fun s hs => by obtain ⟨t, ht, rfl⟩ := List.mem_map.mp hs; exact h1 t ht, h2⟩

/-- for all lookup answers and handler programs, the operations the model's dispatch performs are the operations of
    some path of the code's skeleton -/
theorem model_exits_are_skeleton_exits (f : Rivaas.Serve.Facts) (p : Rivaas.Serve.Prog) :
    (Rivaas.Serve.dispatch false f p).ops.map some ∈ skeletonExits := by
  have h := Rivaas.C08.lemma_dispatch_ops f p
  have h2 := exits_agree.2
  rw [List.all_eq_true] at h2
  have := h2 _ h
  simpa using this

end Rivaas.Tie.C08
