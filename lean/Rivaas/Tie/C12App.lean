/-
C12, translator tie (B), app layer: `Gen/AppGuards.lean` lists, from the current source of app/*.go, for every exported
method of app.App / app.Group / app.VersionGroup the guards (`if a.router.Frozen() { panic }`), the calls into the
router layer, the writes of app state, the OpenAPI operations added and the route hooks fired — in source order, calls
to other methods of the three types inlined.

`app_traces_guarded`: in every listed method the first thing that leaves a trace in the app (a write of app state, an
OpenAPI operation, a fired route hook) comes after a frozen-guard or after a router-layer registration that
`Gen/Guards.lean` (same run) proves guarded — so an attempt made after serving began panics before it has changed
anything a request could observe (hooks list, served specification, route callbacks). Moving `AddOperation` in front
of the router registration, or dropping the `Frozen()` test from a hook registrar, breaks the obligation on the next run.
-/
import Rivaas.Gen.AppGuards
import Rivaas.Gen.Guards

namespace Rivaas.Tie.C12App
open Rivaas.Gen

abbrev Event := String × String × String

def isTrace (e : Event) : Bool := e.1 == "write" || e.1 == "doc" || e.1 == "hook"

/-- a frozen-guard, or a call of a router-layer method that checks frozen/serving before its first write -/
def isGuard (e : Event) : Bool :=
  e.1 == "guard" || (e.1 == "reg" && Guards.mutators.contains (e.2.1, e.2.2, true))

def guardedBeforeTrace : List Event → Bool
  | [] => true
  | e :: rest => if isGuard e then true else if isTrace e then false else guardedBeforeTrace rest

/-- group middleware lists only affect registrations made later through the group (which are rejected after the
    freeze); the verif-tag hook `VerifOpenAPIAddOperation` is the harness's own entry point -/
def excluded : List (String × String) :=
  [("Group", "Use"), ("VersionGroup", "Use"), ("App", "VerifOpenAPIAddOperation")]

/-- the obligation regenerated with `Gen/AppGuards.lean` (what it says: head of the file) -/
theorem app_traces_guarded :
    AppGuards.appMethods.all (fun m => guardedBeforeTrace m.2.2 || excluded.contains (m.1, m.2.1)) = true := by decide +kernel

/-- the methods the C12 app-layer cases exercise are in the table: the seven verbs on all three registrars and the six
    lifecycle hook registrars; each of them does leave a trace (so the obligation above is not vacuous for them) -/
theorem app_registrars_listed :
    ([("App", "GET"), ("App", "POST"), ("App", "PUT"), ("App", "DELETE"), ("App", "PATCH"), ("App", "HEAD"), ("App", "OPTIONS"),
      ("App", "Any"), ("Group", "GET"), ("Group", "POST"), ("Group", "Any"), ("VersionGroup", "GET"), ("VersionGroup", "POST"),
      ("VersionGroup", "Any"), ("App", "OnStart"), ("App", "OnReady"), ("App", "OnReload"), ("App", "OnShutdown"), ("App", "OnStop"),
      ("App", "OnRoute")] : List (String × String)).all
      (fun k => AppGuards.appMethods.any fun m => m.1 == k.1 && m.2.1 == k.2 && m.2.2.any isTrace) = true := by decide +kernel

/-- app.URLFor / MustURLFor go straight to the router's (guarded: `ErrRoutesNotFrozen` before the freeze) -/
theorem app_urlfor_delegates :
    AppGuards.appMethods.contains ("App", "URLFor", [("reg", "Router", "URLFor")]) = true ∧
    AppGuards.appMethods.contains ("App", "MustURLFor", [("reg", "Router", "MustURLFor")]) = true := by decide +kernel

/-! ### reverse patterns: built under the write lock, no lock upgrade -/

/-- lock state while walking a function in source order: mutexes write-held, read-held (a deferred unlock keeps the
    lock until the function returns) -/
structure Held where
  w : List String
  r : List String
  ok : Bool

def lockStep (h : Held) (e : String × String) : Held :=
  if e.1 == "lock" then
    -- taking the write lock of a mutex this goroutine read-holds (or write-holds) can never succeed
    { h with w := e.2 :: h.w, ok := h.ok && !h.r.contains e.2 && !h.w.contains e.2 }
  else if e.1 == "rlock" then { h with r := e.2 :: h.r, ok := h.ok && !h.w.contains e.2 }
  else if e.1 == "unlock" then { h with w := h.w.erase e.2 }
  else if e.1 == "runlock" then { h with r := h.r.erase e.2 }
  else if e.1 == "write" then
    -- `SetReversePattern`: only with the route table's write lock held (K12d: `Freeze` writes under the same lock)
    { h with ok := h.ok && h.w.contains "routesMutex" }
  else h   -- deferred unlocks release at return; `build` needs nothing

def lockDisciplineOK (evs : List (String × String)) : Bool := (evs.foldl lockStep ⟨[], [], true⟩).ok

/-- **every write of a route's reverse pattern happens under `routesMutex.Lock()`** — in `Freeze` (before `freeze.done`,
    i.e. before any goroutine that waited for the freeze can observe it) and in the lazy path of `URLFor` — **and no
    function takes the write lock of a mutex it still read-holds** (`defer RUnlock` followed by `Lock` in `URLFor`
    dead-locks itself and the freeze: `seeded/C12-16`) -/
theorem reverse_patterns_written_under_lock :
    AppGuards.reverseLockEvents.all (fun f => lockDisciplineOK f.2) = true := by decide +kernel

/-- the two functions the model's `urlFor` / `freezeFinish` stand for are in the table (helpers of package router are
    inlined, so a write moved into a helper is still seen inside them), each with a write -/
theorem reverse_pattern_writers_listed :
    (["Router.Freeze", "Router.URLFor"] : List String).all
      (fun n => AppGuards.reverseLockEvents.any fun f => f.1 == n && f.2.contains ("write", "reversePattern")) = true := by
  decide +kernel

/-- not vacuous: a write lock taken under a deferred read unlock, and an unlocked write, are rejected -/
example : lockDisciplineOK [("rlock", "routesMutex"), ("defer-runlock", "routesMutex"), ("lock", "routesMutex"),
    ("write", "reversePattern"), ("unlock", "routesMutex")] = false ∧
    lockDisciplineOK [("rlock", "routesMutex"), ("write", "reversePattern"), ("runlock", "routesMutex")] = false := by decide +kernel

end Rivaas.Tie.C12App
