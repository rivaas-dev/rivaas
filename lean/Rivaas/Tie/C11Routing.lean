/- Translator tie (B), structure of the compiled lookup (C11): the order of the lookup stages of
   `(*Router).ServeHTTP` (router/serve.go) and of the decisions of router/compiler (`AddRoute`,
   `sortRoutesBySpecificity`, `LookupStatic`, `MatchDynamic`), regenerated from the current source by
   extract/routing.go (Gen/Routing.lean) on every run, against the model (Model/Compiler.lean). Where an order is
   observable in the model it is computed by running the model on probes in which the alternatives compete;
   the shifting condition of the insertion sort is interpreted as an operator and the model's sort is compared
   with a right-to-left insertion sort that uses it. -/
import Rivaas.Gen.Routing
import Rivaas.Model.Compiler
namespace Rivaas.Tie.C11Routing
open Rivaas.Gen.Routing Rivaas.Compiler Rivaas.Radix Rivaas.Route

private def G : Bytes := ['G', 'E', 'T']
private def yes : Nat → Bytes → Bool := fun _ _ => true
/-- a hash that separates the few keys of the probes -/
private def h (b : Bytes) : Nat := b.foldl (fun a c => a * 257 + c.toNat) 7
private def reg (p : Bytes) : Reg := ⟨G, [], p, [], none⟩
private def ranOf (script : List Reg) (path : Bytes) : Option Nat :=
  (serveCompiled h yes ⟨true, 0, 0, false, none⟩ script false ⟨G, path, []⟩).ran

/-! ### `ServeHTTP`: compiler static table, then compiled dynamic templates, then the tree -/

/-- `/a/b` is both a parameter-free route and an instance of `/a/:x` registered before it: the static
table answers first. `/u/l` is served by `/:k/l` (first in the template list) although the tree
prefers `/u/:i`: the templates answer before the tree. The per-tree table and the tree walk that
follows it cannot be told apart by their answers (`stage3_eq`); their order is taken as written. -/
def modelServeStages : List String :=
  (if ranOf [reg ['/', 'a', '/', ':', 'x'], reg ['/', 'a', '/', 'b']] ['/', 'a', '/', 'b'] = some 1 then ["LookupStatic"] else []) ++
  (if ranOf [reg ['/', ':', 'k', '/', 'l'], reg ['/', 'u', '/', ':', 'i']] ['/', 'u', '/', 'l'] = some 0 ∧
      (serve yes (build false [reg ['/', ':', 'k', '/', 'l'], reg ['/', 'u', '/', ':', 'i']]) ⟨G, ['/', 'u', '/', 'l'], []⟩).ran = some 1
    then ["MatchDynamic"] else []) ++
  ["compiled.getRoute", "getRoute"]

theorem serve_stage_order : serveStages = modelServeStages := by
  -- the probes are run; the stage names then agree as texts
  unfold modelServeStages
  rw [if_pos (by decide +kernel), if_pos (by decide +kernel)]
  rfl

/-! ### `AddRoute`: parameter-free → static table + bloom; else unless wildcard → template list, sorted, index dropped -/

private def cr (rid nstat : Nat) (isStatic hasWildcard : Bool) : CRoute :=
  ⟨G, ['/', 'p'], 1, List.replicate nstat (0, []), [], isStatic, hasWildcard, rid⟩
private def rc0 : RC := { RC.empty with hasIndex := true }

def modelAddRouteArms : List String :=
  let s := rc0.add h (cr 0 1 true false)
  let d := rc0.add h (cr 0 1 false false)
  let w := rc0.add h (cr 0 1 false true)
  [if s.staticRoutes.length = 1 ∧ s.staticBloom.bits ≠ [] ∧ s.dynamic = [] ∧ s.hasIndex then "isStatic:staticRoutes[]=;staticBloom.Add" else "?",
   if d.dynamic.length = 1 ∧ d.staticRoutes = [] ∧ d.hasIndex = false ∧ w.dynamic = [] ∧ w.staticRoutes = [] ∧ w.hasIndex
   then "!hasWildcard:dynamicRoutes=append;sortRoutesBySpecificity;hasFirstSegmentIndex=false" else "?"]

theorem addRoute_arms : addRouteArms = modelAddRouteArms := rfl

/-! ### `sortRoutesBySpecificity`: insertion sort, an earlier element moves right while it has fewer static segments -/

private def interp (op : String) : Nat → Nat → Bool :=
  if op = "<" then fun a b => a < b
  else if op = "<=" then fun a b => a ≤ b
  else if op = ">" then fun a b => b < a
  else if op = ">=" then fun a b => b ≤ a
  else fun _ _ => false

/-- one round of the Go loop: from the right end of the sorted prefix, every element for which the shifting
condition holds moves one place to the right; the key goes into the gap -/
private def goInsert (shift : Nat → Nat → Bool) (key : CRoute) (pre : List CRoute) : List CRoute :=
  let moved := (pre.reverse.takeWhile fun e => shift e.statics.length key.statics.length).reverse
  pre.take (pre.length - moved.length) ++ key :: moved

private def goSort (shift : Nat → Nat → Bool) (l : List CRoute) : List CRoute :=
  l.foldl (fun acc r => goInsert shift r acc) []

private def probe (specs : List Nat) : List CRoute :=
  (List.range specs.length).map fun i => cr i (specs.getD i 0) false false

private def sortProbes : List (List CRoute) :=
  [probe [1, 2, 1, 2, 0, 3, 1], probe [2, 2, 2], probe [0, 1, 2, 3], probe [3, 2, 1, 0], probe [0, 0, 1, 1, 0], probe []]

theorem sort_shift_condition : sortKey = "len(staticSegments)" ∧
    sortProbes.all (fun l => decide (sortSpec l = goSort (interp sortShiftWhile) l)) = true := ⟨rfl, by decide +kernel⟩

/-- the probes tell the operators apart: with `<=` (not stable) or `>` (ascending) the model's sort differs -/
theorem sort_probes_discriminate :
    sortProbes.all (fun l => decide (sortSpec l = goSort (interp "<=") l)) = false ∧
    sortProbes.all (fun l => decide (sortSpec l = goSort (interp ">") l)) = false := by decide +kernel

/-! ### `LookupStatic`, `MatchDynamic` -/

/-- below the threshold the map alone; otherwise the bloom filter may only say "absent" before the map is read -/
theorem lookupStatic_order :
    lookupStaticOrder = ["len(staticRoutes)<" ++ toString staticDirectThreshold ++ ":map", "!bloom:nil", "map"] := by decide +kernel

/-- the first-segment index answers alone for an ASCII first byte (hit or miss), the linear scan otherwise;
both test the method before the path — `RC.matchDynamic` / `scan` -/
theorem matchDynamic_order :
    matchDynamicOrder = ["index[first<128]:method&&matchAndExtract:return", "scan:method&&matchAndExtract"] := rfl

/-- the model's index decision on probes: with the index on, an ASCII first byte is answered from its bucket
alone (a template filed under another byte is not tried), a non-ASCII first byte by the full scan -/
theorem matchDynamic_index_probe :
    let t : CRoute := ⟨G, ['/', ':', 'x'], 1, [], [(0, ['x'], [])], false, false, 0⟩
    let rc : RC := { RC.empty with dynamic := [t], hasIndex := true }
    (rc.matchDynamic yes G ['/', 'a']).isNone = true ∧
    (rc.matchDynamic yes G ['/', 'é']).isSome = true ∧
    ({ rc with hasIndex := false }.matchDynamic yes G ['/', 'a']).isSome = true := by decide +kernel

end Rivaas.Tie.C11Routing
