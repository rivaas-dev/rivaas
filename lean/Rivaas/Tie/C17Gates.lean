/-
C17, translator tie (B): structural facts of the five gates that the models (`Model/Gates.lean`) rely on, regenerated
from the current source on every run (`Gen/Gates.lean`, extract/gates.go + extract/mwskel.go) and checked here:
the check dominates `c.Next()`, a rejection is followed by `c.Abort()` and `return`, the rewrite / redirect happens
only behind its tests, and the defaults and options are those of the models.  An edit of the source that changes one
of them breaks the theorem named after it; `./check C17` then searches for a concrete failing input.

Event codes (`Gen.Gates.vocab`, checked by `vocab_codes`):
  1 c.Next · 2 c.Abort · 3 cfg.errorHandler · 4 cfg.skipPaths[…] · 5 Header.Get("Content-Length") · 6 strconv.ParseInt ·
  7 c.Request.Body = … · 8 Header.Get("Authorization") · 9 strings.HasPrefix · 10 base64 DecodeString · 11 strings.Cut ·
  12 cfg.validator · 13 cfg.users[…] · 14 subtle.ConstantTimeCompare · 15 Set WWW-Authenticate · 16 cfg.unauthorizedHandler ·
  17 context.WithValue · 18 c.Request = … · 19 Header.Get("Origin") · 20 cfg.allowOriginFunc · 21 slices.Contains(cfg.allowedOrigins, …) ·
  22 Set Access-Control-Allow-Origin · 23 …-Allow-Credentials · 24 …-Expose-Headers · 25 …-Allow-Methods · 26 …-Allow-Headers ·
  27 …-Max-Age · 28 WriteHeader(204) · 29 strings.ToUpper · 30 Header.Get(cfg.header) · 31 URL.Query().Get(cfg.queryParam) ·
  32 strings.TrimSpace · 33 c.Request.Method = … · 34 redirect308 · 35 Set Location · 36 WriteHeader(308) · 37 redirectLocation ·
  38 u.String() · 39 lr.reader.Read · 40 fmt.Errorf("%w: %d bytes", ErrBodyLimitExceeded, …) · 41 lr.read += n ·
  42 redirect308HTTP · 43 h.ServeHTTP · 44 w.Header().Set("Location") · 45 w.WriteHeader(308) · 46 Context().Value(csrf key) ·
  47 c.Request.URL.Path = … · 48 newURL.Path = … · 49 lookup in a local map (onlyOnMap[…], allowMap[…])
-/
import Rivaas.Gen.Gates
import Rivaas.Tie.MwSkel
import Rivaas.Model.Gates

namespace Rivaas.Tie.C17Gates
open Rivaas.Skel Rivaas.MwSkel Rivaas.Gen.Gates

/-- the extractor understood every statement of every function it reads -/
theorem extraction_complete : problem = none := by decide

theorem vocab_codes :
    vocab.map (·.2) =
      [".Next", ".Abort", ".errorHandler", "[].skipPaths", ".Request.Header.Get(Content-Length)", "strconv.ParseInt",
       "=.Request.Body", ".Request.Header.Get(Authorization)", "strings.HasPrefix", "base64.StdEncoding.DecodeString",
       "strings.Cut", ".validator", "[].users", "subtle.ConstantTimeCompare", ".Response.Header.Set(WWW-Authenticate)",
       ".unauthorizedHandler", "context.WithValue", "=.Request", ".Request.Header.Get(Origin)", ".allowOriginFunc",
       "slices.Contains(.allowedOrigins)", ".Response.Header.Set(Access-Control-Allow-Origin)",
       ".Response.Header.Set(Access-Control-Allow-Credentials)", ".Response.Header.Set(Access-Control-Expose-Headers)",
       ".Response.Header.Set(Access-Control-Allow-Methods)", ".Response.Header.Set(Access-Control-Allow-Headers)",
       ".Response.Header.Set(Access-Control-Max-Age)", ".Response.WriteHeader(http.StatusNoContent)", "strings.ToUpper",
       ".Request.Header.Get(.header)", ".Request.URL.Query.Get(.queryParam)", "strings.TrimSpace", "=.Request.Method",
       "redirect308", ".Response.Header.Set(Location)", ".Response.WriteHeader(http.StatusPermanentRedirect)",
       "redirectLocation", ".String", ".reader.Read", "fmt.Errorf(%w: %d bytes)", "=.read", "redirect308HTTP", ".ServeHTTP",
       ".Header.Set(Location)", ".WriteHeader(http.StatusPermanentRedirect)", ".Request.Context.Value", "=.Request.URL.Path",
       "=.Path", "[]"] := rfl

/-! ### bodylimit -/

/-- 4 skip-path test · 5 Content-Length read · 6 ParseInt · 3 errorHandler · 2 Abort · 1 Next · 7 limited reader set -/
def bodyOK (t : List Nat) : Bool :=
  t.head? == some 4 && dominates 5 6 t && dominates 5 3 t &&
  (if t.contains 3 then endsWith [3, 2] t && !t.contains 1 && !t.contains 7
   else endsWith [1] t && t.count 1 == 1 && !t.contains 2 && before 7 1 t)

/-- `bodylimit.New`'s handler, on every path: the skip-path test comes first (`Body.serve`: `r.skip`); the Content-Length
    header is read before it is parsed and before anything is rejected; the rejection is `errorHandler; Abort; return`
    without `c.Next()` and without touching the body; every other path calls `c.Next()` exactly once, last, and a limited
    reader — when one is installed — is installed before it -/
theorem bodylimit_check_dominates_next (ρ : Atom → Bool) :
    bodyOK (codesOf ((exec ρ bodylimit_handler).trace.filter (keepCodes [1, 2, 3, 4, 5, 6, 7]))) = true :=
  every_exec_walk bodylimit_handler _ bodyOK (by decide +kernel) ρ

/-- `limitedReader.Read`: the counter is updated after the (clipped) read; the limit error is produced only after that
    and after the look-ahead, whose retry loop (`lookAhead maxEmptyReads` in `LR.read1`) shows here as at most one
    representative read -/
theorem bodylimit_read_shape (ρ : Atom → Bool) :
    [[], [39, 41], [39, 41, 39], [39, 41, 39, 40], [39, 41, 40]].contains
      (codesOf ((exec ρ bodylimit_Read).trace.filter (keepCodes [39, 40, 41]))) = true :=
  every_exec_walk bodylimit_Read _ _ (by decide +kernel) ρ

/-- `WithLimit` refuses a non-positive limit (the hypothesis `1 ≤ limit` of `bodylimit_meets_spec`); the default is 2 MiB -/
theorem bodylimit_config :
    bodylimit_optionWrites = [("WithErrorHandler", "errorHandler := $0"), ("WithLimit", "limit := $0 unless $0 <= 0 (panic)"),
                              ("WithSkipPaths", "skipPaths[] := true")] ∧
    bodylimit_defaults = [("limit", "2 * 1024 * 1024"), ("errorHandler", "defaultErrorHandler"), ("skipPaths", "make(map[string]bool)")] :=
  ⟨rfl, rfl⟩

/-! ### basicauth -/

/-- 4 skip-path test · 8 Authorization read · 9 HasPrefix · 10 base64 decode · 11 Cut · 12 validator · 13 user table ·
    15 WWW-Authenticate · 16 unauthorizedHandler · 2 Abort · 17, 18 user name into the request context · 1 Next -/
def authOK (t : List Nat) : Bool :=
  if t.contains 1 then
    t == [4, 1] ||
      ([4, 8, 9, 10, 11].isPrefixOf t && endsWith [17, 18, 1] t && (t.contains 12 || t.contains 13) &&
        !t.contains 16 && !t.contains 2 && !t.contains 15)
  else endsWith [15, 16, 2] t && t.count 16 == 1

/-- the seven rejecting and the four accepting traces (the skip path `[4, 1]` among them), exactly -/
theorem basicauth_paths (ρ : Atom → Bool) :
    [[4, 1], [4, 8, 15, 16, 2], [4, 8, 9, 15, 16, 2], [4, 8, 9, 10, 15, 16, 2], [4, 8, 9, 10, 11, 15, 16, 2],
     [4, 8, 9, 10, 11, 12, 15, 16, 2], [4, 8, 9, 10, 11, 12, 17, 18, 1], [4, 8, 9, 10, 11, 13, 14, 15, 16, 2],
     [4, 8, 9, 10, 11, 13, 14, 17, 18, 1], [4, 8, 9, 10, 11, 13, 15, 16, 2], [4, 8, 9, 10, 11, 13, 17, 18, 1]].contains
      (codesOf ((exec ρ basicauth_handler).trace.filter
        (keepCodes [1, 2, 4, 8, 9, 10, 11, 12, 13, 14, 15, 16, 17, 18]))) = true :=
  every_exec_walk basicauth_handler _ _ (by decide +kernel) ρ

/-- `basicauth.New`'s handler, on every path: `c.Next()` is reached either through the skip-path test or after the header
    was read, its prefix tested, its payload decoded and cut, and the validator or the user table consulted — the user
    name goes into the request context directly before `c.Next()`; every other path ends with `WWW-Authenticate` set, the
    unauthorized handler called once, `c.Abort()`, `return` (`Auth.serve` / `Auth.reject` / `Auth.gate`) -/
theorem basicauth_check_dominates_next (ρ : Atom → Bool) :
    authOK (codesOf ((exec ρ basicauth_handler).trace.filter
      (keepCodes [1, 2, 4, 8, 9, 10, 11, 12, 13, 14, 15, 16, 17, 18]))) = true :=
  -- the trace is one of the eleven that `basicauth_paths` lists, and `authOK` holds of each of them
  List.all_eq_true.mp (show List.all _ authOK = true by decide +kernel) _ (List.elem_iff.mp (basicauth_paths ρ))

/-- the password comparison is `subtle.ConstantTimeCompare` on the entry of the user table, and its outcome can go both
    ways: the accepting and the rejecting path behind it exist, as do those behind a validator (removing the comparison, or
    the test of `authenticated`, removes one of them). That the outcome of the comparison is what selects the path is not
    visible at this level of abstraction (conditions are atoms): correspondence only. -/
theorem basicauth_compare_can_go_both_ways :
    (codeTraces basicauth_handler [1, 2, 4, 8, 9, 10, 11, 12, 13, 14, 15, 16, 17, 18]).contains [4, 8, 9, 10, 11, 13, 14, 17, 18, 1] = true ∧
    (codeTraces basicauth_handler [1, 2, 4, 8, 9, 10, 11, 12, 13, 14, 15, 16, 17, 18]).contains [4, 8, 9, 10, 11, 13, 14, 15, 16, 2] = true ∧
    (codeTraces basicauth_handler [1, 2, 4, 8, 9, 10, 11, 12, 13, 14, 15, 16, 17, 18]).contains [4, 8, 9, 10, 11, 12, 17, 18, 1] = true ∧
    (codeTraces basicauth_handler [1, 2, 4, 8, 9, 10, 11, 12, 13, 14, 15, 16, 17, 18]).contains [4, 8, 9, 10, 11, 12, 15, 16, 2] = true ∧
    (∀ t ∈ codeTraces basicauth_handler [1, 2, 4, 8, 9, 10, 11, 12, 13, 14, 15, 16, 17, 18], dominates 13 14 t = true) := by
  decide +kernel

theorem basicauth_config :
    basicauth_defaults = [("users", "make(map[string]string)"), ("realm", "\"Restricted\""), ("validator", "nil"),
                          ("unauthorizedHandler", "defaultUnauthorizedHandler"), ("skipPaths", "make(map[string]bool)")] ∧
    basicauth_optionWrites = [("WithRealm", "realm := $0"), ("WithSkipPaths", "skipPaths[] := true"),
                              ("WithUnauthorizedHandler", "unauthorizedHandler := $0"), ("WithUsers", "users := $0"),
                              ("WithValidator", "validator := $0")] :=
  ⟨rfl, rfl⟩

/-! ### cors -/

def corsOK (t : List Nat) : Bool :=
  t.head? == some 19 && !t.contains 2 &&
  -- no CORS response header without Access-Control-Allow-Origin, and that one first
  ((t.contains 23 || t.contains 24 || t.contains 25 || t.contains 26 || t.contains 27 || t.contains 28) → t.contains 22) &&
  dominates 22 23 t && dominates 22 24 t && dominates 22 25 t && t.count 22 ≤ 1 &&
  -- the preflight answer is complete and ends the middleware without `c.Next()`; everything else goes on exactly once
  (if t.contains 28 then endsWith [25, 26, 27, 28] t && !t.contains 1 else endsWith [1] t && t.count 1 == 1) &&
  -- at most one origin decision is consulted
  !(t.contains 20 && t.contains 21)

/-- `cors.New`'s handler, on every path (`Cors.serveWith`): the Origin header is read first; `Access-Control-Allow-Origin`
    is set at most once and before every other CORS header; the preflight branch writes its three headers and 204 and
    returns without `c.Next()` and — as the model says — without `c.Abort()`; every other path calls `c.Next()` once -/
theorem cors_header_discipline (ρ : Atom → Bool) :
    corsOK (codesOf ((exec ρ cors_handler).trace.filter (keepCodes [1, 2, 19, 20, 21, 22, 23, 24, 25, 26, 27, 28]))) = true :=
  every_exec_walk cors_handler _ corsOK (by decide +kernel) ρ

/-- the defaults and the eight options are those of `Cors.defaultCfg` / `Cors.applyOpt` (`WithAllowedOrigins` also clears
    allow-all) -/
theorem cors_config :
    cors_defaults =
      [("allowedOrigins", "[]string{}"),
       ("allowedMethods", "[]string{\"GET\", \"POST\", \"PUT\", \"PATCH\", \"DELETE\", \"HEAD\", \"OPTIONS\"}"),
       ("allowedHeaders", "[]string{\"Origin\", \"Content-Type\", \"Accept\", \"Authorization\"}"),
       ("exposedHeaders", "[]string{}"), ("allowCredentials", "false"), ("maxAge", "3600"), ("allowAllOrigins", "false"),
       ("allowOriginFunc", "nil")] ∧
    cors_optionWrites =
      [("WithAllowAllOrigins", "allowAllOrigins := $0"), ("WithAllowCredentials", "allowCredentials := $0"),
       ("WithAllowOriginFunc", "allowOriginFunc := $0"), ("WithAllowedHeaders", "allowedHeaders := $0"),
       ("WithAllowedMethods", "allowedMethods := $0"), ("WithAllowedOrigins", "allowedOrigins := $0; allowAllOrigins := false"),
       ("WithExposedHeaders", "exposedHeaders := $0"), ("WithMaxAge", "maxAge := $0")] ∧
    Rivaas.Gates.Cors.defaultCfg.maxAge = 3600 ∧ Rivaas.Gates.Cors.defaultCfg.allowAll = false ∧
    Rivaas.Gates.Cors.defaultCfg.allowCredentials = false ∧ Rivaas.Gates.Cors.defaultCfg.allowedOrigins = [] :=
  ⟨rfl, rfl, rfl, rfl, rfl, rfl⟩

/-! ### methodoverride -/

/-- 29 ToUpper · 49 map lookup (only-on, then allow) · 30 header read · 31 query parameter read · 32 TrimSpace ·
    17, 18 original method into the request context · 33 method rewritten · 1 Next -/
def methodOK (t : List Nat) : Bool :=
  [29, 49].isPrefixOf t && endsWith [1] t && t.count 1 == 1 &&
  (t.contains 33 → endsWith [32, 29, 49, 17, 18, 33, 1] t && t.contains 30 && t.count 49 == 2) &&
  dominates 30 31 t

/-- `methodoverride.New`'s handler, on every path (`Method.serve`): the only-on lookup (49) on the upper-cased request
    method comes first; the query parameter is consulted only after the header; the method is rewritten only after the value
    was normalised (`TrimSpace`, `ToUpper`), looked up in the allow map (the second 49) and the original recorded in the
    request context, directly before the single `c.Next()`; every request goes on (this gate never rejects) -/
theorem methodoverride_rewrite_behind_tests (ρ : Atom → Bool) :
    methodOK (codesOf ((exec ρ methodoverride_handler).trace.filter (keepCodes [1, 29, 30, 31, 32, 33, 46, 17, 18, 49]))) = true :=
  every_exec_walk methodoverride_handler _ methodOK (by decide +kernel) ρ

/-- both lookups can refuse: there is an exit right after the only-on lookup and one right after the allow-list lookup
    (deleting either test removes its exit and breaks this) -/
theorem methodoverride_lookups_can_refuse :
    (codeTraces methodoverride_handler [1, 29, 30, 31, 32, 33, 46, 17, 18, 49]).contains [29, 49, 1] = true ∧
    (codeTraces methodoverride_handler [1, 29, 30, 31, 32, 33, 46, 17, 18, 49]).contains [29, 49, 30, 32, 29, 49, 1] = true ∧
    (codeTraces methodoverride_handler [1, 29, 30, 31, 32, 33, 46, 17, 18, 49]).contains [29, 49, 30, 32, 29, 49, 17, 18, 33, 1] = true := by
  decide +kernel

theorem methodoverride_config :
    methodoverride_defaults =
      [("header", "\"X-HTTP-Method-Override\""), ("queryParam", "\"_method\""), ("allow", "[]string{\"PUT\", \"PATCH\", \"DELETE\"}"),
       ("onlyOn", "[]string{\"POST\"}"), ("respectBody", "false"), ("requireCSRFToken", "false")] ∧
    methodoverride_optionWrites =
      [("WithAllow", "allow := $0"), ("WithHeader", "header := $0"), ("WithOnlyOn", "onlyOn := $0"),
       ("WithQueryParam", "queryParam := $0"), ("WithRequireCSRFToken", "requireCSRFToken := $0"),
       ("WithRespectBody", "respectBody := $0")] ∧
    Rivaas.Gates.Method.defaultCfg.header = "X-HTTP-Method-Override".toList ∧
    Rivaas.Gates.Method.defaultCfg.queryParam = "_method".toList :=
  ⟨rfl, rfl, rfl, rfl⟩

/-! ### trailingslash -/

/-- `New`: a redirect (`redirect308`) is never followed by `c.Next()`; `Wrap`: a redirect is never followed by the wrapped
    handler (`Slash.serveWith`: `ran := false` with 308) -/
theorem trailingslash_redirect_or_next (ρ : Atom → Bool) :
    [[1], [34], [47, 1]].contains (codesOf ((exec ρ trailingslash_handler).trace.filter (keepCodes [1, 34, 47]))) = true ∧
    [[43], [42]].contains (codesOf ((exec ρ trailingslash_wrap).trace.filter (keepCodes [42, 43]))) = true :=
  ⟨every_exec_walk trailingslash_handler _ _ (by decide +kernel) ρ, every_exec_walk trailingslash_wrap _ _ (by decide +kernel) ρ⟩

/-- `redirect308`: the new path is put on the URL, the Location comes from `redirectLocation` (the K17 repair), 308 is
    written, the chain is aborted; `redirect308HTTP` the same without a chain; `redirectLocation` prints the URL — as it
    is when it has a host (K17d), otherwise the path reference, whose `//` prefix it tests (K17) -/
theorem trailingslash_redirect_shape (ρ : Atom → Bool) :
    codesOf ((exec ρ trailingslash_redirect308).trace.filter (keepCodes [48, 37, 35, 36, 2, 1])) = [48, 37, 35, 36, 2] ∧
    codesOf ((exec ρ trailingslash_redirect308HTTP).trace.filter (keepCodes [48, 37, 44, 45, 43])) = [48, 37, 44, 45] ∧
    [[38], [38, 9]].contains (codesOf ((exec ρ trailingslash_redirectLocation).trace.filter (keepCodes [38, 9]))) = true := by
  refine ⟨?_, ?_, ?_⟩
  · exact eq_of_beq (every_exec_walk trailingslash_redirect308 _ (· == _) (by decide +kernel) ρ)
  · exact eq_of_beq (every_exec_walk trailingslash_redirect308HTTP _ (· == _) (by decide +kernel) ρ)
  · exact every_exec_walk trailingslash_redirectLocation _ _ (by decide +kernel) ρ

/-- the policies are numbered as the model numbers them (`Slash.Req.policy`: 0 remove, 1 add, 2 strict), remove is the
    default -/
theorem trailingslash_config :
    trailingslash_policies = ["PolicyRemove", "PolicyAdd", "PolicyStrict"] ∧
    trailingslash_defaults = [("policy", "PolicyRemove")] ∧
    trailingslash_optionWrites = [("WithPolicy", "policy := $0")] :=
  ⟨rfl, rfl, rfl⟩

end Rivaas.Tie.C17Gates
