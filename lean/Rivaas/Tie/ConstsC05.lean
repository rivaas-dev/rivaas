/- Translator tie (B), constants: the model's `maxRecursionDepth` equals the value extract/ regenerates on every run
   from the constant `maxRecursionDepth` of /repo/validation (Gen/Consts.lean), so an edited limit breaks the theorem.
   (The string literals the model of C05 mirrors - `tag.`, `dive`, `validate`, the `json` tag markers - are tied in
   Tie/C05Validation.lean; the default `maxLeaves := 10000` of validation/tags.go is a local literal and is not tied.) -/
import Rivaas.Gen.Consts
import Rivaas.Model.Presence
namespace Rivaas.Tie.ConstsC05
open Rivaas.Gen.Consts
theorem consts_C05_maxRecursionDepth : Rivaas.Presence.maxRecursionDepth = validation_maxRecursionDepth := by decide
end Rivaas.Tie.ConstsC05
