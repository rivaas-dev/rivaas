/-
C14, translator tie (B): `Gen/ConfigLoad.lean` is rewritten by `extract/configload.go` from the current source of
`config/*.go` on every run (go/parser only, located by callee and field names, not by the names of locals).

* `load_program_is_model` — the statement groups of `(*Config).Load`, in source order, are exactly the program
  `ConfigSM.modelLoad` that the statement-level theorems of `Props/C14.lean` (`sm_refines_atomic`,
  `sm_readers_see_installed`, `sm_quiescent_consistent`, `sm_result_is_load_stage`) are about. An edit that moves the
  swap before a validation, takes `bindAndValidate` out of the locked region, drops the `defer`, adds a second write
  to the receiver, a `go` statement, an early unlock or a new call on the receiver breaks this equation.
* the named consequences, stated on the regenerated list itself so that the report says *which* fact broke:
  `load_validates_before_swap`, `load_swap_under_lock`, `load_no_write_before_sources_loaded`, `load_single_swap`.
* `sources_loop_is_model` — `loadSourcesSequential`: sources in slice order into a fresh accumulator; per source:
  context test, `Load` (error ⇒ abort), nil ⇒ empty, `normalizeMapKeys`, `mergo.Map(&acc, normalised, WithOverride)`
  (error ⇒ abort); the accumulator is returned. This is `Config.loadSources` + `mergeAll` (`normalize` then `merge`
  into the accumulator, first failure aborts with its index).
* `values_written_only_by_swap`, `values_never_written_through`, `values_read_under_lock` — the field `values` is
  assigned in `Load` only (the swap, under the write lock), nothing in the package writes through the pointer (an
  installed map is immutable: what `Values()` handed out stays whole), every other mention is under the read lock.
-/
import Rivaas.Gen.ConfigLoad
import Rivaas.Model.ConfigSM
import Rivaas.Spec.Config
import Rivaas.Props.C14

namespace Rivaas.Tie.C14Load
open Rivaas.Gen.ConfigLoad Rivaas.ConfigSkel Rivaas.ConfigSM

/-- the extractor recognised every statement (it writes its complaint into the generated file otherwise) -/
theorem extraction_complete : extractError = none := rfl

/-- the statement groups found in the source of `Load` are the program of the state-machine model -/
theorem load_program_is_model : loadSteps = modelLoad := rfl

def idxOf (s : Step) (l : List Step) : Nat := l.findIdx (· == s)

/-- every validation stage comes before the swap -/
theorem load_validates_before_swap :
    idxOf .loadSources loadSteps < idxOf .schema loadSteps ∧
    idxOf .schema loadSteps < idxOf (.validators true) loadSteps ∧
    idxOf (.validators true) loadSteps < idxOf .bindAndValidate loadSteps ∧
    idxOf .bindAndValidate loadSteps < idxOf .bind loadSteps ∧
    idxOf .bind loadSteps < idxOf .swap loadSteps ∧ idxOf .swap loadSteps < loadSteps.length := by decide +kernel

/-- the binding stages and the swap are between `Lock` and the return, the unlock is deferred directly after the
    `Lock`, and there is no explicit `Unlock` -/
theorem load_swap_under_lock :
    idxOf .lock loadSteps + 1 = idxOf .deferUnlock loadSteps ∧
    idxOf .deferUnlock loadSteps < idxOf .bindAndValidate loadSteps ∧
    loadSteps.contains .unlock = false ∧ loadSteps.contains .goStmt = false := by decide +kernel

/-- nothing is written to the receiver before (or while) the sources are loaded and validated: the only writes are
    `bind` and the swap -/
theorem load_no_write_before_sources_loaded :
    loadSteps.all (fun s => match s with
      | .writeField _ | .writeThrough | .call _ | .retOther => false
      | _ => true) = true ∧
    (loadSteps.take (idxOf .lock loadSteps)).all (fun s => s != .bind && s != .swap) = true := by decide +kernel

/-- exactly one swap, and it is the last thing before `return nil` -/
theorem load_single_swap :
    (loadSteps.filter (· == .swap)).length = 1 ∧ loadSteps.getLast? = some .retNil ∧
    idxOf .swap loadSteps + 2 = loadSteps.length := by decide +kernel

/-- `loadSourcesSequential` is the loop the model's `loadSources` / `mergeAll` describe -/
theorem sources_loop_is_model :
    srcLoop = { rangesOverSources := true, accFresh := true, returnsAcc := true,
                body := [.ctxCheck, .srcLoad, .nilToEmpty, .normalize, .mergoMap true true true] } := rfl

/-- the field `values` is assigned in `Load` only, holding the write lock -/
theorem values_written_only_by_swap :
    (valuesUses.filter (·.kind == .assignPtr)) = [{ fn := "Load", kind := .assignPtr, held := .write }] := by decide +kernel

/-- nothing in the package writes through the installed pointer -/
theorem values_never_written_through :
    valuesUses.all (fun u => u.kind != .derefWrite && u.kind != .other) = true := by decide +kernel

/-- every reading mention of `values` holds `c.mu` (read or write) with the unlock deferred -/
theorem values_read_under_lock :
    valuesUses.all (fun u => u.held != .none) = true ∧
    valuesUses.any (fun u => u.fn == "Values" && u.kind == .returnPtr && u.held == .read) = true ∧
    valuesUses.any (fun u => u.fn == "getValueFromMap" && u.kind == .derefRead && u.held == .read) = true := by decide +kernel

/-- `getValueFromMap` is what `Config.getValue` models: under the read lock (unlock deferred), the key lower-cased, the
    whole lower-cased key tried as a top-level key first (returning on a hit), then split at "." and traversed -/
theorem get_steps_are_model :
    getSteps = ["RLock", "defer RUnlock", "values == nil: return nil", "copy of the map header", "strings.ToLower",
      "direct lookup of the lower-cased key: return on hit", "strings.Split of the lower-cased key at \".\"",
      "traversal loop", "return nil"] := rfl

/-- the model does what these steps say: the direct match wins over the dotted path, the key is lower-cased as a whole -/
theorem model_get_follows_steps :
    Rivaas.Config.classify (Rivaas.Config.getValue
      [("a.b".toList, .leaf "s:direct".toList), ("a".toList, .map [("b".toList, .leaf "s:nested".toList)])] "A.B".toList) =
      .leaf "s:direct".toList ∧
    Rivaas.Config.classify (Rivaas.Config.getValue
      [("a".toList, .map [("b".toList, .leaf "s:nested".toList)])] "A.b".toList) = .leaf "s:nested".toList := by
  -- the kernel decodes a string literal by evaluation, at a cost quadratic in its length: `String.toList_ofList`
  -- replaces each literal by its characters by a lemma first
  repeat rewrite [String.toList_ofList]
  decide +kernel

/-- `sm_refines_atomic` stated on the regenerated program itself: the statement groups `extract/` found in the current
    source of `(*Config).Load`, run one group at a time by any number of loader and reader threads under any schedule,
    give the readers exactly what the atomic model gives on the recorded linearisation, and leave — whenever nobody
    holds the write lock — the atomic model's state -/
theorem source_program_refines_atomic (schema : Bool) (nv : Nat) (inputs : List Rivaas.Config.LoadInput)
    (st0 : Rivaas.Config.State) (sched : List Act) :
    let s := run loadSteps schema nv inputs (Sys.init st0) sched
    s.seen.reverse = Rivaas.Config.runSched schema nv inputs st0 s.ops.reverse [] ∧
    (s.writer = none → s.conc = (coarse schema nv inputs st0 s.ops.reverse).1) := by
  rw [load_program_is_model]
  exact Rivaas.C14.sm_refines_atomic schema nv inputs st0 sched

end Rivaas.Tie.C14Load
