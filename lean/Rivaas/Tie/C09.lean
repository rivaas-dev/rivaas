import Rivaas.Gen.Lifecycle
import Rivaas.Model.LifecycleSkel
import Rivaas.Model.LifecycleWhole
import Rivaas.Props.C09Whole
/-
C09 — the call order of `Start` / `StartTLS` / `StartMTLS` / `runServer` in the Go source, checked in the kernel.

`Gen/Lifecycle.lean` is regenerated from `app/*.go` by `extract/` on every run (fails closed, but only for
this module: a statement form the walker does not know is recorded as `extractError`). The obligations are
those of `Model/LifecycleSkel.lean` (`check`), evaluated by `decide` over all paths of the regenerated
skeletons; `Props/C09.lean` (`onAll_sound`, `skel_*_every_path`) says what a passed check means for every
valuation of the branch conditions: the order the lifecycle model follows, and no exit that skips
`abortStartup` once observability is started or skips a step of the shutdown sequence.
-/
namespace Rivaas.Tie.C09
open Rivaas.LifecycleSkel Rivaas.Gen.Lifecycle

/-- every statement around a call of interest was understood by the extractor -/
theorem extraction_complete : extractError = "" := rfl

/-- Everything this file evaluates on the regenerated skeletons, in one evaluation: nearly all of the kernel's work is
    turning the string literals of the call names into character lists (`nm`), and within one evaluation each literal
    is converted once. The theorems below are its components (when a changed source fails one of them, the driver's
    `SKEL` line says which: it prints the verdict component by component). -/
theorem source_evaluated :
    ((check skels).entries = true ∧ (check skels).pre = true ∧ (check skels).go = true ∧
      ((check skels).arms = true ∧ (check skels).leaves = true) ∧ (check skels).after = true) ∧
    (checkWhole skels = true ∧ liveness skels = true ∧ modelPathsPresent skels 2 = true) ∧
    skels.entries.all (onAll entryFlushes) = true ∧
    (skels.arms.map (armRole (nm loopShape.label)) = [.abort, .reload, .leave] ∧
      afterLabel skels.after = nm loopShape.label) := by decide +kernel

theorem entries_obligation : (check skels).entries = true := source_evaluated.1.1
theorem pre_loop_obligation : (check skels).pre = true := source_evaluated.1.2.1
theorem goroutine_obligation : (check skels).go = true := source_evaluated.1.2.2.1
theorem loop_arms_obligation : (check skels).arms = true ∧ (check skels).leaves = true := source_evaluated.1.2.2.2.1
theorem shutdown_sequence_obligation : (check skels).after = true := source_evaluated.1.2.2.2.2

/-- all obligations on the skeletons regenerated from the source of this run -/
theorem lifecycle_skeleton_ok : (check skels).ok = true := by
  simp only [Verdict.ok, entries_obligation, pre_loop_obligation, goroutine_obligation, loop_arms_obligation.1,
    loop_arms_obligation.2, shutdown_sequence_obligation, Bool.and_self]

/-! ### the assembled program (`Model/LifecycleWhole.lean`) over the regenerated slices

`Props/C09Whole.lean` proves for any slices that pass `checkWhole`: every execution of entry point → `runServer` →
event loop (any schedule of arms, any number of iterations) → statements after the label ends in a `return` with a
call word of the lifecycle language. These are its hypotheses, discharged on the source of this run. -/

/-- every slice meets its obligation over the one vocabulary of the lifecycle language -/
theorem whole_program_obligation : checkWhole skels = true := source_evaluated.2.1.1

/-- the paths the lifecycle model follows exist: prologue into `runServer`, the ready path, an arm that is exactly one
    `Reload` and goes round again, an arm that leaves to the label, the shutdown sequence -/
theorem model_paths_live : liveness skels = true := source_evaluated.2.1.2.1

/-- … and, enumerated: failed start, failed listen, served with 0, 1, 2 SIGHUP reloads -/
theorem model_paths_present : modelPathsPresent skels 2 = true := source_evaluated.2.1.2.2

/-- no entry point returns without having written out the startup logs buffered since `New` (K09g, K09h): every returning
    path of `Start` / `StartTLS` / `StartMTLS` goes through `abortStartup` or `flushStartupLogs`; after `runServer` has
    been entered the same holds by `pre_loop_obligation` / `loop_arms_obligation` (failure exits are `abortStartup; return`)
    and `goroutine_obligation` (the serving goroutine flushes before it signals readiness) -/
theorem failed_entry_flushes_startup_logs : skels.entries.all (onAll entryFlushes) = true := source_evaluated.2.2.1

/-- model ↔ source: every run of the lifecycle model (every scenario, both values of `race`) that does
    not end in a hook panic follows a path shape whose call word is the word of an execution of the control flow
    regenerated from the source of this run — and that execution ends in a `return` and is in the lifecycle language -/
theorem model_runs_are_executions_of_the_source (sc : Rivaas.Lifecycle.Scenario) (race : Bool) (nHup : Nat) :
    (Rivaas.Lifecycle.runSegs Rivaas.Lifecycle.current sc race).res = .panic ∨
    ∃ p n o, Rivaas.C09.pathOfRes nHup (Rivaas.Lifecycle.runSegs Rivaas.Lifecycle.current sc race).res = some p ∧
      o ∈ startOuts skels n ∧ word o = modelWord p ∧ inStartLang (word o) = true ∧ isRet o.fin = true :=
  Rivaas.C09.model_run_executes skels whole_program_obligation model_paths_live model_paths_present sc race nHup

/-! ### what the extractor records besides the skeletons (`loopShape`, `hookLoops`, `reloadShape`, `obsShape`) -/

/-- the event loop waits on the server error, the reload signal and the lifecycle context, in this order; the only
    `goto` target is the label right after the loop -/
theorem loop_shape_obligation : loopShape.ok = true := by decide +kernel

/-- which arm does what: the server-error arm aborts, the SIGHUP arm reloads and goes round again (it never leaves the
    loop), the `ctx.Done()` arm leaves to the label -/
theorem arm_roles_obligation :
    skels.arms.map (armRole (nm loopShape.label)) = [.abort, .reload, .leave] ∧
    afterLabel skels.after = nm loopShape.label := source_evaluated.2.2.2

/-- the hook executors loop the way the model's `startHooks` / `readyHooks` / `ranFrom` / `lifo` / `stopHooks` do -/
theorem hook_loops_obligation : hookLoops = modelHookLoops := rfl

/-- `Reload` = `reloadMu.Lock(); defer reloadMu.Unlock(); … executeReloadHooks …` (Model/ReloadMutex.lean) -/
theorem reload_under_mutex_obligation : reloadShape = modelReloadShape := rfl

/-- observability: what is started is what is shut down, no step skips the next, and the contexts of the shutdown
    sequence and of `abortStartup` are detached from the (already cancelled) lifecycle context -/
theorem observability_pairing_obligation : obsShape = modelObsShape := rfl

end Rivaas.Tie.C09
