/- Translator tie (B), constants: every literal of the Go source that the model of C01 mirrors equals the value
   extract/ regenerates from the current source (Gen/Consts.lean) on every run. An edited threshold, list or
   marker in /repo breaks the theorem named after it. -/
import Rivaas.Gen.Consts
import Rivaas.Model.Radix
namespace Rivaas.Tie.ConstsC01
open Rivaas.Gen.Consts
theorem consts_C01_inlineSlots : Rivaas.Radix.inlineSlots = router_inlineSlots := rfl
theorem consts_C01_standardMethods : Rivaas.Route.stdMethods = router_standardMethods.map String.toList := rfl
theorem consts_C01_wildcardParam : Rivaas.Radix.wildParam = router_wildcardParam.toList := rfl
theorem consts_C01_sentinels :
    router_sentinelPatterns.map String.toList = ["_method_not_allowed".toList, Rivaas.Radix.notFoundPattern, Rivaas.Radix.unmatched] := rfl
end Rivaas.Tie.ConstsC01
