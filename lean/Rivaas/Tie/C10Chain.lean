/-
C10, translator tie (B): structural facts of `middleware/recovery`, `middleware/timeout` and of `app.New` that the
models (`Model/Chain.lean`: `unwind`, `Cfg.abortOnRecover`; `Model/Timeout.lean`: `stepH`, `stepR`, `finishR`) rely
on, regenerated from the current source on every run (`Gen/ChainFacts.lean`, extract/chainfacts.go: flat token
lists, locals numbered in order of first occurrence, only tokens that mention a keyword of the function's
vocabulary) and checked here. An edit of the source that changes one of them breaks the theorem named after it;
`./check C10` then searches for a concrete failing input.
-/
import Rivaas.Gen.ChainFacts
namespace Rivaas.Tie.C10Chain
open Rivaas.Gen.ChainFacts

def isInfix (l t : List String) : Bool :=
  (List.range (t.length + 1)).any fun i => l.isPrefixOf (t.drop i)

def pos (x : String) (t : List String) : Option Nat := t.findIdx? (· == x)

-- both tokens occur, `a` first (unlike `MwSkel.before`, false when either is absent)
def before (a b : String) (t : List String) : Bool :=
  match pos a t, pos b t with
  | some i, some j => i < j
  | _, _ => false

/-- a block is found where it stands: the source lists below are matched against the generated ones by
    unfolding (`rfl`), which compares string literals as such and never runs `==` on characters -/
theorem isInfix_append (a l b : List String) : isInfix l (a ++ (l ++ b)) = true := by
  simp only [isInfix, List.any_eq_true, List.mem_range]
  refine ⟨a.length, by simp only [List.length_append]; omega, ?_⟩
  rw [List.drop_left]
  exact List.isPrefixOf_iff_prefix.mpr (List.prefix_append l b)

/-- the extractor understood every statement of every function it reads -/
theorem extraction_complete : problem = none := by decide

/-! ### recovery (`Chain.unwind`, case `Frame.fn k .recover _`; `Chain.Prog.recovers` with acts `[next]`) -/

/-- the deferred `recover` is registered before the one `c.Next()`, and a non-nil recovered value goes to
    `handlePanic` — the model's recovery position is `{ recovers := true, acts := [.next] }` -/
theorem recovery_defer_registered_before_next :
    recovery_handler =
      ["defer {", "_1 := recover()", "if _1 != nil {", "handlePanic(_2, _3, _1)", "}", "}", "_2.Next()"] := rfl

/-- `handlePanic` aborts the chain first (K10c fix; `Cfg.abortOnRecover = true`), on every path — no `return`
    in front of it —, and calls the response handler afterwards (`St.write Chunk.rec500`) -/
theorem handlePanic_aborts_then_responds :
    recovery_handlePanic = ["_1.Abort()", "if _2.handler != nil {", "_2.handler(_1, _3)", "}"] := rfl

/-- the default response handler is one `c.JSON(500, …)` and does not touch the chain -/
theorem recovery_default_response :
    recovery_defaultHandler =
      ["_1.JSON(http.StatusInternalServerError, map[string]any{ \"error\": \"Internal server error\", \"code\": \"INTERNAL_ERROR\", })"] :=
  rfl

/-- `captureStack` (`Recovery.captureStack`): a negative limit is clamped to 0 before it is used as a slice bound
    (K10e fix); the stack is captured only under `logger != nil` and `stackTrace` (`Recovery.reachesHandler`), between
    `c.Abort()` and the response handler; every option assigns exactly its own field (`Recovery.applyOpt`) -/
theorem recovery_capture_and_options :
    recovery_captureStack =
      ["_1 := debug.Stack()", "if _2 < 0 {", "_2 = 0", "}", "if len(_1) > _2 {", "return _1[:_2]", "}", "return _1"] ∧
    recovery_handlePanic_stack =
      ["_1.Abort()", "if _2.logger != nil {",
       "_2.logger.Error(\"panic recovered\", \"error\", fmt.Sprintf(\"%v\", _3), \"method\", _1.Request.Method, \"path\", _1.Request.URL.Path, )",
       "if _2.stackTrace {", "_4 := captureStack(_2.stackSize)", "}", "}", "if _2.handler != nil {", "_2.handler(_1, _3)", "}"] ∧
    recovery_opt_WithoutLogging = ["_1.logger = nil"] ∧ recovery_opt_WithLogger = ["_1.logger = _2"] ∧
    recovery_opt_WithHandler = ["_1.handler = _2"] ∧ recovery_opt_WithStackTrace = ["_1.stackTrace = _2"] ∧
    recovery_opt_WithStackSize = ["_1.stackSize = _2"] ∧ recovery_opt_WithPrettyStack = ["_1.prettyStack = &_2"] :=
  ⟨rfl, rfl, rfl, rfl, rfl, rfl, rfl, rfl⟩

/-! ### the app installs recovery first (assumption "recovery is the first handler of the chain") -/

/-- `applyDefaultMiddleware` ends with `r.Use(recovery.New(…))` -/
theorem app_default_middleware_is_recovery :
    app_defaultMiddleware.getLast? = some "_3.Use(recovery.New(_1...))" := rfl

/-- in `app.New` the default middleware goes onto the freshly made router before the `WithMiddleware` functions
    (and `App.Use` is only possible on the finished app): recovery is position 0 of every app chain -/
theorem app_recovery_first :
    app_new_middleware_order =
      ["_1, _2 := router.New(_3...)", "if shouldApplyDefaultMiddleware(_4) {", "applyDefaultMiddleware(_1, _5)", "}",
       "if _6 != nil || _7 != nil || _8 != nil {", "_1.SetObservabilityRecorder(_9)", "}",
       "if len(_4.middleware.functions) > 0 {", "_10.Use(_4.middleware.functions...)", "}"] := rfl

/-! ### timeout (`Timeout.stepH`, `Timeout.stepR`, `Timeout.finishR`) -/

/-- the whole handler closure, as far as the model is concerned -/
theorem timeout_handler_shape :
    timeout_handler =
      ["if shouldSkip(_1, _2) {", "_2.Next()", "return", "}",
       "_3, _4 := context.WithTimeout(_2.Request.Context(), _1.duration)", "defer _4()",
       "_2.Request = _2.Request.WithContext(_3)",
       "_5 := _2.Response", "_6 := *_2", "_7 := &timeoutWriter{ResponseWriter: _5, header: _5.Header().Clone()}",
       "_2.Response = _7",
       "_8 := make(chan struct{})", "_9 := make(chan any, 1)",
       "go {", "defer {", "_10 := recover()", "if _10 != nil {", "_9 <- _10", "}", "close(_8)", "}", "_2.Next()", "}",
       "select {", "case <-_8 {", "}", "case <-_3.Done() {",
       "if errors.Is(_3.Err(), context.DeadlineExceeded) {", "if _1.logger != nil {", "_1.logger.Warn(\"request timeout\", \"method\", _6.Request.Method, \"path\", _6.Request.URL.Path, \"timeout\", _1.duration.String(), )", "}",
       "_11 = _7.timeout()", "if _11 {",
       "_1.handler(&_6, _1.duration)", "}", "}", "<-_8", "}", "}",
       "if !_11 {", "_2.Response = _5", "}",
       "select {", "case _12 := <-_9 {", "panic(_12)", "}", "}"] := rfl

/-- the guard is installed and the timeout handler's own context is copied before the goroutine exists
    (`stepH`'s writes go through the guard from its first step; no race on the copy) -/
theorem timeout_guard_before_goroutine :
    before "_2.Response = _7" "go {" timeout_handler = true ∧ before "_6 := *_2" "go {" timeout_handler = true := by
  decide +kernel

/-- thread H: the deferred function recovers, forwards a non-nil value to `panicChan` and closes `done` last,
    around the one `c.Next()` (`stepH`: `.panic v` ⇒ `panicChan := some v, hDone := true`; `[]` ⇒ `hDone := true`) -/
theorem timeout_goroutine_shape :
    isInfix ["go {", "defer {", "_10 := recover()", "if _10 != nil {", "_9 <- _10", "}", "close(_8)", "}", "_2.Next()", "}"]
      timeout_handler = true :=
  -- the block is tokens 13–22 of the closure (the next two theorems: 23–38, and from 39 on), counted in
  -- `timeout_handler_shape`, which states the whole closure: an edit that shifts a block breaks that theorem in any case
  isInfix_append (timeout_handler.take 13) _ (timeout_handler.drop 23)

/-- thread R at the `select`: two arms, `<-done` and `<-ctx.Done()`; in the second, under `DeadlineExceeded`, the
    timeout is logged first (`RPc.logging`, reading the request from the copied context), then `tw.timeout()` decides
    atomically, and the timeout handler runs only if it claimed the response, on the copied context; the arm ends
    with `<-done` on every path (`stepR .select` / `.logging`: `.thandler` / `.waitDone`, never `.returned`) -/
theorem timeout_select_shape :
    isInfix ["select {", "case <-_8 {", "}", "case <-_3.Done() {",
       "if errors.Is(_3.Err(), context.DeadlineExceeded) {", "if _1.logger != nil {", "_1.logger.Warn(\"request timeout\", \"method\", _6.Request.Method, \"path\", _6.Request.URL.Path, \"timeout\", _1.duration.String(), )", "}",
       "_11 = _7.timeout()", "if _11 {",
       "_1.handler(&_6, _1.duration)", "}", "}", "<-_8", "}", "}"] timeout_handler = true :=
  isInfix_append (timeout_handler.take 23) _ (timeout_handler.drop 39)

/-- after the select: the real writer comes back unless the request timed out, then the panic is re-raised
    (`finishR`: recovery's body is dropped iff `timedOut`) — and this is the end of the closure -/
theorem timeout_restore_then_repanic :
    ["if !_11 {", "_2.Response = _5", "}", "select {", "case _12 := <-_9 {", "panic(_12)", "}", "}"].isSuffixOf
      timeout_handler = true :=
  List.isSuffixOf_iff_suffix.mpr ⟨timeout_handler.take 39, rfl⟩

/-- `timeoutWriter.Write` / `WriteHeader`: under the lock, dropped when timed out, otherwise `start()` and the
    underlying write (`stepH .write`: `if s.timedOut then skip else started := true; write`) -/
theorem guard_write_shape :
    tw_Write = ["_1.mu.Lock()", "if _1.timedOut {", "return 0, http.ErrHandlerTimeout", "}", "_1.start()",
                "return _1.ResponseWriter.Write(_2)"] ∧
    tw_WriteHeader = ["_1.mu.Lock()", "if _1.timedOut {", "return", "}", "_1.start()",
                      "_1.ResponseWriter.WriteHeader(_2)"] ∧
    tw_Flush = ["_1.mu.Lock()", "_2, _3 := _1.ResponseWriter.(http.Flusher)", "if _3 && !_1.timedOut {", "_1.start()", "}"] :=
  ⟨rfl, rfl, rfl⟩

/-- `timeoutWriter.timeout`: claims the response only if the chain has not started it, and reports the claim
    (`stepR`, case `.logging`: `if s.started then rpc := .waitDone else timedOut := true, rpc := .thandler`) -/
theorem guard_timeout_shape :
    tw_timeout = ["_1.mu.Lock()", "if !_1.started {", "_1.timedOut = true", "}", "return _1.timedOut"] ∧
    tw_start.take 4 = ["if _1.started {", "return", "}", "_1.started = true"] := ⟨rfl, rfl⟩

end Rivaas.Tie.C10Chain
