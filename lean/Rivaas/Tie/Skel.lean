/-
Control-flow skeletons and the verified path enumerator (DESIGN.md §2.2 (B), appendix sketch A,
extended with `defer`). Core Lean only: `Gen/*.lean` (regenerated from the Go source by
`extract/`) are terms of `Stmt`; `Tie/*.lean` prove properties of *every* execution of such a term
by enumerating its paths once and letting the kernel evaluate a Boolean check over them.

Everything an event carries is a `Nat` code, or a `Label` over such codes and a `Bool` in `endG` (the extractor prints
the code tables next to the skeleton), so that the kernel only ever compares numerals.
-/
namespace Rivaas.Skel

abbrev Atom := Nat

/-- syntactic origin of the route-label argument of the end callback -/
inductive Label
  | sentinel (id : Nat)   -- a string literal (id indexes `Gen.Serve.sentinels`)
  | lookup (fn : Nat)     -- a variable bound from the pattern result of a route lookup (`getRoute`, `getRouteWithPath`, `Pattern`)
  | exactKey (fn : Nat)   -- the key of an exact static-table lookup, inside the branch where that lookup succeeded
  | raw (src : Nat)       -- anything else (e.g. `req.URL.Path`)
  deriving DecidableEq, Repr

inductive Ev
  | startG                          -- idiom: `if r.observability != nil { _, obsState = r.observability.OnRequestStart(ctx, req) … }`
  | wrapG                           -- idiom: `if r.observability != nil && obsState != nil { w = r.observability.WrapResponseWriter(w, obsState) }`
  | endG (l : Label) (wOK : Bool)   -- idiom: `if obsState != nil { r.observability.OnRequestEnd(_, obsState, w, l) }`; wOK: third argument is the tracked writer
  | obsRaw (what : Nat)             -- any observability call / obsState or writer assignment that is not one of the idioms
  | get (k : Nat)                   -- `c := getContextFromGlobalPool()` (k fresh per occurrence and per inlining)
  | release (k : Nat)               -- `releaseGlobalContext(c)`
  | assign (k f : Nat)              -- `c.<field f> = …` (directly or through initForRequest…); paramCount only ever `= 0`
  | reset (k : Nat)                 -- `c.reset()`
  | use (k what : Nat)              -- c mentioned (what = 0) or passed to a callee that is not inlined (what = code of the callee)
  | run (k what : Nat)              -- user-visible work on c: `c.Next()`, `handler(c)`, `c.NotFound()`, any other method call on c
  | wuse (what : Nat)               -- the tracked response writer is the receiver or an argument of a call
  | loopBegin (k : Nat) | loopEnd (k : Nat)  -- bracket one representative iteration of a loop that mentions context k
  | op (code : Nat)                 -- a recognised call of the app-layer skeletons (Gen/ObsApp.lean prints the code table)
  deriving DecidableEq, Repr

/-- statement skeleton: events, branching on abstract atoms (one fresh atom per `if` occurrence),
    early return, inlined callee (`scope`: a `ret` leaves only the scope; deferred events run when the
    scope ends, last deferred first) -/
inductive Stmt
  | ev (e : Ev)
  | skip
  | ret
  | defer (e : Ev)
  | seq (a b : Stmt)
  | ite (c : Atom) (t e : Stmt)
  | scope (s : Stmt)
  deriving DecidableEq, Repr

/-- right-nested sequence (keeps the generated terms flat) -/
def seqs : List Stmt → Stmt
  | [] => .skip
  | [s] => s
  | s :: r => .seq s (seqs r)

/-- outcome of executing a statement: trace, whether a `ret` was hit, pending deferred events
    (most recently deferred first) -/
structure Out where
  trace : List Ev
  returned : Bool
  defers : List Ev
  deriving DecidableEq, Repr

def exec (ρ : Atom → Bool) : Stmt → Out
  | .ev e => ⟨[e], false, []⟩
  | .skip => ⟨[], false, []⟩
  | .ret => ⟨[], true, []⟩
  | .defer e => ⟨[], false, [e]⟩
  | .seq a b =>
    let ra := exec ρ a
    if ra.returned then ra else
      let rb := exec ρ b
      ⟨ra.trace ++ rb.trace, rb.returned, rb.defers ++ ra.defers⟩
  | .ite c t e => if ρ c then exec ρ t else exec ρ e
  | .scope s =>
    let r := exec ρ s
    ⟨r.trace ++ r.defers, false, []⟩

structure Path where
  cond : List (Atom × Bool)
  out : Out
  deriving Repr

def paths : Stmt → List Path
  | .ev e => [⟨[], ⟨[e], false, []⟩⟩]
  | .skip => [⟨[], ⟨[], false, []⟩⟩]
  | .ret => [⟨[], ⟨[], true, []⟩⟩]
  | .defer e => [⟨[], ⟨[], false, [e]⟩⟩]
  | .seq a b =>
    (paths a).flatMap fun pa =>
      if pa.out.returned then [pa] else
        (paths b).map fun pb =>
          ⟨pa.cond ++ pb.cond, ⟨pa.out.trace ++ pb.out.trace, pb.out.returned, pb.out.defers ++ pa.out.defers⟩⟩
  | .ite c t e =>
    ((paths t).map fun p => { p with cond := (c, true) :: p.cond }) ++
    ((paths e).map fun p => { p with cond := (c, false) :: p.cond })
  | .scope s => (paths s).map fun p => { p with out := ⟨p.out.trace ++ p.out.defers, false, []⟩ }

def consistent (ρ : Atom → Bool) (p : Path) : Prop := ∀ cb ∈ p.cond, ρ cb.1 = cb.2

theorem exec_mem_paths (ρ : Atom → Bool) (s : Stmt) :
    ∃ p ∈ paths s, consistent ρ p ∧ p.out = exec ρ s := by
  induction s with
  | seq a b iha ihb =>
    obtain ⟨pa, hpa, hca, hoa⟩ := iha
    obtain ⟨pb, hpb, hcb, hob⟩ := ihb
    simp only [paths, exec, List.mem_flatMap, ← hoa, ← hob]
    cases hr : pa.out.returned
    · refine ⟨_, ⟨pa, hpa, by simp only [hr]; exact List.mem_map.mpr ⟨pb, hpb, rfl⟩⟩, ?_, by simp⟩
      exact fun cb h => (List.mem_append.mp h).elim (hca cb) (hcb cb)
    · exact ⟨pa, ⟨pa, hpa, by simp [hr]⟩, hca, by simp⟩
  | ite c t e iht ihe =>
    simp only [paths, exec, List.mem_append, List.mem_map]
    cases hc : ρ c
    · obtain ⟨p, hp, hcp, hop⟩ := ihe
      exact ⟨_, Or.inr ⟨p, hp, rfl⟩, fun cb h => (List.mem_cons.mp h).elim (· ▸ hc) (hcp cb), by simpa using hop⟩
    · obtain ⟨p, hp, hcp, hop⟩ := iht
      exact ⟨_, Or.inl ⟨p, hp, rfl⟩, fun cb h => (List.mem_cons.mp h).elim (· ▸ hc) (hcp cb), by simpa using hop⟩
  | scope s ih =>
    obtain ⟨p, hp, hcp, hop⟩ := ih
    exact ⟨_, List.mem_map.mpr ⟨p, hp, rfl⟩, hcp, by simp [exec, hop]⟩
  | _ => exact ⟨_, List.mem_singleton.mpr rfl, nofun, rfl⟩

/-- satisfiable = no atom required both true and false (with one fresh atom per `if` every path
    is satisfiable; the filter matters only for hand-written skeletons that reuse atoms) -/
def sat (p : Path) : Bool := p.cond.all fun cb => !(p.cond.contains (cb.1, !cb.2))

theorem sat_of_consistent (ρ : Atom → Bool) (p : Path) (hc : consistent ρ p) : sat p = true := by
  simp only [sat, List.all_eq_true, Bool.not_eq_true', List.contains_eq_mem, decide_eq_false_iff_not]
  intro cb hcb hneg
  have h : cb.2 = !cb.2 := (hc cb hcb).symm.trans (hc (cb.1, !cb.2) hneg)
  cases hb : cb.2 <;> simp [hb] at h

/-- the traces of all paths (what the kernel evaluates; conditions are not computed) -/
def traces (s : Stmt) : List (List Ev) := (paths s).map (·.out.trace)

theorem all_exec (s : Stmt) (P : List Ev → Bool) (h : (traces s).all P = true)
    (ρ : Atom → Bool) : P (exec ρ s).trace = true := by
  obtain ⟨p, hp, _, ho⟩ := exec_mem_paths ρ s
  rw [← ho]
  exact List.all_eq_true.mp h p.out.trace (by simp only [traces, List.mem_map]; exact ⟨p, hp, rfl⟩)

/-- same with the satisfiability filter (sketch A's `all_exec_balanced`, for any check) -/
theorem all_exec_sat (s : Stmt) (P : List Ev → Bool)
    (h : ((paths s).filter sat).all (fun p => P p.out.trace) = true)
    (ρ : Atom → Bool) : P (exec ρ s).trace = true := by
  obtain ⟨p, hp, hc, ho⟩ := exec_mem_paths ρ s
  rw [← ho]
  exact List.all_eq_true.mp h p (by simp [List.mem_filter, hp, sat_of_consistent ρ p hc])

/-! ### walking the paths without listing them

`paths` rebuilds every outcome at every enclosing `seq`, which makes a check over the paths of a long skeleton slow to
evaluate. A check that reads the trace through a left fold can be evaluated along the statement instead: the events
are folded into a state as they occur, a branch duplicates the state, and the prefix common to several paths is folded
once. With `δ q e = e :: q` the state is the reversed trace and any check on traces can be evaluated this way. -/

/-- `K` holds of the folded trace, the return flag and the pending deferred events of every path -/
def walk {σ : Type} (δ : σ → Ev → σ) : Stmt → σ → (σ → Bool → List Ev → Bool) → Bool
  | .ev e, q, K => K (δ q e) false []
  | .skip, q, K => K q false []
  | .ret, q, K => K q true []
  | .defer e, q, K => K q false [e]
  | .seq a b, q, K => walk δ a q fun qa ra da =>
      if ra then K qa ra da else walk δ b qa fun qb rb db => K qb rb (db ++ da)
  | .ite _ t e, q, K => walk δ t q K && walk δ e q K
  | .scope s, q, K => walk δ s q fun q' _ d => K (d.foldl δ q') false []

theorem walk_eq {σ : Type} (δ : σ → Ev → σ) (s : Stmt) : ∀ q K,
    walk δ s q K = (paths s).all fun p => K (p.out.trace.foldl δ q) p.out.returned p.out.defers := by
  induction s with
  | seq a b iha ihb =>
    intro q K
    simp only [walk, paths, iha, ihb, List.all_flatMap]
    -- per path `pa` of `a`: if it returned it is a path of the `seq` as it is, otherwise the paths of `b` go on from it
    congr 1; funext pa
    split <;> simp [List.all_map, Function.comp_def, *]
  | ite c t e iht ihe => intro q K; simp [walk, paths, iht, ihe, List.all_append, List.all_map, Function.comp_def]
  | scope s ih => intro q K; simp [walk, paths, ih, List.all_map, Function.comp_def]
  | _ => intro q K; simp [walk, paths]

/-- two checks on the same paths are one check of their conjunction, so the paths are enumerated once -/
theorem all_and {α : Type} (l : List α) (f g : α → Bool) : (l.all fun x => f x && g x) = (l.all f && l.all g) := by
  induction l with
  | nil => rfl
  | cons x r ih => simp only [List.all_cons, ih, Bool.and_assoc, Bool.and_left_comm]

theorem all_traces_eq_walk (s : Stmt) (P : List Ev → Bool) :
    (traces s).all P = walk (fun q e => e :: q) s [] fun q _ _ => P q.reverse := by
  simp [walk_eq, traces, List.all_map, Function.comp_def]

/-! ### projection: forget the events an obligation does not talk about -/

def proj (keep : Ev → Bool) : Stmt → Stmt
  | .ev e => if keep e then .ev e else .skip
  | .skip => .skip
  | .ret => .ret
  | .defer e => if keep e then .defer e else .skip
  | .seq a b => .seq (proj keep a) (proj keep b)
  | .ite c t e => .ite c (proj keep t) (proj keep e)
  | .scope s => .scope (proj keep s)

def Out.filter (keep : Ev → Bool) (o : Out) : Out := ⟨o.trace.filter keep, o.returned, o.defers.filter keep⟩

theorem exec_proj (keep : Ev → Bool) (ρ : Atom → Bool) (s : Stmt) :
    exec ρ (proj keep s) = (exec ρ s).filter keep := by
  induction s with
  | ev e | defer e => cases h : keep e <;> simp [proj, exec, Out.filter, h]
  | seq a b iha ihb =>
    simp only [proj, exec, iha, ihb]
    cases hr : (exec ρ a).returned <;> simp [Out.filter, hr]
  | ite c t e iht ihe => simp only [proj, exec, iht, ihe]; split <;> rfl
  | scope s ih => simp [proj, exec, ih, Out.filter]
  | _ => rfl

/-! ### pruning: remove structure that cannot influence any outcome -/

def mkSeq : Stmt → Stmt → Stmt
  | .skip, b => b
  | a, .skip => a
  | a, b => .seq a b

def mkIte (c : Atom) : Stmt → Stmt → Stmt
  | .skip, .skip => .skip
  | .ret, .ret => .ret
  | t, e => .ite c t e

/-- a statement without `ret` and `defer` needs no scope -/
def plain : Stmt → Bool
  | .ev _ => true
  | .skip => true
  | .ret => false
  | .defer _ => false
  | .seq a b => plain a && plain b
  | .ite _ t e => plain t && plain e
  | .scope _ => true

def silent : Stmt → Bool
  | .ev _ => false
  | .skip => true
  | .ret => true
  | .defer _ => false
  | .seq a b => silent a && silent b
  | .ite _ t e => silent t && silent e
  | .scope s => silent s

def mkScope (s : Stmt) : Stmt := if silent s then .skip else if plain s then s else .scope s

def prune : Stmt → Stmt
  | .seq a b => mkSeq (prune a) (prune b)
  | .ite c t e => mkIte c (prune t) (prune e)
  | .scope s => mkScope (prune s)
  | s => s

theorem exec_mkSeq (ρ : Atom → Bool) (a b : Stmt) : exec ρ (mkSeq a b) = exec ρ (.seq a b) := by
  unfold mkSeq
  split
  · simp [exec]
  · simp only [exec, List.append_nil, List.nil_append]
    cases hs : exec ρ a with
    | mk t r d => cases r <;> simp
  · rfl

theorem exec_mkIte (ρ : Atom → Bool) (c : Atom) (t e : Stmt) : exec ρ (mkIte c t e) = exec ρ (.ite c t e) := by
  unfold mkIte
  split <;> simp [exec]

theorem plain_exec (ρ : Atom → Bool) (s : Stmt) (h : plain s = true) :
    (exec ρ s).returned = false ∧ (exec ρ s).defers = [] := by
  induction s with
  | ret | defer => cases h
  | seq a b iha ihb =>
    rw [plain, Bool.and_eq_true] at h
    simp [exec, iha h.1, ihb h.2]
  | ite c t e iht ihe =>
    rw [plain, Bool.and_eq_true] at h
    rw [exec]; split
    · exact iht h.1
    · exact ihe h.2
  | _ => exact ⟨rfl, rfl⟩

theorem silent_exec (ρ : Atom → Bool) (s : Stmt) (h : silent s = true) :
    (exec ρ s).trace = [] ∧ (exec ρ s).defers = [] := by
  induction s with
  | ev | defer => cases h
  | seq a b iha ihb =>
    rw [silent, Bool.and_eq_true] at h
    rw [exec]
    split <;> simp [iha h.1, ihb h.2]
  | ite c t e iht ihe =>
    rw [silent, Bool.and_eq_true] at h
    rw [exec]; split
    · exact iht h.1
    · exact ihe h.2
  | scope s ih => simp [exec, ih h]
  | _ => exact ⟨rfl, rfl⟩

theorem exec_mkScope (ρ : Atom → Bool) (s : Stmt) : exec ρ (mkScope s) = exec ρ (.scope s) := by
  unfold mkScope
  by_cases hsil : silent s = true
  · obtain ⟨h1, h2⟩ := silent_exec ρ s hsil
    simp [hsil, exec, h1, h2]
  · by_cases h : plain s = true
    · obtain ⟨h1, h2⟩ := plain_exec ρ s h
      simp only [hsil, h, if_true, exec, h2, List.append_nil]
      cases hs : exec ρ s with
      | mk t r d => simp_all
    · simp [hsil, h]

theorem exec_prune (ρ : Atom → Bool) (s : Stmt) : exec ρ (prune s) = exec ρ s := by
  induction s with
  | seq a b iha ihb => simp only [prune, exec_mkSeq, exec, iha, ihb]
  | ite c t e iht ihe => simp only [prune, exec_mkIte, exec, iht, ihe]
  | scope s ih => simp only [prune, exec_mkScope, exec, ih]
  | _ => rfl

/-- the form the `Tie` obligations use: project, prune, enumerate, check -/
def slice (keep : Ev → Bool) (s : Stmt) : Stmt := prune (proj keep s)

theorem all_exec_slice (s : Stmt) (keep : Ev → Bool) (P : List Ev → Bool)
    (h : (traces (slice keep s)).all P = true) (ρ : Atom → Bool) :
    P ((exec ρ s).trace.filter keep) = true := by
  have := all_exec (slice keep s) P h ρ
  simpa [slice, exec_prune, exec_proj, Out.filter] using this

/-! ### panic exits

A designated class of events (`mp e`: user code is called — the handler chain, the NoRoute handler) may panic. The
panic unwinds: the rest of the statement list is skipped, the deferred events of every enclosing scope run (innermost
scope first, last deferred first), nothing else. `pexec ρ k` panics at the k-th such event it executes (`none`: never);
`ppaths` enumerates every normal and every panic outcome; `pexec_mem_ppaths` is the soundness of that enumeration. -/

/-- 0 running, 1 returned, 2 panicking -/
structure POut where
  trace : List Ev
  st : Nat
  defers : List Ev
  deriving DecidableEq, Repr

def pexec (mp : Ev → Bool) (ρ : Atom → Bool) : Stmt → Option Nat → POut × Option Nat
  | .ev e, k =>
    if mp e then
      match k with
      | some 0 => (⟨[e], 2, []⟩, none)
      | some (n + 1) => (⟨[e], 0, []⟩, some n)
      | none => (⟨[e], 0, []⟩, none)
    else (⟨[e], 0, []⟩, k)
  | .skip, k => (⟨[], 0, []⟩, k)
  | .ret, k => (⟨[], 1, []⟩, k)
  | .defer e, k => (⟨[], 0, [e]⟩, k)
  | .seq a b, k =>
    let ra := pexec mp ρ a k
    if ra.1.st != 0 then ra else
      let rb := pexec mp ρ b ra.2
      (⟨ra.1.trace ++ rb.1.trace, rb.1.st, rb.1.defers ++ ra.1.defers⟩, rb.2)
  | .ite c t e, k => if ρ c then pexec mp ρ t k else pexec mp ρ e k
  | .scope s, k =>
    let r := pexec mp ρ s k
    (⟨r.1.trace ++ r.1.defers, if r.1.st == 2 then 2 else 0, []⟩, r.2)

def ppaths (mp : Ev → Bool) : Stmt → List POut
  | .ev e => ⟨[e], 0, []⟩ :: (if mp e then [⟨[e], 2, []⟩] else [])
  | .skip => [⟨[], 0, []⟩]
  | .ret => [⟨[], 1, []⟩]
  | .defer e => [⟨[], 0, [e]⟩]
  | .seq a b =>
    (ppaths mp a).flatMap fun pa =>
      if pa.st != 0 then [pa] else
        (ppaths mp b).map fun pb => ⟨pa.trace ++ pb.trace, pb.st, pb.defers ++ pa.defers⟩
  | .ite _ t e => ppaths mp t ++ ppaths mp e
  | .scope s => (ppaths mp s).map fun p => ⟨p.trace ++ p.defers, if p.st == 2 then 2 else 0, []⟩

theorem pexec_mem_ppaths (mp : Ev → Bool) (ρ : Atom → Bool) (s : Stmt) :
    ∀ k, (pexec mp ρ s k).1 ∈ ppaths mp s := by
  induction s with
  | ev e =>
    intro k
    cases h : mp e
    · simp [pexec, ppaths, h]
    · rcases k with _ | _ | n <;> simp [pexec, ppaths, h]
  | seq a b iha ihb =>
    intro k
    simp only [pexec, ppaths, List.mem_flatMap]
    refine ⟨_, iha k, ?_⟩
    split
    · exact List.mem_singleton.mpr rfl
    · exact List.mem_map.mpr ⟨_, ihb _, rfl⟩
  | ite c t e iht ihe =>
    intro k
    simp only [pexec, ppaths, List.mem_append]
    split
    · exact Or.inl (iht k)
    · exact Or.inr (ihe k)
  | scope s ih => exact fun k => List.mem_map.mpr ⟨_, ih k, rfl⟩
  | _ => exact fun k => List.mem_singleton.mpr rfl

theorem all_pexec (mp : Ev → Bool) (s : Stmt) (P : POut → Bool) (h : (ppaths mp s).all P = true)
    (ρ : Atom → Bool) (k : Option Nat) : P (pexec mp ρ s k).1 = true :=
  List.all_eq_true.mp h _ (pexec_mem_ppaths mp ρ s k)

/-- `walk` for `ppaths`: `K` holds of the folded trace, the status and the pending deferred events of every outcome -/
def pwalk {σ : Type} (mp : Ev → Bool) (δ : σ → Ev → σ) : Stmt → σ → (σ → Nat → List Ev → Bool) → Bool
  | .ev e, q, K => K (δ q e) 0 [] && (!mp e || K (δ q e) 2 [])
  | .skip, q, K => K q 0 []
  | .ret, q, K => K q 1 []
  | .defer e, q, K => K q 0 [e]
  | .seq a b, q, K => pwalk mp δ a q fun qa sa da =>
      if sa != 0 then K qa sa da else pwalk mp δ b qa fun qb sb db => K qb sb (db ++ da)
  | .ite _ t e, q, K => pwalk mp δ t q K && pwalk mp δ e q K
  | .scope s, q, K => pwalk mp δ s q fun q' st d => K (d.foldl δ q') (if st == 2 then 2 else 0) []

theorem pwalk_eq {σ : Type} (mp : Ev → Bool) (δ : σ → Ev → σ) (s : Stmt) : ∀ q K,
    pwalk mp δ s q K = (ppaths mp s).all fun o => K (o.trace.foldl δ q) o.st o.defers := by
  induction s with
  | ev e => intro q K; cases h : mp e <;> simp [pwalk, ppaths, h]
  | seq a b iha ihb =>
    intro q K
    simp only [pwalk, ppaths, iha, ihb, List.all_flatMap]
    congr 1; funext pa
    split <;> simp [List.all_map, Function.comp_def, *]
  | ite c t e iht ihe => intro q K; simp [pwalk, ppaths, iht, ihe, List.all_append]
  | scope s ih => intro q K; simp [pwalk, ppaths, ih, List.all_map, Function.comp_def]
  | _ => intro q K; simp [pwalk, ppaths]

theorem pexec_none (mp : Ev → Bool) (ρ : Atom → Bool) (s : Stmt) :
    pexec mp ρ s none = (⟨(exec ρ s).trace, if (exec ρ s).returned then 1 else 0, (exec ρ s).defers⟩, none) := by
  induction s with
  | ev e => cases h : mp e <;> simp [pexec, exec, h]
  | seq a b iha ihb =>
    simp only [pexec, exec, iha, ihb]
    cases hr : (exec ρ a).returned <;> simp [hr]
  | ite c t e iht ihe => simp only [pexec, exec]; split <;> assumption
  | scope s ih =>
    simp only [pexec, exec, ih]
    cases (exec ρ s).returned <;> rfl
  | _ => rfl

def pathCount (s : Stmt) : Nat := (paths s).length

end Rivaas.Skel
