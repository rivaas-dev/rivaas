/- Translator tie (B), constants: the two constants the model of C17 takes from the source — the bound on empty
   look-ahead reads of bodylimit's reader and the `Basic ` scheme prefix of basicauth — equal the values extract/
   regenerates from the current source (Gen/Consts.lean) on every run. An edit of either in /repo breaks the theorem
   named after it. -/
import Rivaas.Gen.Consts
import Rivaas.Model.Gates
namespace Rivaas.Tie.ConstsC17
open Rivaas.Gen.Consts
theorem consts_C17_maxEmptyReads : Rivaas.Gates.Body.maxEmptyReads = bodylimit_maxEmptyReads := by decide
theorem consts_C17_basicPrefix : Rivaas.Gates.Auth.prefixBasic = basicauth_prefix.toList := rfl
end Rivaas.Tie.ConstsC17
