/- String literals in the obligations of the translator tie: their characters without decoding. Core Lean only. -/
namespace Rivaas.Tie

/-- The characters of a string literal. The kernel unfolds a literal to `String.ofList` of its characters, so for a
    literal `h` is `rfl`, and `simp (disch := exact rfl) only [toList_lit]` replaces every `"…".toList` of a goal in one
    pass. Left to evaluation, `String.toList` decodes the UTF-8 bytes of the literal, which the kernel first has to
    produce by encoding it. -/
theorem toList_lit {s : String} {l : List Char} (h : s = String.ofList l) : s.toList = l := by
  rw [h, String.toList_ofList]

end Rivaas.Tie
