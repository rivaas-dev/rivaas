/- Translator tie (B), constants: every literal of the Go source that the model of C13 mirrors equals the value
   extract/ regenerates from the current source (Gen/Consts.lean) on every run. An edited threshold, list or
   marker in /repo breaks the theorem named after it. -/
import Rivaas.Gen.Consts
import Rivaas.Model.Version
import Rivaas.Tie.StrLit
namespace Rivaas.Tie.ConstsC13
open Rivaas.Gen.Consts
theorem consts_C13_versionPlaceholder : Rivaas.Version.versionPlaceholder = version_placeholder.toList := by
  simp (disch := exact rfl) only [version_placeholder, toList_lit]
  rfl
theorem consts_C13_standardMethods : Rivaas.Version.standardMethods = router_standardMethods.map String.toList := by
  simp (disch := exact rfl) only [router_standardMethods, List.map_cons, List.map_nil, toList_lit]
  rfl
end Rivaas.Tie.ConstsC13
