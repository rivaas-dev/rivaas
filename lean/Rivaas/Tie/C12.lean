/-
C12, translator tie (B): `Gen/Guards.lean` lists, from the current source of router/*.go and router/route/*.go, every
exported method of Router, VersionRouter, VersionGroup, route.Route and route.Group that (transitively) writes
state of its receiver, with the syntactic verdict whether a frozen/serving check — or a call to a function that
performs one first — comes before the first state write.

`mutators_guarded`: every listed mutator is guarded or is on the explicit exclusion list below. A new exported
mutator without a check, or a check removed from a registration / naming / `Where*` method, makes the obligation
fail on the next run (`./check C12` then searches for a late mutation that is accepted, through the C12 harness).
-/
import Rivaas.Gen.Guards

namespace Rivaas.Tie.C12
open Rivaas.Gen.Guards

/-- middleware, 404 handler, recorder: accepted after the freeze by design; they cannot change the routing table or
    a chain that was already composed (notes/C12.md, "Observed, not findings") -/
def exclMiddleware : List (String × String) :=
  [("Router", "Use"), ("Router", "NoRoute"), ("Router", "SetObservabilityRecorder"), ("Group", "Use")]

/-- the `route.Registrar` bridge and `Route.RegisterRoute`: called by the registration functions and by `SetName`
    after their own check; `enqueueRoute` re-checks under the mutex (K12e). They are EXPORTED (the interface lives in
    package route) and unguarded: a direct call of `AddRouteToTree` / `AddVersionRoute` after serving began is accepted and
    the route is served — OPEN finding K12f (`known_findings.d/C12.jsonl`, probe `c12b-*`, `Rivaas.C12.late_bridge_call_asis`);
    they stay on this list so that the finding is reported once, by its probe, and not as a broken obligation -/
def exclRegistrarBridge : List (String × String) :=
  [("Router", "AddPendingRoute"), ("Router", "RegisterRouteNow"), ("Router", "AddRouteToTree"), ("Router", "AddVersionRoute"),
   ("Router", "RegisterNamedRoute"), ("Router", "StoreRouteInfo"), ("Route", "RegisterRoute")]

/-- metadata that never enters the routing table (descriptions, tags, back references, the name prefix that only
    affects a later — guarded — `SetName`), and the lifecycle headers of a version (C13) -/
def exclMetadata : List (String × String) :=
  [("Route", "SetDescription"), ("Route", "SetTags"), ("Route", "SetGroup"), ("Route", "SetVersionGroup"),
   ("Route", "SetReversePattern"), ("Group", "SetNamePrefix"), ("VersionGroup", "SetNamePrefix"), ("VersionRouter", "Configure")]

/-- serving itself (ServeHTTP performs the freeze), server start/stop, and RouteExists (borrows a pooled context) -/
def exclServing : List (String × String) :=
  [("Router", "ServeHTTP"), ("Router", "Serve"), ("Router", "ServeTLS"), ("Router", "Shutdown"), ("Router", "RouteExists")]

def excluded : List (String × String) := exclMiddleware ++ exclRegistrarBridge ++ exclMetadata ++ exclServing

/-- the obligation regenerated with `Gen/Guards.lean`: every exported mutator checks frozen/serving before its first
    state write, or is excluded -/
theorem mutators_guarded :
    mutators.all (fun m => m.2.2 || excluded.contains (m.1, m.2.1)) = true := by decide +kernel

/-- the methods the phase model of C12 is about are in the table and guarded: registration through all four registrars,
    static file routes, mounting, naming, the eight `Where*`, URL building -/
theorem registration_naming_where_guarded :
    ([("Router", "GET"), ("Router", "POST"), ("Router", "PUT"), ("Router", "DELETE"), ("Router", "PATCH"), ("Router", "OPTIONS"),
      ("Router", "HEAD"), ("Router", "AddRouteWithConstraints"), ("Router", "Static"), ("Router", "StaticFS"), ("Router", "StaticFile"),
      ("Router", "StaticEmbed"), ("Router", "Mount"),
      ("Group", "GET"), ("Group", "POST"), ("Group", "PUT"), ("Group", "DELETE"), ("Group", "PATCH"), ("Group", "OPTIONS"), ("Group", "HEAD"),
      ("VersionRouter", "Handle"), ("VersionRouter", "GET"), ("VersionRouter", "POST"), ("VersionRouter", "PUT"), ("VersionRouter", "DELETE"),
      ("VersionRouter", "PATCH"), ("VersionRouter", "OPTIONS"), ("VersionRouter", "HEAD"),
      ("VersionGroup", "Handle"), ("VersionGroup", "GET"), ("VersionGroup", "POST"),
      ("Route", "SetName"), ("Route", "Where"), ("Route", "WhereInt"), ("Route", "WhereFloat"), ("Route", "WhereUUID"), ("Route", "WhereRegex"),
      ("Route", "WhereEnum"), ("Route", "WhereDate"), ("Route", "WhereDateTime")] : List (String × String)).all
      (fun k => mutators.contains (k.1, k.2, true)) = true := by decide +kernel

end Rivaas.Tie.C12
