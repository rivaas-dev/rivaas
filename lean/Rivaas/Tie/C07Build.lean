/-
C07, translator tie (B): `Gen/OpenAPIBuild.lean` is rewritten by `extract/oabuild.go` from
openapi/internal/build/builder.go on every run: the decisive calls and the error exits of `Builder.Build` and
`Builder.buildOperation` in source order (a call's arguments before the call).

The model (`Model/OpenAPIBuild.lean`: `build`, `buildGroups`, `buildGroup`, `buildOperation`, `genResps`) fixes
* which error wins: the duplicate operation id is detected before anything is generated for the operation; for a
  documented operation the style check of its parameters, then — per status code, in sorted order — the code check
  before the schema of that response is generated (a bad code registers nothing of its own response);
* the order in which component schemas are registered (first writer wins, K07h): parameters, request body,
  responses in sorted status order; paths in sorted key order;
* that components are collected after all operations were built, and the document is sorted last.
An edit that moves one of these (the code check behind `Generate`, the sort behind the loop, the duplicate test behind
the parameter block, …) breaks the theorem named after it.
-/
import Rivaas.Gen.OpenAPIBuild

namespace Rivaas.Tie.C07Build
open Rivaas.Gen.OpenAPIBuild

theorem extraction_complete : extractError = none := by decide

/-- `Build`: server validation, a fresh schema generator, grouping by converted path, the keys sorted, the operations
    built (an error aborts), the components collected afterwards, the document sorted last -/
theorem build_events_are_model :
    buildEvents = ["error server[%d]: variables require", "call NewSchemaGenerator", "call convertPath", "call Strings",
      "call buildOperation", "error failed to build", "call GetComponentSchemas", "call sortSpec"] := rfl

/-- `buildOperation`: the id, the duplicate test, (undocumented: the route's parameters and out) the route's parameters,
    per declared parameter the style check and the conversion, the projected body, the statuses sorted, per status the
    code check and then the schema -/
theorem buildOperation_events_are_model :
    buildOperationEvents = ["call generateOperationID", "error duplicate operation ID:", "call extractPathParams",
      "call extractPathParams", "call validateParamStyle", "call paramSpecToParameter", "call GenerateProjected",
      "call Ints", "call ValidateResponseCode", "call Generate"] := rfl

/-- an absent event gets the length of the list: the `<` theorems below say something only because the two lists are the
    literal ones above, which contain every event compared -/
def idx (e : String) (l : List String) : Nat := l.findIdx (· == e)

/-- the source order of the decisive events of `buildOperation`, as two chains (evaluated once: the three theorems below
    are read off it, by transitivity where links are skipped, and no position enters) -/
theorem buildOperation_event_order :
    idx "error duplicate operation ID:" buildOperationEvents < idx "call paramSpecToParameter" buildOperationEvents ∧
    idx "call paramSpecToParameter" buildOperationEvents < idx "call GenerateProjected" buildOperationEvents ∧
    idx "call GenerateProjected" buildOperationEvents < idx "call Generate" buildOperationEvents ∧
    idx "call Ints" buildOperationEvents < idx "call ValidateResponseCode" buildOperationEvents ∧
    idx "call ValidateResponseCode" buildOperationEvents < idx "call Generate" buildOperationEvents := by decide +kernel

/-- the duplicate-id test comes before every schema generation of the operation -/
theorem dup_check_before_generation :
    idx "error duplicate operation ID:" buildOperationEvents < idx "call paramSpecToParameter" buildOperationEvents ∧
    idx "error duplicate operation ID:" buildOperationEvents < idx "call GenerateProjected" buildOperationEvents ∧
    idx "error duplicate operation ID:" buildOperationEvents < idx "call Generate" buildOperationEvents := by
  obtain ⟨hDupParam, hParamBody, hBodyGen, _, _⟩ := buildOperation_event_order
  exact ⟨hDupParam, Nat.lt_trans hDupParam hParamBody, Nat.lt_trans (Nat.lt_trans hDupParam hParamBody) hBodyGen⟩

/-- the statuses are sorted before the loop, and a response code is checked before its schema is generated -/
theorem code_checked_before_schema :
    idx "call Ints" buildOperationEvents < idx "call ValidateResponseCode" buildOperationEvents ∧
    idx "call ValidateResponseCode" buildOperationEvents < idx "call Generate" buildOperationEvents :=
  buildOperation_event_order.2.2.2

/-- component registration order: parameters, request body, responses -/
theorem registration_order :
    idx "call paramSpecToParameter" buildOperationEvents < idx "call GenerateProjected" buildOperationEvents ∧
    idx "call GenerateProjected" buildOperationEvents < idx "call Generate" buildOperationEvents :=
  ⟨buildOperation_event_order.2.1, buildOperation_event_order.2.2.1⟩

/-- paths are sorted before the operations are built; components are read after the last operation -/
theorem paths_sorted_before_building :
    idx "call Strings" buildEvents < idx "call buildOperation" buildEvents ∧
    idx "call buildOperation" buildEvents < idx "call GetComponentSchemas" buildEvents ∧
    idx "call GetComponentSchemas" buildEvents < idx "call sortSpec" buildEvents := by decide +kernel

end Rivaas.Tie.C07Build
