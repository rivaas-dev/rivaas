/-
C14, translator tie (B) for the environment source: `Gen/ConfigEnv.lean` is rewritten by `extract/configenv.go` from
config/codec/env.go (`EnvVarCodec.Decode`) and config/source/env.go (`OSEnvVar.Load`) on every run. The model
(`Model/ConfigEnv.lean`) hard-codes the separators and the order of the steps; here they are compared with the source:
an edited separator, a dropped `TrimSpace` / `ToLower`, a new or removed skip condition, the prefix no longer
stripped, a non-map on the way no longer replaced — each breaks the theorem named after it.
-/
import Rivaas.Gen.ConfigEnv
import Rivaas.Model.ConfigEnv

namespace Rivaas.Tie.C14Env
open Rivaas.Gen.ConfigEnv Rivaas.Config

theorem extraction_complete : extractError = none := rfl

/-- lines are separated by a line feed (`envSource` splits at '\n'), and `OSEnvVar.Load` joins with the same -/
theorem env_line_separator : lineSep = "\n" ∧ joinSep = "\n" := ⟨rfl, rfl⟩

/-- `NAME=value` is cut at the first "=" into at most two parts (`cutEq`) -/
theorem env_key_value_separator : kvSep = "=" ∧ kvParts = 2 := ⟨rfl, rfl⟩

/-- the name is trimmed, lower-cased and split at "_", empty parts are dropped (`envDef`) -/
theorem env_name_to_path : keyTrimmed = true ∧ keyLowered = true ∧ partSep = "_" ∧ dropsEmptyParts = true :=
  ⟨rfl, rfl, rfl, rfl⟩

/-- the value is trimmed (`envDef`) -/
theorem env_value_trimmed : valueTrimmed = true := rfl

/-- a line is skipped in exactly three situations, tested in this order: no "=", an empty name, no non-empty part
    (`envDef` returns `none` in exactly these) -/
theorem env_skip_conditions : skips = ["len(_) != 2", "_ == \"\"", "len(_) == 0"] := rfl

/-- a non-map value on the way down is replaced by a fresh map (`insertPath`, second branch) -/
theorem env_non_map_replaced : nonMapReplaced = true := rfl

/-- `OSEnvVar.Load` keeps the entries with the prefix and strips it (`stripPrefix`) -/
theorem env_prefix_filter : prefixFiltered = true ∧ prefixStripped = true := ⟨rfl, rfl⟩

/-- the model does what these facts say, on a sample that exercises every one of them -/
theorem model_follows_facts :
    envDef "  Db__POOL_=  a=b ".toList = some (["db".toList, "pool".toList], "a=b".toList) ∧
    envDef "novalue".toList = none ∧ envDef " =x".toList = none ∧ envDef "__=x".toList = none ∧
    stripPrefix "P_".toList "P_A=1".toList = some "A=1".toList ∧ stripPrefix "P_".toList "PX_A=1".toList = none ∧
    (envSource "P_".toList ["P_A=1\nB=2".toList]).length = 2 := by
  -- the kernel decodes a string literal by evaluation, at a cost quadratic in its length: `String.toList_ofList`
  -- replaces each literal by its characters by a lemma first
  repeat rewrite [String.toList_ofList]
  decide +kernel

end Rivaas.Tie.C14Env
