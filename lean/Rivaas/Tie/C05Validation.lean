/- Translator tie (B) for C05: structural facts of validation/{tags,validate,presence,errors,interface}.go that
   Model/Presence.lean and Model/PresenceResolve.lean rely on, over the event lists extract/validation.go regenerates
   from the current source on every run (Gen/Validation.lean). An edit that moves the cap test into the inner loop,
   drops the final Sort, tries promoted fields before direct ones, lets a numeric segment index a struct, or changes
   the order the strategies run in breaks the theorem named after the fact. -/
import Rivaas.Gen.Validation
import Rivaas.Tie.FlatFacts
import Rivaas.Model.PresenceResolve
namespace Rivaas.Tie.C05Validation
open Rivaas.Gen.Validation Rivaas.Tie.Flat

/-- the extractor understood every statement it met -/
theorem validation_extracted : problem = none := by decide

/-- the leaf loop of `validatePartialLeafsOnly` in the model's order (`partialLoop`, `ownTagsT`): leaves from
    `LeafPaths`, per leaf `resolvePath`, `elementTag`, `Var`, the redactor (`coversValue`) before `Add`; the cap
    test sits after the loop over one leaf's errors and inside the leaf loop (`Truncated`, `break`); `Sort` runs
    after the leaf loop and only when there are errors -/
theorem partial_loop_shape :
    firstBefore (call "LeafPaths") (call "resolvePath") validatePartialLeafsOnly_events = true ∧
    firstBefore (call "resolvePath") (call "elementTag") validatePartialLeafsOnly_events = true ∧
    firstBefore (call "elementTag") (call "Var") validatePartialLeafsOnly_events = true ∧
    firstBefore (call "Var") (call "coversValue") validatePartialLeafsOnly_events = true ∧
    firstBefore (call "coversValue") (call "Add") validatePartialLeafsOnly_events = true ∧
    between (kw "endfor") (call "Add") (iff "maxErrors,len,Fields,maxErrors") validatePartialLeafsOnly_events = true ∧
    between (set "Truncated") (iff "maxErrors,len,Fields,maxErrors") (kw "break") validatePartialLeafsOnly_events = true ∧
    lastBefore (iff "maxErrors,len,Fields,maxErrors") (kw "endfor") validatePartialLeafsOnly_events = true ∧
    lastBefore (kw "endfor") (iff "HasErrors") validatePartialLeafsOnly_events = true ∧
    firstBefore (iff "HasErrors") (call "Sort") validatePartialLeafsOnly_events = true ∧
    firstBefore (lit "validate") (call "Var") validatePartialLeafsOnly_events = true ∧
    firstBefore (lit "tag.") (call "Add") validatePartialLeafsOnly_events = true := by decide +kernel

/-- `resolvePath` (model `resolveFrom`): pointers are dereferenced first (a nil one gives up); a numeric segment
    is an index only when the value is not a struct (K05d: the `Atoi` test carries the `Struct` guard); on a struct
    the field map is consulted before the promoted fields (K05h), and a promoted struct is not a direct hit -/
theorem resolvePath_chain :
    firstBefore (iff "IsNil") (iff "Atoi,Kind,Struct") resolvePath_events = true ∧
    count (iff "Atoi,Kind,Struct") resolvePath_events = 1 ∧
    firstBefore (iff "Atoi,Kind,Struct") (iff "Kind,Slice,Kind,Array") resolvePath_events = true ∧
    firstBefore (iff "Kind,Slice,Kind,Array") (iff "Len") resolvePath_events = true ∧
    firstBefore (iff "Kind,Struct") (iff "isPromotedStruct,Field") resolvePath_events = true ∧
    firstBefore (iff "isPromotedStruct,Field") (iff "promotedField") resolvePath_events = true ∧
    between (kw "else") (iff "isPromotedStruct,Field") (iff "promotedField") resolvePath_events = true ∧
    only "lit" resolvePath_events = ["."] := by decide +kernel

/-- `promotedField` (model `promotedField`): the depth guard first; embedded structs in field order; in each its
    own fields (not promoted structs themselves) before what it promotes in turn -/
theorem promotedField_chain :
    promotedField_events.take 4 = [iff "", kw "then", kw "return", kw "endif"] ∧
    firstBefore (call "NumField") (iff "isPromotedStruct,Field") promotedField_events = true ∧
    firstBefore (iff "isPromotedStruct,Field") (iff "Kind,Struct") promotedField_events = true ∧
    firstBefore (iff "Kind,Struct") (iff "getFieldMap,isPromotedStruct,Field") promotedField_events = true ∧
    firstBefore (iff "getFieldMap,isPromotedStruct,Field") (iff "promotedField") promotedField_events = true := by
  -- the first four events are read off the list; positions are computed
  refine ⟨rfl, ?_⟩
  decide +kernel

/-- `getJSONFieldName`, `buildFieldMap`, `isPromotedStruct`, `elementTag` (models `jsonFieldName`, `mapsTo`,
    `isPromotedStruct`, `afterDive`): the literals they compare with, in order, the `continue` that keeps a
    `json:"-"` field out of the map (K05k) and the one that keeps a promoted embedded struct from being entered
    under a JSON name (K05m) -/
theorem name_rules :
    only "lit" getJSONFieldName_events = ["json", "", "-", ",", ""] ∧
    only "if" getJSONFieldName_events = ["", "Cut", ""] ∧
    firstBefore (lit "-") (iff "isPromotedStruct") buildFieldMap_events = true ∧
    between (kw "continue") (lit "-") (iff "isPromotedStruct") buildFieldMap_events = true ∧
    between (kw "continue") (iff "isPromotedStruct") (iff "getJSONFieldName") buildFieldMap_events = true ∧
    only "if" isPromotedStruct_events = ["Anonymous,Tag,Get", "Kind,Pointer"] ∧
    only "lit" isPromotedStruct_events = ["json", ""] ∧
    only "lit" elementTag_events = ["", ",", "dive", ""] ∧
    Rivaas.Presence.diveRule = "dive".toList := by decide +kernel

/-- `WithRunAll` (model `validateAll [interface, tags]`): the strategies run in this order; the combined list is
    capped and cut after every strategy (K05g: `Fields` is re-sliced, `Truncated` set, `break`), sorted at the end.
    `determineStrategy` asks in the same order. -/
theorem strategies_order :
    only "list" validateAll_events = ["StrategyInterface,StrategyTags,StrategyJSONSchema"] ∧
    firstBefore (call "validateByStrategy") (call "AddError") validateAll_events = true ∧
    firstBefore (call "AddError") (iff "maxErrors,len,Fields,maxErrors") validateAll_events = true ∧
    between (set "Fields") (iff "maxErrors,len,Fields,maxErrors") (kw "break") validateAll_events = true ∧
    between (set "Truncated") (iff "maxErrors,len,Fields,maxErrors") (kw "break") validateAll_events = true ∧
    lastBefore (kw "endfor") (call "Sort") validateAll_events = true ∧
    (only "if" determineStrategy_events).take 3 =
      ["isApplicable,StrategyInterface", "isApplicable,StrategyTags", "isApplicable,StrategyJSONSchema"] := by decide +kernel

/-- full mode (`formatTagErrors`, model `fullLoop`): the redactor before `Add`, the cap test after `Add` inside the
    loop, `Sort` after the loop; the interface strategy (`coerceToValidationErrors`, model `coerce`) cuts, then sorts;
    `ValidatePartial` is `Validate` with `WithPresence` and `WithPartial(true)` appended -/
theorem full_and_interface_shape :
    firstBefore (call "coversValue") (call "Add") formatTagErrors_events = true ∧
    between (set "Truncated") (call "Add") (kw "break") formatTagErrors_events = true ∧
    lastBefore (kw "endfor") (call "Sort") formatTagErrors_events = true ∧
    firstBefore (iff "maxErrors,len,Fields,maxErrors") (call "Sort") coerceToValidationErrors_events = true ∧
    between (set "Truncated") (iff "maxErrors,len,Fields,maxErrors") (call "Sort") coerceToValidationErrors_events = true ∧
    firstBefore (call "WithPresence") (call "Validate") ValidatePartial_events = true ∧
    firstBefore (call "WithPartial") (call "Validate") ValidatePartial_events = true ∧
    count (call "Validate") ValidatePartial_events = 1 := by decide +kernel

/-- `Validator.Validate` (model `validateTop`): the options are folded first; the custom validator runs before
    anything else and its error returns through `coerceToValidationErrors`; then `WithRunAll`; then the strategy —
    determined only under `StrategyAuto` — through `validateByStrategy`, which dispatches interface / tags / schema -/
theorem validate_top_order :
    firstBefore (call "applyOptions") (iff "customValidator") Validate_events = true ∧
    firstBefore (call "customValidator") (call "coerceToValidationErrors") Validate_events = true ∧
    firstBefore (call "coerceToValidationErrors") (iff "runAll") Validate_events = true ∧
    firstBefore (iff "runAll") (call "validateAll") Validate_events = true ∧
    firstBefore (call "validateAll") (iff "StrategyAuto") Validate_events = true ∧
    between (call "determineStrategy") (iff "StrategyAuto") (call "validateByStrategy") Validate_events = true ∧
    (validateByStrategy_events.filter (·.1 == "case")).map (·.2) =
      ["StrategyInterface", "StrategyTags", "StrategyJSONSchema", ""] ∧
    between (call "validateWithInterface") (("case", "StrategyInterface")) (("case", "StrategyTags")) validateByStrategy_events = true ∧
    between (call "validateWithTags") (("case", "StrategyTags")) (("case", "StrategyJSONSchema")) validateByStrategy_events = true := by
  decide +kernel

/-- the redaction walk `coversValue` (model `coversValue`): the redactor is asked about the path first, then the
    depth guard, then pointers and interfaces are looked through (a nil one reveals nothing); a struct is walked
    through the cached field map with the promoted-struct test, a slice or array by index (`Itoa`), a map by key
    (`Sprint`); every branch recurses into `coversValue` -/
theorem coversValue_chain :
    coversValue_events.take 5 = [iff "redactor", call "redactor", kw "then", kw "return", kw "endif"] ∧
    firstBefore (iff "redactor") (iff "IsNil") coversValue_events = true ∧
    firstBefore (iff "IsNil") (kw "switch") coversValue_events = true ∧
    (coversValue_events.filter (·.1 == "case")).map (·.2) = ["Struct", "Slice,Array", "Map", ""] ∧
    between (call "getFieldMap") (("case", "Struct")) (("case", "Slice,Array")) coversValue_events = true ∧
    between (iff "isPromotedStruct,Type,Field") (("case", "Struct")) (("case", "Slice,Array")) coversValue_events = true ∧
    between (iff "coversValue,Itoa,Index") (("case", "Slice,Array")) (("case", "Map")) coversValue_events = true ∧
    between (iff "coversValue,Sprint,Key,Value") (("case", "Map")) (kw "endswitch") coversValue_events = true ∧
    count (call "coversValue") coversValue_events = 3 := by
  refine ⟨rfl, ?_⟩
  decide +kernel

/-- `Error.Sort` compares paths first (model `errLe`); `LeafPaths` ends by sorting (model `leafPaths`) -/
theorem sort_shape :
    only "if" Error_Sort_events = ["Fields,Path,Fields,Path"] ∧
    only "call" Error_Sort_events = ["Slice"] ∧
    last (call "Strings") PresenceMap_LeafPaths_events = some (PresenceMap_LeafPaths_events.length - 2) := by decide +kernel

end Rivaas.Tie.C05Validation
