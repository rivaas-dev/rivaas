/- Translator tie (B), constants: every literal of the Go source that the model of C03 and C08 mirrors equals the value
   extract/ regenerates from the current source (Gen/Consts.lean) on every run. An edited threshold, list or
   marker in /repo breaks the theorem named after it. -/
import Rivaas.Gen.Consts
import Rivaas.Model.Pool
import Rivaas.Spec.Obs
namespace Rivaas.Tie.ConstsC08
open Rivaas.Gen.Consts
theorem consts_C03_slotCount : Rivaas.Pool.slotCount = router_inlineSlots := by decide
theorem consts_C08_sentinels :
    router_sentinelPatterns.map String.toList = [Rivaas.Serve.sMethodNotAllowed, Rivaas.Serve.sNotFound, Rivaas.Serve.sUnmatched] ∧
    router_notFoundLabel.toList = Rivaas.Serve.sNotFound ∧
    (router_sentinelPatterns.map String.toList).all (Rivaas.Obs.sentinels.contains ·) = true :=
  ⟨rfl, rfl, by decide +kernel⟩
end Rivaas.Tie.ConstsC08
