/- Translator tie (B), constants: `Accept.arenaSpecs`, the length of `headerArena.specs` (router/accept.go), equals the
   value extract/ regenerates from the current source (Gen/Consts.lean) on every run; an edited length breaks the
   theorem. The literal tables of C19 are tied in Tie/C19Helpers. -/
import Rivaas.Gen.Consts
import Rivaas.Model.Accept
namespace Rivaas.Tie.ConstsC19
open Rivaas.Gen.Consts
theorem consts_C19_arenaSpecs : Rivaas.Accept.arenaSpecs = accept_arenaSpecs := by decide
end Rivaas.Tie.ConstsC19
