/- Translator tie (B) for C06: structural facts of app/context.go, app/options.go and errors/*.go that
   Model/ErrFmt.lean relies on, over the event lists extract/errfmt.go regenerates from the current source on every
   run (Gen/ErrFmt.lean). An edit that moves `c.Abort()` behind a return, swaps the interface checks of a formatter,
   reorders `selectFormatter` or changes what an option assigns breaks the theorem named after the fact. -/
import Rivaas.Gen.ErrFmt
import Rivaas.Tie.FlatFacts
import Rivaas.Model.ErrFmt
namespace Rivaas.Tie.C06ErrFmt
open Rivaas.Gen.ErrFmt Rivaas.Tie.Flat

/-- the extractor understood every statement it met -/
theorem errfmt_extracted : problem = none := by decide +kernel

/-- `fail` aborts the chain before anything that can end it or go wrong: `c.Abort()` comes before the first
    `return` (the encoding-failure paths included), before the first `Format` (user code: the formatter, the error's
    `Error()` / `Details()`), before the log line and before every write (model: `aborted := true` in every `Resp`) -/
theorem fail_abort_dominates :
    count (call "Abort") fail_events = 1 ∧
    firstBefore (call "Abort") (kw "return") fail_events = true ∧
    firstBefore (call "Abort") (call "Format") fail_events = true ∧
    firstBefore (call "Abort") (call "ErrorContext") fail_events = true ∧
    firstBefore (call "Abort") (call "Header") fail_events = true ∧
    firstBefore (call "Abort") (call "Status") fail_events = true := by decide +kernel

/-- the order of the steps of `fail` the model's `fail`/`failResp`/`failLog` follow: select, format, log, encode;
    the fallback formats a second time with `WithStatus(errors.New(err.Error()), …)` and encodes again; the
    Content-Type is set before the status is written and the status before the body -/
theorem fail_step_order :
    firstBefore (call "selectFormatter") (call "Format") fail_events = true ∧
    firstBefore (call "Format") (lit "handler error") fail_events = true ∧
    firstBefore (lit "handler error") (iff "NewEncoder,Encode,Body") fail_events = true ∧
    count (call "Format") fail_events = 2 ∧ count (iff "NewEncoder,Encode,Body") fail_events = 2 ∧
    firstBefore (iff "NewEncoder,Encode,Body") (call "WithStatus") fail_events = true ∧
    lastBefore (call "WithStatus") (iff "NewEncoder,Encode,Body") fail_events = true ∧
    lastBefore (lit "Content-Type") (call "Status") fail_events = true ∧
    lastBefore (call "Status") (iff "Response,Write,Bytes") fail_events = true ∧
    count (iff "Response,Write,Bytes") fail_events = 1 := by decide +kernel

/-- `Fail(nil)` returns before `fail`; `FailStatus` is `fail(WithStatus(err, status))` (model: `Call.err`) -/
theorem entry_points :
    Fail_events = [iff "", kw "then", kw "return", kw "endif", call "fail"] ∧
    FailStatus_events = [call "fail", call "WithStatus"] := ⟨rfl, rfl⟩

/-- `MustBind` is `Bind` followed by `Fail(err)` on an error (model `mustBind`) -/
theorem mustbind_is_fail :
    MustBind_events = [iff "Bind", call "Bind", kw "then", call "Fail", kw "return", kw "endif", kw "return"] ∧
    Rivaas.ErrFmt.mustBind none = none ∧ ∀ e, Rivaas.ErrFmt.mustBind (some e) = some (.fail e) := by
  exact ⟨rfl, rfl, fun _ => rfl⟩

/-- the decision chain of `selectFormatter`, in the order of the model's `selectFormatter`: no configuration, the
    single formatter, the negotiated table (an `Accepts` answer looked up in the table), the default format
    (looked up in the table), the fallback -/
theorem selectFormatter_chain :
    only "if" selectFormatter_events =
      ["", "formatter", "len,formatters", "", "formatters", "defaultFormat", "formatters,defaultFormat"] ∧
    count (call "Accepts") selectFormatter_events = 1 ∧
    firstBefore (iff "formatter") (call "Accepts") selectFormatter_events = true ∧
    firstBefore (call "Accepts") (iff "defaultFormat") selectFormatter_events = true := by decide +kernel

def statusConst : String → Nat
  | "StatusNotFound" => 404 | "StatusBadRequest" => 400 | "StatusUnauthorized" => 401 | "StatusForbidden" => 403
  | "StatusConflict" => 409 | "StatusGone" => 410 | "StatusUnprocessableEntity" => 422 | "StatusTooManyRequests" => 429
  | "StatusInternalServerError" => 500 | "StatusServiceUnavailable" => 503 | _ => 0

def helperName : Rivaas.ErrFmt.Helper → String
  | .notFound => "NotFound" | .badRequest => "BadRequest" | .unauthorized => "Unauthorized" | .forbidden => "Forbidden"
  | .conflict => "Conflict" | .gone => "Gone" | .unprocessable => "UnprocessableEntity" | .tooMany => "TooManyRequests"
  | .internal => "InternalError" | .unavailable => "ServiceUnavailable"

def allHelpers : List Rivaas.ErrFmt.Helper :=
  [.notFound, .badRequest, .unauthorized, .forbidden, .conflict, .gone, .unprocessable, .tooMany, .internal, .unavailable]

/-- the ten status helpers and their statuses (model: `Helper.status`) -/
theorem status_helpers :
    statusHelpers.length = 10 ∧
    allHelpers.all (fun h => (statusHelpers.lookup (helperName h)).map statusConst == some h.status) = true := by decide +kernel

/-- what the three options assign (model: `applyOpt`): `WithErrorFormatters` also resets the single formatter
    (K06b repair), the other two touch one field each -/
theorem option_writes :
    only "set" WithErrorFormatter_closure = ["errors", "formatter"] ∧
    only "set" WithErrorFormatters_closure = ["errors", "formatters", "formatter"] ∧
    only "set" WithDefaultErrorFormat_closure = ["errors", "defaultFormat"] := ⟨rfl, rfl, rfl⟩

/-- `determineStatus` is the same chain in all three formatters, in the model's order: the StatusResolver first,
    then `errors.As(err, &ErrorType)`, then 500 -/
theorem determineStatus_chain :
    RFC9457_determineStatus = JSONAPI_determineStatus ∧ JSONAPI_determineStatus = Simple_determineStatus ∧
    only "if" RFC9457_determineStatus = ["StatusResolver", "As"] ∧
    only "var" RFC9457_determineStatus = ["ErrorType"] ∧
    firstBefore (call "StatusResolver") (call "HTTPStatus") RFC9457_determineStatus = true :=
  ⟨rfl, rfl, by decide +kernel⟩

/-- `RFC9457.Format`: status and type first; the extensions in the order `error_id` (unless disabled), `errors`
    (ErrorDetails), `code` (ErrorCode) — model `rfcExtensions`; `determineType`: resolver, code (+ BaseURL), about:blank -/
theorem rfc_format_chain :
    only "var" RFC9457_Format = ["string", "ErrorDetails", "ErrorCode"] ∧
    (only "lit" RFC9457_Format) = ["error_id", "errors", "code", "application/problem+json; charset=utf-8"] ∧
    firstBefore (iff "DisableErrorID") (var "ErrorDetails") RFC9457_Format = true ∧
    only "if" RFC9457_determineType = ["TypeResolver", "As", "BaseURL"] ∧
    only "lit" RFC9457_determineType = ["", "/", "about:blank"] := ⟨rfl, rfl, by decide +kernel, rfl, rfl⟩

/-- `Simple.Format`: `error`, then `details` (ErrorDetails), then `code` (ErrorCode) — model `simpleKvs` -/
theorem simple_format_chain :
    only "var" Simple_Format = ["ErrorDetails", "ErrorCode"] ∧
    only "lit" Simple_Format = ["error", "details", "code", "application/json; charset=utf-8"] := ⟨rfl, rfl⟩

/-- `JSONAPI.Format`: the details branch comes first and the code is read only in its `else` (model
    `jsonAPIErrorsRaw`); the final guard and the two fallbacks are there (three `len(apiErrors) == 0`-style tests) -/
theorem jsonapi_format_chain :
    only "var" JSONAPI_Format = ["[]jsonAPIError", "ErrorDetails", "any", "ErrorCode"] ∧
    firstBefore (var "ErrorDetails") (kw "else") JSONAPI_Format = true ∧
    firstBefore (kw "else") (var "ErrorCode") JSONAPI_Format = true ∧
    count (iff "len") JSONAPI_Format = 3 ∧
    firstBefore (lit "details") (kw "else") JSONAPI_Format = true := by decide +kernel

/-- `statusError`: `HTTPStatus` just returns the field; `Error` is the status text only around nil (model
    `Msg.statusText` / `Msg.inherit`) -/
theorem statusError_shape :
    statusError_HTTPStatus = [kw "return"] ∧ WithStatus_events = [kw "return"] ∧
    only "if" statusError_Error = ["err"] ∧ firstBefore (call "StatusText") (call "Error") statusError_Error = true :=
  ⟨rfl, rfl, by decide +kernel⟩

end Rivaas.Tie.C06ErrFmt
