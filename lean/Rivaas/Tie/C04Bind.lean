/- Translator tie (B) for C04: structural facts of binding/*.go and app/context.go, regenerated from the current
   source by extract/bindfacts.go into Gen/BindFacts.lean on every run, against what the model of request binding
   (Model/Bind.lean, Model/BindBody.lean) does at the same place. Most `tie_*` theorems are a conjunction
   "the source has this shape" ∧ "the model does the corresponding thing, for all inputs" (the model part is one of
   the `model_*` lemmas, or proved in place); an edit to the source that
   changes the shape (an arm of a kind switch added or dropped, an overflow check moved behind the store, a limit
   compared with `>=`, a check moved behind the allocation / the recursive call, the order of the passes of
   bindMultiSource or of the sources of app.Context.bindInternal, a getter paired with another tag) breaks the
   theorem named after the fact on the next run. -/
import Rivaas.Gen.BindFacts
import Rivaas.Model.BindBody
import Rivaas.Lemmas.BindVal  -- its `DecidableEq Val` is the instance the evaluations below run (nothing else here names it)
import Rivaas.Lemmas.BindStep
namespace Rivaas.Tie.C04Bind
open Rivaas.Gen.BindFacts Rivaas.Bind

def firstWith (c : String) (its : List Item) : Option Nat := its.findIdx? (fun it => it.calls.contains c)
def guardAt (g : String) (its : List Item) : Option Nat := its.findIdx? (fun it => it.guard == g)
/-- the top-level guard `g` (an `if … { … return }` among the statements of the body) comes before the first
    statement in which `c` is called: it dominates every call of `c` -/
def dominates (g c : String) (its : List Item) : Bool :=
  match guardAt g its, firstWith c its with
  | some i, some j => decide (i < j)
  | _, _ => false
def onlyGuard (g : String) (its : List Item) : Bool := its.all (fun it => it.guard == "" || it.guard == g)
def callsBefore (a b : String) (cs : List String) : Bool :=
  match cs.findIdx? (· == a), cs.findIdx? (· == b) with
  | some i, some j => decide (i < j)
  | _, _ => false

/-- the extractor found every function it was asked for and understood every limit / overflow test in it -/
theorem extraction_complete : problem = none := by decide

/-! ### the kind switches of setFieldValue / convertValue -/

/-- reflect.Kind of a scalar leaf of the model's grammar -/
def kindOf : Prim → Option String
  | .int 0 => some "Int" | .int 8 => some "Int8" | .int 16 => some "Int16" | .int 32 => some "Int32" | .int 64 => some "Int64"
  | .uint 0 => some "Uint" | .uint 8 => some "Uint8" | .uint 16 => some "Uint16" | .uint 32 => some "Uint32"
  | .uint 64 => some "Uint64"
  | .f32 => some "Float32" | .f64 => some "Float64" | .bool => some "Bool" | .str => some "String"
  | _ => none

/-- what the model does for the kind: (strconv parser whose result it consults, range check it makes, setter) -/
def modelArm : Prim → String × String × String
  | .int _ => ("ParseInt:64", "OverflowInt", "SetInt")
  | .uint _ => ("ParseUint:64", "OverflowUint", "SetUint")
  | .f32 => ("ParseFloat:64", "OverflowFloat", "SetFloat")
  | .f64 => ("ParseFloat:64", "OverflowFloat", "SetFloat")
  | .bool => ("parseBoolGenerous", "", "SetBool")
  | _ => ("", "", "SetString")

def kindPrims : List Prim :=
  [.str, .int 0, .int 8, .int 16, .int 32, .int 64, .uint 0, .uint 8, .uint 16, .uint 32, .uint 64, .f32, .f64, .bool]

def setArm (k : String) : Option (List Item) := (setFieldValue_arms.find? (fun a => a.1.contains k)).map (·.2)
def convArm (k : String) : Option (List String) := (convertValue_arms.find? (fun a => a.1.contains k)).map (·.2)

def armOK (p : Prim) : Bool :=
  match kindOf p with
  | none => false
  | some k =>
    let (parser, check, setter) := modelArm p
    (match convArm k with
     | some cs => if parser == "" then cs.isEmpty else cs == [parser]
     | none => false) &&
    (match setArm k with
     | some its =>
       firstWith setter its != none &&
       (if check == "" then onlyGuard "" its else dominates check setter its && onlyGuard check its)
     | none => false)

/-- **The arms of the two kind switches are the scalar kinds of the model's grammar, each with the parser the model
    consults** (ParseInt / ParseUint / ParseFloat with bit size 64, parseBoolGenerous, the string itself), and no
    kind outside them is converted: the switches have exactly these five arms, the default arms store nothing. -/
theorem tie_kind_switch_arms :
    setFieldValue_arms.map (·.1) = convertValue_arms.map (·.1) ∧
    (setFieldValue_arms.map (·.1)).flatten = kindPrims.filterMap kindOf ∧
    kindPrims.all armOK = true ∧
    setFieldValue_default.all (fun it => it.calls.isEmpty) = true ∧
    convertValue_default.all (fun it => it.calls.isEmpty) = true := by decide +kernel

theorem model_int_in_range (P : Params) (cfg : Cfg) (w : Nat) (s : Bytes) (v : Val)
    (h : convPrim P cfg (.int w) s = some v) : ∃ i, v = .int i ∧ inRangeInt w i = true := by
  simp only [convPrim] at h
  split at h
  · rename_i i _
    by_cases hr : inRangeInt w i = true
    · rw [if_pos hr] at h; exact ⟨i, by cases h; rfl, hr⟩
    · rw [if_neg hr] at h; cases h
  · cases h

theorem model_uint_in_range (P : Params) (cfg : Cfg) (w : Nat) (s : Bytes) (v : Val)
    (h : convPrim P cfg (.uint w) s = some v) : ∃ n, v = .uint n ∧ inRangeUint w n = true := by
  simp only [convPrim] at h
  split at h
  · rename_i n _
    by_cases hr : inRangeUint w n = true
    · rw [if_pos hr] at h; exact ⟨n, by cases h; rfl, hr⟩
    · rw [if_neg hr] at h; cases h
  · cases h

theorem model_f32_no_overflow (P : Params) (cfg : Cfg) (s : Bytes) (v : Val)
    (h : convPrim P cfg .f32 s = some v) : ∃ b64 b32 inf, (P s).f = some (b64, b32, false, inf) ∧ v = .flt b32 := by
  simp only [convPrim] at h
  split at h
  · rename_i b64 b32 ovf inf hf
    cases ovf with
    | true => simp at h
    | false => exact ⟨b64, b32, inf, hf, by simp at h; exact h.symm⟩
  · cases h

/-- **Every integer / float arm performs the overflow check before the store** (`field.OverflowX(v)` in an
    `if … return` that precedes `field.SetX(v)`, and is the arm's only test), as the model does
    (`model_int_in_range`, `model_uint_in_range`, `model_f32_no_overflow`). -/
theorem tie_overflow_check_before_set :
    ((kindPrims.filter (fun p => (modelArm p).2.1 != "")).all fun p =>
      match (kindOf p).bind setArm with
      | some its => dominates (modelArm p).2.1 (modelArm p).2.2 its
      | none => false) = true ∧
    (∀ (P : Params) (cfg : Cfg) (w : Nat) (s : Bytes) (v : Val), convPrim P cfg (.int w) s = some v →
      ∃ i, v = .int i ∧ inRangeInt w i = true) ∧
    (∀ (P : Params) (cfg : Cfg) (w : Nat) (s : Bytes) (v : Val), convPrim P cfg (.uint w) s = some v →
      ∃ n, v = .uint n ∧ inRangeUint w n = true) ∧
    (∀ (P : Params) (cfg : Cfg) (s : Bytes) (v : Val), convPrim P cfg .f32 s = some v →
      ∃ b64 b32 inf, (P s).f = some (b64, b32, false, inf) ∧ v = .flt b32) := by
  -- the model conjuncts are the `model_*` lemmas: rewritten to `True` they leave the closed facts about the
  -- extracted source, which the kernel evaluates (the same two steps in the `tie_*` theorems below)
  simp only [iff_true_intro model_int_in_range, iff_true_intro model_uint_in_range, iff_true_intro model_f32_no_overflow,
    and_true]
  decide +kernel

/-! ### the stages of setFieldValue -/

/-- **A registered converter is consulted first, then the special types, then `UnmarshalText`, then the kinds** -
    and so in the model: with a converter registered for the leaf type its result is the value, whatever the
    standard parse says. -/
theorem tie_conversion_stage_order :
    setFieldValue_stages = ["findConverter", "switch:type", "UnmarshalText", "convertValue", "switch:kind"] ∧
    setFieldValue_specialTypes = ["timeType", "durationType", "urlType", "ipType", "ipNetType", "regexpType"] ∧
    (∀ (P : Params) (cfg : Cfg) (s : Bytes) (c : Nat), cfg.convs.lookup timeKey = some c →
      convPrim P cfg .time s = ((P s).c.lookup c).map .time) ∧
    (∀ (P : Params) (cfg : Cfg) (s : Bytes) (k c : Nat), cfg.convs.lookup k = some c →
      convPrim P cfg (.opq k) s = ((P s).c.lookup c).map .time) := by
  refine ⟨rfl, rfl, ?_, ?_⟩
  · intro P cfg s c h; simp [convPrim, h]
  · intro P cfg s k c h; simp [convPrim, h]

/-! ### limits before allocation / insertion / descent -/

theorem model_slice_limit (P : Params) (cfg : Cfg) (ty : Ty) (cur : Val) (vs : List Bytes)
    (hne : vs.isEmpty = false) (hcsv : cfg.csv = false) :
    (cfg.maxSlice > 0 ∧ vs.length > cfg.maxSlice → setSlice P cfg ty cur vs = .error .sliceLen) ∧
    (vs.length ≤ cfg.maxSlice → setSlice P cfg ty cur vs ≠ .error .sliceLen) := by
  constructor
  · rintro ⟨h0, h1⟩
    simp [setSlice, hne, hcsv, h0, h1]
  · intro hle
    have hn : ¬ (cfg.maxSlice > 0 ∧ vs.length > cfg.maxSlice) := by omega
    unfold setSlice
    simp only [hne, hcsv, Bool.false_eq_true, if_false, Bool.false_and, decide_eq_true_eq, Bool.and_eq_true]
    rw [if_neg hn]
    split
    · split <;> simp
    · split <;> simp
    · simp

/-- **`setSliceField` compares the number of values with `maxSliceLen` (`len > limit`, 0 = no limit) before it
    allocates the slice and before it converts an element**; the model: strictly more values than the limit is the
    slice-length error, exactly the limit is not. -/
theorem tie_slice_limit_before_alloc :
    dominates "len > .maxSliceLen" "MakeSlice" setSliceField_items = true ∧
    dominates "len > .maxSliceLen" "setFieldValue" setSliceField_items = true ∧
    onlyGuard "len > .maxSliceLen" setSliceField_items = true ∧
    (∀ (P : Params) (cfg : Cfg) (ty : Ty) (cur : Val) (vs : List Bytes), vs.isEmpty = false → cfg.csv = false →
      (cfg.maxSlice > 0 ∧ vs.length > cfg.maxSlice → setSlice P cfg ty cur vs = .error .sliceLen) ∧
      (vs.length ≤ cfg.maxSlice → setSlice P cfg ty cur vs ≠ .error .sliceLen)) := by
  simp only [iff_true_intro model_slice_limit, and_true]
  decide +kernel

theorem model_map_entry_limit (P : Params) (cfg : Cfg) (vty : Ty) (pre key : Bytes) (vals : List Bytes)
    (rest : List (Bytes × List Bytes)) (count : Nat) (m : List (Bytes × Val)) (mk : Bytes)
    (hk : extractMapKey key pre = some mk) (hne : mk.isEmpty = false) (h0 : cfg.maxMap > 0) (h1 : count + 1 > cfg.maxMap) :
    bindMapEntries P cfg vty pre ((key, vals) :: rest) count m = .error .mapSize := by
  simp [bindMapEntries, hk, hne, h0, h1]

/-- **The map-size limit is tested before the map is allocated (`setMapField`: counted keys `> limit`), before every
    insertion of `bindMapFromValues` (entry count `> limit`) and before the insertions of `parseJSONToMap`
    (`len > limit`)**; the model: the entry that would be number limit + 1 is the map-size error. -/
theorem tie_map_limit_before_insert :
    dominates "_ > .maxMapSize" "MakeMapWithSize" setMapField_items = true ∧
    dominates "_ > .maxMapSize" "bindMapFromValues(0)" setMapField_items = true ∧
    dominates "_ > .maxMapSize" "parseJSONToMap" setMapField_items = true ∧
    dominates "_ > .maxMapSize" "SetMapIndex" bindMapFromValues_loop = true ∧
    dominates "_ > .maxMapSize" "convertToType" bindMapFromValues_loop = true ∧
    dominates "len > .maxMapSize" "SetMapIndex" parseJSONToMap_items = true ∧
    onlyGuard "_ > .maxMapSize" setMapField_items = true ∧ onlyGuard "_ > .maxMapSize" bindMapFromValues_loop = true ∧
    onlyGuard "len > .maxMapSize" parseJSONToMap_items = true ∧
    (∀ (P : Params) (cfg : Cfg) (vty : Ty) (pre key : Bytes) (vals : List Bytes) (rest : List (Bytes × List Bytes))
       (count : Nat) (m : List (Bytes × Val)) (mk : Bytes),
       extractMapKey key pre = some mk → mk.isEmpty = false → cfg.maxMap > 0 → count + 1 > cfg.maxMap →
       bindMapEntries P cfg vty pre ((key, vals) :: rest) count m = .error .mapSize) := by
  simp only [iff_true_intro model_map_entry_limit, and_true]
  decide +kernel

theorem model_depth_check (P : Params) (cfg : Cfg) (nest : Nest) (g : Getter) (depth : Nat) (f : FieldInfo) (cur : Val)
    (hm : isMapTy f.ty = false) (hs : isStructTy f.ty = true) (hd : cfg.maxDepth < depth + 1) :
    fieldAction P cfg nest g depth f cur = .inr (.err (.bind f.name .depth)) := by
  rw [fieldAction_struct P cfg nest g depth f cur hs, if_pos hd]

/-- **The depth test (`depth > maxDepth`) is the first statement of `bindFieldsWithDepth`, before the loop that
    descends; the descent passes `depth + 1`, `setNestedStructWithDepth` hands the depth on unchanged - and makes the
    same test first, before it looks at the JSON form of the value (K04k) - and `bindFromSource` starts at 0**; the
    model: a nested struct at depth + 1 beyond the limit is the depth error naming the field, and the nested bind is
    not entered. -/
theorem tie_depth_check_before_descent :
    guardAt "_ > .maxDepth" bindFieldsWithDepth_items = some 0 ∧
    dominates "_ > .maxDepth" "setNestedStructWithDepth(+1)" bindFieldsWithDepth_items = true ∧
    onlyGuard "_ > .maxDepth" bindFieldsWithDepth_items = true ∧
    firstWith "setNestedStructWithDepth(+1)" bindFieldsWithDepth_loop ≠ none ∧
    firstWith "bindFieldsWithDepth" setNestedStruct_items ≠ none ∧
    guardAt "_ > .maxDepth" setNestedStruct_items = some 0 ∧
    dominates "_ > .maxDepth" "Unmarshal" setNestedStruct_items = true ∧
    firstWith "bindFieldsWithDepth(0)" bindFromSource_items ≠ none ∧
    (∀ (P : Params) (cfg : Cfg) (nest : Nest) (g : Getter) (depth : Nat) (f : FieldInfo) (cur : Val),
      isMapTy f.ty = false → isStructTy f.ty = true → cfg.maxDepth < depth + 1 →
      fieldAction P cfg nest g depth f cur = .inr (.err (.bind f.name .depth))) := by
  simp only [iff_true_intro model_depth_check, and_true]
  decide +kernel

/-! ### the order inside the loop of bindFieldsWithDepth -/

/-- **The loop dispatches file, map, nested struct, then looks the value up (primary, aliases), then the typed
    default, then slices, then single values** - the order of `fieldAction` (map, struct, lookup, typed default, slice,
    scalar). -/
theorem tie_field_dispatch_order :
    ((bindFieldsWithDepth_loop.map (·.calls)).flatten.filter
      (fun c => ["setFileField", "setMapField", "setNestedStructWithDepth(+1)", "applyTypedDefault", "setSliceField", "setField"].contains c))
      = ["setFileField", "setMapField", "setNestedStructWithDepth(+1)", "applyTypedDefault", "setSliceField", "setField"] := by
  decide +kernel

/-! ### several sources -/

theorem model_multi_two_passes (P : Params) (cfg : Cfg) (fs : List Fld) (init : Val) (s1 s2 : Src) (rest : List Src) :
    bindMulti P cfg fs init (s1 :: s2 :: rest) =
      match bindPass P cfg fs (fun _ => .struct fs) ((s1 :: s2 :: rest).map fun s => { s with kvs := [] }) init with
      | .ok v => bindPass P cfg fs (fun _ => .struct (stripFs fs)) (s1 :: s2 :: rest) v
      | o => o := by
  unfold bindMulti
  have h1 : (s1 :: s2 :: rest).isEmpty = false := rfl
  have h2 : ((s1 :: s2 :: rest).length == 1) = false := by simp
  simp only [h1, h2, Bool.false_eq_true, if_false]
  cases bindPass P cfg fs (fun _ => Ty.struct fs) ((s1 :: s2 :: rest).map fun s => { s with kvs := [] }) init <;> rfl

/-- **`bindMultiSource` runs the defaults pass (every value source whose tag the type has, with a source without
    values; then `skipDefaults`) before the loop over the sources, and both loops ask `HasStructTag` before they
    bind from depth 0**; the model: with two or more sources `bindMulti` is the pass over the emptied sources
    followed by the pass over the sources on the type without default tags. -/
theorem tie_multi_source_pass_order :
    (match firstWith "=.skipDefaults" bindMultiSource_items, firstWith "bindJSONBytesInternal" bindMultiSource_items with
     | some i, some j => decide (i < j)
     | _, _ => false) = true ∧
    (bindMultiSource_items.filter (fun it => it.calls.contains "bindFieldsWithDepth(0)")).all
      (fun it => callsBefore "HasStructTag" "bindFieldsWithDepth(0)" it.calls) = true ∧
    (bindMultiSource_items.filter (fun it => it.calls.contains "bindFieldsWithDepth(0)")).length = 2 ∧
    (∀ (P : Params) (cfg : Cfg) (fs : List Fld) (init : Val) (s1 s2 : Src) (rest : List Src),
      bindMulti P cfg fs init (s1 :: s2 :: rest) =
        match bindPass P cfg fs (fun _ => .struct fs) ((s1 :: s2 :: rest).map fun s => { s with kvs := [] }) init with
        | .ok v => bindPass P cfg fs (fun _ => .struct (stripFs fs)) (s1 :: s2 :: rest) v
        | o => o) := by
  simp only [iff_true_intro model_multi_two_passes, and_true]
  decide +kernel

/-! ### sources, getters and tags -/

/-- the names that go with a tag kind: entry point, `…To`, Binder method, `From…` option, getter constructor, tag
    constant, value of the constant -/
def names : Tag → List String × String × String × String
  | .query => (["Query", "QueryTo", "Binder.QueryTo", "FromQuery"], "NewQueryGetter", "TagQuery", "query")
  | .path => (["Path", "PathTo", "Binder.PathTo", "FromPath"], "NewPathGetter", "TagPath", "path")
  | .form => (["Form", "FormTo", "Binder.FormTo", "FromForm"], "NewFormGetter", "TagForm", "form")
  | .header => (["Header", "HeaderTo", "Binder.HeaderTo", "FromHeader"], "NewHeaderGetter", "TagHeader", "header")
  | .cookie => (["Cookie", "CookieTo", "Binder.CookieTo", "FromCookie"], "NewCookieGetter", "TagCookie", "cookie")
def allTags : List Tag := [.query, .path, .form, .header, .cookie]

/-- **Every entry point binds its own getter under its own tag**: `Query`, `QueryTo`, `Binder.QueryTo`, `FromQuery`
    pair `NewQueryGetter` with `TagQuery`, … for the five kinds, and the tag constants have the values the model's tag
    kinds stand for (`FieldHdr.tags`: query, path, form, header, cookie). -/
theorem tie_entry_point_tags :
    entryTags = allTags.flatMap (fun t => (names t).1.map (fun f => (f, (names t).2.1, (names t).2.2.1))) ∧
    allTags.all (fun t => tagConsts.lookup (names t).2.2.1 == some (names t).2.2.2) = true ∧
    allTags.map Tag.idx = [0, 1, 2, 3, 4] :=
  ⟨rfl, by decide +kernel, rfl⟩

def fromName (t : Tag) : String := (names t).1.getD 3 ""

/-- **`app.Context.bindInternal` binds path, query, header, cookie - in this order - in one `BindTo` call, before it
    looks at the body**; the model's `appBind` runs `bindMulti` over `Http.params` (the driver refuses an app case
    whose captured sources are not `appSourceKinds`) and decodes the body only after it succeeded. -/
theorem tie_app_source_order :
    app_bindInternal_sources = appSourceKinds.map fromName ∧
    (match firstWith "BindTo" app_bindInternal_items, firstWith "bindJSON" app_bindInternal_items with
     | some i, some j => decide (i < j)
     | _, _ => false) = true ∧
    (∀ (P : Params) (fs : List Fld) (init : Val) (h : Http) (strict : Bool) (st : CtxState) (e : Err),
      bindMulti P Cfg.default fs init h.params = .err e → (appBind P fs init h strict st).last = .err (.bind e)) := by
  refine ⟨rfl, by decide +kernel, ?_⟩
  intro P fs init h strict st e he
  simp [appBind, he]

/-- **The content types `bindInternal` dispatches on are those the model's `classifyCT` knows, arm by arm** (JSON and
    its patch variants and the empty type to `bindJSON`, URL-encoded and multipart forms to `bindForm`), **and `bindForm`
    tests the raw header for the prefix the model's `formSrc` tests**: with it the fields of the multipart body alone are
    bound, without it `Request.Form`. -/
theorem tie_app_content_types :
    app_contentTypeArms.map (·.2) = [["bindJSON"], ["bindForm"], ["bindForm"]] ∧
    ((app_contentTypeArms.map (·.1)).zip [CT.json, CT.form, CT.multipart]).all
      (fun p => p.1.all (fun s => classifyCT (B s) == p.2)) = true ∧
    app_bindForm_prefixes = ["multipart/form-data"] ∧
    (∀ h : Http, hasPrefix h.ctype (B "multipart/form-data") = true → formSrc h = h.mform.getD { kind := .form, kvs := [] }) ∧
    (∀ h : Http, hasPrefix h.ctype (B "multipart/form-data") = false → formSrc h = h.form) := by
  refine ⟨rfl, ?_, rfl, ?_, ?_⟩
  · simp only [app_contentTypeArms, List.map_cons, List.map_nil, List.zip_cons_cons, List.zip_nil_right, List.all_cons,
      List.all_nil]
    unfold classifyCT
    repeat rw [B_ofList]
    decide +kernel
  · intro h hp; simp [formSrc, hp]
  · intro h hp; simp [formSrc, hp]

/-- **The struct-info cache is keyed by both things the field table depends on - the struct type and the tag -, the
    table is parsed from exactly these two, and the write lock is released by a `defer` registered right after it is
    taken, before the parse (which runs application code: the `UnmarshalText` of default values)**; the model's field
    table `flatten P tag fs` is a function of the tag and the type alone, so a memo under this key is transparent. -/
theorem tie_struct_info_cache :
    cacheKey_fields.map (·.2) = ["reflect.Type", "string"] ∧
    getStructInfo_key = (cacheKey_fields.map (·.1)).zipWith (fun f p => f ++ "=" ++ p) ["param0", "param1"] ∧
    getStructInfo_parseArgs = ["param0", "param1"] ∧
    (match firstWith "Lock" getStructInfo_items, firstWith "defer:Unlock" getStructInfo_items,
       firstWith "parseStructInfo" getStructInfo_items with
     | some a, some b, some c => decide (a < b ∧ b < c)
     | _, _, _ => false) = true ∧
    firstWith "Unlock" getStructInfo_items = none ∧
    (∀ (P : Params) (tag : Tag) (fs : List Fld), flatten P tag fs = flattenFs P tag [] 0 fs) := by
  exact ⟨rfl, by decide +kernel, rfl, by decide +kernel, by decide +kernel, fun _ _ _ => rfl⟩

/-- **The literal tables**: the words `parseBoolGenerous` accepts (after ToLower ∘ TrimSpace; anything else is an
    error) are the model's `trueWords` / `falseWords`; the tag parser splits at `,` and drops `omitempty`; the bracket
    reader knows `[`, `]` and the two quotes; a prefix getter extends keys with `.` - the literals of `parseTag`,
    `extractBracketKey`, `Getter.push` / `Getter.has`. -/
theorem tie_literal_tables :
    parseBool_arms.map (fun a => (a.1.map B, a.2)) = [(trueWords, "true"), (falseWords, "false")] ∧
    parseBool_defaultIsError = true ∧ parseBool_prep = ["ToLower", "TrimSpace"] ∧
    parseTag_literals.filter (· != "") = [",", "omitempty"] ∧
    (extractBracketKey_literals.filter (· != "")).eraseDups = ["[", "]", "\"'"] ∧
    prefixGetter_Has_literals = [".", "."] ∧
    (trueWords.all (fun w => parseBool w == some true) && falseWords.all (fun w => parseBool w == some false)) = true := by
  decide +kernel

def optOf (name : String) : List String := (optionWrites.filter (·.1 == name)).map (·.2)

def fieldOfWrite (w : String) : String := String.mk (w.toList.takeWhile (· != '='))

/-- `optOf` over any table, with an equation per row whose test is a proposition: core's `String.reduceEq` decides
    `"a" = "b"` for two literals by one differing character, where the kernel's `String.decEq` (behind `==` under
    `decide +kernel`) encodes both sides, at a cost quadratic in their length -/
def optIn (tbl : List (String × String)) (name : String) : List String := (tbl.filter (·.1 == name)).map (·.2)

theorem optOf_eq (name : String) : optOf name = optIn optionWrites name := rfl

theorem optIn_nil (name : String) : optIn [] name = [] := rfl

theorem optIn_cons (a v : String) (tbl : List (String × String)) (name : String) :
    optIn ((a, v) :: tbl) name = if a = name then v :: optIn tbl name else optIn tbl name := by
  unfold optIn
  rw [List.filter_cons]
  by_cases h : a = name
  · rw [if_pos h, if_pos (by simpa using h)]; rfl
  · rw [if_neg h, if_neg (by simpa using h)]

theorem optOf_single : ∀ w ∈ optionWrites, optOf w.1 = [w.2] ∨ w.1 = "WithConverter" ∨ w.1 = "WithTypeConverter" := by
  simp only [optionWrites, List.forall_mem_cons, List.not_mem_nil, false_imp_iff, implies_true, and_true]
  simp only [optOf_eq, optionWrites, optIn_cons, optIn_nil, String.reduceEq, if_true, if_false,
    or_true, true_or, or_false, and_true, true_and]

/-- `fieldOfWrite` goes through `String.toList`, which the kernel evaluates in time quadratic in the length: the long
    right-hand sides (what the two converter options assign) are looked at here only, and are replaced by their characters
    by `String.toList_ofList` instead of being decoded by evaluation -/
theorem optOf_converters :
    ∀ n ∈ ["WithConverter", "WithTypeConverter"], ∀ v ∈ optOf n, fieldOfWrite v = "typeConverters" := by
  simp only [List.forall_mem_cons, List.not_mem_nil, false_imp_iff, implies_true, and_true]
  simp only [optOf_eq, optionWrites, optIn_cons, optIn_nil, String.reduceEq, if_true, if_false,
    List.forall_mem_cons, List.not_mem_nil, false_imp_iff, implies_true, and_true]
  simp only [fieldOfWrite]
  repeat rewrite [String.toList_ofList]
  decide +kernel

/-- **Every option the cases use assigns exactly the configuration field the limit checks / the conversion read**
    (`WithMaxDepth` → `maxDepth`, `WithMaxSliceLen` → `maxSliceLen`, `WithMaxMapSize` → `maxMapSize` - the fields of the
    guards of `tie_depth_check_before_descent`, `tie_slice_limit_before_alloc`, `tie_map_limit_before_insert` -,
    `WithSliceMode` → `sliceMode`, `WithIntBaseAuto` → `intBaseAuto`, `WithTimeLayouts` → `timeLayouts` as given,
    `WithAllErrors` → `allErrors`, `WithUnknownFields` / `WithStrictJSON` → `unknownFields`), no option writes two
    different fields, and `clone()` - the per-call configuration of a Binder - copies the whole struct and re-makes its
    two reference-typed fields. -/
theorem tie_option_writes :
    optOf "WithMaxDepth" = ["maxDepth=$0"] ∧ optOf "WithMaxSliceLen" = ["maxSliceLen=$0"] ∧
    optOf "WithMaxMapSize" = ["maxMapSize=$0"] ∧ optOf "WithSliceMode" = ["sliceMode=$0"] ∧
    optOf "WithIntBaseAuto" = ["intBaseAuto=true"] ∧ optOf "WithTimeLayouts" = ["timeLayouts=$0"] ∧
    optOf "WithAllErrors" = ["allErrors=true"] ∧ optOf "WithUnknownFields" = ["unknownFields=$0"] ∧
    optOf "WithStrictJSON" = ["->WithUnknownFields(UnknownError)"] ∧
    optionWrites.all (fun w => (optOf w.1).all (fun v => fieldOfWrite v == fieldOfWrite w.2)) = true ∧
    clone_copiesStruct = true ∧ ["sources", "typeConverters"].all clone_deepFields.contains = true := by
  have agree : optionWrites.all (fun w => (optOf w.1).all (fun v => fieldOfWrite v == fieldOfWrite w.2)) = true := by
    refine List.all_eq_true.2 fun w hw => List.all_eq_true.2 fun v hv => ?_
    rcases optOf_single w hw with h1 | hc
    · rw [h1, List.mem_singleton] at hv
      rw [hv]
      exact beq_self_eq_true _
    · have hn : w.1 ∈ ["WithConverter", "WithTypeConverter"] := by simpa using hc
      have hw2 : w.2 ∈ optOf w.1 := List.mem_map.2 ⟨w, List.mem_filter.2 ⟨hw, beq_self_eq_true _⟩, rfl⟩
      rw [optOf_converters _ hn v hv, optOf_converters _ hn w.2 hw2]
      exact beq_self_eq_true _
  simp only [agree, true_and]
  simp only [optOf_eq, optionWrites, optIn_cons, optIn_nil, String.reduceEq, if_true, if_false, true_and]
  decide +kernel

end Rivaas.Tie.C04Bind
