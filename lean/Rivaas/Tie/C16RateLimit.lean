/-
C16, translator tie (B): `Gen/RateLimit.lean` is regenerated by `extract/ratelimit.go` from the current source of
middleware/ratelimit on every run; Model/RateLimit.lean follows these functions statement by statement, and every
theorem here pins one of them (receiver, parameters and locals are renamed by position, so a renaming keeps it
building). An edit to the source that changes one of them breaks the theorem named after it on the next run
(`./check C16` then goes to search mode for a concrete failing input).

Derived facts the model depends on most, stated on the skeletons: the count is taken before the verdict and for an
atomic store in the same call that reports the counts (`count_before_verdict`), a store error lets the request
through (`store_error_fails_open`), `Retry-After` is set before the response is written and computed by
`retryAfterSeconds` (`retry_after_before_response`), the callback comes before enforcement and both abort
(`callback_then_enforce_both_abort`), the in-memory store is recognised through the optional interface
(`atomic_store_by_type_assertion`), `New`'s defaults and option guards (`new_defaults`, `options_ignore_non_positive`).

For the window store the comparison is not only textual: a small interpreter of the extracted lines (`entryStmt`,
`runRoll`, `runLocked`) is run on an arbitrary entry and shown to compute `Model.carried` / `getCounts` / `incr`.

Core Lean only; a table is compared by `rfl`, positions in it are computed by `decide`.
-/
import Rivaas.Gen.RateLimit
import Rivaas.Model.RateLimit

namespace Rivaas.Tie.C16RateLimit
open Rivaas.Gen.RateLimit

theorem extraction_complete : extractProblem = "" := rfl

/-- `Model.allow`/`refill`/`resetFor`: refill by elapsed·rate, cap at burst, `lastUpdate = now` unconditionally (a regressing clock takes tokens away), take one token iff `tokens ≥ 1`, `remaining = int(tokens)`, rejected: `reset = max(ceil(need/rate), 1)` -/
theorem allow_follows_the_source :
    allowLocked = ["v2 := arg1.Sub(v0.lastUpdate).Seconds()", "v3 := v2 * float64(recv.rate)", "v0.tokens = v0.tokens + v3", "if v0.tokens > float64(recv.burst)", "  v0.tokens = float64(recv.burst)", "v0.lastUpdate = arg1", "if v0.tokens >= 1.0", "  v0.tokens -= 1.0", "  res_remaining = int(v0.tokens)", "  res_resetSeconds = 1", "  return true, res_remaining, res_resetSeconds", "res_remaining = 0", "v4 := 1.0 - v0.tokens", "res_resetSeconds = max(int(math.Ceil(v4/float64(recv.rate))), 1)", "return false, res_remaining, res_resetSeconds"] := rfl

/-- `stepWin` (atomic): roll when the entry's window is older, report the counts before the increment, then count -/
theorem incrAndGetCounts_follows_the_source :
    incrAndGetCountsLocked = ["if v2.windowStart < v1", "  v2.roll(v1, v0, arg2)", "  v2.current = 0", "v4 := v2.current", "v2.current++", "return v4, v2.previous, v2.windowStart, nil"] := rfl

/-- `Model.getCounts` -/
theorem getCounts_follows_the_source :
    getCountsLocked = ["if v2.windowStart < v1", "  v2.roll(v1, v0, arg2)", "  v2.current = 0", "return v2.current, v2.previous, v2.windowStart, nil"] := rfl

/-- `Model.incr` -/
theorem incr_follows_the_source :
    incrLocked = ["if v2.windowStart < v1", "  v2.roll(v1, v0, arg2)", "  v2.current = 1", "else", "  v2.current++", "return nil"] := rfl

/-- `Model.carried`: nothing is carried over when the entry's window is older than the one right before -/
theorem roll_follows_the_source :
    rollShape = ["if recv.windowStart < arg1.Truncate(arg2).Add(-arg2).Unix()", "  recv.previous = 0", "else", "  recv.previous = recv.current", "recv.windowStart = arg0"] := rfl

/-- `Model.retryAfter`: the three regimes (count below the limit with a carried-over count; count below the limit alone; count at or over the limit), truncation at 0, next whole second -/
theorem retryAfter_follows_the_source :
    retryAfterShape = ["var v0 time.Duration", "switch", "  case arg2 <= 0 || arg4 <= 0", "    v0 = 2*arg4 - arg3", "  case arg0 < arg2 && arg1 > 0", "    v0 = scaleDuration(arg4, arg1-(arg2-arg0), arg1) - arg3", "  case arg0 < arg2", "    v0 = 0", "  default", "    v0 = arg4 - arg3 + scaleDuration(arg4, arg0-arg2, arg0)", "return int(max(v0, 0)/time.Second) + 1"] := rfl

/-- `⌊d·num/den⌋` computed as `d/den·num + d%den·num/den` (exact: d = q·den + r) -/
theorem scaleDuration_is_floor_of_product_over_den :
    scaleDurationShape = ["if arg1 <= 0 || arg2 <= 0", "  return 0", "v0, v1 := time.Duration(arg1), time.Duration(arg2)", "return arg0/v1*v0 + arg0%v1*v0/v1"] := rfl

/-- `Model.mwBucket` -/
theorem token_bucket_middleware_skeleton :
    tokenBucketSkeleton = ["Key", "Allow", "Now", "if arg1.Headers", "  Header RateLimit-Limit = arg0.Burst", "  Header RateLimit-Remaining = v3", "  Header RateLimit-Reset = v4", "if !v2", "  if arg1.OnExceeded != nil", "    OnExceeded", "    Abort", "    return", "  if arg1.Enforce", "    Header Retry-After = v4", "    WriteErrorResponse", "    Abort", "    return", "Next"] := rfl

/-- `stepWin` + `winAnswer` -/
theorem sliding_window_middleware_skeleton :
    slidingWindowSkeleton = ["Key", "Now", "if v0 != nil", "  IncrAndGetCounts", "else", "  GetCounts", "if v6 != nil", "  Next", "  return", "if v0 == nil", "  Incr", "  if v6 != nil", "    Next", "    return", "if arg1.Headers", "  Header RateLimit-Limit", "  Header RateLimit-Remaining = v10", "  Header RateLimit-Reset = v12", "if int(v9) >= arg0.Limit", "  if arg1.OnExceeded != nil", "    OnExceeded", "    Abort", "    return", "  if arg1.Enforce", "    Header Retry-After = retryAfterSeconds", "    retryAfterSeconds", "    WriteErrorResponse", "    Abort", "    return", "if ctx.IsAborted()", "  return", "Next"] := rfl

/-- `Model.dropsEntry` (token bucket): an entry idle for more than an hour is dropped only when the idle time has
    refilled it completely -/
theorem bucket_sweep_follows_the_source :
    bucketSweep = ["recv.mu.Lock()", "v0 := time.Now()", "v1 := v0.Add(-1 * time.Hour)", "range recv.entries", "  v3.mu.Lock()", "  if v3.lastUpdate.Before(v1) && v3.tokens+v0.Sub(v3.lastUpdate).Seconds()*float64(recv.rate) >= float64(recv.burst)", "    delete(recv.entries, v2)", "  v3.mu.Unlock()", "recv.mu.Unlock()"] := rfl

/-- `Model.dropsWin` (sliding window): an entry is dropped when its window started more than two hours ago and the
    window after its own has ended -/
theorem window_sweep_follows_the_source :
    windowSweep = ["recv.mu.Lock()", "v0 := time.Now().Unix()", "v1 := v0 - int64((2 * time.Hour).Seconds())", "range recv.entries", "  v3.mu.Lock()", "  if v3.windowStart < v1 && v3.windowStart+2*int64(v3.window.Seconds()) <= v0", "    delete(recv.entries, v2)", "  v3.mu.Unlock()", "recv.mu.Unlock()"] := rfl

/-! ## the extracted statements of the window store, executed, are the model -/

open Rivaas.RateLimit in
/-- one extracted assignment of `windowEntry.roll` / of the locked part of the store methods, executed on an entry
    (`wsNew` = the caller's window start, arg0 of roll / v1 of the store methods) -/
def entryStmt (w : Win) (wsNew : Nat) (carriedVal : Nat) (s : String) : Option Win :=
  if s = "  recv.previous = 0" then some { w with prev := 0 }
  else if s = "  recv.previous = recv.current" then some { w with prev := w.cur }
  else if s = "recv.windowStart = arg0" then some { w with ws := wsNew }
  else if s = "  v2.roll(v1, v0, arg2)" then some { w with prev := carriedVal, ws := wsNew }
  else if s = "  v2.current = 0" then some { w with cur := 0 }
  else if s = "  v2.current = 1" then some { w with cur := 1 }
  else if s = "v2.current++" then some { w with cur := w.cur + 1 }
  else if s = "  v2.current++" then some { w with cur := w.cur + 1 }
  else none

open Rivaas.RateLimit in
/-- `windowEntry.roll`, executed: `prevStart` = `now.Truncate(window).Add(-window).Unix()` -/
def runRoll : List String → Win → Nat → Nat → Option Win
  | [c, t, "else", e, f], w, wsNew, prevStart =>
    if c = "if recv.windowStart < arg1.Truncate(arg2).Add(-arg2).Unix()" then
      (if w.ws < prevStart then entryStmt w wsNew 0 t else entryStmt w wsNew 0 e).bind fun w' => entryStmt w' wsNew 0 f
    else none
  | _, _, _, _ => none

open Rivaas.RateLimit in
/-- **`windowEntry.roll`, as extracted, computes `Model.carried`** for every entry and every window (the start of the
    previous window is `wsNew − W`; `W ≤ wsNew`: any instant after 1970-01-01 plus one window) -/
theorem roll_is_the_models_carried (W : Nat) (w : Win) (wsNew : Nat) (hW : W ≤ wsNew) :
    runRoll rollShape w wsNew (wsNew - W) = some { cur := w.cur, prev := carried W w wsNew, ws := wsNew } := by
  unfold rollShape carried
  simp only [runRoll, if_true]
  by_cases h : w.ws < wsNew - W
  · have h' : w.ws + W < wsNew := by omega
    simp [h, h', entryStmt]
  · have h' : ¬ w.ws + W < wsNew := by omega
    simp [h, h', entryStmt]

open Rivaas.RateLimit in
/-- the locked part of a store method, executed: the `if entry.windowStart < windowStart { roll; current = c }`
    prologue, then the remaining statements -/
def runLocked : List String → Win → Nat → Nat → Option Win
  | c :: r1 :: r2 :: rest, w, wsNew, carriedVal =>
    if c = "if v2.windowStart < v1" then
      let w1 := if w.ws < wsNew then (entryStmt w wsNew carriedVal r1).bind fun x => entryStmt x wsNew carriedVal r2 else some w
      w1.bind fun x => rest.foldl (fun acc s =>
        acc.bind fun y =>
          if s = "v4 := v2.current" then some y            -- the count to report is read here …
          else if s = "return v4, v2.previous, v2.windowStart, nil" then some y
          else if s = "return v2.current, v2.previous, v2.windowStart, nil" then some y
          else entryStmt y wsNew carriedVal s) (some x)
    else none
  | _, _, _, _ => none

open Rivaas.RateLimit in
/-- **`IncrAndGetCounts` under the entry lock, as extracted, is the model's atomic step**: the entry it leaves is
    `incr (some (getCounts …))`, and the count it reports (`v4`, read before `current++`) is `getCounts`'s -/
theorem incrAndGetCounts_is_the_models_step (W : Nat) (w : Win) (now : Nat) :
    runLocked incrAndGetCountsLocked w (windowStart W now) (carried W w (windowStart W now)) =
      some (incr W (some (getCounts W (some w) now)) now) ∧
    -- position of the read relative to the increment: `v4 := v2.current` comes before `v2.current++`
    incrAndGetCountsLocked.idxOf "v4 := v2.current" < incrAndGetCountsLocked.idxOf "v2.current++" := by
  refine ⟨?_, by decide +kernel⟩
  unfold incrAndGetCountsLocked getCounts incr
  -- `rw` first: `simp [runLocked]` would also simplify the fold's step function under its binder, where every
  -- comparison `s = "…"` is stuck
  rw [runLocked]
  by_cases h : w.ws < windowStart W now <;> simp [List.foldl, entryStmt, h]

open Rivaas.RateLimit in
/-- `GetCounts` under the entry lock is `Model.getCounts` -/
theorem getCounts_is_the_models (W : Nat) (w : Win) (now : Nat) :
    runLocked getCountsLocked w (windowStart W now) (carried W w (windowStart W now)) = some (getCounts W (some w) now) := by
  unfold getCountsLocked getCounts
  rw [runLocked]
  by_cases h : w.ws < windowStart W now <;> simp [List.foldl, entryStmt, h]

/-- position of a line in a skeleton (its length if absent) -/
def pos (l : List String) (s : String) : Nat := l.idxOf s

/-- Everything this file evaluates on the two middleware skeletons, in one evaluation (the kernel's work is comparing
    their lines with the lines looked for, and within one evaluation each text is encoded once). The four theorems below
    are its components. -/
theorem skeletons_evaluated :
    (pos slidingWindowSkeleton "  IncrAndGetCounts" < pos slidingWindowSkeleton "if int(v9) >= arg0.Limit" ∧
     pos slidingWindowSkeleton "  Incr" < pos slidingWindowSkeleton "if int(v9) >= arg0.Limit" ∧
     pos slidingWindowSkeleton "if int(v9) >= arg0.Limit" < slidingWindowSkeleton.length ∧
     pos tokenBucketSkeleton "Allow" < pos tokenBucketSkeleton "if !v2") ∧
    (slidingWindowSkeleton.drop (pos slidingWindowSkeleton "if v6 != nil")).take 3 = ["if v6 != nil", "  Next", "  return"] ∧
    (pos slidingWindowSkeleton "    Header Retry-After = retryAfterSeconds" < pos slidingWindowSkeleton "    WriteErrorResponse" ∧
     pos slidingWindowSkeleton "    WriteErrorResponse" < slidingWindowSkeleton.length ∧
     pos tokenBucketSkeleton "    Header Retry-After = v4" < pos tokenBucketSkeleton "    WriteErrorResponse" ∧
     pos tokenBucketSkeleton "    WriteErrorResponse" < tokenBucketSkeleton.length) ∧
    (tokenBucketSkeleton.drop (pos tokenBucketSkeleton "  if arg1.OnExceeded != nil")).take 9 =
      ["  if arg1.OnExceeded != nil", "    OnExceeded", "    Abort", "    return", "  if arg1.Enforce",
       "    Header Retry-After = v4", "    WriteErrorResponse", "    Abort", "    return"] := by decide +kernel

theorem count_before_verdict :
    pos slidingWindowSkeleton "  IncrAndGetCounts" < pos slidingWindowSkeleton "if int(v9) >= arg0.Limit" ∧
    pos slidingWindowSkeleton "  Incr" < pos slidingWindowSkeleton "if int(v9) >= arg0.Limit" ∧
    pos slidingWindowSkeleton "if int(v9) >= arg0.Limit" < slidingWindowSkeleton.length ∧
    pos tokenBucketSkeleton "Allow" < pos tokenBucketSkeleton "if !v2" := skeletons_evaluated.1

theorem store_error_fails_open :
    (slidingWindowSkeleton.drop (pos slidingWindowSkeleton "if v6 != nil")).take 3 = ["if v6 != nil", "  Next", "  return"] :=
  skeletons_evaluated.2.1

theorem retry_after_before_response :
    pos slidingWindowSkeleton "    Header Retry-After = retryAfterSeconds" < pos slidingWindowSkeleton "    WriteErrorResponse" ∧
    pos slidingWindowSkeleton "    WriteErrorResponse" < slidingWindowSkeleton.length ∧
    pos tokenBucketSkeleton "    Header Retry-After = v4" < pos tokenBucketSkeleton "    WriteErrorResponse" ∧
    pos tokenBucketSkeleton "    WriteErrorResponse" < tokenBucketSkeleton.length := skeletons_evaluated.2.2.1

theorem callback_then_enforce_both_abort :
    (tokenBucketSkeleton.drop (pos tokenBucketSkeleton "  if arg1.OnExceeded != nil")).take 9 =
      ["  if arg1.OnExceeded != nil", "    OnExceeded", "    Abort", "    return", "  if arg1.Enforce",
       "    Header Retry-After = v4", "    WriteErrorResponse", "    Abort", "    return"] := skeletons_evaluated.2.2.2

theorem atomic_store_by_type_assertion : atomicAssertion = "arg0.Store.(AtomicWindowStore)" := rfl

theorem new_defaults :
    newDefaults = [("requestsPerSecond", "100"), ("burst", "20"), ("cleanupInterval", "time.Minute"),
                   ("limiterTTL", "5 * time.Minute")] := rfl

theorem options_ignore_non_positive :
    optionGuards = [("WithRequestsPerSecond", "arg0 > 0"), ("WithBurst", "arg0 > 0"), ("WithCleanupInterval", "arg0 > 0"),
                    ("WithLimiterTTL", "arg0 > 0")] := rfl

end Rivaas.Tie.C16RateLimit
