/-
C07, translator tie (B): `Gen/OpenAPIRanges.lean` is rewritten by `extract/oaranges.go` from the current source of
openapi/generate.go and openapi/internal/{build,schema,export}/*.go on every run: every `range` statement of the
generation path with the (syntactically resolved) kind of what it ranges over and, for a map, the shape of the loop.

Go randomises map iteration order; the determinism theorems of `Props/C07.lean` (`deterministic`,
`deterministic_path_order`, `deterministic_status_order`) are about a model in which `Build` visits the path keys and
the status codes in sorted order and everything else is order-free. Here the source is held to that:

* `ranges_resolved` — the kind of every ranged expression was resolved (nothing `unknown`): no map loop can hide.
* `map_ranges_order_free` — every loop over a map is `sortedKeys` (the keys are collected and the very next
  statement sorts them) or `keyedCopy` (every effect on anything outside the body is an assignment indexed by the
  loop's own key: iterations commute), with the one listed exception.
* `build_paths_sorted`, `build_statuses_sorted`, `sortSpec_sorted` — the loops the model sorts are sorted in the source.
* `map_loop_callees_allowed` — the functions called from inside key-wise loops are the projection functions (they
  return the projected value; their only effect on the context is `warn`: `proj_context_writes_only_warnings`),
  the two keyed setters of the builder (`servers[last].Variables[name] = …`, `securitySchemes[name] = …`, name = the
  loop key), accessors of `example.Example`, and `validateExtensionKey` (pure).
-/
import Rivaas.Gen.OpenAPIRanges

namespace Rivaas.Tie.C07Ranges
open Rivaas.Gen.OpenAPIRanges

theorem extraction_complete : extractError = none := by decide

/-- `proj30.components` collects the names of the mutualTLS schemes it drops into a slice in iteration order; the
    slice is used for the `len > 0` test under StrictDownlevel and for one warning per name — the order reaches
    `Result.Warnings` only, never the document (C07 speaks about the JSON bytes) -/
def orderReachesWarningsOnly : List (String × String) := [("proj30.components", "in.SecuritySchemes")]

/-- Everything this file evaluates on the table `ranges`, in one evaluation: the kernel's work is comparing the texts
    of the facts, and within one evaluation each literal is encoded once. The seven theorems below are its
    components. -/
theorem ranges_evaluated :
    (ranges.all (fun r => r.kind != "unknown") = true ∧
     ranges.all (fun r => r.kind != "map" || r.shape == "sortedKeys" || r.shape == "keyedCopy" ||
       orderReachesWarningsOnly.contains (r.fn, r.expr)) = true ∧
     (ranges.filter (fun r => orderReachesWarningsOnly.contains (r.fn, r.expr))).map (·.shape) =
       ["unordered: write to mutualTLSSchemes"]) ∧
    ranges.contains ⟨"openapi/internal/build/builder.go", "Builder.Build", "byPath", "map", "sortedKeys"⟩ = true ∧
    ranges.contains ⟨"openapi/internal/build/builder.go", "Builder.buildOperation", "doc.ResponseTypes", "map", "sortedKeys"⟩ = true ∧
    (ranges.contains ⟨"openapi/internal/build/builder.go", "sortSpec", "s.Paths", "map", "sortedKeys"⟩ = true ∧
     ranges.contains ⟨"openapi/internal/build/builder.go", "sortSpec", "s.Components.Schemas", "map", "sortedKeys"⟩ = true) ∧
    (ranges.filter (fun r => (r.fn == "Builder.Build" || r.fn == "Builder.buildOperation") && r.kind == "map")).length = 2 := by
  decide +kernel

theorem ranges_resolved : ranges.all (fun r => r.kind != "unknown") = true := ranges_evaluated.1.1

theorem map_ranges_order_free :
    ranges.all (fun r => r.kind != "map" || r.shape == "sortedKeys" || r.shape == "keyedCopy" ||
      orderReachesWarningsOnly.contains (r.fn, r.expr)) = true := ranges_evaluated.1.2.1

/-- the exception is exactly the loop described above, not a wildcard for the function -/
theorem exception_is_the_known_loop :
    (ranges.filter (fun r => orderReachesWarningsOnly.contains (r.fn, r.expr))).map (·.shape) =
      ["unordered: write to mutualTLSSchemes"] := ranges_evaluated.1.2.2

theorem build_paths_sorted :
    ranges.contains ⟨"openapi/internal/build/builder.go", "Builder.Build", "byPath", "map", "sortedKeys"⟩ = true :=
  ranges_evaluated.2.1

theorem build_statuses_sorted :
    ranges.contains ⟨"openapi/internal/build/builder.go", "Builder.buildOperation", "doc.ResponseTypes", "map", "sortedKeys"⟩ = true :=
  ranges_evaluated.2.2.1

theorem sortSpec_sorted :
    ranges.contains ⟨"openapi/internal/build/builder.go", "sortSpec", "s.Paths", "map", "sortedKeys"⟩ = true ∧
    ranges.contains ⟨"openapi/internal/build/builder.go", "sortSpec", "s.Components.Schemas", "map", "sortedKeys"⟩ = true :=
  ranges_evaluated.2.2.2.1

/-- `Build` and `buildOperation` range over no other map -/
theorem build_has_no_other_map_loop :
    (ranges.filter (fun r => (r.fn == "Builder.Build" || r.fn == "Builder.buildOperation") && r.kind == "map")).length = 2 :=
  ranges_evaluated.2.2.2.2

/-- a map iterated through `maps.Keys` / `maps.Values` / `maps.All` is order-free only directly under `slices.Sorted` -/
theorem map_iterators_sorted : mapIterCalls.all (fun c => c.2.2) = true := by decide

def allowedCallees : List String :=
  ["b.AddSecurityScheme", "b.AddServerVariable",
   "ex.Description", "ex.ExternalValue", "ex.Name", "ex.Summary", "ex.Value",
   "p.callback", "p.encoding", "p.example", "p.ext", "p.header", "p.link", "p.mediaType", "p.parameter", "p.pathItem",
   "p.requestBody", "p.response", "p.securityScheme", "p.validateServerVariableEnum",
   "schema30", "schema31", "validateExtensionKey"]

theorem map_loop_callees_allowed : mapLoopCallees.all (fun c => allowedCallees.contains c) = true := by decide +kernel

theorem proj_context_writes_only_warnings : projWrites = ["proj30: warns", "proj31: warns"] := rfl

end Rivaas.Tie.C07Ranges
