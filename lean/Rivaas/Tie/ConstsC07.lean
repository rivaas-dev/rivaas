/- Translator tie (B), constants: every literal of the Go source that the model of C07 mirrors equals the value
   extract/ regenerates from the current source (Gen/Consts.lean) on every run. An edited response-code
   pattern, character class or replacement byte in /repo breaks the theorem named after it. -/
import Rivaas.Gen.Consts
import Rivaas.Model.OpenAPIBuild
namespace Rivaas.Tie.ConstsC07
open Rivaas.Gen.Consts Rivaas.OpenAPI
theorem consts_C07_responseCodePattern : validResponseCodeSrc = openapi_responseCodePattern.toList := rfl
/-- the character class of `sanitizeComponentName`, byte by byte -/
theorem consts_C07_nameClass :
    (List.range 256).all (fun n =>
      nameByteOK (Char.ofNat n) ==
        (openapi_nameRanges.any (fun r => r.1 ≤ n && n ≤ r.2) || openapi_nameSingles.contains n)) = true := by decide +kernel
theorem consts_C07_nameReplacement : sanitize [Char.ofNat 0] = [Char.ofNat openapi_nameReplacement] := by decide
end Rivaas.Tie.ConstsC07
