/-
C12, translator tie (B), the order of the phase-relevant operations: `Gen/AppGuards.lean` (`phaseEvents`) lists, from the
current source of router/*.go, for `Router.Freeze`, `Warmup`, `doWarmup`, `ServeHTTP`, `enqueueRoute`, `addRouteInternal`
the lock operations, the stores / loads of `serving` / `frozen` / `warmedUp`, the `verifYield` points, the calls of
Freeze / Warmup / RegisterRoute / CompileAllRoutes / enqueueRoute / Once.Do, `panic`, `return` and the writes of
`pendingRoutes`, in source order (function literals entered).

The phase model (`Model/Phases.lean`) has one atomic step per stretch between two yield points; the obligations below say
that the code between the points does, in this order, what the model's step does — `enterFreeze` (both flags, under
`pendingRoutesMu`, then `freeze.flags`), `freezeCallWarmup`, the tail, `drain` (`warmedUp` BEFORE the list is taken, both
under the mutex), `warmupStep`s, the request's `serve.entry → Freeze() → serve.frozen` with nothing in between, the two
halves of a registration (unlocked test, `register.checked`, re-test under the mutex, enqueue / register).
-/
import Rivaas.Gen.AppGuards

namespace Rivaas.Tie.C12Phases
open Rivaas.Gen

abbrev Ev := String × String

def evsOf (n : String) : List Ev := (AppGuards.phaseEvents.lookup n).getD []

def idx (l : List Ev) (e : Ev) : Option Nat :=
  let i := l.findIdx (· == e)
  if i < l.length then some i else none

/-- the events of the second list occur in `l`, each (first occurrence) strictly after the previous one -/
def inOrder (l : List Ev) : List Ev → Bool
  | a :: b :: rest =>
    (match idx l a, idx l b with
     | some i, some j => decide (i < j)
     | _, _ => false) && inOrder l (b :: rest)
  | [a] => (idx l a).isSome
  | [] => true

/-- `Freeze`: inside `freezeOnce.Do` — the two flags are stored under `pendingRoutesMu` (under which a registration
    re-tests them, K12e), then `freeze.flags`, then `Warmup()`, then the reverse patterns and the snapshot under
    `routesMutex`, then `freeze.done`; each flag is stored exactly once -/
theorem freeze_body_order :
    inOrder (evsOf "Router.Freeze")
      [("call", "freezeOnce.Do"), ("lock", "pendingRoutesMu"), ("store", "serving"), ("store", "frozen"),
       ("unlock", "pendingRoutesMu"), ("yield", "freeze.flags"), ("call", "Warmup"), ("lock", "routesMutex"),
       ("unlock", "routesMutex"), ("yield", "freeze.done")] = true ∧
    (evsOf "Router.Freeze").count ("store", "serving") = 1 ∧ (evsOf "Router.Freeze").count ("store", "frozen") = 1 ∧
    (evsOf "Router.Freeze").count ("return", "") = 0 := by decide +kernel

/-- `Warmup` is `warmupOnce.Do(doWarmup)` and nothing else; `doWarmup`: `warmedUp` is set BEFORE the pending list is
    taken, both under `pendingRoutesMu` (the model's `drain`), then `warmup.drained`, the registrations,
    `warmup.registered`, the compilation, `warmup.compiled`; no early return -/
theorem warmup_body_order :
    evsOf "Router.Warmup" = [("call", "warmupOnce.Do")] ∧
    inOrder (evsOf "Router.doWarmup")
      [("lock", "pendingRoutesMu"), ("store", "warmedUp"), ("write", "pendingRoutes"), ("unlock", "pendingRoutesMu"),
       ("yield", "warmup.drained"), ("call", "RegisterRoute"), ("yield", "warmup.registered"),
       ("call", "CompileAllRoutes"), ("yield", "warmup.compiled")] = true ∧
    (evsOf "Router.doWarmup").count ("return", "") = 0 := by decide +kernel

/-- a request: `serve.entry`, `Freeze()`, `serve.frozen` are the FIRST three things `ServeHTTP` does — no return, no
    lookup before the freeze (an early return in front of `Freeze()` is `seeded/C12-14`) -/
theorem serve_entry_order :
    (evsOf "Router.ServeHTTP").take 3 = [("yield", "serve.entry"), ("call", "Freeze"), ("yield", "serve.frozen")] := by
  decide +kernel

/-- the first half of a registration: the unlocked tests of `serving` and `frozen` (each followed by a panic), then
    `register.checked`, then `enqueueRoute` -/
theorem register_checks_first :
    inOrder (evsOf "Router.addRouteInternal")
      [("load", "serving"), ("panic", ""), ("load", "frozen"), ("yield", "register.checked"), ("call", "enqueueRoute")] = true ∧
    (evsOf "Router.addRouteInternal").count ("panic", "") = 2 := by decide +kernel

/-- the second half (K12e): under `pendingRoutesMu`, held until the function returns (deferred unlock, no other unlock
    of it), the flags are tested AGAIN before the route is registered or enqueued -/
theorem enqueue_rechecks_under_lock :
    inOrder (evsOf "Router.enqueueRoute")
      [("lock", "pendingRoutesMu"), ("defer-unlock", "pendingRoutesMu"), ("load", "serving"), ("load", "frozen"), ("panic", ""),
       ("load", "warmedUp"), ("call", "RegisterRoute")] = true ∧
    inOrder (evsOf "Router.enqueueRoute") [("panic", ""), ("write", "pendingRoutes")] = true ∧
    (evsOf "Router.enqueueRoute").count ("unlock", "pendingRoutesMu") = 0 := by decide +kernel

end Rivaas.Tie.C12Phases
