/-
C03, translator tie (B): obligations on the facts `extract/` regenerates from the current source.

* `Gen/Ctx.lean`: the field list of router.Context and how `(*Context).reset` treats every field —
  `reset_covers_every_field` fails as soon as a field is added that reset does not clear, or reset is made
  conditional in a way the extractor does not recognise (then the extractor fails closed);
  `reset_matches_model`: the per-field treatment is the one the hand-written model `Model/Pool.lean` assumes.
  Likewise the three fields of the app-level context (`app_pool_covers_fields`) and every Get / Put site of the
  package's pools (`pool_sites`: who may take and hand back, and that a Put comes right after the reset).
* `Gen/Serve.lean`: on every path of every extracted entry point (ServeHTTP with all helpers inlined,
  RouteExists) and for every `getContextFromGlobalPool()` occurrence k:
  - ownership: the events of k are `get k, (assign|use|reset|run|loop marker)*, release k` — exactly one
    release, nothing of k after it (no use-after-put, no double put, no leak);
  - initialisation: before any handler / responder runs on k (`run`), Request, Response, router and index
    and paramCount were assigned since the get (and handlers before `c.Next()`), and a `reset` in between
    forgets them;
  - parameter writes: a lookup that writes parameters into k (`tree.getRoute(path, c)`, `MatchDynamic`) happens
    only on a context whose parameter slots are fresh: since the get / the last `reset` / the last
    `paramCount = 0` no other such lookup ran. Loop bodies are checked unrolled twice, so a probe loop that does
    not reset between iterations is rejected.
  Initialisation and parameter writes are evaluated once more with the model's own `covers`, on the steps read off the
  path (`covers_on_paths`: the hypothesis of `C03.prepare_fresh`). On the outcomes with a panic at a `run` event
  (`Skel.ppaths`) every context is dropped or handed back by one release, its last event (`panic_paths_ownership`).
-/
import Rivaas.Tie.Skel
import Rivaas.Gen.Serve
import Rivaas.Gen.Ctx
import Rivaas.Model.Pool

namespace Rivaas.Tie.C03
open Rivaas.Skel Rivaas.Gen.Serve

/-! ### reset covers the fields -/

/-- fields reset is allowed to leave alone: `router` (every serve path assigns it before use) -/
def allowedUncleared : List String := ["router"]

theorem reset_covers_every_field :
    Rivaas.Gen.Ctx.resetKindByName.all (fun p => p.2 != 0 || allowedUncleared.contains p.1) = true ∧
    Rivaas.Gen.Ctx.resetKindByName.length = Rivaas.Gen.Ctx.fieldCount ∧
    Rivaas.Gen.Ctx.resetKindByName.map (·.1) = Rivaas.Gen.Ctx.ctxFields := ⟨by decide +kernel, rfl, rfl⟩

/-- what the model's reset does to a field, by name -/
def modelKind (n : String) : Option Nat :=
  ((Rivaas.Pool.fieldNames.zip Rivaas.Pool.resetKinds).find? (·.1 == n)).map (·.2)

/-- the model's Context has exactly the fields of the source (in any declaration order) and its `reset` treats each of
    them the way the source does (kinds as documented in Gen/Ctx.lean) -/
theorem reset_matches_model :
    Rivaas.Gen.Ctx.ctxFields.length = Rivaas.Pool.fieldNames.length ∧
    Rivaas.Gen.Ctx.resetKindByName.all (fun p => modelKind p.1 == some p.2) = true ∧
    Rivaas.Pool.fieldNames.all (Rivaas.Gen.Ctx.ctxFields.contains ·) = true ∧
    Rivaas.Gen.Ctx.slotBound = Rivaas.Pool.slotCount ∧
    Rivaas.Gen.Ctx.slotGuardName = "paramCount" := by decide +kernel

/-- the app-level pool (app/context_pool.go, App.wrapHandler): all three fields are cleared on Put, cleared again
    in the deferred function and assigned before the handler runs; get, deferred put, init, handler in this order -/
theorem app_pool_covers_fields :
    Rivaas.Gen.Ctx.appCtxFields.length = 3 ∧
    Rivaas.Gen.Ctx.appPutCleared = [0, 1, 2] ∧
    Rivaas.Gen.Ctx.appWrapInit = [0, 1, 2] ∧
    Rivaas.Gen.Ctx.appWrapDeferCleared = [0, 1, 2] ∧
    Rivaas.Gen.Ctx.appWrapShape = ["get", "deferPut", "init", "handler"] := ⟨rfl, rfl, rfl, rfl, rfl⟩

/-! ### the pools themselves: who may Get and Put (regenerated `poolSites`) -/

/-- column `i` of a row of `poolSites`: 0 pool, 1 get|put, 2 enclosing function, 3 condition of the innermost enclosing
    `if`, 4 where the result goes / what is handed back, 5 statement before, 6 statement after (Put only) -/
def col (s : List String) (i : Nat) : String := s.getD i ""

/-- **pool ownership**: the only pools of the package are the context pool and the arena pool; a pooled context is
    taken only by `getContextFromGlobalPool` and handed back only by `releaseGlobalContext`, right after `reset()` on
    the same value; an arena is taken only into an empty `cachedArena` field and handed back only by
    `(*Context).reset`, from that field, if it is set, after the arena's own `reset()` and followed by clearing the
    field — so an arena (and the cached specs that alias it) belongs to at most one context at a time and goes back
    exactly once. A new Get/Put site, or a Put that is not followed by clearing the field, breaks this obligation. -/
theorem pool_sites :
    Rivaas.Gen.Ctx.pools = ["arenaPool", "globalContextPool"] ∧
    (Rivaas.Gen.Ctx.poolSites.all fun s =>
      if col s 0 == "arenaPool" then
        (if col s 1 == "get" then col s 3 == "_.cachedArena == nil" && col s 4 == "_.cachedArena"
         else col s 1 == "put" && col s 2 == "Context.reset" && col s 3 == "_.cachedArena != nil" &&
              col s 4 == "_.cachedArena" && col s 5 == "_.cachedArena.reset()" && col s 6 == "_.cachedArena = nil")
      else col s 0 == "globalContextPool" &&
        (if col s 1 == "get" then col s 2 == "getContextFromGlobalPool" && col s 4 == "return"
         else col s 1 == "put" && col s 2 == "releaseGlobalContext" && col s 4 == "_" && col s 5 == "_.reset()")) = true ∧
    (Rivaas.Gen.Ctx.poolSites.filter fun s => col s 0 == "arenaPool" && col s 1 == "put").length = 1 ∧
    (Rivaas.Gen.Ctx.poolSites.filter fun s => col s 0 == "globalContextPool" && col s 1 == "put").length = 1 := by
  decide +kernel

/-! ### ownership and initialisation on every path -/

def keepK (k : Nat) : Ev → Bool
  | .get j | .release j | .assign j _ | .reset j | .use j _ | .run j _ | .loopBegin j | .loopEnd j => j == k
  | _ => false

/-- simple shape: after the get only mentions, then exactly one release as the last event of k -/
def heldShape : List Ev → Bool
  | [.release _] => true
  | .assign .. :: r | .reset _ :: r | .use .. :: r | .run .. :: r | .loopBegin _ :: r | .loopEnd _ :: r => heldShape r
  | _ => false

def shapeK : List Ev → Bool
  | [] => true                      -- the path does not obtain this context
  | .get _ :: r => heldShape r
  | _ => false

/-- replace every `loopBegin … loopEnd` bracket by two copies of its body -/
def unroll (acc : Option (List Ev)) : List Ev → List Ev
  | [] => []
  | .loopBegin _ :: r => unroll (some []) r
  | .loopEnd _ :: r =>
    match acc with
    | some b => b.reverse ++ (b.reverse ++ unroll none r)
    | none => unroll none r
  | e :: r =>
    match acc with
    | some b => unroll (some (e :: b)) r
    | none => e :: unroll none r

/-- fields that must have been assigned since the get before anything runs on the context -/
def required : List Nat := [fRequest, fResponse, fRouter, fIndex, fParamCount]

/-- `assigned`: fields assigned since the get / the last reset; `written`: a parameter-writing lookup ran since
    the get / the last reset / the last `paramCount = 0`; `early`: such a lookup ran before paramCount was assigned
    (harmless for a borrowed probe context, not allowed on a context a handler will see) -/
def heldInit (assigned : List Nat) (written early : Bool) : List Ev → Bool
  | [] => true
  | .assign _ f :: r => heldInit (f :: assigned) (written && f != fParamCount) early r
  | .reset _ :: r => heldInit [] false early r
  | .use _ w :: r =>
    if w == 0 then heldInit assigned written early r
    else !written && heldInit assigned true (early || !assigned.contains fParamCount) r
  | .run _ w :: r =>
    required.all assigned.contains && !early && (w != whatNext || assigned.contains fHandlers) &&
      heldInit assigned written early r
  | _ :: r => heldInit assigned written early r

def initK : List Ev → Bool
  | .get _ :: r => heldInit [] false false (unroll none r)
  | _ => true

def okK (t : List Ev) : Bool := shapeK t && initK t

/-! ### the model's own `covers` on the extracted preparation steps

`prepare_fresh` (Props/C03) needs `Pool.covers {} steps` for the preparation a serve path performs before the first
handler. Here the events of a context between its get (or its last reset) and every `run` are translated into model
`Step`s and the model's `covers` is evaluated on them, on every path — the side condition of the theorem is checked on
the code's skeleton with the theorem's own definition, not with a look-alike. -/

def mpRunEv : Ev → Bool
  | .run .. => true
  | _ => false

/-- the model step of an assignment to field `f` (the assigned value does not matter to `covers`) -/
def fieldStep (f : Nat) : List Rivaas.Pool.Step :=
  if f == fRequest then [.setRequest 0] else if f == fResponse then [.setResponse 0]
  else if f == fHandlers then [.setHandlers 0] else if f == fRouter then [.setRouter 0]
  else if f == fIndex then [.setIndex 0] else if f == fParamCount then [.zeroCount] else []

/-- at every `run` event the steps since the get / the last reset satisfy the model's `covers` -/
def coversAtRuns (acc : List Rivaas.Pool.Step) : List Ev → Bool
  | [] => true
  | .run _ _ :: r => Rivaas.Pool.covers {} acc.reverse && coversAtRuns acc r
  | .reset _ :: r => coversAtRuns [] r
  | .assign _ f :: r => coversAtRuns ((fieldStep f).reverse ++ acc) r
  | .use _ w :: r => if w == 0 then coversAtRuns acc r else coversAtRuns (.writeParam [] [] :: acc) r
  | _ :: r => coversAtRuns acc r

def coversK : List Ev → Bool
  | .get _ :: r => coversAtRuns [] (unroll none r)
  | _ => true

/-- both checks in one evaluation, so that the paths are walked once; the next two theorems are its halves -/
theorem paths_ok :
    (entryPoints.all fun s => ctxIds.all fun k =>
      (traces (slice (keepK k) s)).all fun t => okK t && coversK t) = true := by
  simp only [all_traces_eq_walk]
  decide +kernel

/-- regenerated obligation: ownership and initialisation on every path of every entry point, for every pooled context -/
theorem ownership_paths :
    (entryPoints.all fun s => ctxIds.all fun k => (traces (slice (keepK k) s)).all okK) = true := by
  have h := paths_ok
  simp only [List.all_eq_true, Bool.and_eq_true] at h ⊢
  exact fun s hs k hk t ht => (h s hs k hk t ht).1

/-- regenerated obligation: the hypothesis `covers` of `C03.prepare_fresh`, evaluated with the model's definition on
    the steps extracted from every path, for every pooled context, before every handler / responder that runs on it -/
theorem covers_on_paths :
    (entryPoints.all fun s => ctxIds.all fun k => (traces (slice (keepK k) s)).all coversK) = true := by
  have h := paths_ok
  simp only [List.all_eq_true, Bool.and_eq_true] at h ⊢
  exact fun s hs k hk t ht => (h s hs k hk t ht).2

/-- non-vacuity: a handler that runs on an unprepared context is rejected; a parameter-writing lookup before
    `paramCount = 0` is rejected; and the skeleton does contain paths on which a handler runs -/
example : coversK [.get 0, .run 0 1] = false ∧
    coversK [.get 0, .assign 0 fRequest, .assign 0 fResponse, .assign 0 fRouter, .assign 0 fIndex, .use 0 3,
             .assign 0 fParamCount, .run 0 1] = false ∧
    ((traces (slice (keepK 0) serveHTTP)).any fun t => t.any mpRunEv) = true := by
  refine ⟨by decide, by decide, by decide +kernel⟩

theorem covers_exec (ρ : Atom → Bool) (s : Stmt) (hs : s ∈ entryPoints) (k : Nat) (hk : k ∈ ctxIds) :
    coversK ((exec ρ s).trace.filter (keepK k)) = true :=
  all_exec_slice s (keepK k) coversK (List.all_eq_true.mp (List.all_eq_true.mp covers_on_paths s hs) k hk) ρ

theorem ownership (ρ : Atom → Bool) (s : Stmt) (hs : s ∈ entryPoints) (k : Nat) (hk : k ∈ ctxIds) :
    okK ((exec ρ s).trace.filter (keepK k)) = true :=
  all_exec_slice s (keepK k) okK (List.all_eq_true.mp (List.all_eq_true.mp ownership_paths s hs) k hk) ρ

/-! ### panic exits: a handler (or the NoRoute handler, or a responder) panics and nothing recovers it inside ServeHTTP

The statement quantifies over "whatever requests were served before" — including requests whose handler panicked out
of ServeHTTP (net/http recovers per connection and the process goes on). `Skel.ppaths` enumerates, next to the normal
outcomes, the outcome of a panic at every `run` event: the rest is skipped, the deferred events of the enclosing
scopes run. On every such outcome every pooled context is either dropped (never handed back: the garbage collector
gets it) or handed back by exactly one `release` — which is `reset()` + Put (`pool_sites`) — as its last event. -/

def mpRun : Ev → Bool
  | .run .. => true
  | _ => false

def isReleaseEv : Ev → Bool
  | .release _ => true
  | _ => false

/-- one pass over an outcome for all contexts at once: `held` = obtained and not yet handed back, `gone` = handed
    back. A context is obtained at most once, mentioned only while held, handed back at most once, never touched
    afterwards; what is still held at the end is dropped. -/
def okPanicAll (held gone : List Nat) : List Ev → Bool
  | [] => true
  | .get k :: r => !held.contains k && !gone.contains k && okPanicAll (k :: held) gone r
  | .release k :: r => held.contains k && okPanicAll (held.erase k) (k :: gone) r
  | .assign k _ :: r | .reset k :: r | .use k _ :: r | .run k _ :: r | .loopBegin k :: r | .loopEnd k :: r =>
    held.contains k && okPanicAll held gone r
  | _ :: r => okPanicAll held gone r

/-- `okPanicAll` reads its list one event at a time: the lists `held`, `gone` after the event, `none` once it has failed.
    This is the state `Skel.pwalk` carries along the skeleton in `outcomes_ownership`. -/
def panicStep : Option (List Nat × List Nat) → Ev → Option (List Nat × List Nat)
  | none, _ => none
  | some (held, gone), e =>
    match e with
    | .get k => if !held.contains k && !gone.contains k then some (k :: held, gone) else none
    | .release k => if held.contains k then some (held.erase k, k :: gone) else none
    | .assign k _ | .reset k | .use k _ | .run k _ | .loopBegin k | .loopEnd k =>
      if held.contains k then some (held, gone) else none
    | _ => some (held, gone)

theorem panicStep_none (t : List Ev) : t.foldl panicStep none = none := by
  induction t with
  | nil => rfl
  | cons e r ih => exact ih

theorem okPanicAll_fold (t : List Ev) :
    ∀ held gone, okPanicAll held gone t = (t.foldl panicStep (some (held, gone))).isSome := by
  induction t with
  | nil => exact fun _ _ => rfl
  | cons e r ih =>
    intro held gone
    have key (c : Bool) (x : List Nat × List Nat) :
        (c && okPanicAll x.1 x.2 r) = (r.foldl panicStep (if c then some x else none)).isSome := by
      cases c
      · rw [if_neg Bool.false_ne_true, panicStep_none]; rfl
      · exact ih _ _
    cases e with
    | get k | release k | assign k _ | reset k | use k _ | run k _ | loopBegin k | loopEnd k => exact key _ (_, _)
    | _ => exact ih _ _

/-- every outcome of every entry point, with a panic at any `run` event or with none: `okPanicAll` holds of the normal
    outcomes too, so the evaluated check does not look at `o.st` -/
theorem outcomes_ownership :
    (entryPoints.all fun s => (ppaths mpRun s).all fun o => okPanicAll [] [] o.trace) = true := by
  -- the walk carries the two lists of `okPanicAll` instead of the trace: the events common to several outcomes are
  -- checked once
  have h : (entryPoints.all fun s => pwalk mpRun panicStep s (some ([], [])) fun q _ _ => q.isSome) = true := by
    decide +kernel
  simpa [pwalk_eq, okPanicAll_fold] using h

/-- regenerated obligation: every panic outcome of every entry point, every pooled context -/
theorem panic_paths_ownership :
    (entryPoints.all fun s => (ppaths mpRun s).all fun o => o.st != 2 || okPanicAll [] [] o.trace) = true := by
  have h := outcomes_ownership
  simp only [List.all_eq_true, Bool.or_eq_true] at h ⊢
  exact fun s hs o ho => Or.inr (h s hs o ho)

/-- for every valuation of the branch conditions and a panic at any `run` event -/
theorem panic_exit_ownership (ρ : Atom → Bool) (s : Stmt) (hs : s ∈ entryPoints) (n : Option Nat)
    (hp : (pexec mpRun ρ s n).1.st = 2) : okPanicAll [] [] (pexec mpRun ρ s n).1.trace = true := by
  simpa [hp] using all_pexec mpRun s _ (List.all_eq_true.mp panic_paths_ownership s hs) ρ n

/-- non-vacuity: ServeHTTP has panic outcomes that end with a context handed back through a deferred release;
    RouteExists has six outcomes in all -/
example : ((ppaths mpRun serveHTTP).any fun o => o.st == 2 && o.trace.getLast?.any isReleaseEv) = true ∧
    ((ppaths mpRun routeExists).length = 6) := by
  constructor <;> decide +kernel

/-! ### what the shape means -/

def isRelease : Ev → Bool | .release _ => true | _ => false
def isGet : Ev → Bool | .get _ => true | _ => false

theorem lemma_heldShape (t : List Ev) (h : heldShape t = true) :
    ∃ mid j, t = mid ++ [Ev.release j] ∧ mid.filter isRelease = [] ∧ mid.filter isGet = [] := by
  fun_induction heldShape t
  case case1 j => exact ⟨[], j, rfl, rfl, rfl⟩   -- `[.release j]`
  case case8 => cases h                            -- the fall-through clause: `heldShape` is false
  -- the six kinds of mention: neither a release nor a get, so the filters skip the head by computation
  all_goals
    rename_i ih
    obtain ⟨m, j, rfl, h2, h3⟩ := ih h
    exact ⟨_ :: m, j, rfl, h2, h3⟩

/-- **each get is followed by exactly one release, and no use after it**: on every path of every entry point the
    events of a pooled context are either absent or `get, …, release` with the release last and unique -/
theorem get_release_exactly_once (ρ : Atom → Bool) (s : Stmt) (hs : s ∈ entryPoints) (k : Nat) (hk : k ∈ ctxIds) :
    (exec ρ s).trace.filter (keepK k) = [] ∨
    ∃ g mid j, (exec ρ s).trace.filter (keepK k) = Ev.get g :: (mid ++ [Ev.release j]) ∧
      mid.filter isRelease = [] ∧ mid.filter isGet = [] := by
  have h := ownership ρ s hs k hk
  simp only [okK, Bool.and_eq_true] at h
  generalize (exec ρ s).trace.filter (keepK k) = t at h
  match t, h with
  | [], _ => exact Or.inl rfl
  | .get g :: r, ⟨h1, _⟩ =>
    simp only [shapeK] at h1
    obtain ⟨mid, j, e1, e2, e3⟩ := lemma_heldShape r h1
    exact Or.inr ⟨g, mid, j, by rw [e1], e2, e3⟩

end Rivaas.Tie.C03
