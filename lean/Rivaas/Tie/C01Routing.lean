/- Translator tie (B), structure of the tree lookup (C01): the order of the decision chains of
   `(*node).getRoute`, `(*node).addRouteWithConstraints` and `bindParamNames` (router/radix.go), regenerated from
   the current source by extract/routing.go (Gen/Routing.lean) on every run, against the order in which the
   model (Model/Radix.lean) takes the same decisions. The model's order is not written down a second time: it is
   *computed* by running the model on small probes in which the alternatives compete (a node with a static child,
   a parameter child and a wildcard; a path that is both a `staticPaths` key and a parameter match; a constraint
   on a name only the matched route declares; …). A reordered chain, a validation moved before the naming, a
   dropped early return in /repo breaks the theorem named after it. -/
import Rivaas.Gen.Routing
import Rivaas.Model.Radix
namespace Rivaas.Tie.C01Routing
open Rivaas.Gen.Routing Rivaas.Radix Rivaas.Route

/-- extract/routing.go recognised every statement form it looked at -/
theorem extraction_complete : problem = none := rfl

private def G : Bytes := ['G', 'E', 'T']
private def yes : Nat → Bytes → Bool := fun _ _ => true
/-- constraint 0 accepts only the value `1` -/
private def one : Nat → Bytes → Bool := fun _ v => v = ['1']
private def mk (routes : List (Bytes × List (Bytes × Nat))) : Tree :=
  (routes.foldl (fun (acc : Tree × Nat) r => (addRoute acc.1 r.1 acc.2 r.2, acc.2 + 1)) (Tree.empty, 0)).1
private def ridOf (sat : Nat → Bytes → Bool) (t : Tree) (path : Bytes) : Option Nat :=
  (getRoute sat t path Ctx.fresh).1.map (·.rid)

/-! ### the descent: static child, then parameter child, then wildcard, else miss -/

private def rStatic : Bytes × List (Bytes × Nat) := (['/', 'x', '/', ':', 'a'], [])
private def rParam : Bytes × List (Bytes × Nat) := (['/', ':', 'p', '/', ':', 'a'], [])
private def rWild : Bytes × List (Bytes × Nat) := (['/', '*'], [])
private def probePath : Bytes := ['/', 'x', '/', 'v']

/-- which arm answers when the arms listed compete for the first segment of `/x/v` -/
private def armOf (routes : List (Bytes × List (Bytes × Nat))) (labels : List String) : String :=
  match ridOf yes (mk routes) probePath with
  | some i => labels.getD i "?"
  | none => "miss"

/-- the order of the model's descent, computed: with all three present the static child answers, without
it the parameter child, without both the wildcard, with none of them nothing -/
def modelDescentChain : List String :=
  [armOf [rStatic, rParam, rWild] ["findChild", "param", "wildcard"],
   armOf [rParam, rWild] ["param", "wildcard"],
   armOf [rWild] ["wildcard"],
   armOf [] []]

theorem getRoute_descent_order : descentChain = modelDescentChain := by decide +kernel

/-! ### the descent backtracks: an arm that finds no route hands over to the next one -/

/-- `/u/a/p` with `/u/:i/p` next to `/u/a/:x/y`: the static edge `a` leads nowhere, the parameter sibling
answers (static arm falls through). `/v/abc` with `/v/:i` (constraint 0 accepts only `1`) next to `/v/*`: the
parameter leaf rejects, the wildcard answers (parameter arm falls through). `/a/z` with `/a/*` (its constraint
rejects `z`) next to `/:p/z`: the wildcard below `a` rejects, the search resumes at the root's parameter child
(wildcard arm falls through). -/
def modelFallsThrough : List String :=
  (if ridOf yes (mk [(['/', 'u', '/', ':', 'i', '/', 'p'], []), (['/', 'u', '/', 'a', '/', ':', 'x', '/', 'y'], [])])
      ['/', 'u', '/', 'a', '/', 'p'] = some 0 then ["findChild"] else []) ++
  (if ridOf one (mk [(['/', 'v', '/', ':', 'i'], [(['i'], 0)]), (['/', 'v', '/', '*'], [])])
      ['/', 'v', '/', 'a', 'b', 'c'] = some 1 then ["param"] else []) ++
  (if ridOf one (mk [(['/', 'a', '/', '*'], [(wildParam, 0)]), (['/', ':', 'p', '/', 'z'], [])])
      ['/', 'a', '/', 'z'] = some 1 then ["wildcard"] else [])

theorem getRoute_backtracks : descentFallsThrough = modelFallsThrough := by decide +kernel

/-- what each arm does: the static and the parameter arm ask `accepts` at the last segment and descend
otherwise, the parameter and the wildcard arm capture first and drop the capture when they hand over -/
theorem descent_arm_calls : descentArmCalls =
    ["findChild:accepts,descend", "param:captureParam,accepts,descend,dropCaptures", "wildcard:captureParam,accepts,dropCaptures"] := rfl

/-! ### `getRoute`: root and empty path, then `staticPaths`, then the descent -/

private def rootLeaf (rid : Nat) : Leaf := ⟨rid, [], ['/'], []⟩
/-- a tree (not reachable by registration) whose root node and whose `staticPaths` both answer `/` and `` -/
private def preludeTree : Tree := ⟨[([], ⟨some (rootLeaf 1), none, none⟩)], [(['/'], rootLeaf 2), ([], rootLeaf 2)]⟩

def modelPrelude : List String :=
  (if ridOf yes preludeTree ['/'] = some 1 then ["root"] else []) ++
  (if ridOf yes preludeTree [] = some 1 then ["empty"] else []) ++
  (if ridOf yes (mk [(['/', ':', 'p'], []), (['/', 'x'], [])]) ['/', 'x'] = some 1 then ["staticPaths"] else []) ++
  (if ridOf yes (mk [(['/', ':', 'p'], [])]) ['/', 'x'] = some 0 then ["descend"] else [])

theorem getRoute_prelude_order : getRoutePrelude = modelPrelude := by decide +kernel

/-! ### `accepts`: a node without a route is not an answer; the captured values are named after the
route before its constraints are validated -/

private def namesLeaf : List (Bytes × List (Bytes × Nat)) :=
  [(['/', 'a', '/', ':', 'x', '/', 'b'], []), (['/', 'a', '/', ':', 'y', '/', 'c'], [(['y'], 0)])]
private def namesWild : List (Bytes × List (Bytes × Nat)) :=
  [(['/', 'a', '/', ':', 'x', '/', 'b'], []), (['/', 'a', '/', ':', 'y', '/', '*'], [(['y'], 0)])]

/-- `/a` with only `/a/:x` registered: the node `a` exists and carries no route. The second route's
constraint is on `y`, a name the shared node does not hold: it can only pass if the naming comes first, and
it must reject the value `2` — at a last-segment node and at a wildcard alike. -/
def modelAcceptsOrder : List String :=
  (if ridOf yes (mk [(['/', 'a', '/', ':', 'x'], [])]) ['/', 'a'] = none then ["handlers"] else []) ++
  (if ridOf one (mk namesLeaf) ['/', 'a', '/', '1', '/', 'c'] = some 1 ∧ ridOf one (mk namesWild) ['/', 'a', '/', '1', '/', 'z'] = some 1
   then ["bindParamNames"] else []) ++
  (if ridOf one (mk namesLeaf) ['/', 'a', '/', '2', '/', 'c'] = none ∧ ridOf one (mk namesWild) ['/', 'a', '/', '2', '/', 'z'] = none
   then ["validateConstraints"] else [])

theorem accepts_order : acceptsOrder = modelAcceptsOrder := by decide +kernel

/-! ### inline slots, `bindParamNames` -/

theorem slot_bounds : slotWriteBounds ≠ [] ∧ slotWriteBounds.all (· = inlineSlots) = true ∧
    bindSlotBounds = [inlineSlots] := by decide

/-- `bindParamNames` renames the inline keys and fills `Params` from the positional overflow — the two
components `bindNames` computes -/
theorem bind_shape : bindShape = ["inline:paramKeys", "overflow:Params"] := rfl

/-! ### `addRouteWithConstraints`: root, empty, `/*` suffix, parameter-free, standard — in this order -/

private def lf0 : Leaf := ⟨0, [], [], []⟩
private def kindOf (path : Bytes) : String :=
  let t := addLeafGen false Tree.empty path lf0
  if t.statics ≠ [] then "static"
  else if (getK t.nodes []).leaf.isSome then "rootleaf"
  else if t.nodes.any (fun kv => kv.2.wild.isSome) then "wildcard"
  else "standard"

/-- the cases the model's registration distinguishes, probed where the tests overlap: `/*` and `/x/*`
contain no `:` (wildcard is tested before parameter-free), `/:a/*` contains one (wildcard before standard) -/
def modelInsertBranches : List String :=
  (if kindOf ['/'] = "rootleaf" then ["root"] else []) ++
  (if kindOf [] = "rootleaf" then ["empty"] else []) ++
  (if kindOf ['/', '*'] = "wildcard" ∧ kindOf ['/', 'x', '/', '*'] = "wildcard" ∧ kindOf ['/', ':', 'a', '/', '*'] = "wildcard" then ["wildcard"] else []) ++
  (if kindOf ['/', 'x'] = "static" then ["static"] else []) ++
  (if kindOf ['/', ':', 'a'] = "standard" ∧ kindOf ['/', 'x', '/', ':', 'a'] = "standard" then ["standard"] else [])

theorem insert_branch_order : insertBranches = modelInsertBranches := by decide +kernel

theorem insert_segment_arms : insertSegArms = ["param", "static"] := rfl

/-- `paramNames` is assigned exactly in the cases in which the model's leaf carries names -/
def modelLeafWrites : List String :=
  [['/'], [], ['/', 'x', '/', '*'], ['/', 'x'], ['/', ':', 'a']].map fun p =>
    if paramNamesOf p = [] then "constraints,handlers,path" else "constraints,handlers,paramNames,path"

theorem insert_leaf_writes : insertLeafWrites = modelLeafWrites := rfl

/-! ### `Router.Mount` / `mountRoute`: the prefix loses ONE trailing slash, gets a leading one when it is empty
or has none; the sub-router's route `/` is the prefix itself, any other route the prefix followed by its path -/

/-- the statements as they stand in the source, and the model's `mountPath` on the inputs that tell the variants
apart (`TrimRight` instead of `TrimSuffix`: `/m//`; no leading-slash rule: `m`, ``; no `/` rule: the last two) -/
theorem mount_glue :
    mountPrefixNorm = ["TrimSuffix(\"/\")", "if $p == \"\" || $p[0] != '/' { $p = \"/\" + $p }"] ∧
    mountJoin = ["Path()==\"/\":$p", "else:$p + Path()"] ∧
    mountPath ['/', 'm', '/'] ['/', 'x'] = ['/', 'm', '/', 'x'] ∧
    mountPath ['m'] ['/', 'x'] = ['/', 'm', '/', 'x'] ∧
    mountPath ['/', 'm', '/', '/'] ['/', 'x'] = ['/', 'm', '/', '/', 'x'] ∧
    mountPath [] ['/', 'x'] = ['/', '/', 'x'] ∧
    mountPath ['/', 'm'] ['/'] = ['/', 'm'] ∧
    mountPath ['/'] ['/'] = ['/'] := ⟨rfl, rfl, by decide +kernel⟩

end Rivaas.Tie.C01Routing
