/-
C13, translator tie (B): `Gen/Version.lean` holds, regenerated from the current source, the decision trees of the
functions the C13 model mirrors (option constructors, `NewConfig`, `Config.validate`, `Engine.DetectVersion`,
`validateVersion`, `ShouldApplyVersioning`, `ExtractPathSegment`, `StripPathVersion`, `SetLifecycleHeaders`,
`Router.processVersioning`, `selectRoutingTree`) with their atom / result / effect tables.

Two kinds of obligations per function:
* `…_tables`: the tables are the expected texts (this fixes what every atom, result and effect number means);
* `…_meaning`: for every input of a finite family that realises every combination of the atoms, running the
  regenerated tree under the valuation the input induces gives what the model function computes on that input
  (which return, which effects, in which loop iteration). The tree itself is compared by meaning, not by shape: an
  early return turned into if/else, or a reordering of independent tests, keeps the obligation true; a changed order of
  decisions (the sunset test behind the `!Deprecated` return, a detector appended instead of inserted at the front,
  stripping made dependent on the detected version, …) breaks it.
-/
import Rivaas.Gen.Version
import Rivaas.Model.VersionCfg

namespace Rivaas.Tie.C13Version
open Rivaas Rivaas.Version Rivaas.Tie.Dec

/-! ### option constructors -/

theorem extraction_lists_all_options :
    Gen.Version.optionNames = ["WithAcceptDetection", "WithClock", "WithCustomDetection", "WithDefault", "WithHeaderDetection",
      "WithObserver", "WithPathDetection", "WithQueryDetection", "WithResponseHeaders", "WithSunsetEnforcement",
      "WithValidVersions", "WithWarning299"] := rfl

theorem option_tables :
    Gen.Version.opt_WithPathDetection_atoms = ["p0 == \"\"", "!strings.Contains(p0, \"{version}\")"] ∧
    Gen.Version.opt_WithPathDetection_results =
      ["ErrEmptyPathPattern", "fmt.Errorf(\"%w: path pattern %q\", ErrMissingVersionPlaceholder, p0)", "nil"] ∧
    Gen.Version.opt_WithPathDetection_effects = ["cfg.detectors = append(cfg.detectors, newPathDetector(p0))"] ∧
    Gen.Version.opt_WithAcceptDetection_atoms = ["p0 == \"\"", "!strings.Contains(p0, \"{version}\")"] ∧
    Gen.Version.opt_WithAcceptDetection_results =
      ["ErrEmptyAcceptPattern", "fmt.Errorf(\"%w: accept pattern %q\", ErrMissingVersionPlaceholder, p0)", "nil"] ∧
    Gen.Version.opt_WithAcceptDetection_effects = ["cfg.detectors = append(cfg.detectors, newAcceptDetector(p0))"] ∧
    Gen.Version.opt_WithHeaderDetection_atoms = ["p0 == \"\""] ∧
    Gen.Version.opt_WithHeaderDetection_results = ["ErrEmptyHeaderName", "nil"] ∧
    Gen.Version.opt_WithHeaderDetection_effects = ["cfg.detectors = append(cfg.detectors, &headerDetector{header: p0})"] ∧
    Gen.Version.opt_WithQueryDetection_atoms = ["p0 == \"\""] ∧
    Gen.Version.opt_WithQueryDetection_results = ["ErrEmptyQueryParam", "nil"] ∧
    Gen.Version.opt_WithQueryDetection_effects = ["cfg.detectors = append(cfg.detectors, &queryDetector{param: p0})"] ∧
    Gen.Version.opt_WithCustomDetection_atoms = ["p0 == nil"] ∧
    Gen.Version.opt_WithCustomDetection_results = ["ErrNilCustomDetector", "nil"] ∧
    Gen.Version.opt_WithCustomDetection_effects =
      ["cfg.detectors = append([]Detector{&customDetector{fn: p0}}, cfg.detectors...)"] ∧
    Gen.Version.opt_WithDefault_atoms = ["p0 == \"\""] ∧
    Gen.Version.opt_WithDefault_results = ["ErrEmptyDefaultVersion", "nil"] ∧
    Gen.Version.opt_WithDefault_effects = ["cfg.defaultVersion = p0"] ∧
    Gen.Version.opt_WithValidVersions_atoms = ["len(p0) == 0", "elem(p0) == \"\""] ∧
    Gen.Version.opt_WithValidVersions_results =
      ["ErrNoValidVersions", "range p0", "fmt.Errorf(\"%w at index %d\", ErrEmptyVersionEntry, idx(p0))", "nil"] ∧
    Gen.Version.opt_WithValidVersions_effects = ["cfg.validVersions = p0"] ∧
    Gen.Version.opt_WithResponseHeaders_effects = ["cfg.sendVersionHeader = true"] ∧
    Gen.Version.opt_WithWarning299_effects = ["cfg.sendWarning299 = true"] ∧
    Gen.Version.opt_WithSunsetEnforcement_effects = ["cfg.enforceSunset = true"] ∧
    Gen.Version.opt_WithObserver_effects = ["elem(p0)(&Observer{})", "cfg.observer = &Observer{}"] ∧
    Gen.Version.opt_WithClock_effects = ["cfg.now = p0"] := by and_intros <;> rfl

/-- a configuration that already holds one detector (so that "appended" and "inserted at the front" differ) -/
def b0 : Built := { Built.init with dets := [.header vb!"X-Seen"] }

/-- one option constructor against the model: its tree, the arguments it is tried on, and how its atoms, result
    numbers and single effect are read (from the tables above); `optOK` compares the run with `applyOption` -/
structure OptTie where
  tree : D
  /-- the option of the model for an argument -/
  opt : Bytes → Opt
  args : List Bytes
  /-- the atoms, valued on an argument -/
  sem : Bytes → Nat → Bool
  /-- result number → the sentinel error it stands for (`none` = `nil`) -/
  err : Nat → Option CfgErr
  /-- the effect (number 0), read from its text -/
  eff : Built → Bytes → Built

def optOK (t : OptTie) : Bool :=
  t.args.all fun a =>
    let r := run noIters t.tree (pure (t.sem a))
    match r.fin, applyOption b0 (t.opt a) with
    | .ret k, .error e => r.acts == [] && t.err k == some e
    | .ret k, .ok b' => r.acts == [0] && t.err k == none && b' == t.eff b0 a
    | _, _ => false

def emptyOr (s : Bytes) : Bytes → Nat → Bool := fun a n => n == 0 && a == s

def patSem : Bytes → Nat → Bool := fun a n =>
  (n == 0 && a == []) || (n == 1 && !containsSub a versionPlaceholder)

def optTies : List OptTie :=
  [ { tree := Gen.Version.opt_WithPathDetection, opt := fun a => .det (.path a), args := [[], vb!"/api/", vb!"/v{version}/"],
      sem := patSem, err := fun k => if k == 0 then some .emptyPathPattern else if k == 1 then some .missingPlaceholder else none,
      eff := fun b a => { b with dets := b.dets ++ [.path (newPathDetector a)] } },
    { tree := Gen.Version.opt_WithAcceptDetection, opt := fun a => .det (.accept a), args := [[], vb!"application/json", vb!"a/{version}+j"],
      sem := patSem, err := fun k => if k == 0 then some .emptyAcceptPattern else if k == 1 then some .missingPlaceholder else none,
      eff := fun b a => { b with dets := b.dets ++ [.accept a] } },
    { tree := Gen.Version.opt_WithHeaderDetection, opt := fun a => .det (.header a), args := [[], vb!"X-V"],
      sem := emptyOr [], err := fun k => if k == 0 then some .emptyHeaderName else none,
      eff := fun b a => { b with dets := b.dets ++ [.header a] } },
    { tree := Gen.Version.opt_WithQueryDetection, opt := fun a => .det (.query a), args := [[], vb!"v"],
      sem := emptyOr [], err := fun k => if k == 0 then some .emptyQueryParam else none,
      eff := fun b a => { b with dets := b.dets ++ [.query a] } },
    -- the argument stands for the function: `[]` = nil
    { tree := Gen.Version.opt_WithCustomDetection, opt := fun a => if a == [] then .customNil else .det (.custom 7), args := [[], vb!"f"],
      sem := emptyOr [], err := fun k => if k == 0 then some .nilCustom else none,
      eff := fun b _ => { b with dets := .custom 7 :: b.dets } },
    { tree := Gen.Version.opt_WithDefault, opt := .dflt, args := [[], vb!"v2"],
      sem := emptyOr [], err := fun k => if k == 0 then some .emptyDefault else none,
      eff := fun b a => { b with dflt := a } },
    { tree := Gen.Version.opt_WithResponseHeaders, opt := fun _ => .responseHeaders, args := [[]], sem := fun _ _ => false,
      err := fun _ => none, eff := fun b _ => { b with sendVersionHeader := true } },
    { tree := Gen.Version.opt_WithWarning299, opt := fun _ => .warning299, args := [[]], sem := fun _ _ => false,
      err := fun _ => none, eff := fun b _ => { b with sendWarning299 := true } },
    { tree := Gen.Version.opt_WithSunsetEnforcement, opt := fun _ => .sunsetEnforcement, args := [[]], sem := fun _ _ => false,
      err := fun _ => none, eff := fun b _ => { b with enforceSunset := true } },
    { tree := Gen.Version.opt_WithClock, opt := fun _ => .clock, args := [[]], sem := fun _ _ => false,
      err := fun _ => none, eff := fun b _ => { b with hasClock := true } } ]

/-- every option constructor does what the model's `applyOption` does: the same guard order, the same sentinel
    error, and on success the single effect the model performs — a detector appended for path / header / query /
    Accept, inserted at the front for a custom detector -/
theorem options_meaning : optTies.all optOK = true := by decide +kernel

/-- `WithValidVersions`: an empty list, then the first empty entry (by position), else the list is stored -/
theorem valid_versions_meaning :
    ([[], [vb!"a"], [vb!"a", []], [[], vb!"a"], [vb!"a", vb!"b", []], [vb!"a", [], []]] : List (List Bytes)).all (fun vs =>
      let r := run (fun _ => vs.map fun v => pure fun n => n == 1 && v == []) Gen.Version.opt_WithValidVersions
        (pure fun n => n == 0 && vs.length == 0)
      match applyOption b0 (.valid vs) with
      | .error .noValidVersions => r.fin == .ret 0 && r.acts == []
      | .error (.emptyVersionEntry i) => r.fin == .ret 2 && r.iter == some i && r.acts == []
      | .ok b' => r.fin == .ret 3 && r.acts == [0] && b' == { b0 with valid := vs }
      | _ => false) = true := by decide +kernel

/-! ### `NewConfig`, `Config.validate` -/

theorem newConfig_tables :
    Gen.Version.newConfig_atoms =
      ["elem(p0)(&Config{defaultVersion: \"v1\", versionLifecycles: make(map[string]*LifecycleConfig)}) != nil",
       "&Config{defaultVersion: \"v1\", versionLifecycles: make(map[string]*LifecycleConfig)}.validate() != nil"] ∧
    Gen.Version.newConfig_results.length = 4 ∧ Gen.Version.newConfig_effects = [] := by and_intros <;> rfl

/-- option lists of flags: `true` = an option that fails -/
def flagLists : List (List Bool) :=
  [[], [false], [true], [false, false], [false, true], [true, false], [true, true], [false, false, true], [false, true, false]]

/-- `NewConfig` starts from default version `v1`, applies the options left to right, stops at the first error (in
    the iteration of the failing option), validates, and returns the configuration -/
theorem newConfig_meaning :
    flagLists.all (fun fl =>
      let opts : List Opt := fl.map fun bad => if bad then .customNil else .responseHeaders
      let r := run (fun _ => fl.map fun bad => pure fun n => n == 0 && bad) Gen.Version.newConfig (pure fun _ => false)
      match newConfig opts with
      | .error _ => r.fin == .ret 1 && r.iter == some (fl.takeWhile (· == false)).length
      | .ok b => r.fin == .ret 3 && b.dflt == vb!"v1") = true := by decide +kernel

theorem validate_tables :
    Gen.Version.validate_atoms = ["recv.defaultVersion == \"\"", "elem(recv.detectors).(*pathDetector)#1",
      "!strings.Contains(elem(recv.detectors).(*pathDetector)#0.pattern, \"{version}\")"] ∧
    Gen.Version.validate_results = ["fmt.Errorf(\"%w: use version.WithDefault(\\\"v1\\\")\", ErrDefaultRequired)",
      "range recv.detectors",
      "fmt.Errorf(\"%w: path pattern %q\", ErrMissingVersionPlaceholder, elem(recv.detectors).(*pathDetector)#0.pattern)", "nil"] ∧
    Gen.Version.validate_effects = [] := by and_intros <;> rfl

def someDets : List Det := [.header vb!"h", .path (newPathDetector vb!"/v{version}"), .path { pattern := vb!"/api/", pfx := [] }]

def detLists : List (List Det) :=
  [[]] ++ someDets.map (fun d => [d]) ++ someDets.flatMap fun d => someDets.map fun e => [d, e]

theorem validate_meaning :
    ([[], vb!"v1"] : List Bytes).all (fun dflt => detLists.all fun dets =>
      let r := run (fun _ => dets.map fun d => pure fun n => (n == 1 && d.isPath) || (n == 2 && d.lacksPlaceholder))
        Gen.Version.validate (pure fun n => n == 0 && dflt == [])
      match validate { Built.init with dflt := dflt, dets := dets } with
      | .error .defaultRequired => r.fin == .ret 0
      | .error .missingPlaceholder => r.fin == .ret 2
      | .ok _ => r.fin == .ret 3
      | _ => false) = true := by decide +kernel

/-! ### `Engine.DetectVersion`, `validateVersion` -/

theorem validateVersion_tables :
    Gen.Version.validateVersion_atoms =
      ["p0 == \"\"", "len(recv.config.validVersions) == 0", "slices.Contains(recv.config.validVersions, p0)"] ∧
    Gen.Version.validateVersion_results = ["\"\"", "p0"] ∧
    Gen.Version.validateVersion_effects = ["recv.notifyInvalid(p0)"] := by and_intros <;> rfl

/-- the chain `"" → invalid; no list → valid; in the list → valid; else OnInvalid + invalid` -/
theorem validateVersion_meaning :
    ([[], vb!"a", vb!"b"] : List Bytes).all (fun v => ([[], [vb!"a"]] : List (List Bytes)).all fun valid =>
      let r := run noIters Gen.Version.validateVersion
        (pure fun n => (n == 0 && v == []) || (n == 1 && valid.length == 0) || (n == 2 && valid.contains v))
      (match validateVersion valid v with
       | some w => r.fin == .ret 1 && w == v
       | none => r.fin == .ret 0) &&
      r.acts.map (fun _ => ObsEv.invalid v) == validateEv valid v) = true := by decide +kernel

theorem detectVersion_tables :
    Gen.Version.detectVersion_atoms = ["recv == nil || recv.config == nil", "p0 == nil",
      "elem(recv.config.detectors).Detect(p0)#1",
      "recv.validateVersion(elem(recv.config.detectors).Detect(p0)#0) != \"\""] ∧
    Gen.Version.detectVersion_results = ["\"v1\"", "recv.config.defaultVersion", "range recv.config.detectors",
      "recv.validateVersion(elem(recv.config.detectors).Detect(p0)#0)"] ∧
    Gen.Version.detectVersion_effects =
      ["recv.notifyDetected(recv.validateVersion(elem(recv.config.detectors).Detect(p0)#0), elem(recv.config.detectors).Method())",
       "recv.notifyMissing()"] := by and_intros <;> rfl

/-- what one detector says: nothing, a version the valid list rejects, a version it accepts -/
inductive Cand | nothing | bad | good
  deriving DecidableEq, Repr

def Cand.lib : Cand → LibVal
  | .nothing => .custom [] | .bad => .custom vb!"v9" | .good => .custom vb!"v2"

def cands : List Cand := [.nothing, .bad, .good]

def candLists : List (List Cand) :=
  [[]] ++ cands.map (fun c => [c]) ++ (cands.flatMap fun c => cands.map fun d => [c, d]) ++
  (cands.flatMap fun c => cands.flatMap fun d => cands.map fun e => [c, d, e])

/-- the detectors are consulted front to back and the first one whose version the valid list accepts decides; else
    the default — with `OnDetected` at that point and `OnMissing` only at the end. Every list of up to three
    detectors over {nothing, rejected, accepted}: the tree returns in the iteration of the first accepted candidate with
    the validated value, exactly when the model's `detectLoop` returns it. -/
theorem detectVersion_meaning :
    candLists.all (fun cs =>
      let dets : List (Det × LibVal) := cs.map fun c => (Det.custom 0, c.lib)
      let r := run (fun _ => cs.map fun c => pure fun n => (n == 2 && c != .nothing) || (n == 3 && c == .good))
        Gen.Version.detectVersion (pure fun _ => false)
      let m := detectLoop [vb!"v2"] vb!"dflt" [] [] dets
      let firstGood := (cs.takeWhile (· != .good)).length
      (if cs.contains .good then r.fin == .ret 3 && r.iter == some firstGood && m == vb!"v2" && r.acts == [0]
       else r.fin == .ret 1 && r.iter == none && m == vb!"dflt" && r.acts == [1]) &&
      -- the callbacks of the loop itself (OnInvalid is `validateVersion`'s)
      r.acts.map (fun k => if k == 0 then ObsEv.detected vb!"v2" vb!"custom" else ObsEv.missing) ==
        (detectLoopEv [vb!"v2"] [] [] dets).filter (fun e => match e with | .invalid _ => false | _ => true)) = true := by
  decide +kernel

/-! ### path helpers of the engine -/

theorem path_helper_tables :
    Gen.Version.extractPathSegment_atoms = ["recv == nil || recv.config == nil", "elem(recv.config.detectors).(*pathDetector)#1",
      "elem(recv.config.detectors).(*pathDetector)#0.ExtractSegment(p0)#1"] ∧
    Gen.Version.extractPathSegment_results = ["\"\", false", "range recv.config.detectors",
      "elem(recv.config.detectors).(*pathDetector)#0.ExtractSegment(p0)#0, true"] ∧
    Gen.Version.stripPathVersion_atoms = ["recv == nil || recv.config == nil", "elem(recv.config.detectors).(*pathDetector)#1",
      "elem(recv.config.detectors).(*pathDetector)#0.StripVersion(p0, p1) != p0"] ∧
    Gen.Version.stripPathVersion_results = ["p0", "range recv.config.detectors",
      "elem(recv.config.detectors).(*pathDetector)#0.StripVersion(p0, p1)"] ∧
    Gen.Version.shouldApplyVersioning_atoms = ["recv == nil || recv.config == nil", "elem(recv.config.detectors).(*pathDetector)#1",
      "!m0", "elem(recv.config.detectors).(*pathDetector)#0.extractFromPath(p0)#1"] ∧
    Gen.Version.shouldApplyVersioning_results = ["false", "range recv.config.detectors", "true", "recv.config.defaultVersion != \"\""] ∧
    Gen.Version.shouldApplyVersioning_effects = ["m0 := false", "m0 = true"] := by and_intros <;> rfl

/-- detectors for the request path `/v1/x`: not a path detector, a path pattern that does not match, two that do
    (with different prefixes, so that their strip results differ) -/
def pathDets : List Det :=
  [.header vb!"h", .path (newPathDetector vb!"/api/v{version}"), .path (newPathDetector vb!"/v{version}"),
   .path (newPathDetector vb!"/{version}")]

def pathDetLists : List (List Det) :=
  [[]] ++ pathDets.map (fun d => [d]) ++ (pathDets.flatMap fun c => pathDets.map fun d => [c, d]) ++
  (pathDets.flatMap fun c => pathDets.flatMap fun d => pathDets.map fun e => [c, d, e])

def thePath : Bytes := vb!"/v1/x"

def segOf : Det → Option Bytes
  | .path pd => pd.extractSegment thePath
  | _ => none

def stripsOf : Det → Bool
  | .path pd => pd.stripVersion thePath != thePath
  | _ => false

/-- `ExtractPathSegment` / `StripPathVersion`: the first path detector (configuration order) that finds a segment /
    changes the path decides; `ShouldApplyVersioning`: no path detector → yes; some path detector matches → yes;
    otherwise "a default exists" -/
theorem path_helpers_meaning :
    pathDetLists.all (fun ds =>
      let r1 := run (fun _ => ds.map fun d => pure fun n => (n == 1 && d.isPath) || (n == 2 && (segOf d).isSome))
        Gen.Version.extractPathSegment (pure fun _ => false)
      let r2 := run (fun _ => ds.map fun d => pure fun n => (n == 1 && d.isPath) || (n == 2 && stripsOf d))
        Gen.Version.stripPathVersion (pure fun _ => false)
      (match extractPathSegment thePath ds with
       | some s => r1.fin == .ret 2 && (match r1.iter with | some i => (ds[i]?.bind segOf) == some s && (ds.take i).all (fun d => (segOf d).isNone) | none => false)
       | none => r1.fin == .ret 0) &&
      (if stripPathVersion thePath ds != thePath then
         r2.fin == .ret 2 && (match r2.iter with
           | some i => (ds.take i).all (fun d => !stripsOf d) &&
                       (match ds[i]? with | some (.path pd) => pd.stripVersion thePath == stripPathVersion thePath ds | _ => false)
           | none => false)
       else r2.fin == .ret 0) &&
      ([[], vb!"v1"] : List Bytes).all fun dflt =>
        let r3 := run (fun _ => ds.map fun d => fun _ n =>
            (n == 1 && d.isPath) || (n == 3 && (match d with | .path pd => (pd.extractFromPath thePath).isSome | _ => false)))
          Gen.Version.shouldApplyVersioning (fun acts n => n == 2 && !acts.contains 1)
        let cfg : Cfg := { opts := [], dflt := dflt, valid := [], sendVersionHeader := false, sendWarning299 := false,
                           enforceSunset := false, now := 0, lifecycles := [] }
        (match r3.fin with
         | .ret 2 => shouldApplyVersioning cfg ds thePath == true
         | .ret 3 => shouldApplyVersioning cfg ds thePath == (dflt != [])
         | _ => false)) = true := by decide +kernel

/-! ### `Engine.SetLifecycleHeaders` -/

theorem setLifecycleHeaders_tables :
    Gen.Version.setLifecycleHeaders_atoms =
      ["recv == nil || recv.config == nil || p0 == nil",
       "recv.config.sendVersionHeader && p1 != \"\"",
       "recv.config.GetLifecycle(p1) == nil",
       "recv.config.enforceSunset && !recv.config.GetLifecycle(p1).SunsetDate.IsZero() && recv.config.Now().After(recv.config.GetLifecycle(p1).SunsetDate)",
       "recv.config.GetLifecycle(p1).MigrationURL != \"\"",
       "!recv.config.GetLifecycle(p1).Deprecated",
       "!recv.config.GetLifecycle(p1).SunsetDate.IsZero()",
       "recv.config.sendWarning299",
       "recv.config.observer != nil && recv.config.observer.OnDeprecatedUse != nil"] ∧
    Gen.Version.setLifecycleHeaders_results = ["false", "true"] ∧
    Gen.Version.setLifecycleHeaders_effects =
      ["p0.Header().Set(\"X-API-Version\", p1)",
       "p0.Header().Set(\"Sunset\", recv.config.GetLifecycle(p1).SunsetDate.UTC().Format(http.TimeFormat))",
       "p0.Header().Set(\"Link\", fmt.Sprintf(\"<%s>; rel=\\\"sunset\\\"\", recv.config.GetLifecycle(p1).MigrationURL))",
       "p0.Header().Set(\"Deprecation\", \"true\")",
       "m0 := []string{fmt.Sprintf(\"<%s>; rel=\\\"deprecation\\\"\", recv.config.GetLifecycle(p1).MigrationURL)}",
       "m0 = append(m0, fmt.Sprintf(\"<%s>; rel=\\\"sunset\\\"\", recv.config.GetLifecycle(p1).MigrationURL))",
       "p0.Header().Set(\"Link\", strings.Join(m0, \", \"))",
       "m1 := fmt.Sprintf(\"299 - \\\"API %s is deprecated\", p1)",
       "m1 += \" and will be removed on \" + recv.config.GetLifecycle(p1).SunsetDate.Format(time.RFC3339)",
       "m1 += \". Please upgrade to a supported version.\\\"\"",
       "p0.Header().Set(\"Warning\", m1)",
       "recv.config.observer.OnDeprecatedUse(p1, p2)"] := by and_intros <;> rfl

def bools : List Bool := [false, true]

/-- lifecycles of version `v2`: none; and every combination of deprecated × sunset date (none / past / future at
    now = 100) × migration URL -/
def lcChoices : List (Option LC) :=
  none :: (bools.flatMap fun dep => ([none, some (50, vb!"H50", vb!"R50"), some (150, vb!"H150", vb!"R150")] : List (Option (Nat × Bytes × Bytes))).flatMap
    fun sun => ([[], vb!"https://m"] : List Bytes).map fun mig => some { deprecated := dep, sunset := sun, migration := mig })

/-- the decision order of `SetLifecycleHeaders`: X-API-Version first; no lifecycle → nothing; the sunset test (under
    enforcement) before the `!Deprecated` return (K13c), setting Sunset and the sunset Link; then Deprecation, Sunset,
    Link (deprecation, + sunset), Warning 299 (+ date), `OnDeprecatedUse` — compared with the model on every
    combination of the three switches × empty/non-empty version × lifecycle -/
theorem setLifecycleHeaders_meaning :
    bools.all (fun svh => bools.all fun sw => bools.all fun enf => ([[], vb!"v2"] : List Bytes).all fun ver =>
      lcChoices.all fun lc =>
        let cfg : Cfg := { opts := [], dflt := vb!"v1", valid := [], sendVersionHeader := svh, sendWarning299 := sw,
                           enforceSunset := enf, now := 100,
                           lifecycles := match lc with | some l => [(ver, l)] | none => [] }
        let past := match lc with
          | some { sunset := some (d, _, _), .. } => enf && decide (100 > d)
          | _ => false
        let r := run noIters Gen.Version.setLifecycleHeaders (pure fun n =>
          (n == 1 && svh && ver != []) || (n == 2 && lc.isNone) || (n == 3 && past) ||
          (n == 4 && (match lc with | some l => l.migration != [] | none => false)) ||
          (n == 5 && (match lc with | some l => !l.deprecated | none => false)) ||
          (n == 6 && (match lc with | some l => l.sunset.isSome | none => false)) ||
          (n == 7 && sw) || n == 8)
        let (h, gone) := setLifecycleHeaders cfg ver
        r.fin == .ret (if gone then 1 else 0) &&
        h.xapi.isSome == r.acts.contains 0 && h.sunset.isSome == r.acts.contains 1 &&
        h.deprecation.isSome == r.acts.contains 3 &&
        h.link.isSome == (r.acts.contains 2 || r.acts.contains 6) &&
        h.warning.isSome == r.acts.contains 10 &&
        -- the sunset relation / the removal date are added exactly when there is a sunset date
        (r.acts.contains 5 == (r.acts.contains 6 && (match lc with | some l => l.sunset.isSome | none => false))) &&
        (r.acts.contains 8 == (r.acts.contains 10 && (match lc with | some l => l.sunset.isSome | none => false))) &&
        -- OnDeprecatedUse exactly with the Deprecation header
        r.acts.contains 11 == h.deprecation.isSome) = true := by decide +kernel

/-! ### `Router.processVersioning`, `selectRoutingTree` -/

theorem processVersioning_tables :
    Gen.Version.processVersioning_atoms = ["recv.versionEngine == nil", "!recv.versionEngine.ShouldApplyVersioning(p1)",
      "recv.versionEngine.ExtractPathSegment(p1)#1"] ∧
    Gen.Version.processVersioning_results = ["versionContext{version: \"\", routingPath: p1, tree: nil}",
      "versionContext{version: recv.versionEngine.DetectVersion(p0), routingPath: m0, tree: recv.selectRoutingTree(p0.Method, recv.versionEngine.DetectVersion(p0))}"] ∧
    Gen.Version.processVersioning_effects =
      ["m0 := p1", "m0 = recv.versionEngine.StripPathVersion(p1, recv.versionEngine.ExtractPathSegment(p1)#0)"] := by and_intros <;> rfl

/-- configurations × paths realising: versioning not applied / applied without a version segment / with one (valid,
    unknown to the valid list, and with a header detector winning over the path) -/
def pvCases : List (Cfg × Req) :=
  let mk (opts : List DetOpt) (dflt : Bytes) (valid : List Bytes) (path : Bytes) (lib : List LibVal) : Cfg × Req :=
    ({ opts := opts, dflt := dflt, valid := valid, sendVersionHeader := false, sendWarning299 := false,
       enforceSunset := false, now := 0, lifecycles := [] },
     { method := vb!"GET", path := path, rawQuery := [], lib := lib })
  [ mk [.path vb!"/v{version}"] [] [] vb!"/x" [.none],
    mk [.header vb!"h"] vb!"v1" [] vb!"/x" [.header vb!"v2"],
    mk [.path vb!"/v{version}"] vb!"v1" [] vb!"/x" [.none],
    mk [.path vb!"/v{version}"] vb!"v1" [] vb!"/v2/x" [.none],
    mk [.path vb!"/v{version}"] vb!"v1" [vb!"v1"] vb!"/v9/x" [.none],
    mk [.header vb!"h", .path vb!"/v{version}"] vb!"v1" [] vb!"/v2/x" [.header vb!"v3", .none] ]

/-- the strip decision: the version segment is stripped whenever a configured path pattern finds one in the path —
    whatever version was detected (invalid segment, another detector winning) —, and the version handed on is the
    detected one -/
theorem processVersioning_meaning :
    pvCases.all (fun (cfg, req) =>
      let dets := (detectors cfg req).map (·.1)
      let seg := extractPathSegment req.path dets
      let r := run noIters Gen.Version.processVersioning
        (pure fun n => (n == 1 && !shouldApplyVersioning cfg dets req.path) || (n == 2 && seg.isSome))
      let vc := processVersioning cfg [] req
      match r.fin with
      | .ret 0 => vc.version == [] && vc.routingPath == req.path && r.acts == []
      | .ret 1 =>
        vc.version == detectVersion cfg req &&
        (if r.acts == [0, 1] then seg.isSome && vc.routingPath == stripPathVersion req.path dets
         else r.acts == [0] && vc.routingPath == req.path)
      | _ => false) = true := by decide +kernel

/-- every branch of the tree is exercised by `pvCases` -/
theorem processVersioning_cases_cover :
    (pvCases.map fun (cfg, req) =>
      let dets := (detectors cfg req).map (·.1)
      (shouldApplyVersioning cfg dets req.path, (extractPathSegment req.path dets).isSome)) =
    [(false, false), (true, false), (true, false), (true, true), (true, true), (true, true)] := by decide +kernel

theorem selectRoutingTree_tables :
    Gen.Version.selectRoutingTree_atoms = ["recv.versionEngine == nil || p1 == \"\"", "m0 != nil",
      "recv.versionEngine.Config().DefaultVersion() != \"\" && p1 != recv.versionEngine.Config().DefaultVersion()"] ∧
    Gen.Version.selectRoutingTree_results = ["nil", "m0"] ∧
    Gen.Version.selectRoutingTree_effects = ["m0 := recv.getVersionTree(p1, p0)",
      "m0 = recv.getVersionTree(recv.versionEngine.Config().DefaultVersion(), p0)"] := by and_intros <;> rfl

/-- the default-tree fallback: the detected version's own tree if it has one for the method, else the default
    version's, else none — on every combination of {no version, v1 (the default), v2} × which of the two trees exist -/
theorem selectRoutingTree_meaning :
    ([[], vb!"v1", vb!"v2"] : List Bytes).all (fun ver => bools.all fun has1 => bools.all fun has2 =>
      let routes : List Route :=
        (if has1 then [{ ver := some vb!"v1", method := vb!"GET", path := vb!"/x" }] else []) ++
        (if has2 then [{ ver := some vb!"v2", method := vb!"GET", path := vb!"/x" }] else [])
      let cfg : Cfg := { opts := [], dflt := vb!"v1", valid := [], sendVersionHeader := false, sendWarning299 := false,
                         enforceSunset := false, now := 0, lifecycles := [] }
      let has (v : Bytes) : Bool := treeExists routes (some v) vb!"GET"
      -- `m0` is the tree fetched last: for the version (effect 0) or for the default (effect 1)
      let r := run noIters Gen.Version.selectRoutingTree (fun acts n =>
        (n == 0 && ver == []) || (n == 1 && (if acts.getLast? == some 1 then has vb!"v1" else has ver)) ||
        (n == 2 && ver != vb!"v1"))
      match selectRoutingTree cfg routes vb!"GET" ver with
      | none => r.fin == .ret 0
      | some t => r.fin == .ret 1 && t == (if r.acts.getLast? == some 1 then vb!"v1" else ver)) = true := by decide +kernel

end Rivaas.Tie.C13Version
