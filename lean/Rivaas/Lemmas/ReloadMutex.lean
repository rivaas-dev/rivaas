import Rivaas.Model.ReloadMutex
import Rivaas.Lemmas.LifecycleOrder
import Rivaas.Lemmas.ListCore
/-
C09 — helper lemmas: the two invariants of the interleaving semantics of `Reload` under `reloadMu`: the rounds are
serialised (`Inv`), and every thread emits its program in order (`Prog`).
-/
namespace Rivaas.ReloadMutex
open Rivaas.Lifecycle.Spec

/-- a round that has been left is not entered again by appending events of other rounds -/
theorem dropWhile_append_all (c : Nat) (l m : List Nat) (hm : m.all (· != c) = true)
    (hl : (l.dropWhile (· == c)).all (· != c) = true) : ((l ++ m).dropWhile (· == c)).all (· != c) = true := by
  rw [List.dropWhile_append]
  split
  · exact List.all_eq_true.mpr fun x hx => List.all_eq_true.mp hm x ((List.dropWhile_sublist _).subset hx)
  · rw [List.all_append, hl, hm]; rfl

theorem noInterleave_append_replicate (C : List Nat) (k h : Nat) (hC : noInterleave C = true) (hh : h ∉ C) :
    noInterleave (C ++ List.replicate k h) = true := by
  induction C with
  | nil => exact Lifecycle.noInterleave_of_sorted _ (List.pairwise_replicate.mpr (.inr (Nat.le_refl h)))
  | cons c rest ih =>
    simp only [noInterleave, Bool.and_eq_true] at hC
    simp only [List.mem_cons, not_or] at hh
    simp only [List.cons_append, noInterleave, Bool.and_eq_true]
    refine ⟨dropWhile_append_all c rest _ (List.all_eq_true.mpr fun x hx => ?_) hC.1, ih hC.2 hh.2⟩
    rw [List.eq_of_mem_replicate hx]; simpa using hh.1

def tids {α} (s : State α) : List Nat := s.log.map (·.1)

/-- the invariant: the log consists of the complete blocks of the threads that are through (`C`) followed
    by the block of the holder so far; idle threads have emitted nothing; only the holder runs -/
def Inv {α} (s : State α) : Prop :=
  ∃ C k, noInterleave C = true ∧
    (∀ t prog, s.threads[t]? = some (.idle prog) → t ∉ tids s) ∧
    (∀ t rest, s.threads[t]? = some (.running rest) → s.holder = some t) ∧
    match s.holder with
    | none => tids s = C
    | some h => tids s = C ++ List.replicate k h ∧ h ∉ C

theorem Inv.init {α} (progs : List (List α)) : Inv (init progs) := by
  refine ⟨[], 0, rfl, ?_, ?_, ?_⟩
  · intro t prog _; simp [tids, ReloadMutex.init]
  · intro t rest h
    simp only [ReloadMutex.init, List.getElem?_map] at h
    cases hp : progs[t]? <;> simp [hp] at h
  · simp [tids, ReloadMutex.init]

theorem Inv.step {α} (s : State α) (t : Nat) (h : Inv s) : Inv (step s t) := by
  obtain ⟨C, k, hC, hidle, hrun, hlog⟩ := h
  unfold ReloadMutex.step
  cases ht : s.threads[t]? with
  | none => exact ⟨C, k, hC, hidle, hrun, hlog⟩
  | some th =>
    cases th with
    | done => exact ⟨C, k, hC, hidle, hrun, hlog⟩
    | idle prog =>
      cases hh : s.holder with
      | some h' =>
        simp only []
        refine ⟨C, k, hC, hidle, hrun, ?_⟩
        simpa [hh] using hlog
      | none =>
        simp only []
        rw [hh] at hlog
        simp only at hlog
        refine ⟨C, 0, hC, ?_, ?_, ?_⟩
        · intro u prog' hu
          rcases List.getElem?_set_cases hu with ⟨_, hb⟩ | ⟨_, hb⟩
          · cases hb
          · exact hidle u prog' hb
        · intro u rest hu
          rcases List.getElem?_set_cases hu with ⟨hut, _⟩ | ⟨_, hb⟩
          · simp [hut]
          · have := hrun u rest hb
            rw [hh] at this; cases this
        · simp only [tids] at hlog ⊢
          simp only [List.replicate_zero, List.append_nil]
          refine ⟨hlog, ?_⟩
          rw [← hlog]
          exact hidle t prog ht
    | running rest =>
      have hholder := hrun t rest ht
      rw [hholder] at hlog
      simp only at hlog
      obtain ⟨hts, hnC⟩ := hlog
      cases rest with
      | nil =>
        -- Unlock
        simp only []
        refine ⟨C ++ List.replicate k t, 0, noInterleave_append_replicate C k t hC hnC, ?_, ?_, ?_⟩
        · intro u prog' hu
          rcases List.getElem?_set_cases hu with ⟨_, hb⟩ | ⟨_, hb⟩
          · cases hb
          · exact hidle u prog' hb
        · intro u rest' hu
          rcases List.getElem?_set_cases hu with ⟨_, hb⟩ | ⟨hne, hb⟩
          · cases hb
          · have := hrun u rest' hb
            rw [hholder] at this
            simp only [Option.some.injEq] at this
            exact absurd this.symm hne
        · simpa [tids] using hts
      | cons e rest' =>
        simp only []
        refine ⟨C, k + 1, hC, ?_, ?_, ?_⟩
        · intro u prog' hu
          rcases List.getElem?_set_cases hu with ⟨_, hb⟩ | ⟨hne, hb⟩
          · cases hb
          · have := hidle u prog' hb
            simp only [tids, List.map_append, List.map_cons, List.map_nil, List.mem_append, List.mem_singleton,
              not_or] at this ⊢
            exact ⟨this, hne⟩
        · intro u rest'' hu
          rcases List.getElem?_set_cases hu with ⟨hut, _⟩ | ⟨_, hb⟩
          · simp [hut, hholder]
          · exact hrun u rest'' hb
        · rw [hholder]
          simp only [tids, List.map_append, List.map_cons, List.map_nil] at hts ⊢
          refine ⟨?_, hnC⟩
          rw [hts, List.replicate_succ', List.append_assoc]

theorem exec_induction {α} {P : State α → Prop} (progs : List (List α)) (h0 : P (init progs))
    (hstep : ∀ s t, P s → P (step s t)) (sched : List Nat) : P (exec progs sched) :=
  List.foldlRecOn sched step h0 fun s hs t _ => hstep s t hs

theorem Inv.exec {α} (progs : List (List α)) (sched : List Nat) : Inv (exec progs sched) :=
  exec_induction progs (Inv.init progs) Inv.step sched

theorem Inv.serialised {α} (s : State α) (h : Inv s) : noInterleave (tids s) = true := by
  obtain ⟨C, k, hC, _, _, hlog⟩ := h
  cases hh : s.holder with
  | none => rw [hh] at hlog; simp only at hlog; rw [hlog]; exact hC
  | some h' =>
    rw [hh] at hlog; simp only at hlog
    rw [hlog.1]; exact noInterleave_append_replicate C k h' hC hlog.2

/-! ### program order -/

def remaining {α} : Th α → List α
  | .idle prog => prog
  | .running rest => rest
  | .done => []

def emitted {α} (s : State α) (t : Nat) : List α := (s.log.filter (·.1 == t)).map (·.2)

/-- every thread has emitted a prefix of its program, in order, and still has the rest to go -/
def Prog {α} (progs : List (List α)) (s : State α) : Prop :=
  s.threads.length = progs.length ∧
  ∀ t (th : Th α), s.threads[t]? = some th → ∃ p, progs[t]? = some p ∧ emitted s t ++ remaining th = p

theorem Prog.init {α} (progs : List (List α)) : Prog progs (init progs) := by
  refine ⟨by simp [ReloadMutex.init], ?_⟩
  intro t th h
  simp only [ReloadMutex.init, List.getElem?_map] at h
  cases hp : progs[t]? with
  | none => simp [hp] at h
  | some p =>
    simp only [hp, Option.map_some, Option.some.injEq] at h
    subst h
    exact ⟨p, rfl, by simp [emitted, ReloadMutex.init, remaining]⟩

theorem emitted_snoc_self {α} (s : State α) (t : Nat) (e : α) (thr : List (Th α)) :
    emitted { s with threads := thr, log := s.log ++ [(t, e)] } t = emitted s t ++ [e] := by
  simp [emitted, List.filter_append]

theorem emitted_snoc_other {α} (s : State α) (t u : Nat) (e : α) (thr : List (Th α)) (h : u ≠ t) :
    emitted { s with threads := thr, log := s.log ++ [(t, e)] } u = emitted s u := by
  have : ((t == u) = false) := by simpa using (fun hh : t = u => h hh.symm)
  simp [emitted, List.filter_append, this]

/-- a step that emits nothing and leaves thread `t` with the same events to go -/
theorem Prog.set {α} {progs : List (List α)} {s : State α} (h : Prog progs s) {t : Nat} {th : Th α}
    (ht : s.threads[t]? = some th) (th' : Th α) (hrem : remaining th' = remaining th) (ho : Option Nat) :
    Prog progs { s with holder := ho, threads := s.threads.set t th' } := by
  refine ⟨by simpa using h.1, ?_⟩
  intro u th'' hu
  rcases List.getElem?_set_cases hu with ⟨rfl, rfl⟩ | ⟨_, hb⟩
  · rw [hrem]; exact h.2 u _ ht
  · exact h.2 u _ hb

theorem Prog.step {α} (progs : List (List α)) (s : State α) (t : Nat) (h : Prog progs s) :
    Prog progs (step s t) := by
  unfold ReloadMutex.step
  cases ht : s.threads[t]? with
  | none => exact h
  | some th =>
    cases th with
    | done => exact h
    | idle prog =>
      cases hh : s.holder with
      | some _ => exact h
      | none => exact h.set ht (.running prog) rfl (some t)
    | running rest =>
      cases rest with
      | nil => exact h.set ht .done rfl none
      | cons e rest' =>
        refine ⟨by simpa using h.1, ?_⟩
        intro u th' hu
        rcases List.getElem?_set_cases hu with ⟨rfl, rfl⟩ | ⟨hne, hb⟩
        · obtain ⟨p, h1, h2⟩ := h.2 u _ ht
          refine ⟨p, h1, ?_⟩
          rw [emitted_snoc_self]
          simpa [remaining, List.append_assoc] using h2
        · rw [emitted_snoc_other _ _ _ _ _ hne]
          exact h.2 u _ hb

theorem Prog.exec {α} (progs : List (List α)) (sched : List Nat) : Prog progs (exec progs sched) :=
  exec_induction progs (Prog.init progs) (Prog.step progs) sched

theorem emitted_prefix {α} (progs : List (List α)) (sched : List Nat) (t : Nat) (p : List α)
    (hp : progs[t]? = some p) : emitted (exec progs sched) t <+: p := by
  obtain ⟨hlen, h⟩ := Prog.exec progs sched
  obtain ⟨hlt, _⟩ := List.getElem?_eq_some_iff.mp hp
  obtain ⟨p', h1, h2⟩ := h t _ (List.getElem?_eq_getElem (hlen ▸ hlt))
  exact ⟨_, Option.some.inj (h1.symm.trans hp) ▸ h2⟩

end Rivaas.ReloadMutex
