import Rivaas.Model.BindTypes
/-
C04 helper lemmas: the hand-written equality test on `Val` decides equality (so `==` in the oracle
is `=`), and `DecidableEq Val` for `decide` witnesses; `B_ofList`, by which the evaluated statements of `Props/C04Body` and
`Tie/C04Bind` read their string literals.
-/
namespace Rivaas.Bind

mutual
theorem lemma_beq_iff : ∀ a b : Val, Val.beq a b = true ↔ a = b
  | .int x, b => by cases b <;> simp [Val.beq]
  | .uint x, b => by cases b <;> simp [Val.beq]
  | .flt x, b => by cases b <;> simp [Val.beq]
  | .bool x, b => by cases b <;> simp [Val.beq]
  | .str x, b => by cases b <;> simp [Val.beq]
  | .time x, b => by cases b <;> simp [Val.beq]
  | .nil, b => by cases b <;> simp [Val.beq]
  | .ptr x, b => by
    cases b <;> simp [Val.beq]
    exact lemma_beq_iff x _
  | .list xs, b => by
    cases b <;> simp [Val.beq]
    exact lemma_beqList_iff xs _
  | .map xs, b => by
    cases b <;> simp [Val.beq]
    exact lemma_beqKVs_iff xs _
  | .struct xs, b => by
    cases b <;> simp [Val.beq]
    exact lemma_beqList_iff xs _
theorem lemma_beqList_iff : ∀ a b : List Val, Val.beqList a b = true ↔ a = b
  | [], b => by cases b <;> simp [Val.beqList]
  | x :: xs, b => by
    cases b with
    | nil => simp [Val.beqList]
    | cons y ys =>
      simp only [Val.beqList, Bool.and_eq_true, List.cons.injEq]
      rw [lemma_beq_iff x y, lemma_beqList_iff xs ys]
theorem lemma_beqKVs_iff : ∀ a b : List (Bytes × Val), Val.beqKVs a b = true ↔ a = b
  | [], b => by cases b <;> simp [Val.beqKVs]
  | (k, x) :: xs, b => by
    cases b with
    | nil => simp [Val.beqKVs]
    | cons y ys =>
      obtain ⟨k', y⟩ := y
      simp only [Val.beqKVs, Bool.and_eq_true, List.cons.injEq, Prod.mk.injEq, beq_iff_eq]
      rw [lemma_beq_iff x y, lemma_beqKVs_iff xs ys]
end

instance : DecidableEq Val := fun a b =>
  if h : Val.beq a b = true then isTrue ((lemma_beq_iff a b).1 h)
  else isFalse (fun e => h ((lemma_beq_iff a b).2 e))

instance : LawfulBEq Val where
  eq_of_beq := fun h => (lemma_beq_iff _ _).1 h
  rfl := (lemma_beq_iff _ _).2 rfl

/-- `B` of a string literal without running `String.toList`: the kernel evaluates that function slowly, while a literal
    unfolds to `String.ofList` of its characters at once; `rw [B_ofList]` matches literals -/
theorem B_ofList (l : List Char) : B (String.ofList l) = l := String.toList_ofList

end Rivaas.Bind
