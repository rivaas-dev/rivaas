import Rivaas.Lemmas.BindAllSound
import Rivaas.Lemmas.BindTyped
/-
C04 — `WithAllErrors`: the collecting bind preserves the type of the destination (a field that failed keeps the
well-typed value it had), so its result can be the destination of the next source of a multi-source bind
(`lemma_bindAll_typed`). The plain bind preserves it because the collecting one does: what the plain bind returns, the
collecting bind returns without an error (`lemma_agree_bind`; the step is taken in `C04.bind_preserves_type`).
`lemma_refFld_wt` at the end says the same of one field of the plain structural binder, for every well-typed treatment of
nested structs (through `collectOf`); it stands for itself.
-/
namespace Rivaas.Bind

variable (P : Params) (cfg : Cfg) (tag : Tag)

def NestTypedAll (nestA : NestAll) : Prop :=
  ∀ (nfs : List Fld) (ivs : List Val) (g : Getter) (d : Nat) (v : Val) (es : List Err), wts nfs ivs = true →
    Spec.inGrammarFs nfs = true → nestA nfs (.struct ivs) g d = .done v es → wt (.struct nfs) v = true

def forgetErrs (nestA : NestAll) : Nest := fun a b c d =>
  match nestA a b c d with
  | .done v _ => .ok v
  | .panic => .panic

theorem lemma_storeAll_plain (nestA : NestAll) (g : Getter) (d : Nat) (f : FieldInfo) (cur nv : Val) (es : List Err)
    (h : fieldActionAll P cfg nestA g d f cur = .store nv es) :
    fieldAction P cfg (forgetErrs nestA) g d f cur = .inl nv := by
  by_cases hs : isStructTy f.ty = true
  · rw [fieldActionAll_struct P cfg nestA g d f cur hs] at h
    rw [fieldAction_struct P cfg (forgetErrs nestA) g d f cur hs]
    split at h
    · cases h
    · next hd =>
      rw [if_neg hd]
      unfold forgetErrs
      cases hn : nestA (structTyOf f.ty) (innerOf (structTyOf f.ty) cur) (g.push f.tagName) (d + 1) with
      | panic => rw [hn] at h; cases h
      | done v' es' => rw [hn] at h; cases h; rfl
  · have hs' : isStructTy f.ty = false := by simpa using hs
    rcases lemma_leaf_step P cfg (forgetErrs nestA) nestA g d f cur hs' with ⟨nv', hp, ha⟩ | ⟨c, _, _, ha⟩
    · rw [ha] at h
      simp only [StepAll.store.injEq] at h
      rw [hp, h.1]
    · rw [ha] at h; cases h

theorem lemma_actionAll_wt (nestA : NestAll) (hn : NestTypedAll nestA) (g : Getter) (d : Nat) (f : FieldInfo)
    (hf : InfoTyped f) (hgr : isMapTy f.ty = true → Spec.leafTy f.ty = true)
    (hgs : isStructTy f.ty = true → Spec.inGrammarFs (structTyOf f.ty) = true) (cur nv : Val) (es : List Err)
    (hw : wt f.ty cur = true) (h : fieldActionAll P cfg nestA g d f cur = .store nv es) : wt f.ty nv = true := by
  by_cases hst : isStructTy f.ty = true
  · obtain ⟨nfs, hsf⟩ := Option.isSome_iff_exists.1 hst
    obtain ⟨ivs, hi, hwi⟩ := lemma_innerOf_struct hsf hw
    rw [fieldActionAll_struct P cfg nestA g d f cur hst, (lemma_struct_field hsf).2, hi] at h
    rw [(lemma_struct_field hsf).2] at hgs
    split at h
    · cases h
    · cases hr : nestA nfs (.struct ivs) (g.push f.tagName) (d + 1) with
      | done v es' =>
        rw [hr] at h
        cases h
        exact lemma_rewrap_wt hsf v (hn _ ivs _ _ v es' hwi (hgs hst) hr)
      | panic => rw [hr] at h; cases h
  · rw [fieldActionAll_leaf P cfg nestA g d f cur (by simpa using hst)] at h
    cases hl : leafAction P cfg g f cur with
    | error e => rw [hl] at h; cases h
    | ok v =>
      rw [hl] at h
      cases h
      exact lemma_leafAction_wt P cfg g f hf hgr cur nv hw hl

theorem lemma_refLeafAll_wt (nestA : NestAll) (hn : NestTypedAll nestA) (g : Getter) (d : Nat) (h : FieldHdr) (t : Ty)
    (v v' : Val) (es : List Err) (hw : wt t v = true) (hg : Spec.inGrammar t = true)
    (hr : refLeafAll P cfg nestA tag g d h t v = some (v', es)) : wt t v' = true := by
  unfold refLeafAll at hr
  cases hm : mkInfo P tag [] h t with
  | none => rw [hm] at hr; cases hr; exact hw
  | some f =>
    obtain ⟨hf, hty⟩ := lemma_mkInfo_typed P tag [] h t f hm
    rw [hm] at hr
    dsimp only at hr
    split at hr
    · cases hr; exact hw
    · cases ha : fieldActionAll P cfg nestA g d f v with
      | panic => rw [ha] at hr; cases hr
      | skip es' => rw [ha] at hr; cases hr; exact hw
      | store nv es' =>
        rw [ha] at hr
        cases hr
        rw [← hty] at hw hg ⊢
        refine lemma_actionAll_wt P cfg nestA hn g d f hf (fun hmp => ?_) (fun hst => ?_) v v' es hw ha
        · exact lemma_inGrammar_leaf (by simpa [isStructTy] using lemma_map_not_struct f.ty hmp) hg
        · obtain ⟨nfs, hsf⟩ := Option.isSome_iff_exists.1 hst
          rw [(lemma_struct_field hsf).2]; exact lemma_inGrammar_struct hsf hg

theorem lemma_embLiftAll_some (wrap : Val → Val) (r : Option (List Val × List Err)) (v' : Val) (es : List Err)
    (h : embLiftAll wrap r = some (v', es)) : ∃ cs', r = some (cs', es) ∧ v' = wrap (.struct cs') := by
  cases r with
  | none => cases h
  | some r => cases h; exact ⟨r.1, rfl, rfl⟩

theorem lemma_refFldAll_wt_of (nestA : NestAll) (hn : NestTypedAll nestA) (g : Getter) (d : Nat) (h : FieldHdr) (t : Ty)
    (v v' : Val) (es : List Err)
    (ihsub : ∀ sub, structFields? t = some sub → ∀ (cs cs' : List Val) (es : List Err), wts sub cs = true →
      Spec.inGrammarFs sub = true → refFsAll P cfg nestA tag g d sub cs = some (cs', es) → wts sub cs' = true)
    (hw : wt t v = true) (hg : Spec.inGrammar t = true) (hr : refFldAll P cfg nestA tag g d h t v = some (v', es)) :
    wt t v' = true := by
  rcases fld_kind h t with ⟨sub, hsf, hex, han⟩ | hl
  · have hgs := lemma_inGrammar_struct hsf hg
    -- the struct behind the field comes out well typed, and is put back the way it was held
    have back : ∀ cs, wts sub cs = true →
        embLiftAll (rewrap t) (refFsAll P cfg nestA tag g d sub cs) = some (v', es) → wt t v' = true := by
      intro cs hwc hr
      obtain ⟨cs', hrs, rfl⟩ := lemma_embLiftAll_some _ _ _ _ hr
      exact lemma_rewrap_wt hsf _ (ihsub sub hsf cs cs' es hwc hgs hrs)
    cases structVal_of_wt hsf hw with
    | held cs hwc =>
      rw [lemma_refFldAll_held P cfg nestA tag g d h hsf cs hex han] at hr
      exact back cs hwc hr
    | nil ht =>
      subst ht
      rw [lemma_refFldAll_nil P cfg nestA tag g d h sub hex han] at hr
      cases hany : (flatten P tag sub).any (wants g) with
      | true =>
        rw [hany, if_pos rfl] at hr
        exact back _ (lemma_wts_zero sub) hr
      | false =>
        rw [hany, if_neg Bool.false_ne_true] at hr
        cases hr
        rfl
  · rw [refFldAll_own P cfg nestA tag g d h t v hl] at hr
    cases hex : h.exported with
    | false => rw [hex] at hr; cases hr; exact hw
    | true => rw [hex] at hr; exact lemma_refLeafAll_wt P cfg tag nestA hn g d h t v v' es hw hg hr

theorem lemma_refFsAll_wt (nestA : NestAll) (hn : NestTypedAll nestA) (g : Getter) (d : Nat) :
    ∀ (fs : List Fld) (vs vs' : List Val) (es : List Err), wts fs vs = true → Spec.inGrammarFs fs = true →
      refFsAll P cfg nestA tag g d fs vs = some (vs', es) → wts fs vs' = true := by
  intro fs
  induction fs using fld_induction with
  | nil =>
    intro vs vs' es hw _ hr
    cases vs with
    | nil => cases hr; rfl
    | cons _ _ => cases hw
  | cons h t rest ihsub ih =>
    intro vs vs' es hw hg hr
    cases vs with
    | nil => cases hw
    | cons v vs =>
      simp only [wts, Bool.and_eq_true] at hw
      simp only [Spec.inGrammarFs, Bool.and_eq_true] at hg
      simp only [refFsAll] at hr
      cases hf : refFldAll P cfg nestA tag g d h t v with
      | none => rw [hf] at hr; cases hr
      | some r =>
        rw [hf] at hr
        dsimp only at hr
        cases hrs : refFsAll P cfg nestA tag g d rest vs with
        | none => rw [hrs] at hr; cases hr
        | some rs =>
          rw [hrs] at hr
          cases hr
          simp only [wts, Bool.and_eq_true]
          exact ⟨lemma_refFldAll_wt_of P cfg tag nestA hn g d h t v r.1 r.2 ihsub hw.1 hg.1 hf,
            ih vs rs.1 rs.2 hw.2 hg.2 hrs⟩

theorem lemma_refFldAll_wt (nestA : NestAll) (hn : NestTypedAll nestA) (g : Getter) (d : Nat) (h : FieldHdr) :
    ∀ (t : Ty) (v v' : Val) (es : List Err), wt t v = true → Spec.inGrammar t = true →
      refFldAll P cfg nestA tag g d h t v = some (v', es) → wt t v' = true :=
  fun t v v' es => lemma_refFldAll_wt_of P cfg tag nestA hn g d h t v v' es
    (fun sub _ => lemma_refFsAll_wt P cfg tag nestA hn g d sub)

/-- the collecting bindFieldsWithDepth returns a well-typed value of the struct type it was given -/
theorem lemma_bindAtAll_typed : ∀ n : Nat, NestTypedAll (bindAtAll P cfg tag n) := by
  -- one level of the loop, over any well-typed treatment of the level below
  have level : ∀ nestA : NestAll, NestTypedAll nestA →
      NestTypedAll fun sty elem g d => loopAllWith P cfg nestA sty (flatten P tag sty) elem g d := by
    intro nestA hn nfs ivs g d v es hw hg hr
    dsimp only at hr
    rw [lemma_loopAll_eq_ref P cfg _ tag g d nfs ivs hw] at hr
    cases hrs : refFsAll P cfg nestA tag g d nfs ivs with
    | none => rw [hrs] at hr; cases hr
    | some r =>
      rw [hrs] at hr
      cases hr
      exact lemma_refFsAll_wt P cfg tag _ hn g d nfs ivs r.1 r.2 hw hg hrs
  intro n
  induction n with
  | zero =>
    refine level _ ?_
    intro nfs' ivs' _ _ v' es' hw' _ h
    cases h
    exact hw'
  | succ n ih => exact level _ ih

theorem lemma_bindAll_typed (fs : List Fld) (ivs : List Val) (src : Src) (v : Val) (es : List Err)
    (hw : wts fs ivs = true) (hg : Spec.inGrammarFs fs = true)
    (h : bindAll P cfg tag (.struct fs) (.struct ivs) src = .done v es) : ∃ rvs, v = .struct rvs ∧ wts fs rvs = true := by
  have := lemma_bindAtAll_typed P cfg tag cfg.maxDepth fs ivs { src := src } 0 v es hw hg (by simpa [bindAll] using h)
  cases v with
  | struct rvs => exact ⟨rvs, rfl, by simpa [wt] using this⟩
  | _ => simp [wt] at this

/-! ### one field of the plain structural binder, through the collecting one (`collectOf`) -/

theorem lemma_collectOf_typed (nest : Nest) (h : NestTyped nest) : NestTypedAll (collectOf nest) := by
  intro nfs ivs g d v es hw hg hr
  unfold collectOf at hr
  cases hn : nest nfs (.struct ivs) g d with
  | ok v' => rw [hn] at hr; cases hr; exact h nfs ivs g d v hw hg hn
  | err e => rw [hn] at hr; cases hr; exact hw
  | panic => rw [hn] at hr; cases hr

theorem lemma_refFld_wt (nest : Nest) (hn : NestTyped nest) (g : Getter) (d : Nat) (h : FieldHdr) :
    ∀ (t : Ty) (v v' : Val), wt t v = true → Spec.inGrammar t = true →
      refFld P cfg nest tag g d h t v = .inl v' → wt t v' = true :=
  fun t v v' hw hg hr =>
    lemma_refFldAll_wt P cfg tag (collectOf nest) (lemma_collectOf_typed nest hn) g d h t v v' [] hw hg
      (lemma_refFld_collect P cfg _ tag nest (lemma_agree_collectOf nest) g d h t v v' hw hr)

end Rivaas.Bind
