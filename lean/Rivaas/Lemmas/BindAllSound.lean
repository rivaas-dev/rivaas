import Rivaas.Lemmas.BindAllRef
import Rivaas.Lemmas.BindSound
import Rivaas.Spec.BindAll
/-
C04 — `WithAllErrors`: the structural collecting binder meets the collecting oracle, item by item: every reported
error is one the oracle admits for some item (`ItemsErr`), and every item whose only admissible outcome is an error -
a reached, unambiguous leaf without admissible value; a nested struct at the first depth beyond the limit - is named
by a reported error (`ItemsAll`). Induction over the fields of the type (`lemma_refAll_fs`) and over the
nesting levels the depth limit allows (`lemma_bindAtAll_spec`).
-/
namespace Rivaas.Bind
open Spec

/-- A nested struct counts at least one level. `lemma_toodeep_all` draws the consequence: below a nested struct that is
    itself beyond the depth limit no node lies at the first depth beyond the limit, so none is due an error. -/
theorem lemma_node_depth_fs (tag : Tag) :
    ∀ (fs : List Fld) (i : Nat) (n : Node), Item.node n ∈ itemsFs tag i fs → 1 ≤ n.depth := by
  intro fs
  induction fs using fld_induction with
  | nil => intro i n hx; cases hx
  | cons h t rest ihsub ih =>
    intro i n hx
    simp only [itemsFs, List.mem_append] at hx
    rcases hx with hx | hx
    · rcases lemma_itemsFld_mem tag i h t _ hx with hf | ⟨_, _, _, hl⟩ | hn | ⟨sub, hsf, y, hy, hxy⟩
      · cases hf
      · cases hl
      · cases hn; exact Nat.le_refl 1
      · rcases hxy with hxy | ⟨p, hxy⟩ <;> cases y <;> cases hxy
        · exact ihsub sub hsf 0 _ hy
        · exact Nat.le_add_left 1 _
    · exact ih (i+1) n hx

/-! ### the collecting oracle, item by item -/

/-- the reported errors `es` against the items `its`, seen through getter `g` at depth `d`: every error is admitted
    for some item; every leaf that is unambiguous, reached and without admissible value, and every node at the first
    depth beyond the limit, is named by one of them -/
def ItemsAll (P : Params) (cfg : Cfg) (g : Getter) (d : Nat) (its : List Item) (init : Val) (es : List Err) : Prop :=
  (∀ e ∈ es, ItemsErr P cfg g d its init e) ∧
  (∀ l, Item.leaf l ∈ its → ambiguous g.src (keyed g l) = true ∨ ¬ (d + l.names.length ≤ cfg.maxDepth + 1) ∨
      (expect P cfg g.src init (keyed g l)).oks ≠ [] ∨ ∃ e ∈ es, errNames e = l.names) ∧
  (∀ n, Item.node n ∈ its → d + n.depth = cfg.maxDepth + 1 → ∃ e ∈ es, errNames e = n.names)

theorem lemma_itemsAll_nil (P : Params) (cfg : Cfg) (g : Getter) (d : Nat) (init : Val) :
    ItemsAll P cfg g d [] init [] := by
  unfold ItemsAll; simp

theorem lemma_itemsAll_append (P : Params) (cfg : Cfg) (g : Getter) (d : Nat) (a b : List Item) (init : Val)
    (ea eb : List Err) (ha : ItemsAll P cfg g d a init ea) (hb : ItemsAll P cfg g d b init eb) :
    ItemsAll P cfg g d (a ++ b) init (ea ++ eb) := by
  obtain ⟨a1, a2, a3⟩ := ha
  obtain ⟨b1, b2, b3⟩ := hb
  refine ⟨?_, ?_, ?_⟩
  · intro e he
    rcases List.mem_append.1 he with he | he
    · exact lemma_itemsErr_mono P cfg g d a _ init e (fun _ => List.mem_append_left _) (a1 e he)
    · exact lemma_itemsErr_mono P cfg g d b _ init e (fun _ => List.mem_append_right _) (b1 e he)
  · intro l hl
    rcases List.mem_append.1 hl with hl | hl
    · exact (a2 l hl).imp id (Or.imp id (Or.imp id fun ⟨e, he, hn⟩ => ⟨e, List.mem_append_left _ he, hn⟩))
    · exact (b2 l hl).imp id (Or.imp id (Or.imp id fun ⟨e, he, hn⟩ => ⟨e, List.mem_append_right _ he, hn⟩))
  · intro n hn hd
    rcases List.mem_append.1 hn with hn | hn
    · obtain ⟨e, he, hx⟩ := a3 n hn hd
      exact ⟨e, List.mem_append_left _ he, hx⟩
    · obtain ⟨e, he, hx⟩ := b3 n hn hd
      exact ⟨e, List.mem_append_right _ he, hx⟩

theorem lemma_itemsAll_of_ok (P : Params) (cfg : Cfg) (g : Getter) (d : Nat) (its : List Item) (init res : Val)
    (h : ItemsOK P cfg g d its init res) : ItemsAll P cfg g d its init [] := by
  obtain ⟨h1, h2, _⟩ := h
  refine ⟨by simp, ?_, ?_⟩
  · intro l hl
    rcases h1 l hl with h | ⟨e, he, _⟩
    · exact Or.inl h
    · exact Or.inr (Or.inr (Or.inl (List.ne_nil_of_mem he)))
  · intro n hn hd
    have := h2 n hn
    omega

variable (P : Params) (cfg : Cfg) (tag : Tag)

/-- outcome of the structural collecting binder on field `k`, against the items of that field -/
def FldSpecAll (g : Getter) (d k : Nat) (its : List Item) (iv : Val) : Option (Val × List Err) → Prop
  | some (_, es) => ∀ init : List Val, init[k]? = some iv → ItemsAll P cfg g d its (.struct init) es
  | none => False

def FsSpecAll (g : Getter) (d i : Nat) (its : List Item) (ivs : List Val) : Option (List Val × List Err) → Prop
  | some (_, es) => ∀ init : List Val, (∀ j, init[i + j]? = ivs[j]?) → ItemsAll P cfg g d its (.struct init) es
  | none => False

def NestSpecAll (nestA : NestAll) (d : Nat) : Prop :=
  ∀ (nfs : List Fld) (ivs : List Val) (g : Getter), wts nfs ivs = true → inGrammarFs nfs = true → srcOK g.src = true →
    match nestA nfs (.struct ivs) g d with
    | .done _ es => ItemsAll P cfg g d (itemsFs tag 0 nfs) (.struct ivs) es
    | .panic => False

theorem lemma_fldspecAll_frame (g : Getter) (d k : Nat) (t : Ty) (iv : Val) (rv : Val) :
    FldSpecAll P cfg g d k [.frame { path := [k], ty := t }] iv (some (rv, [])) := by
  intro init _
  refine ⟨by simp, by simp, by simp⟩

/-- A field that is not a struct, from the statement `hplain` for the plain step: the two steps store the same value or fail
    with the same single error (`lemma_leaf_step`). A value that satisfies the items leaves nothing to report (`hok`); the
    single error is admitted by `hplain`, and it names the field's one leaf. -/
theorem lemma_leafAll_fld (nest : Nest) (nestA : NestAll) (g : Getter) (d k : Nat) (h : FieldHdr) (t : Ty) (iv : Val)
    (hns : isStructTy t = false) (hex : h.exported = true)
    (hplain : FldSpec P cfg g d k (leafItems tag k h t) iv (refLeaf P cfg nest tag g d h t iv)) :
    FldSpecAll P cfg g d k (leafItems tag k h t) iv (refLeafAll P cfg nestA tag g d h t iv) := by
  unfold refLeaf at hplain
  unfold refLeafAll
  have hok : ∀ rv, FldSpec P cfg g d k (leafItems tag k h t) iv (.inl rv) →
      FldSpecAll P cfg g d k (leafItems tag k h t) iv (some (rv, [])) := by
    intro rv hp init hi
    obtain ⟨hlt, _⟩ := List.getElem?_eq_some_iff.1 hi
    exact lemma_itemsAll_of_ok P cfg g d _ _ (.struct (init.set k rv)) (hp init (init.set k rv) hi (by simp [hlt]))
  cases htn : tagNames (h.tag tag) h.name (tag == .form) with
  | none =>
    rw [lemma_mkInfo_eq, htn] at hplain ⊢
    exact hok iv hplain
  | some pa =>
    obtain ⟨f, hmk, hnm, hty, -⟩ := lemma_leafLink P tag g [] k h t pa.1 pa.2 htn
    simp only [hmk] at hplain ⊢
    by_cases hwf : wants g f = true
    · simp only [hwf, Bool.not_true, Bool.false_eq_true, if_false] at hplain ⊢
      rcases lemma_leaf_step P cfg nest nestA g d f iv (by rw [hty]; exact hns) with ⟨nv, hp, ha⟩ | ⟨c, hc, hp, ha⟩
      · rw [hp] at hplain
        simp only [ha]
        exact hok nv hplain
      · rw [hp] at hplain
        simp only [ha]
        intro init hi
        refine ⟨?_, ?_, ?_⟩
        · intro e he
          simp only [List.mem_singleton] at he
          subst he
          exact hplain init hi
        · intro l hl
          have : l.names = [h.name] := by
            simp only [leafItems, hex, htn, Bool.not_true, Bool.false_eq_true, if_false, List.mem_singleton, Item.leaf.injEq] at hl
            subst hl
            rfl
          right; right; right
          exact ⟨_, List.mem_singleton.2 rfl, by simp [errNames, hc, this, hnm]⟩
        · intro n hn
          simp [leafItems, hex, htn] at hn
    · have hwf' : wants g f = false := by simpa using hwf
      simp only [hwf', Bool.not_false, if_true] at hplain ⊢
      exact hok iv hplain

/-! ### lifting through an embedded / a nested struct field -/

theorem lemma_under_all (g : Getter) (d k : Nat) (its : List Item) (Init : List Val) (init' : Val) (es : List Err)
    (hi : InitRel Init k init' its) (h : ItemsAll P cfg g d its init' es) :
    ItemsAll P cfg g d (its.map (Item.under k)) (.struct Init) es := by
  obtain ⟨h1, h2, h3⟩ := h
  refine ⟨fun e he => lemma_under_err P cfg g d k its Init init' e hi (h1 e he), ?_, ?_⟩
  · intro l hl
    obtain ⟨l0, hx, rfl⟩ := lemma_leaf_mem_under k its l hl
    rw [lemma_keyed_under, lemma_amb_path,
      lemma_transfer_expect P cfg g.src (keyed g l0) k (keyed g l0).names (.struct Init) init' (hi _ hx (l0.path, l0.ty) rfl)]
    exact h2 l0 hx
  · intro n hn hd
    exact h3 n (lemma_node_mem_under k its n hn) hd

theorem lemma_below_all (g : Getter) (d k : Nat) (name p : Bytes) (its : List Item) (Init : List Val) (init' : Val)
    (es : List Err) (hi : InitRel Init k init' its) (hd : d + 1 ≤ cfg.maxDepth)
    (h : ItemsAll P cfg (g.push p) (d + 1) its init' es) :
    ItemsAll P cfg g d (.node { names := [name], depth := 1 } :: its.map (Item.below k name p)) (.struct Init)
      (es.map (.bind name)) := by
  obtain ⟨h1, h2, h3⟩ := h
  -- the clauses of `ItemsAll`: errors, leaves, nodes. Seen from `g` an item below the field has one name more and lies one level
  -- deeper, and its error is the one of `h` under `name`; the node of the field itself is within the limit (`hd`)
  refine ⟨?_, ?_, ?_⟩
  · intro e' he'
    simp only [List.mem_map] at he'
    obtain ⟨e, he, hee⟩ := he'
    subst hee
    exact lemma_below_err P cfg g d k name p its Init init' e hi (h1 e he)
  · intro l hl
    rcases List.mem_cons.1 hl with hl | hl
    · cases hl
    obtain ⟨l0, hx, rfl⟩ := lemma_leaf_mem_below k name p its l hl
    rw [lemma_keyed_below, lemma_amb_path,
      lemma_transfer_expect P cfg g.src (keyed (g.push p) l0) k (name :: l0.names) (.struct Init) init' (hi _ hx (l0.path, l0.ty) rfl)]
    rcases h2 l0 hx with h | h | h | ⟨e, he, hn⟩
    · exact Or.inl h
    · refine Or.inr (Or.inl ?_)
      simp only [Leaf.below, List.length_cons]
      omega
    · exact Or.inr (Or.inr (Or.inl h))
    · exact Or.inr (Or.inr (Or.inr ⟨.bind name e, List.mem_map.2 ⟨e, he, rfl⟩, by simp [errNames, hn, Leaf.below]⟩))
  · intro n hn hdn
    rcases List.mem_cons.1 hn with hn | hn
    · cases hn
      simp only at hdn
      omega
    · obtain ⟨n0, hx, rfl⟩ := lemma_node_mem_below k name p its n hn
      simp only at hdn
      obtain ⟨e, he, hne⟩ := h3 n0 hx (by omega)
      exact ⟨.bind name e, List.mem_map.2 ⟨e, he, rfl⟩, by simp [errNames, hne]⟩

/-- a nested struct beyond the depth limit: the field is reported, nothing below it is reached -/
theorem lemma_toodeep_all (g : Getter) (d k : Nat) (name p : Bytes) (its : List Item) (Init : Val)
    (hdep : cfg.maxDepth < d + 1) (hdepth : ∀ n, Item.node n ∈ its → 1 ≤ n.depth) :
    ItemsAll P cfg g d (.node { names := [name], depth := 1 } :: its.map (Item.below k name p)) Init
      [.bind name .depth] := by
  -- the clauses of `ItemsAll`: the one error is due to the node of the field; a leaf below is out of reach (without a name of its
  -- own it is named by that error); a node below lies deeper than the first depth beyond the limit (`hdepth`)
  refine ⟨?_, ?_, ?_⟩
  · intro e he
    simp only [List.mem_singleton] at he
    subst he
    right
    exact ⟨{ names := [name], depth := 1 }, by simp, hdep, rfl⟩
  · intro l hl
    rcases List.mem_cons.1 hl with hl | hl
    · cases hl
    obtain ⟨l0, _, rfl⟩ := lemma_leaf_mem_below k name p its l hl
    cases hnm : l0.names with
    | nil =>
      right; right; right
      exact ⟨_, List.mem_singleton.2 rfl, by simp [errNames, Leaf.below, hnm]⟩
    | cons a r =>
      refine Or.inr (Or.inl ?_)
      simp only [Leaf.below, hnm, List.length_cons]
      omega
  · intro n hn hdn
    rcases List.mem_cons.1 hn with hn | hn
    · cases hn
      exact ⟨_, List.mem_singleton.2 rfl, rfl⟩
    · obtain ⟨n0, hx, rfl⟩ := lemma_node_mem_below k name p its n hn
      have := hdepth n0 hx
      simp only at hdn
      omega

theorem lemma_nestedAll_fld (nestA : NestAll) (g : Getter) (hs : srcOK g.src = true) (d : Nat)
    (hn : d + 1 ≤ cfg.maxDepth → NestSpecAll P cfg tag nestA (d + 1))
    (k : Nat) (h : FieldHdr) (t : Ty) (nfs : List Fld) (hsf : structFields? t = some nfs) (iv : Val)
    (hg : inGrammarFs nfs = true) (hw : wt t iv = true) :
    FldSpecAll P cfg g d k (nestedItems tag k h t nfs) iv (refLeafAll P cfg nestA tag g d h t iv) := by
  unfold nestedItems refLeafAll
  rw [lemma_mkInfo_eq]
  cases tagNames (h.tag tag) h.name (tag == .form) with
  | none => exact lemma_fldspecAll_frame P cfg g d k _ iv iv
  | some pa =>
    obtain ⟨hst, hnfs⟩ := lemma_struct_field hsf
    simp only [Option.map_some, wants, hst, Bool.or_true, Bool.true_or, Bool.not_true, Bool.false_eq_true, if_false]
    rw [fieldActionAll_struct P cfg nestA g d _ iv hst]
    simp only [hnfs]
    by_cases hdep : cfg.maxDepth < d + 1
    · rw [if_pos hdep]
      intro init _
      exact lemma_toodeep_all P cfg g d k h.name pa.1 _ _ hdep (fun n hn => lemma_node_depth_fs tag nfs 0 n hn)
    · rw [if_neg hdep]
      have hd : d + 1 ≤ cfg.maxDepth := by omega
      obtain ⟨ivs, hinner, hwts, hirel⟩ := lemma_inner_struct tag k t nfs iv hsf hw
      rw [hinner]
      have hsp := hn hd nfs ivs (g.push pa.1) hwts hg hs
      cases hr : nestA nfs (.struct ivs) (g.push pa.1) (d + 1) with
      | panic => rw [hr] at hsp; exact hsp
      | done nv es =>
        rw [hr] at hsp
        intro init hi
        exact lemma_below_all P cfg g d k h.name pa.1 _ init _ es (hirel init hi) hd hsp

/-! ### the structural collecting binder meets the collecting oracle -/

theorem lemma_embeddedAll_lift (g : Getter) (d k : Nat) (sub : List Fld) (cs : List Val) (iv : Val) (wrap : Val → Val)
    (hinit : ∀ Init : List Val, Init[k]? = some iv → InitRel Init k (.struct cs) (itemsFs tag 0 sub))
    (r : Option (List Val × List Err)) (h : FsSpecAll P cfg g d 0 (itemsFs tag 0 sub) cs r) :
    FldSpecAll P cfg g d k ((itemsFs tag 0 sub).map (Item.under k)) iv (embLiftAll wrap r) := by
  cases r with
  | none => exact h
  | some r =>
    obtain ⟨cs', es⟩ := r
    intro init hi
    exact lemma_under_all P cfg g d k _ init (.struct cs) es (hinit init hi) (h cs (fun j => by simp))

theorem lemma_refAll_fld_of (hP : FloatSane P) (nestA : NestAll) (g : Getter) (hs : srcOK g.src = true) (d : Nat)
    (hn : d + 1 ≤ cfg.maxDepth → NestSpecAll P cfg tag nestA (d + 1)) (k : Nat) (h : FieldHdr) (t : Ty) (iv : Val)
    (ihsub : ∀ sub, structFields? t = some sub → ∀ (i : Nat) (ivs : List Val), wts sub ivs = true →
      inGrammarFs sub = true → FsSpecAll P cfg g d i (itemsFs tag i sub) ivs (refFsAll P cfg nestA tag g d sub ivs))
    (hw : wt t iv = true) (hg : inGrammar t = true) :
    FldSpecAll P cfg g d k (itemsFld tag k h t) iv (refFldAll P cfg nestA tag g d h t iv) := by
  rcases fld_kind h t with ⟨sub, hsf, hex, han⟩ | hl
  · have hgs := lemma_inGrammar_struct hsf hg
    rw [lemma_itemsFld_embedded tag k h t sub hsf hex han]
    cases structVal_of_wt hsf hw with
    | held cs hwc =>
      rw [lemma_refFldAll_held P cfg nestA tag g d h hsf cs hex han]
      exact lemma_embeddedAll_lift P cfg tag g d k sub cs _ _
        (fun Init hk => lemma_initrel_held tag hsf Init k _ hk) _
        (ihsub sub hsf 0 cs hwc hgs)
    | nil ht =>
      subst ht
      rw [lemma_refFldAll_nil P cfg nestA tag g d h sub hex han]
      cases hany : (flatten P tag sub).any (wants g) with
      | true =>
        rw [if_pos rfl]
        exact lemma_embeddedAll_lift P cfg tag g d k sub (zeroFs sub) .nil Val.ptr
          (fun Init hk => lemma_initrel_nil tag sub Init k hk) _
          (ihsub sub hsf 0 (zeroFs sub) (lemma_wts_zero sub) hgs)
      | false =>
        -- no promoted field receives a value: the pointer stays nil, which satisfies the plain oracle
        have hun := lemma_untouched_fs P cfg tag g hs sub [] 0 hgs
          (fun f hf => by simpa using List.any_eq_false.1 hany f hf)
        rw [if_neg Bool.false_ne_true]
        intro init hi
        exact lemma_itemsAll_of_ok P cfg g d _ _ (.struct init) (lemma_untouched_ok P cfg g d k _ hun init init hi hi)
  · rw [refFldAll_own P cfg nestA tag g d h t iv hl]
    rcases fld_kind_own hl with hex | ⟨hex, hsf | ⟨sub, hsf, han⟩⟩
    · rw [hex, lemma_itemsFld_unexported tag k h _ hex]
      exact lemma_fldspecAll_frame P cfg g d k _ iv iv
    · rw [hex, lemma_itemsFld_leaf tag k h t hsf]
      -- the plain fact is taken with an arbitrary treatment of nested structs: a field that is no struct never meets it
      exact lemma_leafAll_fld P cfg tag (fun _ _ _ _ => .panic) nestA g d k h t iv (by simp [isStructTy, hsf]) hex
        (lemma_leaf_fld P cfg _ tag hP g hs d k h t hsf hg iv hex)
    · rw [hex, lemma_itemsFld_nested tag k h t sub hsf hex han]
      exact lemma_nestedAll_fld P cfg tag nestA g hs d hn k h t sub hsf iv (lemma_inGrammar_struct hsf hg) hw

theorem lemma_refAll_fs (hP : FloatSane P) (nestA : NestAll) (g : Getter) (hs : srcOK g.src = true) (d : Nat)
    (hn : d + 1 ≤ cfg.maxDepth → NestSpecAll P cfg tag nestA (d + 1)) :
    ∀ (fs : List Fld) (i : Nat) (ivs : List Val), wts fs ivs = true → inGrammarFs fs = true →
      FsSpecAll P cfg g d i (itemsFs tag i fs) ivs (refFsAll P cfg nestA tag g d fs ivs) := by
  intro fs
  induction fs using fld_induction with
  | nil =>
    intro i ivs _ _
    simp only [refFsAll, itemsFs, FsSpecAll]
    exact fun init _ => lemma_itemsAll_nil P cfg g d _
  | cons h t rest ihsub ih =>
    intro i ivs hw hg
    cases ivs with
    | nil => simp [wts] at hw
    | cons v vs =>
      simp only [wts, Bool.and_eq_true] at hw
      simp only [inGrammarFs, Bool.and_eq_true] at hg
      have ihf := lemma_refAll_fld_of P cfg tag hP nestA g hs d hn i h t v ihsub hw.1 hg.1
      have ihs := ih (i+1) vs hw.2 hg.2
      simp only [refFsAll, itemsFs]
      generalize refFldAll P cfg nestA tag g d h t v = r at ihf ⊢
      rcases r with _ | ⟨v', es⟩
      · exact ihf
      · generalize refFsAll P cfg nestA tag g d rest vs = rs at ihs ⊢
        rcases rs with _ | ⟨vs', es'⟩
        · exact ihs
        · intro init hi
          exact lemma_itemsAll_append P cfg g d _ _ _ es es' (ihf init (lemma_window_cons hi).1)
            (ihs init (lemma_window_cons hi).2)

theorem lemma_refAll_fld (hP : FloatSane P) (nestA : NestAll) (g : Getter) (hs : srcOK g.src = true) (d : Nat)
    (hn : d + 1 ≤ cfg.maxDepth → NestSpecAll P cfg tag nestA (d + 1)) (k : Nat) (h : FieldHdr) :
    ∀ (t : Ty) (iv : Val), wt t iv = true → inGrammar t = true →
      FldSpecAll P cfg g d k (itemsFld tag k h t) iv (refFldAll P cfg nestA tag g d h t iv) :=
  fun t iv => lemma_refAll_fld_of P cfg tag hP nestA g hs d hn k h t iv
    (fun sub _ => lemma_refAll_fs P cfg tag hP nestA g hs d hn sub)

theorem lemma_bindAtAll_spec (hP : FloatSane P) :
    ∀ (n d : Nat), cfg.maxDepth ≤ d + n → NestSpecAll P cfg tag (bindAtAll P cfg tag n) d := by
  -- one level of the loop at depth `d`, over a treatment of the level below that meets the oracle where it is reached
  have level : ∀ (nestA : NestAll) (d : Nat), (d + 1 ≤ cfg.maxDepth → NestSpecAll P cfg tag nestA (d + 1)) →
      NestSpecAll P cfg tag (fun sty elem g d => loopAllWith P cfg nestA sty (flatten P tag sty) elem g d) d := by
    intro nestA d hn nfs ivs g hw hg hs
    have hfs := lemma_refAll_fs P cfg tag hP nestA g hs d hn nfs 0 ivs hw hg
    dsimp only
    rw [lemma_loopAll_eq_ref P cfg _ tag g d nfs ivs hw]
    generalize refFsAll P cfg nestA tag g d nfs ivs = r at hfs ⊢
    rcases r with _ | ⟨rvs, es⟩
    · exact hfs
    · exact hfs ivs (fun j => by simp)
  intro n
  induction n with
  | zero => exact fun d hnd => level _ d (fun h => by omega)
  | succ n ih => exact fun d hnd => level _ d (fun _ => ih (d + 1) (by omega))

end Rivaas.Bind
