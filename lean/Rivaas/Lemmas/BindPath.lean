import Rivaas.Model.Bind
/-
C04 helper lemmas: induction over the fields of a struct type (`fld_induction`: the statement is at hand for the struct a
field embeds or nests), well-typed values and the shapes a well-typed value of a struct-typed field has (`StructVal`),
the algebra of `reach` / `updAt` (reflect index paths), and the behaviour of the bind loop on the promoted fields of one
embedded struct (`lift` lemmas).
-/
namespace Rivaas.Bind

/-! ### struct-typed fields -/

theorem structFields?_some {t : Ty} {sub : List Fld} (h : structFields? t = some sub) :
    t = .struct sub ∨ t = .ptr (.struct sub) := by
  cases t with
  | struct fs => simp only [structFields?, Option.some.injEq] at h; exact Or.inl (h ▸ rfl)
  | ptr e =>
    cases e with
    | struct fs => simp only [structFields?, Option.some.injEq] at h; exact Or.inr (h ▸ rfl)
    | _ => cases h
  | _ => cases h

theorem fld_kind (h : FieldHdr) (t : Ty) :
    (∃ sub, structFields? t = some sub ∧ h.exported = true ∧ h.anon = true) ∨
    (h.exported = false ∨ h.anon = false ∨ structFields? t = none) := by
  cases structFields? t <;> cases h.exported <;> cases h.anon <;> simp

theorem fld_kind_own {h : FieldHdr} {t : Ty} (hl : h.exported = false ∨ h.anon = false ∨ structFields? t = none) :
    h.exported = false ∨
      (h.exported = true ∧ (structFields? t = none ∨ ∃ sub, structFields? t = some sub ∧ h.anon = false)) := by
  cases hex : h.exported with
  | false => exact Or.inl rfl
  | true =>
    refine Or.inr ⟨rfl, ?_⟩
    cases hsf : structFields? t with
    | none => exact Or.inl rfl
    | some sub =>
      rcases hl with hl | hl | hl
      · rw [hex] at hl; cases hl
      · exact Or.inr ⟨sub, rfl, hl⟩
      · rw [hsf] at hl; cases hl

mutual
theorem fld_induction_ty {motive : List Fld → Prop} (nil : motive [])
    (cons : ∀ h t rest, (∀ sub, structFields? t = some sub → motive sub) → motive rest → motive ((h, t) :: rest)) :
    ∀ (t : Ty) (sub : List Fld), structFields? t = some sub → motive sub
  | .struct fs, _, rfl => fld_induction nil cons fs
  | .ptr (.struct fs), _, rfl => fld_induction nil cons fs
  | .prim _, _, h | .slice _, _, h | .map _, _, h | .ptr (.prim _), _, h | .ptr (.ptr _), _, h
  | .ptr (.slice _), _, h | .ptr (.map _), _, h => nomatch h
/-- Induction over the fields of a struct type: at a field, the statement is at hand for the struct it embeds or nests.
    It is used in one pattern: `…_fld_of` is the step for one field, with that hypothesis as an argument (`ihsub`);
    `…_fs` is the induction; `…_fld` states the step once more with the hypothesis discharged by `…_fs`. -/
theorem fld_induction {motive : List Fld → Prop} (nil : motive [])
    (cons : ∀ h t rest, (∀ sub, structFields? t = some sub → motive sub) → motive rest → motive ((h, t) :: rest)) :
    ∀ fs, motive fs
  | [] => nil
  | (h, t) :: rest => cons h t rest (fld_induction_ty nil cons t) (fld_induction nil cons rest)
end

/-! ### well-typed destination values -/

mutual
/-- the value has the shape of the type as far as binding looks at it: structs field by field,
    pointers nil or pointing to a well-shaped value -/
def wt : Ty → Val → Bool
  | .struct fs, .struct vs => wts fs vs
  | .struct _, _ => false
  | .ptr _, .nil => true
  | .ptr t, .ptr x => wt t x
  | .ptr _, _ => false
  | _, _ => true
def wts : List Fld → List Val → Bool
  | [], [] => true
  | (_, t) :: fs, v :: vs => wt t v && wts fs vs
  | _, _ => false
end

mutual
theorem lemma_wt_zero : ∀ t : Ty, wt t (zero t) = true
  | .prim p => by cases p <;> simp [wt]
  | .ptr _ | .slice _ | .map _ => by simp [zero, wt]
  | .struct fs => by simp only [zero, wt]; exact lemma_wts_zero fs
theorem lemma_wts_zero : ∀ fs : List Fld, wts fs (zeroFs fs) = true
  | [] => by simp [zeroFs, wts]
  | (h, t) :: fs => by simp [zeroFs, wts, lemma_wt_zero t, lemma_wts_zero fs]
end

theorem lemma_wts_get : ∀ (fs : List Fld) (vs : List Val) (i : Nat) (h : FieldHdr) (t : Ty),
    wts fs vs = true → fs[i]? = some (h, t) → ∃ v, vs[i]? = some v ∧ wt t v = true
  | [], _, i, h, t, _, hf => by simp at hf
  | (h', t') :: fs, [], i, h, t, hw, _ => by simp [wts] at hw
  | (h', t') :: fs, v :: vs, 0, h, t, hw, hf => by
    simp only [wts, Bool.and_eq_true] at hw
    simp only [List.getElem?_cons_zero, Option.some.injEq, Prod.mk.injEq] at hf
    exact ⟨v, by simp, by rw [← hf.2]; exact hw.1⟩
  | (h', t') :: fs, v :: vs, i+1, h, t, hw, hf => by
    simp only [wts, Bool.and_eq_true] at hw
    simp only [List.getElem?_cons_succ] at hf ⊢
    exact lemma_wts_get fs vs i h t hw.2 hf

theorem lemma_wts_set : ∀ (fs : List Fld) (vs : List Val) (i : Nat) (h : FieldHdr) (t : Ty) (v' : Val),
    wts fs vs = true → fs[i]? = some (h, t) → wt t v' = true → wts fs (vs.set i v') = true
  | [], _, i, h, t, _, _, hf, _ => by simp at hf
  | (h', t') :: fs, [], i, h, t, _, hw, _, _ => by simp [wts] at hw
  | (h', t') :: fs, v :: vs, 0, h, t, v', hw, hf, hv => by
    simp only [wts, Bool.and_eq_true] at hw
    simp only [List.getElem?_cons_zero, Option.some.injEq, Prod.mk.injEq] at hf
    simp only [List.set_cons_zero, wts, Bool.and_eq_true]
    exact ⟨by rw [hf.2]; exact hv, hw.2⟩
  | (h', t') :: fs, v :: vs, i+1, h, t, v', hw, hf, hv => by
    simp only [wts, Bool.and_eq_true] at hw
    simp only [List.getElem?_cons_succ] at hf
    simp only [List.set_cons_succ, wts, Bool.and_eq_true]
    exact ⟨hw.1, lemma_wts_set fs vs i h t v' hw.2 hf hv⟩

/-- the well-typed values of a field whose type is, or points to, the struct with fields `sub`: a well-typed struct behind
    `rewrap t` (by value, or behind a pointer), or a nil pointer -/
inductive StructVal (sub : List Fld) (t : Ty) : Val → Prop
  | held (cs : List Val) (hw : wts sub cs = true) : StructVal sub t (rewrap t (.struct cs))
  | nil (ht : t = .ptr (.struct sub)) : StructVal sub t .nil

theorem structVal_of_wt {t : Ty} {sub : List Fld} {v : Val} (hs : structFields? t = some sub) (hw : wt t v = true) :
    StructVal sub t v := by
  rcases structFields?_some hs with rfl | rfl
  · cases v with
    | struct cs => exact .held cs (by simpa [wt] using hw)
    | _ => simp [wt] at hw
  · cases v with
    | nil => exact .nil rfl
    | ptr y =>
      cases y with
      | struct cs => exact .held cs (by simpa [wt] using hw)
      | _ => simp [wt] at hw
    | _ => simp [wt] at hw

theorem lemma_struct_field {t : Ty} {nfs : List Fld} (hs : structFields? t = some nfs) :
    isStructTy t = true ∧ structTyOf t = nfs := by
  rcases structFields?_some hs with rfl | rfl <;> exact ⟨rfl, rfl⟩

theorem lemma_innerOf_struct {t : Ty} {nfs : List Fld} {v : Val} (hs : structFields? t = some nfs) (hw : wt t v = true) :
    ∃ ivs, innerOf nfs v = .struct ivs ∧ wts nfs ivs = true := by
  cases structVal_of_wt hs hw with
  | held cs hwc => exact ⟨cs, by rcases structFields?_some hs with rfl | rfl <;> rfl, hwc⟩
  | nil => exact ⟨zeroFs nfs, by simp [innerOf, zero], lemma_wts_zero nfs⟩

theorem lemma_rewrap_wt {t : Ty} {nfs : List Fld} (hs : structFields? t = some nfs) (v : Val)
    (h : wt (.struct nfs) v = true) : wt t (rewrap t v) = true := by
  rcases structFields?_some hs with rfl | rfl
  · exact h
  · simpa [rewrap, wt] using h

/-! ### one step of `reach` / `updAt` below a struct -/

theorem lemma_reach_one (vs : List Val) (i : Nat) :
    reach (.struct vs) [i] = match vs[i]? with
      | none => .bad
      | some x => .ok x := by
  simp only [reach]
  cases vs[i]? <;> rfl

theorem lemma_reach_struct (vs : List Val) (i a : Nat) (r : List Nat) (cs : List Val)
    (hv : vs[i]? = some (.struct cs)) : reach (.struct vs) (i :: a :: r) = reach (.struct cs) (a :: r) := by
  simp [reach, hv]

theorem lemma_reach_ptr (vs : List Val) (i a : Nat) (r : List Nat) (y : Val)
    (hv : vs[i]? = some (.ptr y)) : reach (.struct vs) (i :: a :: r) = reach y (a :: r) := by
  simp [reach, hv]

theorem lemma_reach_nil (vs : List Val) (i a : Nat) (r : List Nat)
    (hv : vs[i]? = some .nil) : reach (.struct vs) (i :: a :: r) = .nilptr := by
  simp [reach, hv]

theorem lemma_updAt_one (fs : List Fld) (vs : List Val) (i : Nat) (h : FieldHdr) (t : Ty) (x : Val) (f : Val → Val)
    (hf : fs[i]? = some (h, t)) (hv : vs[i]? = some x) :
    updAt (.struct fs) (.struct vs) [i] f = .struct (vs.set i (f x)) := by
  simp [updAt, hf, hv]

theorem lemma_updAt_struct (fs : List Fld) (vs : List Val) (i a : Nat) (r : List Nat) (h : FieldHdr)
    (sub : List Fld) (cs : List Val) (f : Val → Val)
    (hf : fs[i]? = some (h, .struct sub)) (hv : vs[i]? = some (.struct cs)) :
    updAt (.struct fs) (.struct vs) (i :: a :: r) f =
      .struct (vs.set i (updAt (.struct sub) (.struct cs) (a :: r) f)) := by
  simp [updAt, hf, hv]

theorem lemma_updAt_ptr (fs : List Fld) (vs : List Val) (i a : Nat) (r : List Nat) (h : FieldHdr)
    (t' : Ty) (y : Val) (f : Val → Val)
    (hf : fs[i]? = some (h, .ptr t')) (hv : vs[i]? = some (.ptr y)) :
    updAt (.struct fs) (.struct vs) (i :: a :: r) f = .struct (vs.set i (.ptr (updAt t' y (a :: r) f))) := by
  simp [updAt, hf, hv]

theorem lemma_updAt_nil (fs : List Fld) (vs : List Val) (i a : Nat) (r : List Nat) (h : FieldHdr)
    (t' : Ty) (f : Val → Val)
    (hf : fs[i]? = some (h, .ptr t')) (hv : vs[i]? = some .nil) :
    updAt (.struct fs) (.struct vs) (i :: a :: r) f =
      .struct (vs.set i (.ptr (updAt t' (zero t') (a :: r) f))) := by
  simp [updAt, hf, hv]

theorem lemma_updAt_shape (fs : List Fld) (vs : List Val) (a : Nat) (r : List Nat) (f : Val → Val) :
    ∃ cs', updAt (.struct fs) (.struct vs) (a :: r) f = .struct cs' := by
  simp only [updAt]
  split
  · split
    · exact ⟨_, rfl⟩
    · split <;> exact ⟨_, rfl⟩
  · exact ⟨_, rfl⟩

/-! ### positions of a list -/

theorem lemma_set_self (vs : List Val) (j : Nat) (x : Val) (h : vs[j]? = some x) : vs.set j x = vs := by
  obtain ⟨hlt, rfl⟩ := List.getElem?_eq_some_iff.1 h
  exact List.set_getElem_self hlt

theorem lemma_get_set (vs : List Val) (j : Nat) (x y : Val) (h : vs[j]? = some x) : (vs.set j y)[j]? = some y :=
  List.getElem?_set_self (List.getElem?_eq_some_iff.1 h).1

/-- `∀ j, l[i + j]? = ws[j]?`: `ws` is what `l` holds from position `i` on. An induction over the fields of a struct type
    carries the whole list along in this form, because index paths and items count from the first field. -/
theorem lemma_window_cons {α} {l : List α} {i : Nat} {w : α} {ws : List α} (h : ∀ j, l[i + j]? = (w :: ws)[j]?) :
    l[i]? = some w ∧ ∀ j, l[i + 1 + j]? = ws[j]? :=
  ⟨h 0, fun j => by
    have := h (j + 1)
    rwa [← Nat.add_assoc, Nat.add_right_comm, List.getElem?_cons_succ] at this⟩

/-! ### the bind loop -/

variable (P : Params) (cfg : Cfg) (nest : Nest)

theorem lemma_loop_append (sty : List Fld) (g : Getter) (d : Nat) :
    ∀ (l1 l2 : List FieldInfo) (e : Val),
      loopWith P cfg nest sty (l1 ++ l2) e g d =
        match loopWith P cfg nest sty l1 e g d with
        | .ok e' => loopWith P cfg nest sty l2 e' g d
        | o => o
  | [], l2, e => by simp [loopWith]
  | f :: l1, l2, e => by
    simp only [List.cons_append, loopWith]
    split
    · rfl
    · split
      · exact lemma_loop_append sty g d l1 l2 e
      · split
        · split
          · exact lemma_loop_append sty g d l1 l2 _
          · rename_i o _
            cases o <;> rfl
        · rfl

/-- the field seen from the struct that embeds its struct at position `j` -/
def pj (j : Nat) (f : FieldInfo) : FieldInfo := { f with index := j :: f.index }

theorem lemma_wants_pj (g : Getter) (j : Nat) (f : FieldInfo) : wants g (pj j f) = wants g f := rfl

theorem lemma_action_pj (g : Getter) (d j : Nat) (f : FieldInfo) (cur : Val) :
    fieldAction P cfg nest g d (pj j f) cur = fieldAction P cfg nest g d f cur := by
  cases f; rfl

/-- how the outcome of the loop over the fields of an embedded struct shows in the embedding value -/
def liftOut (vs : List Val) (j : Nat) (wrap : Val → Val) : Outcome → Outcome
  | .ok y => .ok (.struct (vs.set j (wrap y)))
  | o => o

theorem lemma_liftOut_set (vs : List Val) (j : Nat) (x : Val) (wrap : Val → Val) (o : Outcome) :
    liftOut (vs.set j x) j wrap o = liftOut vs j wrap o := by
  cases o <;> simp [liftOut, List.set_set]

/-- `reach` and `updAt` on a struct of type `sty` step through position `j` into the struct of type `sub` held there
    behind `wrap` - by value or behind an allocated pointer (`lemma_through`: `wrap = rewrap t` for the type `t` of the field) -/
def Through (sty sub : List Fld) (j : Nat) (wrap : Val → Val) : Prop :=
  ∀ (vs cs : List Val) (a : Nat) (r : List Nat), vs[j]? = some (wrap (.struct cs)) →
    reach (.struct vs) (j :: a :: r) = reach (.struct cs) (a :: r) ∧
    ∀ f : Val → Val, updAt (.struct sty) (.struct vs) (j :: a :: r) f =
      .struct (vs.set j (wrap (updAt (.struct sub) (.struct cs) (a :: r) f)))

theorem lemma_through {sty : List Fld} {j : Nat} {h : FieldHdr} {t : Ty} {sub : List Fld}
    (hsf : structFields? t = some sub) (hs : sty[j]? = some (h, t)) : Through sty sub j (rewrap t) := by
  rcases structFields?_some hsf with rfl | rfl
  · exact fun vs cs a r hv => ⟨lemma_reach_struct vs j a r cs hv, fun f => lemma_updAt_struct sty vs j a r h sub cs f hs hv⟩
  · exact fun vs cs a r hv => ⟨lemma_reach_ptr vs j a r _ hv, fun f => lemma_updAt_ptr sty vs j a r h (.struct sub) (.struct cs) f hs hv⟩

theorem lemma_through_upd {sty sub : List Fld} {j : Nat} {wrap : Val → Val} (T : Through sty sub j wrap)
    (vs cs : List Val) (a : Nat) (r : List Nat) (f : Val → Val) (hv : vs[j]? = some (wrap (.struct cs))) :
    ∃ cs', updAt (.struct sty) (.struct vs) (j :: a :: r) f = .struct (vs.set j (wrap (.struct cs'))) ∧
      updAt (.struct sub) (.struct cs) (a :: r) f = .struct cs' ∧
      (vs.set j (wrap (.struct cs')))[j]? = some (wrap (.struct cs')) := by
  obtain ⟨cs', hcs'⟩ := lemma_updAt_shape sub cs a r f
  exact ⟨cs', by rw [(T vs cs a r hv).2, hcs'], hcs', lemma_get_set vs j _ _ hv⟩

/-- The loop over the promoted fields of the struct embedded at position `j` (by value or behind an allocated pointer,
    see `Through`) acts on that struct alone. -/
theorem lemma_lift (sty sub : List Fld) (j : Nat) (wrap : Val → Val) (g : Getter) (d : Nat) (T : Through sty sub j wrap) :
    ∀ (L : List FieldInfo) (vs cs : List Val), (∀ f ∈ L, f.index ≠ []) → vs[j]? = some (wrap (.struct cs)) →
      loopWith P cfg nest sty (L.map (pj j)) (.struct vs) g d =
        liftOut vs j wrap (loopWith P cfg nest sub L (.struct cs) g d)
  | [], vs, cs, _, hv => by
    simp only [List.map_nil, loopWith, liftOut]
    rw [lemma_set_self vs j _ hv]
  | f :: L, vs, cs, hL, hv => by
    have hL' : ∀ f ∈ L, f.index ≠ [] := fun f hf => hL f (List.mem_cons_of_mem _ hf)
    have ih := lemma_lift sty sub j wrap g d T L
    obtain ⟨a, r, hidx⟩ := List.exists_cons_of_ne_nil (hL f List.mem_cons_self)
    have hpi : (pj j f).index = j :: a :: r := by rw [← hidx]; rfl
    -- `wants` and `fieldAction` do not read the index path; every `reach` and `updAt` of the iteration (the look, the allocating
    -- `updAt … id`, the look after it, the store) goes through position `j` by `T`, and `liftOut` forgets the `set`s at `j`
    simp only [List.map_cons, loopWith, hpi, lemma_wants_pj, lemma_action_pj, hidx, (T vs cs a r hv).1]
    split
    · rfl
    · by_cases hwf : wants g f = true
      · simp only [hwf, Bool.not_true, Bool.false_eq_true, if_false]
        obtain ⟨cs1, hu1, hcs1, hv1⟩ := lemma_through_upd T vs cs a r id hv
        rw [hu1, hcs1, (T _ cs1 a r hv1).1]
        split
        · cases fieldAction P cfg nest g d f _ with
          | inl nv =>
            simp only []
            obtain ⟨cs2, hu2, hcs2, hv2⟩ := lemma_through_upd T _ cs1 a r (fun _ => nv) hv1
            rw [hu2, hcs2, ih _ cs2 hL' hv2, lemma_liftOut_set, lemma_liftOut_set]
          | inr o => cases o <;> rfl
        · rfl
      · simp only [hwf, Bool.not_false, if_true]
        exact ih vs cs hL' hv

/-- Embedded pointer that is nil: nothing happens until the first promoted field that receives a
    value; from there on the loop behaves as if the pointer had been allocated beforehand. -/
theorem lemma_lift_nil (sty : List Fld) (j : Nat) (h : FieldHdr) (sub : List Fld) (g : Getter) (d : Nat)
    (hs : sty[j]? = some (h, .ptr (.struct sub))) :
    ∀ (L : List FieldInfo) (vs : List Val),
      (∀ f ∈ L, f.index ≠ [] ∧ reach (zero (.struct sub)) f.index ≠ .bad) → vs[j]? = some .nil →
      loopWith P cfg nest sty (L.map (pj j)) (.struct vs) g d =
        if L.any (wants g) then
          loopWith P cfg nest sty (L.map (pj j)) (.struct (vs.set j (.ptr (zero (.struct sub))))) g d
        else .ok (.struct vs)
  | [], vs, _, hv => by simp [loopWith]
  | f :: L, vs, hL, hv => by
    obtain ⟨hq, hbad⟩ := hL f List.mem_cons_self
    have ih := lemma_lift_nil sty j h sub g d hs L vs (fun f hf => hL f (List.mem_cons_of_mem _ hf)) hv
    obtain ⟨a, r, hidx⟩ := List.exists_cons_of_ne_nil hq
    have hpi : (pj j f).index = j :: a :: r := by rw [← hidx]; rfl
    have hv0 : (vs.set j (Val.ptr (zero (.struct sub))))[j]? = some (.ptr (zero (.struct sub))) := lemma_get_set vs j _ _ hv
    rw [hidx] at hbad
    -- `hbad` is not named again, but needed: `simp only` takes it from the context to discharge the side condition
    -- (`reach … ≠ .bad`) of the loop's equation on the allocated side
    simp only [List.map_cons, loopWith, hpi, lemma_wants_pj, lemma_reach_nil vs j a r hv,
      lemma_reach_ptr _ j a r _ hv0, List.any_cons]
    by_cases hwf : wants g f = true
    · -- the field receives a value: both sides allocate the same struct
      simp only [hwf, Bool.true_or, if_true, Bool.not_true, Bool.false_eq_true, if_false]
      rw [lemma_updAt_nil sty vs j a r h (.struct sub) id hs hv,
        lemma_updAt_ptr sty _ j a r h (.struct sub) _ id hs hv0, List.set_set]
    · simp only [hwf, Bool.false_or, Bool.not_false, if_true, ih]

end Rivaas.Bind
