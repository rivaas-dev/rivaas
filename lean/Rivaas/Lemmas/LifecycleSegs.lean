import Rivaas.Model.Lifecycle
import Rivaas.Lemmas.LifecycleOrder
/-
C09 — helper lemmas: what each function of the model contributes to the log.
-/
namespace Rivaas.Lifecycle
open Spec

/-! ### executeStartHooks -/

theorem kindsIn_sigIf (b : Bool) (ks : List Kind) (h : Kind.sig ∈ ks) : kindsIn ks (sigIf b) := by
  cases b
  · exact kindsIn_nil _
  · intro e he
    simp only [sigIf, if_true, List.mem_singleton] at he
    subst he; exact h

theorem startHooks_kinds (met : Bool) (i : Nat) (c : Bool) (hs : List HB) :
    kindsIn [.start, .sig] (startHooks met i c hs).evs := by
  induction hs generalizing i c with
  | nil => exact kindsIn_nil _
  | cons b rest ih =>
    cases b <;> simp only [startHooks]
    · exact kindsIn_cons (by simp [kind]) (kindsIn_cons (by simp [kind]) (ih _ _))
    · exact kindsIn_cons (by simp [kind]) (kindsIn_cons (by simp [kind]) (kindsIn_nil _))
    · exact kindsIn_cons (by simp [kind]) (kindsIn_cons (by simp [kind]) (kindsIn_nil _))
    · exact kindsIn_cons (by simp [kind]) (kindsIn_append (kindsIn_sigIf _ _ (by simp))
        (kindsIn_cons (by simp [kind]) (kindsIn_nil _)))
    · exact kindsIn_cons (by simp [kind]) (kindsIn_append (kindsIn_sigIf _ _ (by simp))
        (kindsIn_cons (by simp [kind]) (ih _ _)))

theorem filterMap_startTag_sigIf (b : Bool) : (sigIf b).filterMap startTag = [] := by
  cases b <;> rfl

theorem startHooks_tags (met : Bool) (i : Nat) (c : Bool) (hs : List HB) :
    (startHooks met i c hs).evs.filterMap startTag = seqUp (runCount hs) i := by
  induction hs generalizing i c with
  | nil => simp [startHooks, runCount, seqUp]
  | cons b rest ih =>
    cases b <;>
      simp [startHooks, runCount, startFails, seqUp, startTag, List.filterMap_append,
        filterMap_startTag_sigIf, ih]

theorem all_startProbeOk_sigIf (b : Bool) : (sigIf b).all startProbeOk = true := by
  cases b <;> rfl

theorem startHooks_probes (met : Bool) (i : Nat) (c : Bool) (hs : List HB) :
    (startHooks met i c hs).evs.all startProbeOk = true := by
  induction hs generalizing i c with
  | nil => simp [startHooks]
  | cons b rest ih =>
    cases b <;> simp [startHooks, startProbeOk, List.all_append, all_startProbeOk_sigIf, ih]

theorem startHooks_out (met : Bool) (i : Nat) (c : Bool) (hs : List HB) :
    match (startHooks met i c hs).out with
    | .done => hs.find? startFails = none
    | .panicked => hs.find? startFails = some .panic
    | .failed => (hs.find? startFails).isNone = false := by
  induction hs generalizing i c with
  | nil => rfl
  | cons b rest ih =>
    cases b
    · exact ih _ _
    · rfl
    · rfl
    · rfl
    · exact ih _ _

/-- a context that was live when the loop began and is cancelled when it ends: the stop signal is in the loop's events
    (a hook that finds the context live logs the signal itself, so the hooks after it need not be looked at) -/
theorem startHooks_cancelled (met : Bool) (i : Nat) (hs : List HB)
    (h : (startHooks met i false hs).cancelled = true) : (startHooks met i false hs).evs.any isSig = true := by
  induction hs generalizing i with
  | nil => cases h
  | cons b rest ih =>
    cases b <;> simp only [startHooks] at h ⊢
    · simp [ih _ h]
    · cases h
    · cases h
    · simp [sigIf, isSig]
    · simp [sigIf, isSig]

/-! ### executeReadyHooks -/

theorem readyHooks_kinds (app met : Bool) (i : Nat) (hs : List HB) :
    kindsIn [.ready] (readyHooks app met i hs) := by
  induction hs generalizing i with
  | nil => exact kindsIn_nil _
  | cons b rest ih => exact kindsIn_cons (by simp [kind]) (ih _)

theorem readyHooks_idx (app met : Bool) (i : Nat) (hs : List HB) :
    (readyHooks app met i hs).filterMap readyIdx = List.range' i hs.length := by
  induction hs generalizing i with
  | nil => simp [readyHooks]
  | cons b rest ih => simp [readyHooks, readyIdx, ih, List.range'_succ]

theorem readyHooks_probes (met : Bool) (i n : Nat) (hs : List HB) (h : i + hs.length ≤ n) :
    (readyHooks true met i hs).all (readyProbeOk n) = true := by
  induction hs generalizing i with
  | nil => simp [readyHooks]
  | cons b rest ih =>
    simp only [List.length_cons] at h
    simp only [readyHooks, List.all_cons, readyProbeOk, Bool.true_and, Bool.and_eq_true, decide_eq_true_eq]
    exact ⟨by omega, ih (i + 1) (by omega)⟩

/-! ### requests entering -/

theorem reqIns_kinds (k : Nat) (qs : List Rel) : kindsIn [.reqIn] (reqIns k qs) := by
  induction qs generalizing k with
  | nil => exact kindsIn_nil _
  | cons q rest ih => exact kindsIn_cons (by simp [kind]) (ih _)

theorem reqIns_idx (k : Nat) (qs : List Rel) :
    (reqIns k qs).filterMap reqInIdx = List.range' k qs.length := by
  induction qs generalizing k with
  | nil => simp [reqIns]
  | cons q rest ih => simp [reqIns, reqInIdx, ih, List.range'_succ]

/-! ### drain, flush, stop -/

theorem drainEvs_kinds (met : Bool) (k : Nat) (qs : List Rel) : kindsIn [.reqFin] (drainEvs met k qs) := by
  induction qs generalizing k with
  | nil => exact kindsIn_nil _
  | cons q rest ih =>
    simp only [drainEvs]
    apply kindsIn_append _ (ih _)
    split
    · exact kindsIn_cons (by simp [kind]) (kindsIn_nil _)
    · exact kindsIn_nil _

theorem drainEvs_probes (sc : Scenario) (k : Nat) (qs : List Rel) :
    (drainEvs sc.metrics k qs).all (reqProbeOk sc) = true := by
  induction qs generalizing k with
  | nil => simp [drainEvs]
  | cons q rest ih =>
    simp only [drainEvs, List.all_append, ih, Bool.and_true]
    split <;> simp [reqProbeOk]

theorem flushIf_kinds (b : Bool) : kindsIn [.flush] (flushIf b) := by
  cases b
  · exact kindsIn_nil _
  · exact kindsIn_cons (by simp [kind]) (kindsIn_nil _)

theorem stopHooks_kinds (i : Nat) (hs : List HB) : kindsIn [.stop] (stopHooks i hs) := by
  induction hs generalizing i with
  | nil => exact kindsIn_nil _
  | cons b rest ih => exact kindsIn_cons (by simp [kind]) (kindsIn_cons (by simp [kind]) (ih _))

/-- every OnStop hook runs, whatever the hooks do (each is called under its own recover) -/
theorem stopHooks_tags (i : Nat) (hs : List HB) :
    (stopHooks i hs).filterMap stopTag = seqUp hs.length i := by
  induction hs generalizing i with
  | nil => simp [stopHooks, seqUp]
  | cons b rest ih => simp [stopHooks, stopTag, seqUp, ih]

theorem stopHooks_probes (i n : Nat) (hs : List HB) (h : i + hs.length ≤ n) :
    (stopHooks i hs).all (stopProbeOk n) = true := by
  induction hs generalizing i with
  | nil => simp [stopHooks]
  | cons b rest ih =>
    simp only [List.length_cons] at h
    simp only [stopHooks, List.all_cons, stopProbeOk, Bool.not_false, Bool.true_and, Bool.and_eq_true,
      decide_eq_true_eq]
    exact ⟨by omega, by omega, ih (i + 1) (by omega)⟩

end Rivaas.Lifecycle
