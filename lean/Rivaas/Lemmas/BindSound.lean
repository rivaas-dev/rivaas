import Rivaas.Model.Bind
import Rivaas.Spec.Bind
import Rivaas.Lemmas.BindVal
import Rivaas.Lemmas.BindPath
import Rivaas.Lemmas.BindFlatten
import Rivaas.Lemmas.BindRef
import Rivaas.Lemmas.BindExpect
import Rivaas.Lemmas.BindMap
import Rivaas.Lemmas.BindItems
/-
C04: the structural binder meets the oracle, item by item, for every treatment of nested structs that meets it one
level deeper (`NestSpec`): `lemma_ref_fs`, by induction over the fields of the type, with `lemma_ref_fld_of` as the step
for one field (an embedded struct by the induction hypothesis, a leaf by `lemma_leaf_fld`, a nested struct by `NestSpec`).
-/
namespace Rivaas.Bind
open Spec

/-- every item is satisfied by the result `res` (which was `init`), seen through getter `g` at depth `d` -/
def ItemsOK (P : Params) (cfg : Cfg) (g : Getter) (d : Nat) (its : List Item) (init res : Val) : Prop :=
  (∀ l, Item.leaf l ∈ its → ambiguous g.src (keyed g l) = true ∨
      ∃ e ∈ (expect P cfg g.src init (keyed g l)).oks, holds init res (keyed g l) e = true) ∧
  (∀ n, Item.node n ∈ its → d + n.depth ≤ cfg.maxDepth) ∧
  (∀ f, Item.frame f ∈ its → holdsFrame init res f = true)

/-- the error is one the oracle admits for some item -/
def ItemsErr (P : Params) (cfg : Cfg) (g : Getter) (d : Nat) (its : List Item) (init : Val) (e : Err) : Prop :=
  (∃ l, Item.leaf l ∈ its ∧ ∃ c, e = wrapErr l.names c ∧
      (c ∈ (expect P cfg g.src init (keyed g l)).errs ∨
        (ambiguous g.src (keyed g l) = true ∧ (c = .conv ∨ c = .sliceLen ∨ c = .mapSize)))) ∨
  (∃ n, Item.node n ∈ its ∧ cfg.maxDepth < d + n.depth ∧ e = wrapErr n.names .depth)

theorem lemma_itemsOK_append (P : Params) (cfg : Cfg) (g : Getter) (d : Nat) (a b : List Item) (init res : Val)
    (ha : ItemsOK P cfg g d a init res) (hb : ItemsOK P cfg g d b init res) : ItemsOK P cfg g d (a ++ b) init res := by
  obtain ⟨h1, h2, h3⟩ := ha
  obtain ⟨h4, h5, h6⟩ := hb
  unfold ItemsOK
  simp only [List.mem_append]
  exact ⟨fun l hl => hl.elim (h1 l) (h4 l), fun n hn => hn.elim (h2 n) (h5 n), fun f hf => hf.elim (h3 f) (h6 f)⟩

theorem lemma_itemsErr_mono (P : Params) (cfg : Cfg) (g : Getter) (d : Nat) (a b : List Item) (init : Val) (e : Err)
    (hs : ∀ x ∈ a, x ∈ b) (h : ItemsErr P cfg g d a init e) : ItemsErr P cfg g d b init e := by
  unfold ItemsErr at h ⊢
  rcases h with ⟨l, hl, h⟩ | ⟨n, hn, h⟩
  · exact Or.inl ⟨l, hs _ hl, h⟩
  · exact Or.inr ⟨n, hs _ hn, h⟩

theorem lemma_itemsOK_nil (P : Params) (cfg : Cfg) (g : Getter) (d : Nat) (init res : Val) :
    ItemsOK P cfg g d [] init res := by
  unfold ItemsOK; simp

theorem lemma_leafLink (P : Params) (tag : Tag) (g : Getter) (idx : List Nat) (k : Nat) (h : FieldHdr) (t : Ty) (p : Bytes)
    (as : List Bytes) (htn : tagNames (h.tag tag) h.name (tag == .form) = some (p, as)) :
    ∃ f, mkInfo P tag idx h t = some f ∧ f.name = h.name ∧ f.ty = t ∧ LeafLink P g f (keyed g (leafAt k h t p as)) := by
  rw [lemma_mkInfo_eq, htn]
  exact ⟨_, rfl, rfl, rfl,
    { keys := by simp [keyed, leafAt], ty := rfl, dflt := rfl, nested := by simp [keyed, leafAt], td := rfl }⟩

/-! ### one leaf field -/

variable (P : Params) (cfg : Cfg) (nest : Nest) (tag : Tag)

/-- outcome of the structural binder on field `k`, against the items of that field -/
def FldSpec (g : Getter) (d k : Nat) (its : List Item) (iv : Val) : Val ⊕ Stop → Prop
  | .inl rv => ∀ init res : List Val, init[k]? = some iv → res[k]? = some rv →
      ItemsOK P cfg g d its (.struct init) (.struct res)
  | .inr (.err e) => ∀ init : List Val, init[k]? = some iv → ItemsErr P cfg g d its (.struct init) e
  | .inr .panic => False

/-- `LeafOK`, which speaks of the field's own value, read on the enclosing struct, where the leaf sits at path `[k]` -/
theorem lemma_leaf_core (g : Getter) (d k : Nat) (h : FieldHdr) (t : Ty) (p : Bytes) (as : List Bytes) (iv : Val)
    (o : Val ⊕ Stop)
    (hLO : LeafOK (expectV P cfg g.src (keyed g (leafAt k h t p as)) (mapOf (some iv)))
      (ambiguous g.src (keyed g (leafAt k h t p as))) iv h.name o) :
    FldSpec P cfg g d k [.leaf (leafAt k h t p as)] iv o := by
  have hpath : (keyed g (leafAt k h t p as)).path = [k] := rfl
  cases o with
  | inl rv =>
    intro init res hi hr
    refine ⟨?_, by simp, by simp⟩
    intro l hl
    simp only [List.mem_singleton, Item.leaf.injEq] at hl
    subst hl
    simp only [LeafOK] at hLO
    rcases hLO with h | ⟨e, he, hh⟩
    · exact Or.inl h
    · right
      refine ⟨e, ?_, ?_⟩
      · simp only [expect, hpath, lemma_valAt_one init k iv hi]
        exact he
      · simp only [holds, hpath, lemma_valAt_one init k iv hi, lemma_valAt_one res k rv hr]
        cases e <;> exact hh
  | inr st =>
    cases st with
    | panic => exact hLO
    | err e =>
      intro init hi
      simp only [LeafOK] at hLO
      obtain ⟨c, hc, hh⟩ := hLO
      left
      refine ⟨leafAt k h t p as, by simp, c, hc, ?_⟩
      simp only [expect, hpath, lemma_valAt_one init k iv hi]
      exact hh

theorem lemma_fldspec_frame (g : Getter) (d k : Nat) (t : Ty) (iv : Val) :
    FldSpec P cfg g d k [.frame { path := [k], ty := t }] iv (.inl iv) := by
  intro init res hi hr
  refine ⟨by simp, by simp, ?_⟩
  intro f hf
  simp only [List.mem_singleton, Item.frame.injEq] at hf
  subst hf
  simp [holdsFrame, lemma_valAt_one init k iv hi, lemma_valAt_one res k iv hr]

theorem lemma_inGrammar_leaf {t : Ty} (hns : structFields? t = none) (hg : inGrammar t = true) : leafTy t = true := by
  cases t with
  | struct fs => cases hns
  | ptr e => cases e <;> first | exact hg | cases hns
  | _ => exact hg

theorem lemma_leaf_fld (hP : FloatSane P) (g : Getter) (hs : srcOK g.src = true) (d k : Nat) (h : FieldHdr)
    (t : Ty) (hsf : structFields? t = none) (hg : inGrammar t = true) (iv : Val) (hex : h.exported = true) :
    FldSpec P cfg g d k (leafItems tag k h t) iv (refLeaf P cfg nest tag g d h t iv) := by
  unfold leafItems refLeaf
  simp only [hex, Bool.not_true, Bool.false_eq_true, if_false]
  cases htn : tagNames (h.tag tag) h.name (tag == .form) with
  | none =>
    rw [lemma_mkInfo_eq, htn]
    exact lemma_fldspec_frame P cfg g d k t iv
  | some pa =>
    obtain ⟨f, hmk, hnm, hty, hl⟩ := lemma_leafLink P tag g [] k h t pa.1 pa.2 htn
    simp only [hmk]
    rw [fieldAction_leaf P cfg nest g d f iv (by simp [hty, isStructTy, hsf])]
    exact lemma_leaf_core P cfg g d k h t pa.1 pa.2 iv _
      (hnm ▸ lemma_leaf P cfg hP g hs f _ hl (by rw [hty]; exact lemma_inGrammar_leaf hsf hg) iv)

/-! ### moving between a struct and the value of one of its struct fields -/

/-- how the initial value of the enclosing struct relates to the initial value `init'` the
    sub-struct was bound from, place by place (leaves and frames): the same, or nothing (nil
    pointer) where `init'` is a freshly allocated zero value -/
def InitRel (Init : List Val) (k : Nat) (init' : Val) (its : List Item) : Prop :=
  ∀ x ∈ its, ∀ pt, x.pathTy = some pt → valAt (.struct Init) (k :: pt.1) = valAt init' pt.1 ∨
    (valAt (.struct Init) (k :: pt.1) = none ∧ (valAt init' pt.1 = none ∨ valAt init' pt.1 = some (zero pt.2)))

def ResRel (Res : List Val) (k : Nat) (res' : Val) (its : List Item) : Prop :=
  ∀ x ∈ its, ∀ pt, x.pathTy = some pt → valAt (.struct Res) (k :: pt.1) = valAt res' pt.1

theorem lemma_keyed_under (g : Getter) (k : Nat) (l : Leaf) :
    keyed g (l.under k) = { keyed g l with path := k :: (keyed g l).path, names := (keyed g l).names } := rfl

theorem lemma_keyed_below (g : Getter) (k : Nat) (name p : Bytes) (l : Leaf) :
    keyed g (l.below k name p) =
      { keyed (g.push p) l with path := k :: (keyed (g.push p) l).path, names := name :: l.names } := by
  -- a key is `g.pre ++ (p ++ "." ++ k)` on the left, `(g.pre ++ p ++ ".") ++ k` on the right; both sides are nested
  simp [keyed, Leaf.below, Getter.push, List.map_map, Function.comp_def, List.append_assoc]

theorem lemma_amb_path (s : Src) (l : Leaf) (q : List Nat) (ns : List Bytes) :
    ambiguous s { l with path := q, names := ns } = ambiguous s l := rfl

theorem lemma_under_ok (g : Getter) (d k : Nat) (its : List Item) (Init Res : List Val) (init' res' : Val)
    (hi : InitRel Init k init' its) (hr : ResRel Res k res' its)
    (h : ItemsOK P cfg g d its init' res') :
    ItemsOK P cfg g d (its.map (Item.under k)) (.struct Init) (.struct Res) := by
  obtain ⟨h1, h2, h3⟩ := h
  refine ⟨?_, fun n hn => h2 n (lemma_node_mem_under k its n hn), ?_⟩
  · intro l hl
    obtain ⟨l0, hx, rfl⟩ := lemma_leaf_mem_under k its l hl
    rw [lemma_keyed_under, lemma_amb_path]
    have ht := lemma_transfer P cfg g.src (keyed g l0) k (keyed g l0).names (.struct Init) (.struct Res) init' res'
      (hr _ hx (l0.path, l0.ty) rfl) (hi _ hx (l0.path, l0.ty) rfl)
    exact (h1 l0 hx).imp id fun ⟨e, he, hh⟩ => ⟨e, by rw [ht.1]; exact he, ht.2 e hh⟩
  · intro f hf
    obtain ⟨f0, hx, rfl⟩ := lemma_frame_mem_under k its f hf
    exact lemma_transfer_frame f0 k (.struct Init) (.struct Res) init' res'
      (hr _ hx (f0.path, f0.ty) rfl) (hi _ hx (f0.path, f0.ty) rfl) (h3 f0 hx)

theorem lemma_under_err (g : Getter) (d k : Nat) (its : List Item) (Init : List Val) (init' : Val) (e : Err)
    (hi : InitRel Init k init' its) (h : ItemsErr P cfg g d its init' e) :
    ItemsErr P cfg g d (its.map (Item.under k)) (.struct Init) e := by
  rcases h with ⟨l, hl, c, hc, hh⟩ | ⟨n, hn, hd, he⟩
  · left
    refine ⟨l.under k, List.mem_map.2 ⟨.leaf l, hl, rfl⟩, c, hc, ?_⟩
    rw [lemma_keyed_under, lemma_amb_path]
    rw [lemma_transfer_expect P cfg g.src (keyed g l) k (keyed g l).names (.struct Init) init' (hi _ hl (l.path, l.ty) rfl)]
    exact hh
  · right
    exact ⟨n, List.mem_map.2 ⟨.node n, hn, rfl⟩, hd, he⟩

theorem lemma_below_ok (g : Getter) (d k : Nat) (name p : Bytes) (its : List Item) (Init Res : List Val) (init' res' : Val)
    (hi : InitRel Init k init' its) (hr : ResRel Res k res' its) (hd : d + 1 ≤ cfg.maxDepth)
    (h : ItemsOK P cfg (g.push p) (d + 1) its init' res') :
    ItemsOK P cfg g d (.node { names := [name], depth := 1 } :: its.map (Item.below k name p)) (.struct Init) (.struct Res) := by
  obtain ⟨h1, h2, h3⟩ := h
  refine ⟨?_, ?_, ?_⟩
  · intro l hl
    rcases List.mem_cons.1 hl with hl | hl
    · cases hl
    obtain ⟨l0, hx, rfl⟩ := lemma_leaf_mem_below k name p its l hl
    rw [lemma_keyed_below, lemma_amb_path]
    have ht := lemma_transfer P cfg g.src (keyed (g.push p) l0) k (name :: l0.names) (.struct Init) (.struct Res) init' res'
      (hr _ hx (l0.path, l0.ty) rfl) (hi _ hx (l0.path, l0.ty) rfl)
    exact (h1 l0 hx).imp id fun ⟨e, he, hh⟩ => ⟨e, by rw [ht.1]; exact he, ht.2 e hh⟩
  · intro n hn
    rcases List.mem_cons.1 hn with hn | hn
    · cases hn; exact hd
    · obtain ⟨n0, hx, rfl⟩ := lemma_node_mem_below k name p its n hn
      have := h2 n0 hx
      simp only
      omega
  · intro f hf
    rcases List.mem_cons.1 hf with hf | hf
    · cases hf
    obtain ⟨f0, hx, rfl⟩ := lemma_frame_mem_below k name p its f hf
    exact lemma_transfer_frame f0 k (.struct Init) (.struct Res) init' res'
      (hr _ hx (f0.path, f0.ty) rfl) (hi _ hx (f0.path, f0.ty) rfl) (h3 f0 hx)

theorem lemma_below_err (g : Getter) (d k : Nat) (name p : Bytes) (its : List Item) (Init : List Val) (init' : Val) (e : Err)
    (hi : InitRel Init k init' its) (h : ItemsErr P cfg (g.push p) (d + 1) its init' e) :
    ItemsErr P cfg g d (.node { names := [name], depth := 1 } :: its.map (Item.below k name p)) (.struct Init) (.bind name e) := by
  rcases h with ⟨l, hl, c, hc, hh⟩ | ⟨n, hn, hd, he⟩
  · left
    refine ⟨l.below k name p, List.mem_cons_of_mem _ (List.mem_map.2 ⟨.leaf l, hl, rfl⟩), c, ?_, ?_⟩
    · rw [hc]; rfl
    · rw [lemma_keyed_below, lemma_amb_path,
        lemma_transfer_expect P cfg g.src (keyed (g.push p) l) k (name :: l.names) (.struct Init) init' (hi _ hl (l.path, l.ty) rfl)]
      exact hh
  · right
    refine ⟨{ names := name :: n.names, depth := n.depth + 1 },
      List.mem_cons_of_mem _ (List.mem_map.2 ⟨.node n, hn, rfl⟩), by simp only; omega, ?_⟩
    rw [he]; rfl

theorem lemma_resrel_held (tag : Tag) {sub : List Fld} {t : Ty} (hsf : structFields? t = some sub) (Res : List Val) (k : Nat)
    (v : Val) (hk : Res[k]? = some (rewrap t v)) : ResRel Res k v (itemsFs tag 0 sub) := by
  intro x hx pt hpt
  obtain ⟨a, r, hp⟩ := (lemma_items_paths tag sub x hx pt hpt).1
  rw [lemma_valAt_cons Res k pt.1 _ hk]
  rcases structFields?_some hsf with rfl | rfl
  · rfl
  · rw [hp]; exact lemma_valAt_ptr v a r

theorem lemma_initrel_held (tag : Tag) {sub : List Fld} {t : Ty} (hsf : structFields? t = some sub) (Init : List Val) (k : Nat)
    (v : Val) (hk : Init[k]? = some (rewrap t v)) : InitRel Init k v (itemsFs tag 0 sub) :=
  fun x hx pt hpt => Or.inl (lemma_resrel_held tag hsf Init k v hk x hx pt hpt)

theorem lemma_initrel_nil (tag : Tag) (sub : List Fld) (Init : List Val) (k : Nat) (hk : Init[k]? = some .nil) :
    InitRel Init k (.struct (zeroFs sub)) (itemsFs tag 0 sub) := by
  intro x hx pt hpt
  obtain ⟨⟨a, r, hp⟩, hzl⟩ := lemma_items_paths tag sub x hx pt hpt
  right
  refine ⟨?_, hzl⟩
  rw [lemma_valAt_cons Init k pt.1 _ hk, hp, lemma_valAt_nil]

/-! ### an embedded nil pointer none of whose promoted fields receives a value -/

/-- the item is a place inside the struct (non-empty path, so nothing is there under a nil pointer): a frame, or
    a leaf the oracle expects untouched (or whose keys are ambiguous); never a node -/
def Untouched (g : Getter) : Item → Prop
  | .leaf l => (∃ a r, l.path = a :: r) ∧
      (ambiguous g.src (keyed g l) = true ∨ ∀ m0, none ∈ (expectV P cfg g.src (keyed g l) m0).oks)
  | .node _ => False
  | .frame f => ∃ a r, f.path = a :: r

theorem lemma_untouched_leaf (g : Getter) (hs : srcOK g.src = true) (pre : List Nat) (k : Nat) (h : FieldHdr) (t : Ty)
    (hleaf : leafTy t = true) (hex : h.exported = true)
    (hu : ∀ f ∈ (mkInfo P tag (pre ++ [k]) h t).toList, wants g f = false) :
    ∀ x ∈ leafItems tag k h t, Untouched P cfg g x := by
  intro x hx
  unfold leafItems at hx
  simp only [hex, Bool.not_true, Bool.false_eq_true, if_false] at hx
  cases htn : tagNames (h.tag tag) h.name (tag == .form) with
  | none =>
    rw [htn] at hx
    cases List.mem_singleton.1 hx
    exact ⟨k, [], rfl⟩
  | some pa =>
    rw [htn] at hx
    cases List.mem_singleton.1 hx
    obtain ⟨f, hmk, _, hty, hl⟩ := lemma_leafLink P tag g (pre ++ [k]) k h t pa.1 pa.2 htn
    exact ⟨⟨k, [], rfl⟩, lemma_unwanted P cfg g hs f _ hl (by rw [hty]; exact hleaf) (hu f (by simp [hmk]))⟩

theorem lemma_untouched_under (g : Getter) (k : Nat) (its : List Item) (h : ∀ x ∈ its, Untouched P cfg g x) :
    ∀ x ∈ its.map (Item.under k), Untouched P cfg g x := by
  intro x hx
  simp only [List.mem_map] at hx
  obtain ⟨y, hy, hyx⟩ := hx
  subst hyx
  have := h y hy
  cases y with
  | node n => exact this
  | frame f => exact ⟨k, f.path, rfl⟩
  | leaf l =>
    obtain ⟨⟨a, r, hp⟩, h2⟩ := this
    exact ⟨⟨k, l.path, rfl⟩, h2⟩

theorem lemma_inGrammar_struct {t : Ty} {sub : List Fld} (hs : structFields? t = some sub) (hg : inGrammar t = true) :
    inGrammarFs sub = true := by
  rcases structFields?_some hs with rfl | rfl <;> simpa [inGrammar] using hg

theorem lemma_untouched_fld_of (g : Getter) (hs : srcOK g.src = true) (k : Nat) (h : FieldHdr) (t : Ty) (pre : List Nat)
    (ihsub : ∀ sub, structFields? t = some sub → ∀ (pre : List Nat) (i : Nat), inGrammarFs sub = true →
      (∀ f ∈ flattenFs P tag pre i sub, wants g f = false) → ∀ x ∈ itemsFs tag i sub, Untouched P cfg g x)
    (hg : inGrammar t = true) (hu : ∀ f ∈ flattenFld P tag pre k h t, wants g f = false) :
    ∀ x ∈ itemsFld tag k h t, Untouched P cfg g x := by
  have frame : ∀ x ∈ [Item.frame { path := [k], ty := t }], Untouched P cfg g x := by
    intro x hx
    simp only [List.mem_singleton] at hx
    subst hx
    exact ⟨k, [], rfl⟩
  rcases fld_kind h t with ⟨sub, hsf, hex, han⟩ | hl
  · rw [flattenFld_embedded P tag pre k h t sub hsf hex han] at hu
    rw [lemma_itemsFld_embedded tag k h t sub hsf hex han]
    exact lemma_untouched_under P cfg g k _ (ihsub sub hsf (pre ++ [k]) 0 (lemma_inGrammar_struct hsf hg) hu)
  · rw [flattenFld_own P tag pre k h t hl] at hu
    rcases fld_kind_own hl with hex | ⟨hex, hsf | ⟨sub, hsf, han⟩⟩
    · rw [lemma_itemsFld_unexported tag k h t hex]
      exact frame
    · rw [lemma_itemsFld_leaf tag k h t hsf]
      exact lemma_untouched_leaf P cfg tag g hs pre k h t (lemma_inGrammar_leaf hsf hg) hex
        (by simpa [hex] using hu)
    · -- a nested struct field bound under the tag is always wanted (`wants` holds for every struct type): it
      -- cannot be among the unwanted entries `hu` speaks of
      rw [lemma_itemsFld_nested tag k h t sub hsf hex han]
      unfold nestedItems
      cases htn : tagNames (h.tag tag) h.name (tag == .form) with
      | none => exact frame
      | some pa =>
        have := hu _ (by rw [lemma_mkInfo_eq, htn, hex]; exact List.mem_singleton.2 rfl)
        simp [wants, isStructTy, hsf] at this

theorem lemma_untouched_fs (g : Getter) (hs : srcOK g.src = true) :
    ∀ (fs : List Fld) (pre : List Nat) (i : Nat), inGrammarFs fs = true →
      (∀ f ∈ flattenFs P tag pre i fs, wants g f = false) → ∀ x ∈ itemsFs tag i fs, Untouched P cfg g x := by
  intro fs
  induction fs using fld_induction with
  | nil => intro _ _ _ _; simp [itemsFs]
  | cons h t rest ihsub ih =>
    intro pre i hg hu
    simp only [inGrammarFs, Bool.and_eq_true] at hg
    simp only [flattenFs, List.mem_append] at hu
    simp only [itemsFs, List.mem_append]
    intro x hx
    rcases hx with hx | hx
    · exact lemma_untouched_fld_of P cfg tag g hs i h t pre ihsub hg.1 (fun f hf => hu f (Or.inl hf)) x hx
    · exact ih pre (i+1) hg.2 (fun f hf => hu f (Or.inr hf)) x hx


theorem lemma_untouched_fld (g : Getter) (hs : srcOK g.src = true) (k : Nat) (h : FieldHdr) :
    ∀ (t : Ty) (pre : List Nat), inGrammar t = true →
      (∀ f ∈ flattenFld P tag pre k h t, wants g f = false) → ∀ x ∈ itemsFld tag k h t, Untouched P cfg g x :=
  fun t pre => lemma_untouched_fld_of P cfg tag g hs k h t pre (fun sub _ => lemma_untouched_fs P cfg tag g hs sub)

/-! ### a nested struct field -/

/-- the treatment of nested structs meets the oracle at depth `d` -/
def NestSpec (nest : Nest) (d : Nat) : Prop :=
  ∀ (nfs : List Fld) (ivs : List Val) (g : Getter), wts nfs ivs = true → inGrammarFs nfs = true → srcOK g.src = true →
    match nest nfs (.struct ivs) g d with
    | .ok v => ItemsOK P cfg g d (itemsFs tag 0 nfs) (.struct ivs) v
    | .err e => ItemsErr P cfg g d (itemsFs tag 0 nfs) (.struct ivs) e
    | .panic => False

/-- the struct value the bind of a nested struct field starts from (`innerOf`: the field itself, what its pointer
    points to, a fresh zero struct for a nil pointer), and how its places show in the enclosing struct -/
theorem lemma_inner_struct (k : Nat) (t : Ty) (nfs : List Fld) (iv : Val) (hs : structFields? t = some nfs)
    (hw : wt t iv = true) :
    ∃ ivs, innerOf nfs iv = .struct ivs ∧ wts nfs ivs = true ∧
      ∀ Init : List Val, Init[k]? = some iv → InitRel Init k (.struct ivs) (itemsFs tag 0 nfs) := by
  cases structVal_of_wt hs hw with
  | held cs hwc =>
    exact ⟨cs, by rcases structFields?_some hs with rfl | rfl <;> rfl, hwc, fun Init hk => lemma_initrel_held tag hs Init k _ hk⟩
  | nil ht => exact ⟨zeroFs nfs, by simp [innerOf, zero], lemma_wts_zero nfs, fun Init hk => lemma_initrel_nil tag nfs Init k hk⟩

theorem lemma_nested_fld (g : Getter) (hs : srcOK g.src = true) (d : Nat)
    (hn : d + 1 ≤ cfg.maxDepth → NestSpec P cfg tag nest (d + 1))
    (k : Nat) (h : FieldHdr) (t : Ty) (nfs : List Fld) (hsf : structFields? t = some nfs) (iv : Val)
    (hg : inGrammarFs nfs = true) (hw : wt t iv = true) :
    FldSpec P cfg g d k (nestedItems tag k h t nfs) iv (refLeaf P cfg nest tag g d h t iv) := by
  unfold nestedItems refLeaf
  rw [lemma_mkInfo_eq]
  cases tagNames (h.tag tag) h.name (tag == .form) with
  | none => exact lemma_fldspec_frame P cfg g d k _ iv
  | some pa =>
    obtain ⟨hst, hnfs⟩ := lemma_struct_field hsf
    simp only [Option.map_some, wants, hst, Bool.or_true, Bool.true_or, Bool.not_true, Bool.false_eq_true, if_false]
    rw [fieldAction_struct P cfg nest g d _ iv hst]
    simp only [hnfs]
    by_cases hdep : cfg.maxDepth < d + 1
    · -- too deep: the field is reported, nothing is bound
      rw [if_pos hdep]
      intro init _
      right
      exact ⟨{ names := [h.name], depth := 1 }, by simp, hdep, rfl⟩
    · rw [if_neg hdep]
      have hd : d + 1 ≤ cfg.maxDepth := by omega
      obtain ⟨ivs, hinner, hwts, hirel⟩ := lemma_inner_struct tag k t nfs iv hsf hw
      rw [hinner]
      have hsp := hn hd nfs ivs (g.push pa.1) hwts hg hs
      cases hr : nest nfs (.struct ivs) (g.push pa.1) (d + 1) with
      | panic => rw [hr] at hsp; exact hsp
      | err e =>
        rw [hr] at hsp
        intro init hi
        exact lemma_below_err P cfg g d k h.name pa.1 _ init _ e (hirel init hi) hsp
      | ok nv =>
        rw [hr] at hsp
        intro init res hi hrv
        exact lemma_below_ok P cfg g d k h.name pa.1 _ init res (.struct ivs) nv (hirel init hi)
          (lemma_resrel_held tag hsf res k nv hrv) hd hsp


/-! ### the structural binder meets the oracle -/

/-- outcome of the structural binder on the fields from position `i` on; `ivs`, `rvs` are the windows of the whole
    `init`, `res` from `i` on, since the items name places in the whole struct -/
def FsSpec (g : Getter) (d i : Nat) (its : List Item) (ivs : List Val) : List Val ⊕ Stop → Prop
  | .inl rvs => ∀ init res : List Val,
      (∀ j, init[i + j]? = ivs[j]?) → (∀ j, res[i + j]? = rvs[j]?) → ItemsOK P cfg g d its (.struct init) (.struct res)
  | .inr (.err e) => ∀ init : List Val, (∀ j, init[i + j]? = ivs[j]?) → ItemsErr P cfg g d its (.struct init) e
  | .inr .panic => False

theorem lemma_embedded_lift (g : Getter) (d k : Nat) (sub : List Fld) (cs : List Val) (iv : Val) {t : Ty}
    (hsf : structFields? t = some sub) (hinit : ∀ Init : List Val, Init[k]? = some iv → InitRel Init k (.struct cs) (itemsFs tag 0 sub))
    (r : List Val ⊕ Stop) (h : FsSpec P cfg g d 0 (itemsFs tag 0 sub) cs r) :
    FldSpec P cfg g d k ((itemsFs tag 0 sub).map (Item.under k)) iv (embLift (rewrap t) r) := by
  cases r with
  | inl cs' =>
    intro init res hi hr
    exact lemma_under_ok P cfg g d k _ init res (.struct cs) (.struct cs') (hinit init hi)
      (lemma_resrel_held tag hsf res k _ hr) (h cs cs' (fun j => by simp) (fun j => by simp))
  | inr o =>
    cases o with
    | panic => exact h
    | err e =>
      intro init hi
      exact lemma_under_err P cfg g d k _ init (.struct cs) e (hinit init hi) (h cs (fun j => by simp))

/-- an embedded nil pointer none of whose promoted fields receives a value stays nil: nothing below it exists,
    before or after, and that is what the oracle expects of every item below it -/
theorem lemma_untouched_ok (g : Getter) (d k : Nat) (its : List Item) (hun : ∀ x ∈ its, Untouched P cfg g x)
    (init res : List Val) (hi : init[k]? = some .nil) (hr : res[k]? = some .nil) :
    ItemsOK P cfg g d (its.map (Item.under k)) (.struct init) (.struct res) := by
  have gone : ∀ (vs : List Val) (q : List Nat), vs[k]? = some .nil → (∃ a r, q = a :: r) →
      valAt (.struct vs) (k :: q) = none := by
    rintro vs q hv ⟨a, r, rfl⟩
    rw [lemma_valAt_cons vs k _ _ hv, lemma_valAt_nil]
  refine ⟨?_, fun n hn' => (hun _ (lemma_node_mem_under k its n hn')).elim, ?_⟩
  · intro l hl
    obtain ⟨l0, hx, rfl⟩ := lemma_leaf_mem_under k its l hl
    obtain ⟨hp, hu2⟩ := hun _ hx
    rw [lemma_keyed_under, lemma_amb_path]
    refine hu2.imp id (fun h => ⟨none, ?_, ?_⟩)
    · simp only [expect]
      rw [show (keyed g l0).path = l0.path from rfl, gone init _ hi hp]
      exact h _
    · simp only [holds]
      rw [show (keyed g l0).path = l0.path from rfl, gone init _ hi hp, gone res _ hr hp]
  · intro f hf
    obtain ⟨f0, hx, rfl⟩ := lemma_frame_mem_under k its f hf
    have hux : ∃ a r, f0.path = a :: r := hun _ hx
    simp [holdsFrame, gone init _ hi hux, gone res _ hr hux]

theorem lemma_ref_fld_of (hP : FloatSane P) (g : Getter) (hs : srcOK g.src = true) (d : Nat)
    (hn : d + 1 ≤ cfg.maxDepth → NestSpec P cfg tag nest (d + 1)) (k : Nat) (h : FieldHdr) (t : Ty) (iv : Val)
    (ihsub : ∀ sub, structFields? t = some sub → ∀ (i : Nat) (ivs : List Val), wts sub ivs = true →
      inGrammarFs sub = true → FsSpec P cfg g d i (itemsFs tag i sub) ivs (refFs P cfg nest tag g d sub ivs))
    (hw : wt t iv = true) (hg : inGrammar t = true) :
    FldSpec P cfg g d k (itemsFld tag k h t) iv (refFld P cfg nest tag g d h t iv) := by
  rcases fld_kind h t with ⟨sub, hsf, hex, han⟩ | hl
  · have hgs := lemma_inGrammar_struct hsf hg
    rw [lemma_itemsFld_embedded tag k h t sub hsf hex han]
    cases structVal_of_wt hsf hw with
    | held cs hwc =>
      rw [lemma_refFld_held P cfg nest tag g d h hsf cs hex han]
      exact lemma_embedded_lift P cfg tag g d k sub cs _ hsf (fun Init hk => lemma_initrel_held tag hsf Init k _ hk) _
        (ihsub sub hsf 0 cs hwc hgs)
    | nil ht =>
      subst ht
      rw [lemma_refFld_nil P cfg nest tag g d h sub hex han]
      cases hany : (flatten P tag sub).any (wants g) with
      | true =>
        rw [if_pos rfl]
        exact lemma_embedded_lift P cfg tag g d k sub (zeroFs sub) .nil hsf (fun Init hk => lemma_initrel_nil tag sub Init k hk) _
          (ihsub sub hsf 0 (zeroFs sub) (lemma_wts_zero sub) hgs)
      | false =>
        rw [if_neg Bool.false_ne_true]
        exact lemma_untouched_ok P cfg g d k _
          (lemma_untouched_fs P cfg tag g hs sub [] 0 hgs (fun f hf => by simpa using List.any_eq_false.1 hany f hf))
  · rw [refFld_own P cfg nest tag g d h t iv hl]
    rcases fld_kind_own hl with hex | ⟨hex, hsf | ⟨sub, hsf, han⟩⟩
    · rw [hex, lemma_itemsFld_unexported tag k h _ hex]
      exact lemma_fldspec_frame P cfg g d k _ iv
    · rw [hex, lemma_itemsFld_leaf tag k h t hsf]
      exact lemma_leaf_fld P cfg nest tag hP g hs d k h t hsf hg iv hex
    · rw [hex, lemma_itemsFld_nested tag k h t sub hsf hex han]
      exact lemma_nested_fld P cfg nest tag g hs d hn k h t sub hsf iv (lemma_inGrammar_struct hsf hg) hw

theorem lemma_ref_fs (hP : FloatSane P) (g : Getter) (hs : srcOK g.src = true) (d : Nat)
    (hn : d + 1 ≤ cfg.maxDepth → NestSpec P cfg tag nest (d + 1)) :
    ∀ (fs : List Fld) (i : Nat) (ivs : List Val), wts fs ivs = true → inGrammarFs fs = true →
      FsSpec P cfg g d i (itemsFs tag i fs) ivs (refFs P cfg nest tag g d fs ivs) := by
  intro fs
  induction fs using fld_induction with
  | nil =>
    intro i ivs hw _
    cases ivs with
    | nil =>
      simp only [refFs, itemsFs, FsSpec]
      exact fun init res _ _ => lemma_itemsOK_nil P cfg g d _ _
    | cons _ _ => simp [wts] at hw
  | cons h t rest ihsub ih =>
    intro i ivs hw hg
    cases ivs with
    | nil => simp [wts] at hw
    | cons v vs =>
      simp only [wts, Bool.and_eq_true] at hw
      simp only [inGrammarFs, Bool.and_eq_true] at hg
      have ihf := lemma_ref_fld_of P cfg nest tag hP g hs d hn i h t v ihsub hw.1 hg.1
      have ihs := ih (i+1) vs hw.2 hg.2
      simp only [refFs, itemsFs]
      cases hr : refFld P cfg nest tag g d h t v with
      | inr o =>
        rw [hr] at ihf
        cases o with
        | panic => exact ihf
        | err e =>
          intro init hi
          exact lemma_itemsErr_mono P cfg g d _ _ _ e (fun _ => List.mem_append_left _) (ihf init (lemma_window_cons hi).1)
      | inl v' =>
        rw [hr] at ihf
        simp only
        cases hrs : refFs P cfg nest tag g d rest vs with
        | inr o =>
          rw [hrs] at ihs
          cases o with
          | panic => exact ihs
          | err e =>
            intro init hi
            exact lemma_itemsErr_mono P cfg g d _ _ _ e (fun _ => List.mem_append_right _) (ihs init (lemma_window_cons hi).2)
        | inl vs' =>
          rw [hrs] at ihs
          intro init res hi hrr
          exact lemma_itemsOK_append P cfg g d _ _ _ _ (ihf init res (lemma_window_cons hi).1 (lemma_window_cons hrr).1)
            (ihs init res (lemma_window_cons hi).2 (lemma_window_cons hrr).2)

theorem lemma_ref_fld (hP : FloatSane P) (g : Getter) (hs : srcOK g.src = true) (d : Nat)
    (hn : d + 1 ≤ cfg.maxDepth → NestSpec P cfg tag nest (d + 1)) (k : Nat) (h : FieldHdr) :
    ∀ (t : Ty) (iv : Val), wt t iv = true → inGrammar t = true →
      FldSpec P cfg g d k (itemsFld tag k h t) iv (refFld P cfg nest tag g d h t iv) :=
  fun t iv => lemma_ref_fld_of P cfg nest tag hP g hs d hn k h t iv
    (fun sub _ => lemma_ref_fs P cfg nest tag hP g hs d hn sub)

end Rivaas.Bind
