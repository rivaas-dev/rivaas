import Rivaas.Model.Bind
import Rivaas.Spec.Bind
import Rivaas.Lemmas.BindVal
import Rivaas.Lemmas.BindConv
import Rivaas.Lemmas.BindLookup
import Rivaas.Lemmas.BindStep
/-
C04: one iteration of the bind loop on a leaf field (`wants` + `leafAction`) meets the oracle's
expectation for that leaf (`Spec.expectV`), kind by kind: scalars, pointers to scalars, slices. (Maps: `lemma_leaf_map`
in BindMap.lean.) Each proof reads the source through `lemma_reads`, compares the conversion with the oracle's `denote`
(`conv_meets_denote`; a list of conversions through `Meets`) and concludes by one of the rules `leafOK_keep / _store / _refuse`; keys that are ambiguous in the source are dealt with once (`leafOK_of_unamb`,
over `lemma_leafAction_err`: whatever the field's type, the error of the step is a conversion failure or one of the two limits).
-/
namespace Rivaas.Bind
open Spec

/-- the leaf's value `rv` (it was `iv`) satisfies the admissible outcome `e` -/
def holdsV (iv rv : Val) : Option Val → Bool
  | some x => normLeaf rv == normLeaf x
  | none => normLeaf rv == normLeaf iv

/-- what the loop did with a leaf is admissible: a value among the expected ones, or an error of an
    expected class naming the field; for keys that are ambiguous in this source anything but a panic -/
def LeafOK (E : Expect) (amb : Bool) (iv : Val) (name : Bytes) : Val ⊕ Stop → Prop
  | .inl rv => amb = true ∨ ∃ e ∈ E.oks, holdsV iv rv e = true
  | .inr (.err e) => ∃ c, e = .bind name c ∧ (c ∈ E.errs ∨ (amb = true ∧ (c = .conv ∨ c = .sliceLen ∨ c = .mapSize)))
  | .inr .panic => False

theorem leafOK_keep {E : Expect} {amb : Bool} {iv : Val} {name : Bytes} (h : none ∈ E.oks) :
    LeafOK E amb iv name (.inl iv) := Or.inr ⟨none, h, by simp [holdsV]⟩

theorem leafOK_store {E : Expect} {amb : Bool} {iv : Val} {name : Bytes} {v : Val} (h : some v ∈ E.oks) :
    LeafOK E amb iv name (.inl v) := Or.inr ⟨_, h, by simp [holdsV]⟩

theorem leafOK_refuse {E : Expect} {amb : Bool} {iv : Val} {name : Bytes} {c : Err} (h : c ∈ E.errs) :
    LeafOK E amb iv name (.inr (.err (.bind name c))) := ⟨c, rfl, Or.inl h⟩

theorem leafOK_amb (E : Expect) (iv : Val) (name : Bytes) (r : Except Err Val)
    (h : ∀ e, r = .error e → e = .conv ∨ e = .sliceLen ∨ e = .mapSize) : LeafOK E true iv name (underName name r) := by
  cases r with
  | ok v => exact Or.inl rfl
  | error e => exact ⟨e, rfl, Or.inr ⟨rfl, h e rfl⟩⟩

theorem leafOK_mono (E : Expect) (amb : Bool) (iv : Val) (name : Bytes) (o : Val ⊕ Stop)
    (h : LeafOK E false iv name o) : LeafOK E amb iv name o := by
  cases o with
  | inl rv => exact h.elim (fun h => (by cases h)) Or.inr
  | inr s =>
    cases s with
    | panic => exact h
    | err e =>
      obtain ⟨c, hc, h⟩ := h
      exact ⟨c, hc, h.elim Or.inl (fun h => (by cases h.1))⟩

theorem leafTy_cases {t : Ty} (h : leafTy t = true) : ∃ (p : Prim) (isPtr : Bool),
    t = (if isPtr then .ptr (.prim p) else .prim p) ∨
    t = (if isPtr then .ptr (.slice (.prim p)) else .slice (.prim p)) ∨
    t = (if isPtr then .ptr (.map (.prim p)) else .map (.prim p)) := by
  cases t with
  | prim p => exact ⟨p, false, Or.inl rfl⟩
  | slice e =>
    cases e with
    | prim p => exact ⟨p, false, Or.inr (Or.inl rfl)⟩
    | _ => cases h
  | map e =>
    cases e with
    | prim p => exact ⟨p, false, Or.inr (Or.inr rfl)⟩
    | _ => cases h
  | struct fs => cases h
  | ptr e =>
    cases e with
    | prim p => exact ⟨p, true, Or.inl rfl⟩
    | slice e' =>
      cases e' with
      | prim p => exact ⟨p, true, Or.inr (Or.inl rfl)⟩
      | _ => cases h
    | map e' =>
      cases e' with
      | prim p => exact ⟨p, true, Or.inr (Or.inr rfl)⟩
      | _ => cases h
    | _ => cases h

/-- the facts `mkInfo` establishes about a field table entry and the oracle's leaf for the same field -/
structure LeafLink (P : Params) (g : Getter) (f : FieldInfo) (l : Leaf) : Prop where
  keys : l.keys = (f.tagName :: f.aliases).map (g.pre ++ ·)
  ty : l.ty = f.ty
  dflt : l.dflt = f.dflt
  nested : l.nested = g.nested
  td : f.typedDefault = if !f.dflt.isEmpty && !isSliceTy f.ty && !isMapTy f.ty then convTy P Cfg.default f.ty f.dflt else none

theorem lemma_unamb_scalar (g : Getter) (f : FieldInfo) (l : Leaf) (hk : l.keys = (f.tagName :: f.aliases).map (g.pre ++ ·))
    (hn : l.nested = g.nested) (hamb : l.keys.any (ambiguousKey g.src l.nested) = false) :
    ∀ k ∈ f.tagName :: f.aliases, dotAmb g.src g.nested (g.pre ++ k) = false ∧ bracketOnly g.src (g.pre ++ k) = false := by
  intro k hkm
  rw [hk, hn] at hamb
  have := List.any_eq_false.1 hamb (g.pre ++ k) (List.mem_map.2 ⟨k, hkm, rfl⟩)
  rw [ambiguousKey_eq] at this
  simp only [Bool.not_eq_true, Bool.or_eq_false_iff] at this
  exact ⟨this.2, this.1⟩

variable (P : Params) (cfg : Cfg)

theorem lemma_mapMOpt_length {α β} (f : α → Option β) : ∀ (xs : List α) (ys : List β),
    mapMOpt f xs = some ys → ys.length = xs.length
  | [], ys, h => by simp [mapMOpt] at h; simp [← h]
  | x :: r, ys, h => by
    simp only [mapMOpt] at h
    cases hx : f x with
    | none => simp [hx] at h
    | some y =>
      cases hr : mapMOpt f r with
      | none => simp [hx, hr] at h
      | some yr =>
        simp only [hx, hr, Option.some.injEq] at h
        subst h
        simp [lemma_mapMOpt_length f r yr hr]

theorem lemma_setSlice_cases (ty : Ty) (cur : Val) (values : List Bytes) (r : Except Err Val)
    (h : setSlice P cfg ty cur values = r) :
    (values.isEmpty = true ∧ r = .ok cur) ∨ r = .error .sliceLen ∨ r = .error .conv ∨
    ∃ e ys, (cfg.maxSlice = 0 ∨ ys.length ≤ cfg.maxSlice) ∧
      ((ty = .slice e ∧ r = .ok (.list ys)) ∨ (ty = .ptr (.slice e) ∧ r = .ok (.ptr (.list ys)))) := by
  subst h
  unfold setSlice
  by_cases hemp : values.isEmpty = true
  · exact Or.inl ⟨hemp, by rw [if_pos hemp]⟩
  · rw [if_neg hemp]
    generalize (if (cfg.csv && values.length == 1) = true then (splitB ',' (values.headD [])).map trimSpace else values) = vals
    dsimp only
    by_cases hlim : (decide (cfg.maxSlice > 0) && decide (vals.length > cfg.maxSlice)) = true
    · rw [if_pos hlim]; exact Or.inr (Or.inl rfl)
    · rw [if_neg hlim]
      -- the converted elements are as many as the values, which are within the limit
      have bound : ∀ (e : Ty) (ys : List Val), mapMOpt (convTy P cfg e) vals = some ys →
          cfg.maxSlice = 0 ∨ ys.length ≤ cfg.maxSlice := by
        intro e ys hm
        rw [lemma_mapMOpt_length _ _ _ hm]
        simp only [Bool.and_eq_true, decide_eq_true_eq, not_and, Nat.not_lt] at hlim
        omega
      split
      · next e =>
        cases hm : mapMOpt (convTy P cfg e) vals with
        | none => exact Or.inr (Or.inr (Or.inl rfl))
        | some ys => exact Or.inr (Or.inr (Or.inr ⟨e, ys, bound e ys hm, Or.inl ⟨rfl, rfl⟩⟩))
      · next e =>
        cases hm : mapMOpt (convTy P cfg e) vals with
        | none => exact Or.inr (Or.inr (Or.inl rfl))
        | some ys => exact Or.inr (Or.inr (Or.inr ⟨e, ys, bound e ys hm, Or.inr ⟨rfl, rfl⟩⟩))
      · exact Or.inr (Or.inr (Or.inl rfl))

theorem lemma_setSlice_err (ty : Ty) (iv : Val) (vs : List Bytes) (e : Err)
    (h : setSlice P cfg ty iv vs = .error e) : e = .conv ∨ e = .sliceLen := by
  rcases lemma_setSlice_cases P cfg ty iv vs _ h with ⟨_, h⟩ | h | h | ⟨_, _, _, ⟨_, h⟩ | ⟨_, h⟩⟩ <;> cases h
  -- an `.ok` outcome is no error; there remain `.error .sliceLen` and `.error .conv`
  · exact Or.inr rfl
  · exact Or.inl rfl

theorem lemma_bindMapEntries_err (vty : Ty) (pre : Bytes) :
    ∀ (kvs : List (Bytes × List Bytes)) (count : Nat) (m : List (Bytes × Val)) (e : Err),
      bindMapEntries P cfg vty pre kvs count m = .error e → e = .conv ∨ e = .mapSize
  | [], _, _, e, h => by simp [bindMapEntries] at h
  | (key, vals) :: rest, count, m, e, h => by
    simp only [bindMapEntries] at h
    split at h
    · exact lemma_bindMapEntries_err vty pre rest count m e h
    · split at h
      · cases h; exact Or.inl rfl
      · split at h
        · cases h; exact Or.inr rfl
        · split at h
          · cases h; exact Or.inl rfl
          · exact lemma_bindMapEntries_err vty pre rest _ _ e h

theorem lemma_jsonEntries_err (vty : Ty) :
    ∀ (es : List (Bytes × Bytes)) (m : List (Bytes × Val)) (e : Err), jsonEntries P cfg vty es m = .error e → e = .conv
  | [], _, e, h => by simp [jsonEntries] at h
  | (k, sv) :: rest, m, e, h => by
    simp only [jsonEntries] at h
    split at h
    · cases h; rfl
    · exact lemma_jsonEntries_err vty rest _ e h

theorem lemma_setMap_err (ty : Ty) (cur : Val) (g : Getter) (name : Bytes) (e : Err)
    (h : setMap P cfg ty cur g name = .error e) : e = .conv ∨ e = .mapSize := by
  -- along the control flow of setMapField; the `let`s stay names, so each step handles a small term
  unfold setMap at h
  extract_lets full qf count m0 found jv at h
  by_cases hc : (decide (count > 0) && decide (cfg.maxMap > 0) && decide (count > cfg.maxMap)) = true
  · rw [if_pos hc] at h
    cases h; exact Or.inr rfl
  · rw [if_neg hc] at h
    split at h
    extract_lets wrap at h
    split at h
    · next he =>
      cases h
      by_cases hq : qf = true
      · rw [if_pos hq] at he
        exact lemma_bindMapEntries_err P cfg _ _ _ _ _ _ he
      · rw [if_neg hq] at he
        cases he
    · by_cases hf : (!found && g.has name) = true
      · rw [if_pos hf] at h
        by_cases hj : jv.isEmpty = true
        · rw [if_pos hj] at h
          cases h
        · rw [if_neg hj] at h
          split at h
          · cases h
          · next es _ =>
            by_cases hl : (decide (cfg.maxMap > 0) && decide (es.length > cfg.maxMap)) = true
            · rw [if_pos hl] at h
              cases h; exact Or.inr rfl
            · rw [if_neg hl] at h
              split at h
              · next he => cases h; exact Or.inl (lemma_jsonEntries_err P cfg _ _ _ _ he)
              · cases h
      · rw [if_neg hf] at h
        cases h

theorem lemma_leafAction_err (g : Getter) (f : FieldInfo) (cur : Val) (e : Err)
    (h : leafAction P cfg g f cur = .error e) : e = .conv ∨ e = .sliceLen ∨ e = .mapSize := by
  unfold leafAction at h
  by_cases hm : isMapTy f.ty = true
  · rw [if_pos hm] at h
    exact (lemma_setMap_err P cfg _ _ _ _ e h).imp_right Or.inr
  · rw [if_neg hm] at h
    dsimp only at h
    split at h
    · cases h
    · by_cases hsl : isSliceTy f.ty = true
      · rw [if_pos hsl] at h
        exact (lemma_setSlice_err P cfg _ _ _ e h).imp_right Or.inl
      · rw [if_neg hsl] at h
        split at h <;> cases h
        exact Or.inl rfl

theorem leafOK_of_unamb (g : Getter) (f : FieldInfo) (E : Expect) (amb : Bool) (iv : Val)
    (h : amb = false → LeafOK E false iv f.name (if !wants g f then .inl iv else underName f.name (leafAction P cfg g f iv))) :
    LeafOK E amb iv f.name (if !wants g f then .inl iv else underName f.name (leafAction P cfg g f iv)) := by
  cases amb with
  | false => exact h rfl
  | true =>
    cases wants g f with
    | false => exact Or.inl rfl
    | true => exact leafOK_amb E iv f.name _ (lemma_leafAction_err P cfg g f iv)

theorem lemma_setField_scalar (p : Prim) (isPtr : Bool) (cur : Val) (v : Bytes) :
    setField P cfg (if isPtr then .ptr (.prim p) else .prim p) cur v =
      if isPtr && v.isEmpty then some cur else (convPrim P cfg p v).map (fun x => if isPtr then .ptr x else x) := by
  cases isPtr <;> simp [setField, convTy]

/-- scalar leaf (any `Prim`: int/uint/float/bool/string/time/duration and the opaque kinds), by value or behind a pointer: an
    empty value leaves a pointer as it was -/
theorem lemma_leaf_scalar (hP : FloatSane P) (g : Getter) (hs : srcOK g.src = true)
    (f : FieldInfo) (l : Leaf) (p : Prim) (isPtr : Bool) (hl : LeafLink P g f l)
    (hty : f.ty = if isPtr then .ptr (.prim p) else .prim p) (iv : Val) :
    LeafOK (expectScalar P cfg g.src l p isPtr) (l.keys.any (ambiguousKey g.src l.nested)) iv f.name
      (if !wants g f then .inl iv else underName f.name (leafAction P cfg g f iv)) := by
  have hmp : isMapTy f.ty = false := by rw [hty]; cases isPtr <;> rfl
  have hst : isStructTy f.ty = false := by rw [hty]; cases isPtr <;> rfl
  have hsl : isSliceTy f.ty = false := by rw [hty]; cases isPtr <;> rfl
  refine leafOK_of_unamb P cfg g f _ _ iv fun hamb => ?_
  have hkeys := lemma_unamb_scalar g f l hl.keys hl.nested hamb
  obtain ⟨hhas, -, hval⟩ := lemma_reads g hs f (fun k hk => (hkeys k hk).1)
  have hwants : wants g f = ((lookupField g f).2.2 || !f.dflt.isEmpty) := by simp [wants, hmp, hst]
  have htd : f.typedDefault = if !f.dflt.isEmpty && !isPtr then convPrim P Cfg.default p f.dflt else none := by
    rw [hl.td, hty]; cases isPtr <;> simp [isSliceTy, isMapTy, convTy]
  have hset := fun v => (congrArg (setField P cfg · iv v) hty).trans (lemma_setField_scalar P cfg p isPtr iv v)
  -- whichever text is converted (the value found, or the default): `convPrim` stores what `denote` gives and fails only where
  -- `denote` may be refused (`conv_meets_denote`), so it is enough that `E` admits these two
  have conv : ∀ (v : Bytes) (E : Expect),
      (∀ x, (denote P cfg p v).val = some x → some (if isPtr then Val.ptr x else x) ∈ E.oks) →
      ((denote P cfg p v).refusable = true → Err.conv ∈ E.errs) →
      LeafOK E false iv f.name (underName f.name
        (match (convPrim P cfg p v).map (fun x => if isPtr then Val.ptr x else x) with
         | none => .error .conv
         | some nv => .ok nv)) := by
    intro v E hok herr
    have hc := conv_meets_denote P hP cfg p v
    cases hcv : convPrim P cfg p v with
    | some x => exact leafOK_store (hok x (hc.1 x hcv))
    | none => exact leafOK_refuse (herr (hc.2 hcv))
  unfold leafAction expectScalar
  simp only [hmp, hsl, Bool.false_eq_true, if_false, hl.keys, hwants, hhas, hset]
  cases hfp : firstPresent g.src ((f.tagName :: f.aliases).map (g.pre ++ ·)) with
  | some vs =>
    simp only [Option.isSome_some, Bool.true_or, Bool.not_true, Bool.false_eq_true, if_false, if_true,
      hval (fun k hk => (hkeys k hk).2) vs hfp]
    by_cases hem : (isPtr && (vs.headD []).isEmpty) = true
    · simp only [hem, if_true]
      exact leafOK_keep (by simp)
    · simp only [hem, Bool.false_eq_true, if_false]
      exact conv _ _ (fun x hx => by rw [hx]; simp) (fun hr => by rw [hr]; simp)
  | none =>
    simp only [Option.isSome_none, Bool.false_or, Bool.false_eq_true, if_false, hl.dflt]
    by_cases hd : f.dflt.isEmpty = true
    · simp only [hd, Bool.not_true, Bool.not_false, if_true]
      exact leafOK_keep (by simp)
    · have hd' : f.dflt.isEmpty = false := by simpa using hd
      simp only [hd', Bool.not_false, Bool.not_true, Bool.false_eq_true, if_false, htd, Bool.true_and, Bool.and_false]
      cases hdv : (if (!isPtr) = true then convPrim P Cfg.default p f.dflt else none) with
      | some dv =>
        cases isPtr with
        | true => simp at hdv
        | false =>
          simp only [Bool.not_false, if_true] at hdv
          exact leafOK_store (by simp [(conv_meets_denote P hP Cfg.default p f.dflt).1 dv hdv])
      | none => exact conv _ _ (fun x hx => by simp [hx]) (fun hr => by simp [hr])

theorem lemma_unamb_slice (g : Getter) (f : FieldInfo) (l : Leaf) (hk : l.keys = (f.tagName :: f.aliases).map (g.pre ++ ·))
    (hn : l.nested = g.nested)
    (hamb : l.keys.any (fun k => l.nested && g.src.kvs.any (fun e => hasPrefix e.1 (k ++ B "."))) = false) :
    ∀ k ∈ f.tagName :: f.aliases, dotAmb g.src g.nested (g.pre ++ k) = false := by
  intro k hkm
  rw [hk, hn] at hamb
  have := List.any_eq_false.1 hamb (g.pre ++ k) (List.mem_map.2 ⟨k, hkm, rfl⟩)
  simp only [Bool.not_eq_true] at this
  rw [dotAmb, Bool.and_assoc, this, Bool.and_false]

theorem lemma_setSlice_cons (p : Prim) (isPtr : Bool) (cur : Val) (v : Bytes) (r : List Bytes) :
    setSlice P cfg (if isPtr then .ptr (.slice (.prim p)) else .slice (.prim p)) cur (v :: r) =
      if cfg.maxSlice > 0 && (sliceValues cfg (v :: r)).length > cfg.maxSlice then .error .sliceLen else
      match mapMOpt (convTy P cfg (.prim p)) (sliceValues cfg (v :: r)) with
      | some vs => .ok (if isPtr then .ptr (.list vs) else .list vs)
      | none => .error .conv := by
  cases isPtr <;> rfl

theorem lemma_setSlice_ok (hP : FloatSane P) (p : Prim) (isPtr : Bool) (iv : Val) (name : Bytes)
    (s : Src) (l : Leaf) (vs : List Bytes) (hfp : firstPresent s l.keys = some vs) :
    LeafOK (expectSlice P cfg s l (.prim p) isPtr) false iv name
      (underName name (setSlice P cfg (if isPtr then .ptr (.slice (.prim p)) else .slice (.prim p)) iv vs)) := by
  unfold expectSlice
  rw [hfp]
  cases vs with
  | nil => exact leafOK_keep (by simp)
  | cons v r =>
    rw [lemma_setSlice_cons]
    dsimp only
    generalize sliceValues cfg (v :: r) = vals
    by_cases hlim : (decide (cfg.maxSlice > 0) && decide (vals.length > cfg.maxSlice)) = true
    · simp only [hlim, if_true]
      exact leafOK_refuse (by simp)
    · simp only [hlim, Bool.false_eq_true, if_false]
      have hm := lemma_meets_list _ _ _ (fun s => lemma_meets_denote P hP cfg p s) vals
      cases hmm : mapMOpt (convTy P cfg (.prim p)) vals with
      | some ys => exact leafOK_store (by simp [List.map_map, Function.comp_def, hm.1 ys hmm])
      | none => exact leafOK_refuse (by simpa [List.any_map] using hm.2 hmm)

/-- slice leaf (`[]T` and `*[]T`): all values of the key that matched, CSV expansion, length limit -/
theorem lemma_leaf_slice (hP : FloatSane P) (g : Getter) (hs : srcOK g.src = true)
    (f : FieldInfo) (l : Leaf) (p : Prim) (isPtr : Bool) (hl : LeafLink P g f l)
    (hty : f.ty = if isPtr then .ptr (.slice (.prim p)) else .slice (.prim p)) (iv : Val) :
    LeafOK (expectSlice P cfg g.src l (.prim p) isPtr)
      (l.keys.any (fun k => l.nested && g.src.kvs.any (fun e => hasPrefix e.1 (k ++ B ".")))) iv f.name
      (if !wants g f then .inl iv else underName f.name (leafAction P cfg g f iv)) := by
  have hsl : isSliceTy f.ty = true := by rw [hty]; cases isPtr <;> rfl
  have hmp : isMapTy f.ty = false := by rw [hty]; cases isPtr <;> rfl
  have hst : isStructTy f.ty = false := by rw [hty]; cases isPtr <;> rfl
  refine leafOK_of_unamb P cfg g f _ _ iv fun hamb => ?_
  obtain ⟨hhas, hall, -⟩ := lemma_reads g hs f (lemma_unamb_slice g f l hl.keys hl.nested hamb)
  have htd : f.typedDefault = none := by rw [hl.td]; simp [hsl]
  have hfa : leafAction P cfg g f iv = setSlice P cfg f.ty iv (g.getAll (lookupField g f).1) := by
    unfold leafAction
    simp only [hmp, Bool.false_eq_true, if_false, htd, hsl, if_true]
    cases (lookupField g f).2.2 <;> rfl
  rw [hfa, hall]
  cases hfp : firstPresent g.src ((f.tagName :: f.aliases).map (g.pre ++ ·)) with
  | some vs =>
    have hw : wants g f = true := by rw [wants, hhas, hfp]; simp
    simp only [hw, Bool.not_true, Bool.false_eq_true, if_false, Option.getD_some]
    rw [hty]
    exact lemma_setSlice_ok P cfg hP p isPtr iv f.name g.src l vs (by rw [hl.keys]; exact hfp)
  | none =>
    -- resolved for its default or not, the field stays as it is: `setSliceField` returns at once on no values
    have : none ∈ (expectSlice P cfg g.src l (.prim p) isPtr).oks := by unfold expectSlice; rw [hl.keys, hfp]; simp
    cases wants g f <;> exact leafOK_keep this

/-- a leaf the loop skips (`wants` is false: no value, no default): unless its key is ambiguous, the oracle admits that it
    stays as it was. What keeps an embedded nil pointer nil when none of its promoted fields receives a value. -/
theorem lemma_unwanted (g : Getter) (hs : srcOK g.src = true) (f : FieldInfo) (l : Leaf) (hl : LeafLink P g f l)
    (hleaf : leafTy f.ty = true) (hw : wants g f = false) :
    ambiguous g.src l = true ∨ ∀ m0, none ∈ (expectV P cfg g.src l m0).oks := by
  simp only [wants, Bool.or_eq_false_iff] at hw
  obtain ⟨⟨⟨hnm, -⟩, hlf⟩, hd⟩ := hw
  have hd : f.dflt = [] := by simpa using hd
  cases hamb : ambiguous g.src l with
  | true => exact Or.inl rfl
  | false =>
    right
    intro m0
    unfold ambiguous at hamb
    unfold expectV
    rw [hl.ty] at hamb ⊢
    -- nothing was found under names that are not ambiguous, so the oracle reads nothing under the keys
    have absent : (∀ k ∈ f.tagName :: f.aliases, dotAmb g.src g.nested (g.pre ++ k) = false) →
        firstPresent g.src l.keys = none := fun hdot => by
      have := (lemma_reads g hs f hdot).1
      rw [hlf] at this
      rw [hl.keys]
      cases hfp : firstPresent g.src ((f.tagName :: f.aliases).map (g.pre ++ ·)) with
      | none => rfl
      | some _ => rw [hfp] at this; cases this
    have scalar : ∀ (p : Prim) (isPtr : Bool), l.keys.any (ambiguousKey g.src l.nested) = false →
        none ∈ (expectScalar P cfg g.src l p isPtr).oks := fun p isPtr ha => by
      have := absent fun k hk => (lemma_unamb_scalar g f l hl.keys hl.nested ha k hk).1
      simp [expectScalar, this, hl.dflt, hd]
    have slice : ∀ (e : Ty) (isPtr : Bool),
        l.keys.any (fun k => l.nested && g.src.kvs.any (fun x => hasPrefix x.1 (k ++ B "."))) = false →
        none ∈ (expectSlice P cfg g.src l e isPtr).oks := fun e isPtr ha => by
      simp [expectSlice, absent (lemma_unamb_slice g f l hl.keys hl.nested ha)]
    obtain ⟨p, isPtr, hty | hty | hty⟩ := leafTy_cases hleaf
    · rw [hty] at hamb ⊢; cases isPtr <;> exact scalar p _ hamb
    · rw [hty] at hamb ⊢; cases isPtr <;> exact slice _ _ hamb
    · rw [hty] at hnm; cases isPtr <;> cases hnm

end Rivaas.Bind
