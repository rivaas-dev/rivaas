import Rivaas.Spec.OpenAPI
import Rivaas.Lemmas.ListCore
/-
C07 — helper lemmas: paths. `convertPath` agrees with the oracle's own reading of a route,
`ValidatePath` gives non-empty, pairwise different `:name` parameters and a leading `/`, the model's
`splitOn`/`joinWith` are core's, and the method ↦ member mapping agrees with lower-casing. `s_inj`
is how the later files tell two key or location names apart (`tagSel_loc`, `keys_ne`, `kind_ok`).
-/
namespace Rivaas.OpenAPI
open List

theorem s_colon : s ":" = [':'] := rfl

/-- two names written as literals differ as byte lists when the literals differ: no literal has to be decoded -/
theorem s_inj {a b : String} : s a = s b ↔ a = b := String.toList_inj

theorem cutPrefix_colon_cons (name : B) : cutPrefix (s ":") (':' :: name) = some name := by
  simp [cutPrefix, s_colon, isPrefixOf]

theorem cutPrefix_colon_nil : cutPrefix (s ":") [] = none := by
  simp [cutPrefix, s_colon]

theorem cutPrefix_colon_ne (c : Char) (cs : B) (h : c ≠ ':') : cutPrefix (s ":") (c :: cs) = none := by
  have : ([':'] : B).isPrefixOf (c :: cs) = false := by
    simp only [isPrefixOf, Bool.and_eq_false_imp, beq_iff_eq]
    intro e; exact absurd e.symm h
  simp [cutPrefix, s_colon, this]

theorem seg_cases (seg : B) : seg = [] ∨ (∃ name, seg = ':' :: name) ∨ (∃ c cs, seg = c :: cs ∧ c ≠ ':') := by
  cases seg with
  | nil => exact Or.inl rfl
  | cons c cs =>
    by_cases h : c = ':'
    · exact Or.inr (Or.inl ⟨cs, by rw [h]⟩)
    · exact Or.inr (Or.inr ⟨c, cs, rfl, h⟩)

theorem routeParamNames_eq_spec (route : B) : routeParamNames route = specRouteParams route := by
  simp only [routeParamNames, specRouteParams]
  congr 1
  funext seg
  rcases seg_cases seg with rfl | ⟨name, rfl⟩ | ⟨c, cs, rfl, h⟩
  · simp [cutPrefix_colon_nil]
  · simp [cutPrefix_colon_cons]
  · rw [cutPrefix_colon_ne c cs h]
    split
    · rename_i heq; simp only [cons.injEq] at heq; exact absurd heq.1 h
    · rfl

theorem convertPath_eq_spec (route : B) : convertPath route = specPathKey route := by
  simp only [convertPath, specPathKey]
  congr 1
  apply map_congr_left
  intro seg _
  rcases seg_cases seg with rfl | ⟨name, rfl⟩ | ⟨c, cs, rfl, h⟩
  · simp [convertSeg, cutPrefix_colon_nil]
  · simp only [convertSeg, cutPrefix_colon_cons]; simp [s]
  · simp only [convertSeg, cutPrefix_colon_ne c cs h]
    split
    · rename_i heq; simp only [cons.injEq] at heq; exact absurd heq.1 h
    · rfl


/-! ## ValidatePath -/

theorem contains_singleton (c : Char) : ∀ x : B, contains x [c] = x.contains c
  | [] => by simp [contains]
  | d :: ds => by
    simp only [contains, isPrefixOf, contains_singleton c ds, List.contains_cons]
    cases ds <;> simp

theorem not_contains_of_valid (name : B) (h : validParamName name = true) (c : Char) (hc : nameByteOK c = false)
    (hc' : c ≠ ':') : contains (':' :: name) [c] = false := by
  rw [contains_singleton]
  simp only [validParamName, Bool.and_eq_true, all_eq_true] at h
  simp only [List.contains_cons, Bool.or_eq_false_iff, beq_eq_false_iff_ne, ne_eq]
  refine ⟨hc', ?_⟩
  simp only [contains_eq_mem, decide_eq_false_iff_not]
  intro hm
  have := h.2 c hm
  rw [hc] at this
  exact absurd this (by simp)

theorem segParam_colon (name : B) :
    segParam (':' :: name) = if name = [] ∨ validParamName name = false then none else some name := by
  unfold segParam
  simp only [cutPrefix_colon_cons]
  by_cases h : name = [] ∨ validParamName name = false
  · have : (name = [] ∨ (!validParamName name) = true) := by
      rcases h with h | h
      · exact Or.inl h
      · exact Or.inr (by simp [h])
    simp only [this, if_true, h]
  · have hv : validParamName name = true := by
      simp only [not_or, Bool.not_eq_false] at h; exact h.2
    have hne : name ≠ [] := fun e => h (Or.inl e)
    have h1 : contains (':' :: name) (s "{") = false := not_contains_of_valid name hv '{' (by decide) (by decide)
    have h2 : contains (':' :: name) (s "}") = false := not_contains_of_valid name hv '}' (by decide) (by decide)
    simp [hne, hv, h1, h2]

theorem validSegs_names (segs : List B) : ∀ (seen : List B), validSegs segs seen = true →
    (∀ n ∈ segs.filterMap (cutPrefix (s ":")), n ≠ [] ∧ n ∉ seen) ∧ (segs.filterMap (cutPrefix (s ":"))).Nodup := by
  induction segs with
  | nil => simp
  | cons seg rest ih =>
    intro seen h
    -- `seen` holds the names met so far, and the loop goes on only with a name that is new: induction with `seen` general
    rcases seg_cases seg with rfl | ⟨name, rfl⟩ | ⟨c, cs, rfl, hc⟩
    · simp only [validSegs, if_true] at h
      simpa only [filterMap_cons, cutPrefix_colon_nil] using ih seen h
    · -- `:name`: the validator's name for the segment is `name` (`segParam_colon`), valid, non-empty, and put into `seen`
      simp only [validSegs, reduceCtorEq, if_false, segParam_colon] at h
      by_cases hv : name = [] ∨ validParamName name = false
      · simp [hv] at h
      · simp only [hv, if_false] at h
        have hne : name ≠ [] := fun e => hv (Or.inl e)
        simp only [hne, if_false] at h
        by_cases hs : seen.contains name = true
        · exfalso; simp only [hs, if_true] at h; cases h
        · simp only [hs, Bool.false_eq_true, if_false] at h
          obtain ⟨ih1, ih2⟩ := ih (name :: seen) h
          simp only [filterMap_cons, cutPrefix_colon_cons]
          refine ⟨?_, ?_⟩
          · intro n hn
            simp only [mem_cons] at hn
            rcases hn with rfl | hn
            · exact ⟨hne, by simpa using hs⟩
            · exact ⟨(ih1 n hn).1, fun hm => (ih1 n hn).2 (mem_cons_of_mem _ hm)⟩
          · rw [nodup_cons]
            exact ⟨fun hm => (ih1 name hm).2 (mem_cons_self ..), ih2⟩
    · -- any other segment has no `:name`; a `{name}` segment may add its name to `seen`, which only excludes more
      simp only [validSegs, reduceCtorEq, if_false] at h
      simp only [filterMap_cons, cutPrefix_colon_ne c cs hc]
      split at h
      · cases h
      next pn _ =>
        split at h
        · exact ih seen h
        · split at h
          · cases h
          · obtain ⟨ih1, ih2⟩ := ih (pn :: seen) h
            exact ⟨fun n hn => ⟨(ih1 n hn).1, fun hm => (ih1 n hn).2 (mem_cons_of_mem _ hm)⟩, ih2⟩

theorem splitOn_eq (sep : Char) (x : B) : splitOn sep x = x.splitOn sep := by
  induction x with
  | nil => rfl
  | cons c cs ih =>
    simp only [splitOn, List.splitOn_cons_eq_if_modifyHead, ih, beq_iff_eq]
    cases h : cs.splitOn sep with
    | nil => exact absurd h (List.splitOn_ne_nil _ _)
    | cons _ _ => dsimp only; split <;> rfl

theorem joinWith_eq (sep : B) (l : List B) : joinWith sep l = sep.intercalate l := by
  induction l with
  | nil => rfl
  | cons a rest ih =>
    cases rest with
    | nil => simp [joinWith]
    | cons b bs => simp [joinWith, ih, List.intercalate_cons_cons]

theorem splitOn_ne_nil (sep : Char) (x : B) : splitOn sep x ≠ [] := splitOn_eq sep x ▸ List.splitOn_ne_nil sep x

theorem splitOn_cons_sep (sep : Char) (cs : B) : splitOn sep (sep :: cs) = [] :: splitOn sep cs := by
  simp [splitOn_eq, List.splitOn_cons_eq_if_modifyHead]

theorem validatePath_ok {path : B} (h : validatePath path = true) :
    hasPrefix (s "/") path = true ∧ validSegs (splitOn '/' path) [] = true := by
  unfold validatePath at h
  split at h
  · cases h
  · split at h
    · cases h
    next hp => exact ⟨by simpa using hp, h⟩

theorem validatePath_names {path : B} (h : validatePath path = true) :
    (∀ n ∈ routeParamNames path, n ≠ []) ∧ (routeParamNames path).Nodup := by
  obtain ⟨h1, h2⟩ := validSegs_names _ [] (validatePath_ok h).2
  exact ⟨fun n hn => (h1 n hn).1, h2⟩

/-- a valid route starts with `/`, and so does its converted key: the first segment is empty and stays so -/
theorem validatePath_slash {path : B} (h : validatePath path = true) : hasPrefix (s "/") (convertPath path) = true := by
  have hp := (validatePath_ok h).1
  have hs : s "/" = ['/'] := rfl
  cases path with
  | nil => rw [hasPrefix, hs] at hp; cases hp
  | cons c cs =>
    obtain rfl : c = '/' := by
      rw [hasPrefix, hs] at hp
      simp only [isPrefixOf, Bool.and_true, beq_iff_eq] at hp
      exact hp.symm
    have hseg : convertSeg [] = [] := by simp [convertSeg, cutPrefix_colon_nil]
    rw [convertPath, splitOn_cons_sep, map_cons, hseg]
    cases hm : map convertSeg (splitOn '/' cs) with
    | nil => exact absurd (map_eq_nil_iff.1 hm) (splitOn_ne_nil '/' cs)
    | cons y ys =>
      have hj : joinWith (s "/") ([] :: y :: ys) = s "/" ++ joinWith (s "/") (y :: ys) := rfl
      rw [hj, hasPrefix, isPrefixOf_iff_prefix]
      exact prefix_append _ _

/-! ## methods and path item members -/

theorem lowerC_upperC (c : Char) : lowerC (upperC c) = lowerC c := by
  unfold upperC
  split
  -- the default case comes last: not a letter, nothing changed
  rotate_right
  · rfl
  all_goals decide +kernel

theorem upperC_lowerC (c : Char) : upperC (lowerC c) = upperC c := by
  unfold lowerC
  split
  rotate_right
  · rfl
  all_goals decide +kernel

theorem toLower_toUpper (m : B) : toLower (toUpper m) = toLower m := by
  simp [toLower, toUpper, lowerC_upperC]

theorem toUpper_toLower (m : B) : toUpper (toLower m) = toUpper m := by
  simp [toLower, toUpper, upperC_lowerC]

/-- `switch strings.ToUpper(method)` of `Build` read as a table: upper-cased method ↦ path item member -/
def memberTable : List (B × B) :=
  [(s "GET", s "get"), (s "POST", s "post"), (s "PUT", s "put"), (s "DELETE", s "delete"), (s "PATCH", s "patch"),
   (s "OPTIONS", s "options"), (s "HEAD", s "head")]

theorem methodMember_eq_lookup (m : B) : methodMember m = memberTable.lookup (toUpper m) := by
  simp only [methodMember, memberTable, lookup_cons_ite, lookup_nil]

/-- the members operations are stored under: term for term the list `pathParamsOK` writes out inline (twice), so that
    `path_params_complete` meets the oracle's `contains` test with a fact about `storedMembers` as it stands -/
def storedMembers : List B := [s "get", s "put", s "post", s "delete", s "options", s "head", s "patch"]

/-- `Build` upper-cases the method, the oracle lower-cases it: one finite fact per direction. -/
theorem memberTable_lower : memberTable.all (fun r => toLower r.1 == r.2 && storedMembers.contains r.2 &&
    members.contains r.2) = true := by
  decide +kernel

theorem storedMembers_upper : storedMembers.all (fun x => memberTable.lookup (toUpper x) == some x) = true := by
  decide +kernel

theorem methodMember_some {m x : B} (h : methodMember m = some x) :
    x = specMember m ∧ x ∈ storedMembers ∧ members.contains x = true := by
  rw [methodMember_eq_lookup] at h
  have := all_eq_true.1 memberTable_lower _ (mem_of_lookup_some _ _ _ h)
  simp only [Bool.and_eq_true, beq_iff_eq] at this
  exact ⟨by rw [specMember, ← toLower_toUpper, this.1.1], contains_iff_mem.1 this.1.2, this.2⟩

theorem methodMember_of_spec {m : B} (h : specMember m ∈ storedMembers) : methodMember m = some (specMember m) := by
  rw [methodMember_eq_lookup, ← toUpper_toLower]
  exact eq_of_beq (all_eq_true.1 storedMembers_upper _ h)

end Rivaas.OpenAPI
