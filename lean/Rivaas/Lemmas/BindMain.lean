import Rivaas.Model.Bind
import Rivaas.Model.BindObs
import Rivaas.Spec.Bind
import Rivaas.Lemmas.BindVal
import Rivaas.Lemmas.BindRef
import Rivaas.Lemmas.BindSound
/-
C04: assembly of the main theorem — induction on the nesting levels the depth limit still allows
(`lemma_bindAt_spec`), then the oracle `Spec.specOK` on the outcome of `bind` (`lemma_bind_meets_spec`).
-/
namespace Rivaas.Bind

theorem lemma_keyed_top (s : Src) (l : Spec.Leaf) : keyed { src := s } l = l := by
  cases l
  simp [keyed]

theorem lemma_level_spec (P : Params) (hP : FloatSane P) (cfg : Cfg) (tag : Tag) (nest : Nest) (d : Nat)
    (hn : d + 1 ≤ cfg.maxDepth → NestSpec P cfg tag nest (d + 1)) :
    NestSpec P cfg tag (fun sty elem g depth => loopWith P cfg nest sty (flatten P tag sty) elem g depth) d := by
  intro nfs ivs g hw hg hs
  have hfs := lemma_ref_fs P cfg nest tag hP g hs d hn nfs 0 ivs hw hg
  simp only
  rw [lemma_loop_eq_ref P cfg nest tag g d nfs ivs hw]
  cases hr : refFs P cfg nest tag g d nfs ivs with
  | inl rvs =>
    rw [hr] at hfs
    simp only [refOut, List.nil_append]
    exact hfs ivs rvs (fun j => by simp) (fun j => by simp)
  | inr o =>
    rw [hr] at hfs
    cases o with
    | panic => exact hfs
    | err e =>
      simp only [refOut, Stop.out]
      exact hfs ivs (fun j => by simp)

/-- bindFieldsWithDepth at any depth meets the oracle for the struct it binds (by induction on the
    number of nesting levels the depth limit still allows) -/
theorem lemma_bindAt_spec (P : Params) (hP : FloatSane P) (cfg : Cfg) (tag : Tag) :
    ∀ (n d : Nat), cfg.maxDepth ≤ d + n → NestSpec P cfg tag (bindAt P cfg tag n) d
  | 0, d, hnd => lemma_level_spec P hP cfg tag _ d (fun h => by omega)
  | n + 1, d, hnd => lemma_level_spec P hP cfg tag _ d (fun _ => lemma_bindAt_spec P hP cfg tag n (d + 1) (by omega))

theorem lemma_itemsErr_causes (P : Params) (cfg : Cfg) (tag : Tag) (fs : List Fld) (init : Val) (src : Src) (e : Err)
    (h : ItemsErr P cfg { src := src } 0 (Spec.itemsFs tag 0 fs) init e) : e ∈ Spec.causes P cfg tag fs init src := by
  simp only [Spec.causes, List.mem_append, List.mem_flatMap, List.mem_map, List.mem_filter, lemma_mem_leavesOf,
    lemma_mem_nodesOf]
  rcases h with ⟨l, hl, c, hc, hh⟩ | ⟨n, hn, hd, he⟩
  · left
    refine ⟨l, hl, c, ?_, hc.symm⟩
    rw [lemma_keyed_top] at hh
    rcases hh with h | ⟨h1, h2⟩
    · exact Or.inl h
    · right
      simp only [h1, if_true, List.mem_cons, List.mem_nil_iff, or_false]
      exact h2
  · right
    exact ⟨n, ⟨hn, by simpa using hd⟩, he.symm⟩

/-- the oracle on a success is the item-wise oracle at the top level (no prefix, depth 0) -/
theorem lemma_specOK_items (P : Params) (cfg : Cfg) (tag : Tag) (fs : List Fld) (init v : Val) (src : Src) :
    Spec.specOK P cfg tag fs init src (.ok v) = true ↔ ItemsOK P cfg { src := src } 0 (Spec.itemsFs tag 0 fs) init v := by
  -- the oracle's Boolean conjunction as propositions: no leaf that must fail, the nodes, the leaves, the frames
  simp only [Spec.specOK, ItemsOK, lemma_keyed_top, Nat.zero_add, Bool.and_eq_true, Bool.not_eq_true', List.all_eq_true,
    Bool.or_eq_true, List.any_eq_true, Spec.mustFail, Bool.or_eq_false_iff, List.any_eq_false, lemma_mem_leavesOf,
    lemma_mem_nodesOf, lemma_mem_framesOf, decide_eq_true_eq, Nat.not_lt]
  refine ⟨fun ⟨⟨⟨_, hn⟩, hl⟩, hf⟩ => ⟨hl, hn, hf⟩, fun ⟨hl, hn, hf⟩ => ⟨⟨⟨fun l hm => ?_, hn⟩, hl⟩, hf⟩⟩
  -- a leaf that holds an admissible outcome is none that must fail
  rcases hl l hm with h | ⟨e, he, _⟩
  · simp [h]
  · cases hoks : (Spec.expect P cfg src init l).oks with
    | nil => rw [hoks] at he; cases he
    | cons _ _ => simp

theorem lemma_bind_meets_spec (P : Params) (hP : FloatSane P) (cfg : Cfg) (tag : Tag) (fs : List Fld) (ivs : List Val)
    (src : Src) (hw : wts fs ivs = true) (hg : Spec.inGrammarFs fs = true) (hs : Spec.srcOK src = true) :
    Spec.specOK P cfg tag fs (.struct ivs) src (toObs (bind P cfg tag (.struct fs) (.struct ivs) src)) = true := by
  have hsp := lemma_bindAt_spec P hP cfg tag cfg.maxDepth 0 (by omega) fs ivs { src := src } hw hg hs
  simp only [Rivaas.Bind.bind]
  cases hr : bindAt P cfg tag cfg.maxDepth fs (.struct ivs) { src := src } 0 with
  | panic => rw [hr] at hsp; exact absurd hsp (by simp)
  | err e =>
    rw [hr] at hsp
    exact List.contains_iff_mem.2 (lemma_itemsErr_causes P cfg tag fs _ src e hsp)
  | ok v =>
    rw [hr] at hsp
    exact (lemma_specOK_items P cfg tag fs _ v src).2 hsp

end Rivaas.Bind
