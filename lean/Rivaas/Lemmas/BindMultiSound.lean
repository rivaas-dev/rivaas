import Rivaas.Model.BindObs
import Rivaas.Lemmas.BindAllTyped
import Rivaas.Lemmas.BindAllSound
import Rivaas.Lemmas.BindMain
import Rivaas.Lemmas.BindAllMulti
/-
C04, several sources: the run over the oracle's phases meets the folded oracle. First the collecting bind from one source
against its oracle (`lemma_bindAll_meets_spec`), since a phase is such a bind. Then one phase from a well-typed value
(`lemma_phase_all`: no panic, a well-typed result, every error one the oracle admits for the phase, and without errors
`PhaseOK`); phases composed on the oracle's side (`lemma_runOK_cons`); the collecting run (`lemma_runAll_full`).
`bindMultiAll` meets `Spec.specMultiAll`; `bindMulti`, which agrees with it up to the first error, meets `Spec.specMulti`.
-/
namespace Rivaas.Bind
open Spec

theorem lemma_leaf_grammar_fs (tag : Tag) :
    ∀ (fs : List Fld) (i : Nat) (l : Leaf), inGrammarFs fs = true → Item.leaf l ∈ itemsFs tag i fs → leafTy l.ty = true := by
  intro fs
  induction fs using fld_induction with
  | nil => intro i l _ hl; cases hl
  | cons h t rest ihsub ih =>
    intro i l hg hl
    simp only [inGrammarFs, Bool.and_eq_true] at hg
    simp only [itemsFs, List.mem_append] at hl
    rcases hl with hl | hl
    · rcases lemma_itemsFld_mem tag i h t _ hl with hf | ⟨hsf, _, _, hx⟩ | hn | ⟨sub, hsf, y, hy, hxy⟩
      · cases hf
      · cases hx
        exact lemma_inGrammar_leaf hsf hg.1
      · cases hn
      · -- a leaf of a struct field is a leaf of the struct, seen from outside
        rcases hxy with hxy | ⟨p, hxy⟩ <;> cases y <;> cases hxy <;>
          exact (ihsub sub hsf 0 _ (lemma_inGrammar_struct hsf hg.1) hy :)
    · exact ih (i+1) l hg.2 hl

/-- the phases of a bind from several sources are read off this (`lemma_phase_all`) -/
theorem lemma_bindAll_meets_spec (P : Params) (hP : FloatSane P) (cfg : Cfg) (tag : Tag) (fs : List Fld) (ivs : List Val)
    (src : Src) (hw : wts fs ivs = true) (hg : inGrammarFs fs = true) (hs : srcOK src = true) :
    specAll P cfg tag fs (.struct ivs) src (toObsAll (bindAll P cfg tag (.struct fs) (.struct ivs) src)) = true := by
  have hsp := lemma_bindAtAll_spec P cfg tag hP cfg.maxDepth 0 (by omega) fs ivs { src := src } hw hg hs
  cases hr : bindAtAll P cfg tag cfg.maxDepth fs (.struct ivs) { src := src } 0 with
  | panic => rw [hr] at hsp; exact absurd hsp (by simp)
  | done v es =>
    rw [hr] at hsp
    have hb : bindAll P cfg tag (.struct fs) (.struct ivs) src = .done v es := by simp only [bindAll, hr]
    rw [hb]
    cases es with
    | nil =>
      have hpl := lemma_bind_meets_spec P hP cfg tag fs ivs src hw hg hs
      rw [(lemma_agree_clean _ _ (lemma_agree_bind P cfg tag _ _ src) v).1 hb] at hpl
      exact hpl
    | cons e0 es' =>
      obtain ⟨h1, h2, h3⟩ := hsp
      simp only [toObsAll, specAll, Bool.and_eq_true, List.all_eq_true, Bool.or_eq_true, Bool.not_eq_true',
        List.any_eq_true, beq_iff_eq, bne_iff_ne, ne_eq]
      refine ⟨⟨?_, ?_⟩, ?_⟩
      · intro e he
        exact List.contains_iff_mem.2 (lemma_itemsErr_causes P cfg tag fs _ src e (h1 e he))
      · intro l hl
        have := h2 l ((lemma_mem_leavesOf _ _ _).1 hl)
        rw [lemma_keyed_top] at this
        rcases this with h | h | h | ⟨e, he, hn⟩
        · exact Or.inl (Or.inl (Or.inl h))
        · refine Or.inl (Or.inl (Or.inr ?_))
          simp only [leafReached, decide_eq_false_iff_not]
          omega
        · refine Or.inl (Or.inr ?_)
          cases hoks : (expect P cfg src (.struct ivs) l).oks with
          | nil => exact absurd hoks h
          | cons _ _ => rfl
        · exact Or.inr ⟨e, he, hn⟩
      · intro n hn
        by_cases hd : n.depth = cfg.maxDepth + 1
        · obtain ⟨e, he, hne⟩ := h3 n ((lemma_mem_nodesOf _ _ _).1 hn) (by omega)
          exact Or.inr ⟨e, he, hne⟩
        · exact Or.inl hd

/-! ### what one phase guarantees -/

theorem lemma_phase_leaf_mem (fs : List Fld) (hg : inGrammarFs fs = true) (ph : Phase) (tag : Tag) (l : Leaf) :
    Item.leaf l ∈ itemsFs tag 0 (phaseFs fs ph) ↔ ∃ l0, Item.leaf l0 ∈ itemsFs tag 0 fs ∧ ph.leaf l0 = l := by
  unfold phaseFs Phase.leaf
  cases ph.noDefaults with
  | false => exact ⟨fun h => ⟨l, h, rfl⟩, fun ⟨l0, h, e⟩ => e ▸ h⟩
  | true =>
    rw [if_pos rfl, lemma_items_strip_fs]
    -- on a leaf of a type of the grammar, stripping the type changes nothing
    have strip : ∀ l0, Item.leaf l0 ∈ itemsFs tag 0 fs → stripItem (.leaf l0) = .leaf { l0 with dflt := [] } := by
      intro l0 hx
      simp only [stripItem, lemma_strip_leafTy l0.ty (lemma_leaf_grammar_fs tag fs 0 l0 hg hx)]
    constructor
    · intro h
      obtain ⟨x, hx, hxl⟩ := List.mem_map.1 h
      cases x with
      | leaf l0 => rw [strip l0 hx] at hxl; cases hxl; exact ⟨l0, hx, rfl⟩
      | node n => cases hxl
      | frame f => cases hxl
    · rintro ⟨l0, hx, rfl⟩
      exact List.mem_map.2 ⟨.leaf l0, hx, strip l0 hx⟩

theorem lemma_phase_node_mem (fs : List Fld) (ph : Phase) (tag : Tag) (n : Node) :
    Item.node n ∈ itemsFs tag 0 (phaseFs fs ph) ↔ Item.node n ∈ itemsFs tag 0 fs := by
  unfold phaseFs
  cases ph.noDefaults with
  | false => exact Iff.rfl
  | true =>
    rw [if_pos rfl, lemma_items_strip_fs]
    constructor
    · intro h
      obtain ⟨x, hx, hxl⟩ := List.mem_map.1 h
      cases x <;> cases hxl
      exact hx
    · exact fun h => List.mem_map.2 ⟨.node n, h, rfl⟩

theorem lemma_phase_frame_mem (fs : List Fld) (ph : Phase) (tag : Tag) (f : Frame) (h : Item.frame f ∈ itemsFs tag 0 fs) :
    ∃ f', Item.frame f' ∈ itemsFs tag 0 (phaseFs fs ph) ∧ f'.path = f.path ∧ zero f'.ty = zero f.ty := by
  unfold phaseFs
  cases ph.noDefaults with
  | false => exact ⟨f, h, rfl, rfl⟩
  | true =>
    rw [if_pos rfl, lemma_items_strip_fs]
    exact ⟨{ f with ty := stripTy f.ty }, List.mem_map.2 ⟨.frame f, h, rfl⟩, rfl, lemma_zero_strip f.ty⟩

theorem lemma_holdsFrame_eq (init v : Val) (f f' : Frame) (hp : f'.path = f.path) (hz : zero f'.ty = zero f.ty) :
    holdsFrame init v f' = holdsFrame init v f := by
  unfold holdsFrame
  rw [hp, hz]

theorem lemma_phaseLeaf (ph : Phase) (l : Leaf) : (ph.leaf l).path = l.path ∧ (ph.leaf l).ty = l.ty := by
  unfold Phase.leaf
  split <;> exact ⟨rfl, rfl⟩

/-- what a phase without errors guarantees, read on the items of the *original* type; for a leaf: on its place -/
structure PhaseOK (P : Params) (cfg : Cfg) (fs : List Fld) (ph : Phase) (v0 v1 : Val) : Prop where
  leaf : ∀ l0, Item.leaf l0 ∈ itemsFs ph.src.kind 0 fs → ambiguous ph.src (ph.leaf l0) = true ∨
    ∃ e ∈ (expectV P cfg ph.src (ph.leaf l0) (mapOf (valAt v0 l0.path))).oks,
      matchesAdm l0.ty (valAt v1 l0.path) (e.or (valAt v0 l0.path)) = true
  frame : ∀ f, Item.frame f ∈ itemsFs ph.src.kind 0 fs → holdsFrame v0 v1 f = true
  node : ∀ n, Item.node n ∈ itemsFs ph.src.kind 0 fs → n.depth ≤ cfg.maxDepth

/-- the error of a phase is admitted by the oracle for that phase (whatever the destination held) -/
def PhaseErr (P : Params) (cfg : Cfg) (fs : List Fld) (ph : Phase) (e : Err) : Prop :=
  ∃ ivs' : List Val, e ∈ causes P cfg ph.src.kind (phaseFs fs ph) (.struct ivs') ph.src

theorem lemma_phase_all (P : Params) (hP : FloatSane P) (cfg : Cfg) (fs : List Fld) (ph : Phase) (ivs : List Val)
    (hw : wts fs ivs = true) (hg : inGrammarFs fs = true) (hs : srcOK ph.src = true) :
    match bindAll P cfg ph.src.kind (.struct (phaseFs fs ph)) (.struct ivs) ph.src with
    | .done v es => (∃ rvs, v = .struct rvs ∧ wts fs rvs = true) ∧ (∀ e ∈ es, PhaseErr P cfg fs ph e) ∧
        (es = [] → PhaseOK P cfg fs ph (.struct ivs) v)
    | .panic => False := by
  have hw' : wts (phaseFs fs ph) ivs = true := by rw [lemma_phaseFs_wts]; exact hw
  have hg' : inGrammarFs (phaseFs fs ph) = true := by rw [lemma_phaseFs_grammar]; exact hg
  have hsp := lemma_bindAll_meets_spec P hP cfg ph.src.kind (phaseFs fs ph) ivs ph.src hw' hg' hs
  cases hr : bindAll P cfg ph.src.kind (.struct (phaseFs fs ph)) (.struct ivs) ph.src with
  | panic => rw [hr] at hsp; cases hsp
  | done v es =>
    rw [hr] at hsp
    obtain ⟨rvs, hv, hwr⟩ := lemma_bindAll_typed P cfg ph.src.kind (phaseFs fs ph) ivs ph.src v es hw' hg' hr
    refine ⟨⟨rvs, hv, by rw [← lemma_phaseFs_wts fs ph]; exact hwr⟩, fun e he => ⟨ivs, ?_⟩, ?_⟩
    · cases es with
      | nil => cases he
      | cons e0 es' =>
        simp only [toObsAll, specAll, Bool.and_eq_true, List.all_eq_true] at hsp
        exact List.contains_iff_mem.1 (hsp.1.1 e he)
    · rintro rfl
      -- without errors `Spec.specAll` is the plain oracle on the value, read here on the items of the original type
      obtain ⟨h1, h3, h2⟩ := (lemma_specOK_items P cfg _ _ _ _ _).1 hsp
      simp only [lemma_keyed_top, Nat.zero_add] at h1 h3
      refine ⟨fun l0 hl0 => ?_, fun f hf => ?_, fun n hn => h3 n ((lemma_phase_node_mem fs ph _ n).2 hn)⟩
      · rcases h1 _ ((lemma_phase_leaf_mem fs hg ph _ _).2 ⟨l0, hl0, rfl⟩) with h | ⟨e, he, hh⟩
        · exact Or.inl h
        · obtain ⟨hp, ht⟩ := lemma_phaseLeaf ph l0
          unfold expect at he
          rw [lemma_holds_matches, hp, ht] at hh
          rw [hp] at he
          exact Or.inr ⟨e, he, hh⟩
      · obtain ⟨f', hf', hp, hz⟩ := lemma_phase_frame_mem fs ph _ f hf
        rw [← lemma_holdsFrame_eq _ _ f f' hp hz]
        exact h2 f' hf'

/-- a field outside the bind holds what it held, or - where it did not exist - the zero value of its type -/
theorem lemma_holdsFrame_iff (init v : Val) (f : Frame) :
    holdsFrame init v f = true ↔
      valAt v f.path = valAt init f.path ∨ (valAt init f.path = none ∧ valAt v f.path = some (zero f.ty)) := by
  unfold holdsFrame
  cases valAt v f.path <;> cases valAt init f.path <;> simp

/-- One phase at one place (the leaf `l`, of the type read under any tag): if what the place held before the phase matches one
    of the values `A0` admissible so far, what it holds after matches one of `stepAdm … A0`, unless a leaf of the phase
    at that place is ambiguous. Either the phase has a leaf there (`PhaseOK.leaf`), or the place lies in a field the
    phase does not bind (`lemma_cover_fs`, `PhaseOK.frame`). -/
theorem lemma_place_step (P : Params) (cfg : Cfg) (fs : List Fld) (ph : Phase) (v0 v1 : Val) (hok : PhaseOK P cfg fs ph v0 v1)
    (T0 : Tag) (l : Leaf) (hl : Item.leaf l ∈ itemsFs T0 0 fs)
    (A0 : List (Option Val)) (a : Option Val) (ha : a ∈ A0)
    (hm : matchesAdm l.ty (valAt v0 l.path) a = true) :
    (leavesOf ph.src.kind fs).any (fun l' => l'.path == l.path && ambiguous ph.src (ph.leaf l')) = true ∨
    ∃ a' ∈ stepAdm P cfg fs l.path ph A0, matchesAdm l.ty (valAt v1 l.path) a' = true := by
  unfold stepAdm
  cases hfind : (leavesOf ph.src.kind fs).find? (fun l' => l'.path == l.path) with
  | some l0 =>
    -- the place is a leaf of this phase too
    have hmem : l0 ∈ leavesOf ph.src.kind fs := List.mem_of_find?_eq_some hfind
    have hpath : l0.path = l.path := by simpa using List.find?_some hfind
    have hl0 := (lemma_mem_leavesOf _ _ _).1 hmem
    have hty : l.ty = l0.ty :=
      lemma_sameplace_fs T0 ph.src.kind fs 0 (.leaf l) (.leaf l0) l.path l.ty l0.ty hl hl0 rfl (by rw [← hpath]; rfl)
    rcases hok.leaf l0 hl0 with hamb | ⟨e, he, hh⟩
    · left
      simp only [List.any_eq_true, Bool.and_eq_true, beq_iff_eq]
      exact ⟨l0, hmem, hpath, hamb⟩
    · right
      simp only
      rw [hpath, ← hty] at hh
      rw [hpath, lemma_matches_mapOf l.ty _ _ hm] at he
      refine ⟨e.or a, ?_, ?_⟩
      · simp only [List.mem_flatMap, List.mem_map]
        refine ⟨a, ha, e, ?_, by cases e <;> rfl⟩
        split
        · rename_i hemp
          simp only [Bool.and_eq_true] at hemp
          cases hoks : (expectV P cfg ph.src (ph.leaf l0) (mapOf a)).oks with
          | nil => rw [hoks] at he; cases he
          | cons _ _ => rw [hoks] at hemp; simp at hemp
        · exact he
      · -- a value replaces what was admissible; an untouched place matches what it matched
        cases e with
        | some x => exact hh
        | none => exact lemma_matches_trans l.ty _ _ a hh hm
  | none =>
    -- no leaf of this phase at the place: it lies in (or is) a field the phase does not bind
    right
    simp only
    refine ⟨a, ha, ?_⟩
    have hnone : ∀ l' ∈ leavesOf ph.src.kind fs, ¬ l'.path = l.path := by
      intro l' hl'
      have := List.find?_eq_none.1 hfind l' hl'
      simpa using this
    rcases lemma_cover_fs T0 ph.src.kind fs 0 l hl with ⟨l', hl', hp⟩ | ⟨f, r, hf, hp, hz⟩
    · exact absurd hp (hnone l' ((lemma_mem_leavesOf _ _ _).2 hl'))
    · -- the place holds what it held, or - inside a field that did not exist - what the zero value of that field holds there
      refine lemma_matches_trans l.ty _ _ a ?_ hm
      rw [hp, lemma_valAt_append, lemma_valAt_append]
      rcases (lemma_holdsFrame_iff _ _ f).1 (hok.frame f hf) with hsame | ⟨h0, hz1⟩
      · rw [hsame]; exact lemma_matches_refl _ _
      · rw [h0, hz1]
        rcases hz with hz | hz <;> simp [hz, matchesAdm]


/-! ### phases composed -/

theorem lemma_holdsFrame_refl (v : Val) (f : Frame) : holdsFrame v v f = true :=
  (lemma_holdsFrame_iff v v f).2 (Or.inl rfl)

theorem lemma_holdsFrame_trans (v0 v1 v2 : Val) (f : Frame) (h1 : holdsFrame v0 v1 f = true) (h2 : holdsFrame v1 v2 f = true) :
    holdsFrame v0 v2 f = true := by
  rw [lemma_holdsFrame_iff] at h1 h2 ⊢
  rcases h2 with h2 | ⟨h2, hz⟩
  · rw [h2]; exact h1
  · -- `v1` has nothing at the place, so neither had `v0`, and `v2` has the zero value
    rw [h2] at h1
    exact Or.inr ⟨by simpa [eq_comm] using h1, hz⟩

/-- the value clauses of `Spec.specMulti` for a run over `phs` that took `v0` to `v`, as propositions -/
structure RunOK (P : Params) (cfg : Cfg) (fs : List Fld) (phs : List Phase) (v0 v : Val) : Prop where
  same : phs = [] → v = v0
  node : ∀ ph ∈ phs, ∀ n, Item.node n ∈ itemsFs ph.src.kind 0 fs → n.depth ≤ cfg.maxDepth
  place : ∀ (T0 : Tag) (l : Leaf), Item.leaf l ∈ itemsFs T0 0 fs → ∀ (A0 : List (Option Val)) (a : Option Val), a ∈ A0 →
    matchesAdm l.ty (valAt v0 l.path) a = true →
    phs.any (fun ph => (leavesOf ph.src.kind fs).any (fun l' => l'.path == l.path && ambiguous ph.src (ph.leaf l'))) = true ∨
    ∃ a' ∈ phs.foldl (fun A ph => stepAdm P cfg fs l.path ph A) A0, matchesAdm l.ty (valAt v l.path) a' = true
  frame : ∀ f : Frame, (∀ ph ∈ phs, Item.frame f ∈ itemsFs ph.src.kind 0 fs) → holdsFrame v0 v f = true

theorem lemma_runOK_nil (P : Params) (cfg : Cfg) (fs : List Fld) (v : Val) : RunOK P cfg fs [] v v where
  same := fun _ => rfl
  node := fun _ hp => nomatch hp
  place := fun _ _ _ _ a ha hm => Or.inr ⟨a, ha, hm⟩
  frame := fun f _ => lemma_holdsFrame_refl v f

theorem lemma_runOK_cons (P : Params) (cfg : Cfg) (fs : List Fld) (ph : Phase) (rest : List Phase) (v0 v1 v : Val)
    (h1 : PhaseOK P cfg fs ph v0 v1) (h2 : RunOK P cfg fs rest v1 v) : RunOK P cfg fs (ph :: rest) v0 v where
  same := fun h => nomatch h
  node := by
    intro p hp n hn
    rcases List.mem_cons.1 hp with rfl | hp
    · exact h1.node n hn
    · exact h2.node p hp n hn
  place := by
    intro T0 l hl A0 a ha hm
    simp only [List.any_cons, List.foldl_cons, Bool.or_eq_true]
    rcases lemma_place_step P cfg fs ph v0 v1 h1 T0 l hl A0 a ha hm with hamb | ⟨a1, ha1, hm1⟩
    · exact Or.inl (Or.inl hamb)
    · rcases h2.place T0 l hl _ a1 ha1 hm1 with hamb | hres
      · exact Or.inl (Or.inr hamb)
      · exact Or.inr hres
  frame := fun f hf => lemma_holdsFrame_trans _ _ _ f (h1.frame f (hf ph List.mem_cons_self))
    (h2.frame f fun p hp => hf p (List.mem_cons_of_mem _ hp))


theorem lemma_runAll_full (P : Params) (hP : FloatSane P) (cfg : Cfg) (fs : List Fld) (hg : inGrammarFs fs = true) :
    ∀ (phs : List Phase), (∀ ph ∈ phs, srcOK ph.src = true) → ∀ ivs : List Val, wts fs ivs = true →
    match runPhasesAll P cfg fs phs (.struct ivs) with
    | .done v es => (∃ rvs, v = .struct rvs ∧ wts fs rvs = true) ∧ (∀ e ∈ es, ∃ ph ∈ phs, PhaseErr P cfg fs ph e) ∧
        (es = [] → RunOK P cfg fs phs (.struct ivs) v)
    | .panic => False
  | [], _, ivs, hw => ⟨⟨ivs, rfl, hw⟩, (fun _ he => nomatch he), fun _ => lemma_runOK_nil P cfg fs _⟩
  | ph :: rest, hs, ivs, hw => by
    have hph := lemma_phase_all P hP cfg fs ph ivs hw hg (hs ph List.mem_cons_self)
    simp only [runPhasesAll]
    cases hr : bindAll P cfg ph.src.kind (.struct (phaseFs fs ph)) (.struct ivs) ph.src with
    | panic => rw [hr] at hph; exact hph
    | done v1 es1 =>
      rw [hr] at hph
      obtain ⟨⟨rvs, rfl, hwr⟩, he1, hok1⟩ := hph
      have ih := lemma_runAll_full P hP cfg fs hg rest (fun p hp => hs p (List.mem_cons_of_mem _ hp)) rvs hwr
      simp only
      cases hrr : runPhasesAll P cfg fs rest (.struct rvs) with
      | panic => rw [hrr] at ih; exact ih
      | done v es2 =>
        rw [hrr] at ih
        obtain ⟨ht, he2, hok2⟩ := ih
        refine ⟨ht, fun e he => ?_, fun hnil => ?_⟩
        · rcases List.mem_append.1 he with he | he
          · exact ⟨ph, List.mem_cons_self, he1 e he⟩
          · obtain ⟨p, hp, hpe⟩ := he2 e he
            exact ⟨p, List.mem_cons_of_mem _ hp, hpe⟩
        · obtain ⟨h1, h2⟩ := List.append_eq_nil_iff.1 hnil
          exact lemma_runOK_cons P cfg fs ph rest _ _ v (hok1 h1) (hok2 h2)

theorem lemma_runAll (P : Params) (hP : FloatSane P) (cfg : Cfg) (fs : List Fld) (hg : inGrammarFs fs = true) :
    ∀ (phs : List Phase), (∀ ph ∈ phs, srcOK ph.src = true) → ∀ ivs : List Val, wts fs ivs = true →
    match runPhasesAll P cfg fs phs (.struct ivs) with
    | .done v es => (∃ rvs, v = .struct rvs ∧ wts fs rvs = true) ∧ ∀ e ∈ es, ∃ ph ∈ phs, PhaseErr P cfg fs ph e
    | .panic => False := by
  intro phs hs ivs hw
  have h := lemma_runAll_full P hP cfg fs hg phs hs ivs hw
  cases hr : runPhasesAll P cfg fs phs (.struct ivs) with
  | panic => rw [hr] at h; exact h
  | done v es => rw [hr] at h; exact ⟨h.1, h.2.1⟩


/-! ### assembly -/

theorem lemma_expectMap_errs (P : Params) (cfg : Cfg) (s : Src) (l : Leaf) (vt : Ty) (isPtr : Bool)
    (m0 m0' : List (Bytes × Val)) : (expectMap P cfg s l vt isPtr m0).errs = (expectMap P cfg s l vt isPtr m0').errs := by
  unfold expectMap
  cases vt <;> rfl

theorem lemma_expectV_errs (P : Params) (cfg : Cfg) (s : Src) (l : Leaf) (m0 m0' : List (Bytes × Val)) :
    (expectV P cfg s l m0).errs = (expectV P cfg s l m0').errs := by
  unfold expectV
  generalize l.ty = t
  cases t with
  | map v => exact lemma_expectMap_errs P cfg s l v false m0 m0'
  | ptr e =>
    cases e with
    | map v => exact lemma_expectMap_errs P cfg s l v true m0 m0'
    | _ => rfl
  | _ => rfl

/-- an error of a phase, read on the items of the original type -/
theorem lemma_phase_err (P : Params) (cfg : Cfg) (fs : List Fld) (hg : inGrammarFs fs = true) (ph : Phase) (init : Val) (e : Err)
    (h : PhaseErr P cfg fs ph e) :
    e ∈ ((leavesOf ph.src.kind fs).flatMap fun l0 =>
        ((expect P cfg ph.src init (ph.leaf l0)).errs ++
          (if ambiguous ph.src (ph.leaf l0) then [Err.conv, Err.sliceLen, Err.mapSize] else [])).map (wrapErr (ph.leaf l0).names)) ++
      ((nodesOf ph.src.kind fs).filter (fun n => cfg.maxDepth < n.depth)).map (fun n => wrapErr n.names .depth) := by
  obtain ⟨ivs', he⟩ := h
  unfold causes at he
  simp only [List.mem_append, List.mem_flatMap, List.mem_map, List.mem_filter] at he ⊢
  rcases he with ⟨l, hl, c, hc, hce⟩ | ⟨n, ⟨hn, hd⟩, hne⟩
  · -- the leaf of the phase's type is the phase's reading of a leaf of the original type
    obtain ⟨l0, hx, rfl⟩ := (lemma_phase_leaf_mem fs hg ph _ l).1 ((lemma_mem_leavesOf _ _ _).1 hl)
    refine Or.inl ⟨l0, (lemma_mem_leavesOf _ _ _).2 hx, c, ?_, hce⟩
    unfold expect at hc ⊢
    rw [lemma_expectV_errs P cfg ph.src _ _ (mapOf (valAt (.struct ivs') (ph.leaf l0).path))]
    exact hc
  · exact Or.inr ⟨n, ⟨(lemma_mem_nodesOf _ _ _).2
      ((lemma_phase_node_mem fs ph _ n).1 ((lemma_mem_nodesOf _ _ _).1 hn)), hd⟩, hne⟩

theorem lemma_srcOK_empty (s : Src) : srcOK { s with kvs := [] } = true := by
  simp only [srcOK, List.all_nil, Bool.true_and]
  cases s.kind <;> rfl

theorem lemma_mem_phasesOf (fs : List Fld) (srcs : List Src) (ph : Phase) :
    ph ∈ phasesOf fs srcs ↔ ∃ s ∈ srcs, mentionsFs s.kind fs = true ∧
      if srcs.length == 1 then ph = { src := s, defaultsOnly := false, noDefaults := false }
      else ph = { src := { s with kvs := [] }, defaultsOnly := true, noDefaults := false } ∨
        ph = { src := s, defaultsOnly := false, noDefaults := true } := by
  unfold phasesOf
  cases srcs.length == 1 with
  | true =>
    simp only [if_true, List.mem_map, List.mem_filter]
    exact ⟨fun ⟨s, ⟨hs, hm⟩, e⟩ => ⟨s, hs, hm, e.symm⟩, fun ⟨s, hs, hm, e⟩ => ⟨s, ⟨hs, hm⟩, e.symm⟩⟩
  | false =>
    simp only [Bool.false_eq_true, if_false, List.mem_append, List.mem_map, List.mem_filter]
    constructor
    · rintro (⟨s, ⟨hs, hm⟩, e⟩ | ⟨s, ⟨hs, hm⟩, e⟩)
      · exact ⟨s, hs, hm, Or.inl e.symm⟩
      · exact ⟨s, hs, hm, Or.inr e.symm⟩
    · rintro ⟨s, hs, hm, e | e⟩
      · exact Or.inl ⟨s, ⟨hs, hm⟩, e.symm⟩
      · exact Or.inr ⟨s, ⟨hs, hm⟩, e.symm⟩

theorem lemma_phases_srcOK (fs : List Fld) (srcs : List Src) (hs : ∀ s ∈ srcs, srcOK s = true) :
    ∀ ph ∈ phasesOf fs srcs, srcOK ph.src = true := by
  intro ph hph
  obtain ⟨s, hsm, _, h⟩ := (lemma_mem_phasesOf fs srcs ph).1 hph
  split at h
  · rw [h]; exact hs s hsm
  · rcases h with rfl | rfl
    · exact lemma_srcOK_empty s
    · exact hs s hsm

theorem lemma_specMulti_ok (P : Params) (cfg : Cfg) (fs : List Fld) (init v : Val) (srcs : List Src) (hne : srcs.isEmpty = false)
    (h : RunOK P cfg fs (phasesOf fs srcs) init v) : specMulti P cfg fs init srcs (.ok v) = true := by
  simp only [specMulti, hne, Bool.not_false, Bool.true_and, Bool.and_eq_true, List.all_eq_true,
    decide_eq_true_eq, List.mem_flatMap, List.mem_map, Bool.or_eq_true]
  refine ⟨⟨?_, ?_⟩, ?_⟩
  · intro ph hph n hn
    exact h.node ph hph n ((lemma_mem_nodesOf _ _ _).1 hn)
  · rintro pt ⟨ph, hph, l, hl, rfl⟩
    have hl' := (lemma_mem_leavesOf _ _ _).1 hl
    rcases h.place ph.src.kind l hl' [valAt init l.path] _ (by simp) (lemma_matches_refl l.ty _) with h | ⟨a', ha', hm⟩
    · exact Or.inl h
    · right
      simp only [List.any_eq_true]
      exact ⟨a', ha', hm⟩
  · cases hphs : phasesOf fs srcs with
    | nil =>
      rw [h.same hphs]
      exact beq_self_eq_true _
    | cons ph0 rest =>
      simp only [List.all_eq_true, List.mem_filter, List.any_eq_true, beq_iff_eq]
      rintro f ⟨hf0, hfr⟩
      have hf0' := (lemma_mem_framesOf _ _ _).1 hf0
      apply h.frame f
      intro ph hph
      rw [hphs] at hph
      simp only [List.mem_cons] at hph
      rcases hph with rfl | hph
      · exact hf0'
      · -- a frame of another phase at the same path is the same frame
        obtain ⟨f', hf', hp⟩ := hfr ph hph
        have hf'' := (lemma_mem_framesOf _ _ _).1 hf'
        have hty : f'.ty = f.ty :=
          lemma_sameplace_fs ph.src.kind ph0.src.kind fs 0 (.frame f') (.frame f) f.path f'.ty f.ty hf'' hf0'
            (by simp [Item.pathTy, hp]) (by simp [Item.pathTy])
        cases f
        cases f'
        cases hp
        cases hty
        exact hf''

theorem lemma_bindMultiAll_meets_spec (P : Params) (hP : FloatSane P) (cfg : Cfg) (fs : List Fld) (ivs : List Val)
    (srcs : List Src) (hw : wts fs ivs = true) (hg : inGrammarFs fs = true) (hs : ∀ s ∈ srcs, srcOK s = true) :
    specMultiAll P cfg fs (.struct ivs) srcs (toObsAll (bindMultiAll P cfg fs (.struct ivs) srcs)) = true := by
  rw [lemma_bindMultiAll_phases]
  cases he : srcs.isEmpty with
  | true => simp [toObsAll, specMultiAll, he]
  | false =>
    rw [if_neg Bool.false_ne_true]
    have hrun := lemma_runAll_full P hP cfg fs hg (phasesOf fs srcs) (lemma_phases_srcOK fs srcs hs) ivs hw
    cases hr : runPhasesAll P cfg fs (phasesOf fs srcs) (.struct ivs) with
    | panic => rw [hr] at hrun; exact hrun.elim
    | done v es =>
      rw [hr] at hrun
      obtain ⟨_, herr, hok⟩ := hrun
      cases es with
      | nil => exact lemma_specMulti_ok P cfg fs _ v srcs he (hok rfl)
      | cons e0 es' =>
        simp only [toObsAll, specMultiAll, List.all_eq_true, Bool.or_eq_true, Bool.and_eq_true, beq_iff_eq]
        intro e hmem
        obtain ⟨ph, hph, hpe⟩ := herr e hmem
        right
        simp only [List.contains_iff_mem, multiCauses, List.mem_flatMap]
        exact ⟨ph, hph, lemma_phase_err P cfg fs hg ph (.struct ivs) e hpe⟩

/-- the collecting oracle is built so that it contains the plain one: without errors it is the plain oracle on the value, and its clause
    for a list of errors holds of the first -/
theorem lemma_specMulti_of_all (P : Params) (cfg : Cfg) (fs : List Fld) (init : Val) (srcs : List Src) (o : Outcome) (oa : OutAll)
    (ha : Agree o oa) (h : specMultiAll P cfg fs init srcs (toObsAll oa) = true) :
    specMulti P cfg fs init srcs (toObs o) = true := by
  cases o with
  | ok v => cases (ha : oa = .done v []); exact h
  | panic => cases (ha : oa = .panic); exact h
  | err e =>
    rcases (ha : oa = .panic ∨ ∃ v es, oa = .done v (e :: es)) with rfl | ⟨v, es, rfl⟩
    · cases h
    · simp only [toObsAll, specMultiAll, List.all_cons, Bool.and_eq_true] at h
      exact h.1

theorem lemma_bindMulti_meets_spec (P : Params) (hP : FloatSane P) (cfg : Cfg) (fs : List Fld) (ivs : List Val)
    (srcs : List Src) (hw : wts fs ivs = true) (hg : inGrammarFs fs = true) (hs : ∀ s ∈ srcs, srcOK s = true) :
    specMulti P cfg fs (.struct ivs) srcs (toObs (bindMulti P cfg fs (.struct ivs) srcs)) = true :=
  lemma_specMulti_of_all P cfg fs _ srcs _ _ (lemma_agree_multi P cfg fs _ srcs)
    (lemma_bindMultiAll_meets_spec P hP cfg fs ivs srcs hw hg hs)

end Rivaas.Bind
