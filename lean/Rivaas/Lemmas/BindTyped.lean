import Rivaas.Model.Bind
import Rivaas.Lemmas.BindFlatten
import Rivaas.Lemmas.BindMap
import Rivaas.Lemmas.BindStep
/-
C04: binding preserves the type of the destination, the step on a leaf field: what `leafAction` stores in a map, slice
or scalar field is again a well-typed value of the field's type. (The walk over the struct type is made once, for the
collecting bind, in BindAllTyped; the plain bind follows from it in `C04.bind_preserves_type`.)
-/
namespace Rivaas.Bind

variable (P : Params) (cfg : Cfg) (tag : Tag)

def NestTyped (nest : Nest) : Prop :=
  ∀ (nfs : List Fld) (ivs : List Val) (g : Getter) (d : Nat) (v : Val), wts nfs ivs = true →
    Spec.inGrammarFs nfs = true → nest nfs (.struct ivs) g d = .ok v → wt (.struct nfs) v = true

theorem lemma_convTy_wt (c : Cfg) (t : Ty) (s : Bytes) (v : Val) (h : convTy P c t s = some v) : wt t v = true := by
  cases t with
  | prim p => simp [wt]
  | _ => simp [convTy] at h

theorem lemma_setSlice_wt (ty : Ty) (cur : Val) (vs : List Bytes) (nv : Val) (hw : wt ty cur = true)
    (h : setSlice P cfg ty cur vs = .ok nv) : wt ty nv = true := by
  rcases lemma_setSlice_cases P cfg ty cur vs _ h with ⟨_, h'⟩ | h' | h' | ⟨_, _, _, ⟨ht, h'⟩ | ⟨ht, h'⟩⟩ <;> cases h'
  · exact hw
  · rw [ht]; rfl
  · rw [ht]; rfl

theorem lemma_setField_wt (t : Ty) (cur : Val) (val : Bytes) (w : Val) (hwt : wt t cur = true)
    (hsf : setField P cfg t cur val = some w) : wt t w = true := by
  cases t with
  | ptr t' =>
    simp only [setField] at hsf
    by_cases hv : (val == []) = true
    · simp only [hv, if_true, Option.some.injEq] at hsf; subst hsf; exact hwt
    · simp only [hv, Bool.false_eq_true, if_false] at hsf
      cases hc : convTy P cfg t' val with
      | none => simp [hc] at hsf
      | some x =>
        simp only [hc, Option.map_some, Option.some.injEq] at hsf
        subst hsf
        simpa [wt] using lemma_convTy_wt P cfg t' _ x hc
  | prim p => simp [wt]
  | slice e => simp [wt]
  | map e => simp [wt]
  | struct fs => simp [setField, convTy] at hsf

theorem lemma_setMap_wt (ty : Ty) (hg : Spec.leafTy ty = true) (hm : isMapTy ty = true) (cur : Val) (g : Getter)
    (name : Bytes) (nv : Val) (h : setMap P cfg ty cur g name = .ok nv) : wt ty nv = true := by
  obtain ⟨p, isPtr, rfl | rfl | rfl⟩ := leafTy_cases hg
  · cases isPtr <;> cases hm
  · cases isPtr <;> cases hm
  · -- what setMapField returns is the map, behind a pointer for a pointer field
    rw [lemma_setMap_core P cfg p isPtr cur g name _ rfl, lemma_setMapCore_eq] at h
    generalize (if (entriesOf g.src (g.pre ++ name)).isEmpty = true then _ else _) = bound at h
    split at h
    · cases h
    · split at h
      · split at h <;> cases h
        cases isPtr <;> rfl
      · cases h

structure InfoTyped (f : FieldInfo) : Prop where
  td : ∀ d, f.typedDefault = some d → wt f.ty d = true

theorem lemma_leafAction_wt (g : Getter) (f : FieldInfo) (hf : InfoTyped f)
    (hgr : isMapTy f.ty = true → Spec.leafTy f.ty = true) (cur nv : Val) (hw : wt f.ty cur = true)
    (h : leafAction P cfg g f cur = .ok nv) : wt f.ty nv = true := by
  unfold leafAction at h
  by_cases hm : isMapTy f.ty = true
  · rw [if_pos hm] at h
    exact lemma_setMap_wt P cfg f.ty (hgr hm) hm cur g f.tagName _ h
  · rw [if_neg hm] at h
    dsimp only at h
    split at h
    · rename_i dv hdv
      cases h
      cases hhas : (lookupField g f).2.2 with
      | true => rw [hhas] at hdv; cases hdv
      | false => rw [hhas] at hdv; exact hf.td _ hdv
    · by_cases hsl : isSliceTy f.ty = true
      · rw [if_pos hsl] at h
        exact lemma_setSlice_wt P cfg f.ty cur _ _ hw h
      · rw [if_neg hsl] at h
        cases hr : setField P cfg f.ty cur (if (lookupField g f).2.2 = true then (lookupField g f).2.1 else f.dflt) with
        | none => rw [hr] at h; cases h
        | some v => rw [hr] at h; cases h; exact lemma_setField_wt P cfg f.ty cur _ _ hw hr

theorem lemma_mkInfo_typed (idx : List Nat) (h : FieldHdr) (t : Ty) (f : FieldInfo)
    (hm : mkInfo P tag idx h t = some f) : InfoTyped f ∧ f.ty = t := by
  rw [lemma_mkInfo_eq] at hm
  obtain ⟨pa, -, rfl⟩ := Option.map_eq_some_iff.1 hm
  refine ⟨⟨fun d hd => ?_⟩, rfl⟩
  simp only at hd
  split at hd
  · exact lemma_convTy_wt P Cfg.default t _ d hd
  · cases hd

end Rivaas.Bind
