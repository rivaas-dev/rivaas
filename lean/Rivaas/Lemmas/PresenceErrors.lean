import Rivaas.Spec.Presence
import Rivaas.Lemmas.BytesOrder
/-
C05 — the error pipeline. The loops of `validatePartialLeafsOnly`, `formatTagErrors` and
`validateAll` are instances of one capped accumulation `capLoop`, which with the cut that follows
returns the first `max` of everything and says `Truncated` exactly when there were that many
(`capLoop_eq`); `coerceToValidationErrors` cuts in one step. What each of them returns is an
`Outcome`: a sorted list of errors that would be reported without a cap — all of them unless
`Truncated`, exactly the maximum when `Truncated`; `WithRunAll` over strategies that return
`Outcome`s returns one (`validateAll_outcome`). The property theorems of `Props/C05` and the
driver's Boolean oracle are read off `Outcome`.
-/
namespace Rivaas.Presence

def capLoop {α : Type} (max : Nat) : List (List α) → List α → List α × Bool
  | [], acc => (acc, false)
  | g :: rest, acc =>
    if max > 0 ∧ (acc ++ g).length ≥ max then (acc ++ g, true) else capLoop max rest (acc ++ g)

/-- the list a capped loop returns once the combined list is cut to the maximum (the cut is the repair of K05l in
    `validatePartialLeafsOnly`, of K05g in `validateAll`; `formatTagErrors` adds one error at a time and needs none) -/
def trimCap {α : Type} (max : Nat) (r : List α × Bool) : List α := if r.2 then r.1.take max else r.1

theorem capLoop_eq {α : Type} (max : Nat) (groups : List (List α)) (acc : List α)
    (hacc : 0 < max → acc.length < max) :
    (capLoop max groups acc).2 = decide (0 < max ∧ max ≤ (acc ++ groups.flatten).length) ∧
    trimCap max (capLoop max groups acc) =
      if 0 < max then (acc ++ groups.flatten).take max else acc ++ groups.flatten := by
  induction groups generalizing acc with
  | nil =>
    simp only [capLoop, trimCap, List.flatten_nil, List.append_nil, Bool.false_eq_true, if_false]
    refine ⟨(decide_eq_false fun h => Nat.lt_irrefl _ (Nat.lt_of_lt_of_le (hacc h.1) h.2)).symm, ?_⟩
    split
    · next hm => exact (List.take_of_length_le (Nat.le_of_lt (hacc hm))).symm
    · rfl
  | cons g rest ih =>
    simp only [capLoop, List.flatten_cons, ← List.append_assoc]
    by_cases h : max > 0 ∧ (acc ++ g).length ≥ max
    · rw [if_pos h, trimCap, if_pos rfl, if_pos h.1, List.take_append_of_le_length h.2]
      refine ⟨(decide_eq_true ⟨h.1, ?_⟩).symm, rfl⟩
      rw [List.length_append]; exact Nat.le_trans h.2 (Nat.le_add_right _ _)
    · rw [if_neg h]
      exact ih (acc ++ g) fun hm => Nat.lt_of_not_le fun hle => h ⟨hm, hle⟩

theorem capLoop_unlimited {α : Type} (groups : List (List α)) (acc : List α) :
    capLoop 0 groups acc = (acc ++ groups.flatten, false) := by
  induction groups generalizing acc with
  | nil => simp [capLoop]
  | cons g rest ih => simp [capLoop, ih, List.append_assoc]

/-! ### the loops of the model are `capLoop` -/

theorem partialLoop_eq_capLoop (mk : Opts → Path → Viol → FieldErr) (own : Path → List Viol) (o : Opts)
    (leaves : List Path) (acc : List FieldErr) :
    partialLoop mk own o leaves acc =
      { fields := trimCap o.maxErrors (capLoop o.maxErrors (leaves.map fun p => (own p).map (mk o p)) acc),
        truncated := (capLoop o.maxErrors (leaves.map fun p => (own p).map (mk o p)) acc).2 } := by
  induction leaves generalizing acc with
  | nil => rfl
  | cons p rest ih =>
    simp only [partialLoop, capLoop, List.map_cons]
    split
    · rfl
    · exact ih _

theorem fullLoop_eq_capLoop (mk : Opts → Path → Viol → FieldErr) (o : Opts)
    (errs : List (Path × Viol)) (acc : List FieldErr) (hacc : 0 < o.maxErrors → acc.length < o.maxErrors) :
    fullLoop mk o errs acc =
      { fields := trimCap o.maxErrors (capLoop o.maxErrors (errs.map fun pv => [mk o pv.1 pv.2]) acc),
        truncated := (capLoop o.maxErrors (errs.map fun pv => [mk o pv.1 pv.2]) acc).2 } := by
  induction errs generalizing acc with
  | nil => rfl
  | cons pv rest ih =>
    simp only [fullLoop, capLoop, List.map_cons]
    split
    · next h =>
      -- one error was added to a list below the maximum: there is nothing to cut
      rw [trimCap, if_pos rfl, List.take_of_length_le]
      rw [List.length_append]; exact hacc h.1
    · next h => exact ih _ fun hm => Nat.lt_of_not_le fun hle => h ⟨hm, hle⟩

/-- `validateAll` accumulates the strategies' error lists (nil adds nothing); its `Truncated` is
    set by the loop or inherited from a strategy -/
theorem allLoop_eq_capLoop (o : Opts) (parts : List (Option Result)) (acc : List FieldErr) (t : Bool)
    (hacc : 0 < o.maxErrors → acc.length < o.maxErrors) :
    allLoop true o parts acc t =
      { fields := trimCap o.maxErrors (capLoop o.maxErrors (parts.map fieldsOf) acc),
        truncated := (capLoop o.maxErrors (parts.map fieldsOf) acc).2 || (t || parts.any truncOf) } := by
  induction parts generalizing acc t with
  | nil => simp [allLoop, capLoop, trimCap]
  | cons p rest ih =>
    cases p with
    | none =>
      have hn : ¬ (o.maxErrors > 0 ∧ acc.length ≥ o.maxErrors) := fun h => Nat.lt_irrefl _ (Nat.lt_of_lt_of_le (hacc h.1) h.2)
      simp only [allLoop, capLoop, List.map_cons, fieldsOf, truncOf, List.append_nil, if_neg hn, List.any_cons,
        Bool.false_or]
      exact ih acc t hacc
    | some r =>
      simp only [allLoop, capLoop, List.map_cons, fieldsOf, truncOf, List.any_cons]
      split
      · simp [trimCap]
      · next h =>
        rw [ih _ _ fun hm => Nat.lt_of_not_le fun hle => h ⟨hm, hle⟩, Bool.or_assoc]

/-! ### `Error.Sort` -/

theorem errLe_total (a b : FieldErr) : (errLe a b || errLe b a) = true := by
  unfold errLe
  by_cases h : a.path = b.path
  · rw [if_pos h, if_pos h.symm]; exact leB_total _ _
  · rw [if_neg h, if_neg (Ne.symm h)]; exact leB_total _ _

theorem errLe_trans (a b c : FieldErr) (h1 : errLe a b = true) (h2 : errLe b c = true) :
    errLe a c = true := by
  unfold errLe at *
  by_cases hab : a.path = b.path
  · rw [hab]
    rw [if_pos hab] at h1
    split at h2
    · rw [if_pos ‹_›]; exact leB_trans _ _ _ h1 h2
    · rw [if_neg ‹_›]; exact h2
  · rw [if_neg hab] at h1
    by_cases hbc : b.path = c.path
    · rw [← hbc, if_neg hab]; exact h1
    · rw [if_neg hbc] at h2
      split
      · next hac =>
        -- a.path ≤ b.path ≤ c.path = a.path forces b.path = a.path
        exact absurd (leB_antisymm _ _ h1 (hac ▸ h2)) hab
      · exact leB_trans _ _ _ h1 h2

theorem sortErrs_perm (l : List FieldErr) : (sortErrs l).Perm l := List.mergeSort_perm l errLe

theorem mem_sortErrs {l : List FieldErr} {e : FieldErr} : e ∈ sortErrs l ↔ e ∈ l :=
  (sortErrs_perm l).mem_iff

theorem sortErrs_length (l : List FieldErr) : (sortErrs l).length = l.length := (sortErrs_perm l).length_eq

theorem sortErrs_sorted (l : List FieldErr) : (sortErrs l).Pairwise (fun a b => errLe a b = true) :=
  List.pairwise_mergeSort (le := errLe) errLe_trans errLe_total l

theorem errSorted_of_pairwise {l : List FieldErr} (h : l.Pairwise (fun a b => errLe a b = true)) :
    errSorted l = true := by
  induction l with
  | nil => rfl
  | cons a rest ih =>
    cases rest with
    | nil => rfl
    | cons b rest' =>
      have h1 := List.pairwise_cons.mp h
      simp only [errSorted, Bool.and_eq_true]
      exact ⟨h1.1 b List.mem_cons_self, ih h1.2⟩

theorem fieldsOf_some {x : Option Result} {e : FieldErr} (h : e ∈ fieldsOf x) : ∃ r, x = some r := by
  cases x with
  | none => simp [fieldsOf] at h
  | some r => exact ⟨r, rfl⟩

/-! ### the returned `*Error` -/

/-- how every mode wraps the list it kept: nil without errors, else the sorted list -/
def wrap (fs : List FieldErr) (t : Bool) : Option Result :=
  if fs.isEmpty then none else some { fields := sortErrs fs, truncated := t }

theorem wrap_of_ne_nil {fs : List FieldErr} (h : fs ≠ []) (t : Bool) :
    wrap fs t = some { fields := sortErrs fs, truncated := t } :=
  if_neg fun he => h (List.isEmpty_iff.mp he)

theorem fieldsOf_wrap (fs : List FieldErr) (t : Bool) : fieldsOf (wrap fs t) = sortErrs fs := by
  unfold wrap
  cases fs with
  | nil => exact List.mergeSort_nil.symm
  | cons a rest => rfl

/-- `Truncated` survives the wrapping when it is set only on a full list (which is then not empty) -/
theorem wrap_trunc_of_full {max : Nat} {fs : List FieldErr} {t : Bool}
    (hfull : t = true → 0 < max ∧ fs.length = max) : truncOf (wrap fs t) = t := by
  unfold wrap
  cases fs with
  | nil =>
    cases t with
    | false => rfl
    | true => exact absurd (hfull rfl).2.symm (Nat.ne_of_gt (hfull rfl).1)
  | cons a rest => rfl

/-- What a run of the pipeline with maximum `max` returned, `all` being the errors it would report
    without a maximum: what the driver's oracle asks of a result (`Rivaas.C05.lemma_errorsOK_of_outcome`). -/
structure Outcome (max : Nat) (all : List FieldErr) (res : Option Result) : Prop where
  mem_all : ∀ {e : FieldErr}, e ∈ fieldsOf res → e ∈ all
  complete : truncOf res = false → (fieldsOf res).Perm all
  full : truncOf res = true → 0 < max ∧ (fieldsOf res).length = max
  le : 0 < max → (fieldsOf res).length ≤ max
  sorted : (fieldsOf res).Pairwise (fun a b => errLe a b = true)
  nonempty : ∀ r, res = some r → r.fields ≠ []

theorem Outcome.ge_of_trunc {max : Nat} {all : List FieldErr} {res : Option Result} (h : Outcome max all res)
    (ht : truncOf res = true) : 0 < max ∧ max ≤ (fieldsOf res).length :=
  ⟨(h.full ht).1, Nat.le_of_eq (h.full ht).2.symm⟩

theorem outcome_wrap {max : Nat} {all fs : List FieldErr} {t : Bool} (hpre : fs <+: all)
    (hall : t = false → fs = all) (hfull : t = true → 0 < max ∧ fs.length = max)
    (hle : 0 < max → fs.length ≤ max) : Outcome max all (wrap fs t) := by
  have ht := wrap_trunc_of_full hfull
  have hf := fieldsOf_wrap fs t
  refine ⟨fun he => hpre.subset (mem_sortErrs.mp (hf ▸ he)), ?_, ?_, ?_, hf ▸ sortErrs_sorted _, ?_⟩
  · intro h; rw [ht] at h; rw [hf, ← hall h]; exact sortErrs_perm _
  · intro h; rw [ht] at h; rw [hf, sortErrs_length]; exact hfull h
  · intro hm; rw [hf, sortErrs_length]; exact hle hm
  · cases fs with
    | nil => exact nofun
    | cons a rest =>
      intro r h he
      rw [wrap_of_ne_nil (List.cons_ne_nil a rest)] at h
      cases h
      exact absurd (congrArg List.length he) (by rw [sortErrs_length]; exact Nat.succ_ne_zero _)

def capped (max : Nat) (all : List FieldErr) : Option Result :=
  wrap (if 0 < max then all.take max else all) (decide (0 < max ∧ max ≤ all.length))

theorem wrap_capLoop (max : Nat) (groups : List (List FieldErr)) :
    wrap (trimCap max (capLoop max groups [])) (capLoop max groups []).2 = capped max groups.flatten := by
  obtain ⟨h2, h1⟩ := capLoop_eq max groups [] id
  rw [h1, h2]; rfl

theorem capped_trunc (max : Nat) (all : List FieldErr) :
    truncOf (capped max all) = decide (0 < max ∧ max ≤ all.length) :=
  wrap_trunc_of_full (max := max) fun h => by
    have h := of_decide_eq_true h
    rw [if_pos h.1, List.length_take]; exact ⟨h.1, Nat.min_eq_left h.2⟩

theorem capped_outcome (max : Nat) (all : List FieldErr) : Outcome max all (capped max all) := by
  unfold capped
  by_cases hm : 0 < max
  · simp only [hm, true_and, if_true]
    refine outcome_wrap (List.take_prefix _ _) (fun h => ?_) (fun h => ⟨hm, ?_⟩) fun _ => ?_
    · exact List.take_of_length_le (Nat.le_of_lt (Nat.lt_of_not_le (of_decide_eq_false h)))
    · rw [List.length_take]; exact Nat.min_eq_left (of_decide_eq_true h)
    · rw [List.length_take]; exact Nat.min_le_left _ _
  · simp only [hm, false_and, decide_false, if_false]
    exact outcome_wrap (List.prefix_refl _) (fun _ => rfl) nofun fun h => absurd h hm

theorem capped_kept (max : Nat) (all : List FieldErr) : ∃ n, (fieldsOf (capped max all)).Perm (all.take n) := by
  rw [capped, fieldsOf_wrap]
  split
  · exact ⟨max, sortErrs_perm _⟩
  · exact ⟨all.length, by rw [List.take_length]; exact sortErrs_perm _⟩

theorem capped_bounds {max : Nat} (all : List FieldErr) (hm : 0 < max) :
    (fieldsOf (capped max all)).length ≤ max ∧
    (truncOf (capped max all) = true → (fieldsOf (capped max all)).length = max) ∧
    (truncOf (capped max all) = false → (fieldsOf (capped max all)).length < max) := by
  refine ⟨(capped_outcome max all).le hm, fun ht => ((capped_outcome max all).full ht).2, fun ht => ?_⟩
  rw [capped_trunc] at ht
  rw [capped, fieldsOf_wrap, sortErrs_length, if_pos hm, List.length_take]
  exact Nat.lt_of_le_of_lt (Nat.min_le_right _ _) (Nat.lt_of_not_le fun h => of_decide_eq_false ht ⟨hm, h⟩)

theorem capped_trunc_of_mem {max : Nat} {groups : List (List FieldErr)} {g : List FieldErr} (hm : 0 < max)
    (hg : g ∈ groups) (hfull : max ≤ g.length) : truncOf (capped max groups.flatten) = true := by
  rw [capped_trunc]
  exact decide_eq_true ⟨hm, Nat.le_trans hfull (List.sublist_flatten_of_mem hg).length_le⟩

/-! ### every mode returns an `Outcome` -/

def partialGroups (mk : Opts → Path → Viol → FieldErr) (leaves : List Path) (own : Path → List Viol)
    (o : Opts) : List (List FieldErr) :=
  (leaves.take (maxLeaves o)).map fun p => (own p).map (mk o p)

theorem partialFrom_eq_capped (mk : Opts → Path → Viol → FieldErr) (leaves : List Path)
    (own : Path → List Viol) (o : Opts) :
    partialFrom mk leaves own o = capped o.maxErrors (partialGroups mk leaves own o).flatten := by
  rw [← wrap_capLoop]
  unfold partialFrom wrap partialGroups
  rw [partialLoop_eq_capLoop]

theorem partialFrom_outcome (mk : Opts → Path → Viol → FieldErr) (leaves : List Path)
    (own : Path → List Viol) (o : Opts) :
    Outcome o.maxErrors (partialGroups mk leaves own o).flatten (partialFrom mk leaves own o) := by
  rw [partialFrom_eq_capped]; exact capped_outcome _ _

/-- full mode adds the validator's errors one at a time, in its order -/
theorem validateFull_eq_capped (mk : Opts → Path → Viol → FieldErr) (errs : List (Path × Viol)) (o : Opts) :
    validateFullWith mk errs o = capped o.maxErrors (errs.map fun pv => mk o pv.1 pv.2) := by
  rw [List.map_eq_flatMap, List.flatMap_def, ← wrap_capLoop]
  unfold validateFullWith
  rw [fullLoop_eq_capLoop mk o errs [] id]
  cases errs with
  | nil => rfl
  | cons pv rest =>
    -- the first error is kept whatever the maximum: the result is not nil on either side
    have hne : trimCap o.maxErrors (capLoop o.maxErrors ((pv :: rest).map fun pv => [mk o pv.1 pv.2]) []) ≠ [] := by
      rw [(capLoop_eq _ _ [] id).2]
      split
      · next hm =>
        obtain ⟨k, hk⟩ := Nat.exists_eq_succ_of_ne_zero (Nat.ne_of_gt hm)
        rw [hk]; exact List.cons_ne_nil _ _
      · exact List.cons_ne_nil _ _
    rw [wrap_of_ne_nil hne]
    rfl

theorem validateFull_outcome (mk : Opts → Path → Viol → FieldErr) (errs : List (Path × Viol)) (o : Opts) :
    Outcome o.maxErrors (errs.map fun pv => mk o pv.1 pv.2) (validateFullWith mk errs o) := by
  rw [validateFull_eq_capped]; exact capped_outcome _ _

theorem coerce_outcome (errs : List FieldErr) (o : Opts) : Outcome o.maxErrors errs (coerce errs o) := by
  unfold coerce
  cases errs with
  | nil => exact outcome_wrap (fs := []) (t := false) (List.prefix_refl _) (fun _ => rfl) nofun fun _ => Nat.zero_le _
  | cons a rest =>
    rw [List.isEmpty_cons, if_neg Bool.false_ne_true]
    split
    · next hc =>
      have hl : ((a :: rest).take o.maxErrors).length = o.maxErrors := by rw [List.length_take]; omega
      have hne : (a :: rest).take o.maxErrors ≠ [] := fun e => by
        rw [e] at hl; exact absurd hl.symm (Nat.ne_of_gt hc.1)
      rw [← wrap_of_ne_nil hne]
      exact outcome_wrap (List.take_prefix _ _) nofun (fun _ => ⟨hc.1, hl⟩) fun _ => Nat.le_of_eq hl
    · next hc =>
      rw [← wrap_of_ne_nil (List.cons_ne_nil a rest)]
      exact outcome_wrap (List.prefix_refl _) (fun _ => rfl) nofun fun hm => Nat.le_of_not_lt fun h => hc ⟨hm, h⟩

theorem validateAll_eq_wrap (parts : List (Option Result)) (o : Opts) :
    validateAll parts o =
      wrap (trimCap o.maxErrors (capLoop o.maxErrors (parts.map fieldsOf) []))
        ((capLoop o.maxErrors (parts.map fieldsOf) []).2 || parts.any truncOf) := by
  unfold validateAll validateAllWith wrap
  rw [allLoop_eq_capLoop o parts [] false id]
  rfl

theorem fieldsOf_validateAll (parts : List (Option Result)) (o : Opts) :
    fieldsOf (validateAll parts o) = fieldsOf (capped o.maxErrors (parts.map fieldsOf).flatten) := by
  rw [validateAll_eq_wrap, ← wrap_capLoop, fieldsOf_wrap, fieldsOf_wrap]

/-- when every strategy sets `Truncated` only on a full list, `validateAll` is the capped loop over the
    strategies' lists: a full list makes the loop say `Truncated`, so none is inherited that the loop does not set -/
theorem validateAll_eq_capped (parts : List (Option Result)) (o : Opts)
    (hp : ∀ x ∈ parts, truncOf x = true → 0 < o.maxErrors ∧ o.maxErrors ≤ (fieldsOf x).length) :
    validateAll parts o = capped o.maxErrors (parts.map fieldsOf).flatten := by
  rw [validateAll_eq_wrap, ← wrap_capLoop]
  cases ha : parts.any truncOf with
  | false => rw [Bool.or_false]
  | true =>
    obtain ⟨x, hx, hxt⟩ := List.any_eq_true.mp ha
    have h2 : (capLoop o.maxErrors (parts.map fieldsOf) []).2 = true :=
      ((capLoop_eq _ _ [] id).1.trans (capped_trunc _ _).symm).trans
        (capped_trunc_of_mem (hp x hx hxt).1 (List.mem_map.mpr ⟨x, hx, rfl⟩) (hp x hx hxt).2)
    rw [h2]
    rfl

/-- Which errors survive a cut is not a prefix of the concatenation: every strategy has sorted its list before
    `validateAll` cuts the combined one. -/
theorem validateAll_outcome (ps : List (List FieldErr × Option Result)) (o : Opts)
    (h : ∀ x ∈ ps, Outcome o.maxErrors x.1 x.2) :
    Outcome o.maxErrors (ps.flatMap (·.1)) (validateAll (ps.map (·.2)) o) := by
  have hp : ∀ y ∈ ps.map (·.2), truncOf y = true → 0 < o.maxErrors ∧ o.maxErrors ≤ (fieldsOf y).length := by
    intro y hy
    obtain ⟨x, hx, rfl⟩ := List.mem_map.mp hy
    exact (h x hx).ge_of_trunc
  rw [validateAll_eq_capped _ _ hp, List.map_map, ← List.flatMap_def]
  have hc := capped_outcome o.maxErrors (ps.flatMap (fieldsOf ∘ (·.2)))
  refine ⟨fun he => ?_, fun ht => (hc.complete ht).trans ?_, hc.full, hc.le, hc.sorted, hc.nonempty⟩
  · obtain ⟨x, hx, hex⟩ := List.mem_flatMap.mp (hc.mem_all he)
    exact List.mem_flatMap.mpr ⟨x, hx, (h x hx).mem_all hex⟩
  · -- not truncated: neither was a strategy, for a truncated one is full and makes the loop say so
    have hnt : ∀ x ∈ ps, truncOf x.2 = false := fun x hx => by
      cases hb : truncOf x.2 with
      | false => rfl
      | true =>
        have hg := (h x hx).ge_of_trunc hb
        rw [List.flatMap_def, capped_trunc_of_mem hg.1 (List.mem_map.mpr ⟨x, hx, rfl⟩) hg.2] at ht
        cases ht
    clear hc ht hp
    induction ps with
    | nil => exact .nil
    | cons x rest ih =>
      exact ((h x List.mem_cons_self).complete (hnt x List.mem_cons_self)).append
        (ih (fun y hy => h y (List.mem_cons_of_mem _ hy)) fun y hy => hnt y (List.mem_cons_of_mem _ hy))

end Rivaas.Presence
