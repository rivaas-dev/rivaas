import Rivaas.Lemmas.OpenAPIBuild
import Rivaas.Lemmas.OpenAPISort
/-
C07 — helper lemmas: the component list, the projection, and the step from the builder's invariant to the
document-level oracle.
-/
namespace Rivaas.OpenAPI
open List

theorem perm_flatMap_congr {α β} {f g : α → List β} : ∀ (l : List α), (∀ a ∈ l, f a ~ g a) → l.flatMap f ~ l.flatMap g
  | [], _ => by simp
  | a :: as, h => by
    simp only [flatMap_cons]
    exact (h a (mem_cons_self ..)).append (perm_flatMap_congr as fun b hb => h b (mem_cons_of_mem _ hb))

theorem nodupB_iff (l : List B) : nodupB l = true ↔ l.Nodup := by
  induction l with
  | nil => simp [nodupB]
  | cons x xs ih => simp [nodupB, ih]

theorem componentList_sub : ∀ (st : Schemas) (e : B × IR), e ∈ componentList st → e ∈ st
  | [], e, h => by simp [componentList] at h
  | (k, v) :: rest, e, h => by
    simp only [componentList] at h
    split at h
    · rcases mem_setAssoc k v _ e h with rfl | h'
      · exact mem_cons_self ..
      · exact mem_cons_of_mem _ (componentList_sub rest e h')
    · exact mem_cons.2 ((mem_cons.1 h).imp_right (componentList_sub rest e))

theorem componentList_keys : ∀ (st : Schemas) (k : B), k ∈ Schemas.keys st → k ∈ (componentList st).map (·.1)
  | [], k, h => by simp [Schemas.keys] at h
  | (k0, v) :: rest, k, h => by
    simp only [Schemas.keys, map_cons, mem_cons] at h
    simp only [componentList]
    split
    · exact mem_keys_setAssoc.2 (h.imp_right (componentList_keys rest k))
    · exact mem_cons.2 (h.imp_right (componentList_keys rest k))

theorem inv_nil (env : Env) : Inv env [] [] := fun _ he => nomatch he

theorem build_post (env : Env) (ops : List OpIn) (paths : List (B × PathItem IR)) (comps : List (B × IR))
    (h : build env ops = .ok (paths, comps)) :
    (∀ pi ∈ paths, ∀ mo ∈ pi.2, ∀ x ∈ mo.2.schemas, Good (comps.map (·.1)) x) ∧
    (∀ ks ∈ comps, nameOK ks.1 = true ∧ Good (comps.map (·.1)) ks.2) ∧
    (pathsIds paths).Nodup := by
  obtain ⟨st, hb, rfl⟩ := build_ok h
  obtain ⟨⟨_, hinv⟩, hgood, hcount⟩ := buildGroups_post env _ [] [] paths st (inv_nil env) nodup_nil hb
  have hkeys : ∀ k ∈ Schemas.keys st, k ∈ (sortByKey (componentList st)).map (·.1) :=
    fun k hk => ((sortByKey_perm _).map _).mem_iff.2 (componentList_keys _ k hk)
  refine ⟨fun pi hpi mo hmo x hx => Good.mono hkeys (hgood pi hpi mo hmo x hx), ?_, nodup_iff_count.2 hcount⟩
  intro ks hks
  have hmem := componentList_sub _ ks (mem_sortByKey.1 hks)
  refine ⟨(hinv ks hmem).1, Good.mono ?_ (hinv ks hmem).2⟩
  intro k hk
  rw [names_nil] at hk
  exact hkeys k hk

/-! ## from the builder's result to the document -/

theorem generate_ok {cfg : ApiCfg} {v : Version} {strict : Bool} {V : Option (Doc Schema → Bool)} {env : Env} {ops : List OpIn}
    {d : Doc Schema} (h : generate cfg v strict V env ops = .ok d) :
    ∃ paths comps, build env ops = .ok (paths, comps) ∧ d = applyCfg cfg v (projDoc v paths comps) ∧
      ¬ (v = .v30 ∧ strict = true ∧ cfg.summary ≠ []) := by
  unfold generate at h
  split at h
  · cases h
  next r hb =>
    refine ⟨r.1, r.2, by rw [hb], ?_⟩
    unfold project at h
    by_cases h1 : v = .v30 ∧ r.1.isEmpty = true
    · rw [if_pos h1] at h; cases h
    by_cases h2 : v = .v30 ∧ strict = true ∧ cfg.summary ≠ []
    · rw [if_neg h1, if_pos h2] at h; cases h
    rw [if_neg h1, if_neg h2] at h
    refine ⟨?_, h2⟩
    -- the validator only filters: the document is the projected one
    cases V with
    | none => exact (Except.ok.inj h).symm
    | some ok =>
      dsimp only at h
      split at h
      · exact (Except.ok.inj h).symm
      · cases h

/-- `Operation.map` sorts the projected responses by code (`sortResps`), hence membership through the permutation -/
theorem mem_resps_map {σ τ} {f : σ → τ} {o : Operation σ} {r : Resp τ} (hr : r ∈ (o.map f).resps) :
    ∃ r₀ ∈ o.resps, r = r₀.map f := by
  obtain ⟨r₀, h, e⟩ := mem_map.1 ((sortResps_perm _).mem_iff.1 hr)
  exact ⟨r₀, h, e.symm⟩

theorem mem_schemas_map {f : IR → Schema} {o : Operation IR} {x : Schema} (hx : x ∈ (o.map f).schemas) :
    ∃ y ∈ o.schemas, x = f y := by
  simp only [Operation.schemas, mem_append, mem_map, Option.mem_toList, mem_filterMap] at hx ⊢
  rcases hx with (⟨p, hp, rfl⟩ | hx) | ⟨r, hr, hrx⟩
  · obtain ⟨p₀, hp₀, rfl⟩ := mem_map.1 hp
    exact ⟨p₀.schema, Or.inl (Or.inl ⟨p₀, hp₀, rfl⟩), rfl⟩
  · obtain ⟨y, hy, rfl⟩ := Option.map_eq_some_iff.1 hx
    exact ⟨y, Or.inl (Or.inr hy), rfl⟩
  · obtain ⟨r₀, hr₀, rfl⟩ := mem_resps_map hr
    obtain ⟨y, hy, rfl⟩ := Option.map_eq_some_iff.1 hrx
    exact ⟨y, Or.inr ⟨r₀, hr₀, hy⟩, rfl⟩

theorem mem_projDoc_operations {v : Version} {paths : List (B × PathItem IR)} {comps : List (B × IR)}
    {o : Operation Schema} (ho : o ∈ (projDoc v paths comps).operations) :
    ∃ pi ∈ paths, ∃ mo ∈ pi.2, o = mo.2.map (projSchema v) := by
  simp only [Doc.operations, projDoc, mem_flatMap, mem_map] at ho
  obtain ⟨pi', ⟨pi, hpi, rfl⟩, mo', hmo', rfl⟩ := ho
  simp only [] at hmo'
  have := mem_sortByKey.1 hmo'
  simp only [mem_map] at this
  obtain ⟨mo, hmo, rfl⟩ := this
  exact ⟨pi, hpi, mo, hmo, rfl⟩

/-- the outer of the two nested maps of the projected `paths`, read by key: the path items are projected entry by entry -/
theorem projDoc_lookup (v : Version) (paths : List (B × PathItem IR)) (comps : List (B × IR)) (p : B) :
    (projDoc v paths comps).paths.lookup p =
      (paths.lookup p).map fun item => sortByKey (item.map fun mo => (mo.1, mo.2.map (projSchema v))) := by
  rw [← lookup_map_snd]
  rfl

/-- the inner map: the members of a path item are distinct, so that sorting them does not change what stands under a member -/
theorem projItem_lookup {σ τ} (f : Operation σ → Operation τ) {item : PathItem σ} (hnd : (item.map (·.1)).Nodup) (m : B) :
    (sortByKey (item.map fun mo => (mo.1, f mo.2))).lookup m = (item.lookup m).map f := by
  rw [← lookup_perm (sortByKey_perm _).symm (by rw [map_map]; exact hnd), lookup_map_snd]

theorem mem_projDoc_allSchemas {v : Version} {paths : List (B × PathItem IR)} {comps : List (B × IR)} {x : Schema}
    (hx : x ∈ (projDoc v paths comps).allSchemas) :
    (∃ pi ∈ paths, ∃ mo ∈ pi.2, ∃ y ∈ mo.2.schemas, x = projSchema v y) ∨ (∃ ks ∈ comps, x = projSchema v ks.2) := by
  simp only [Doc.allSchemas, mem_append, mem_flatMap, mem_map] at hx
  rcases hx with ⟨o, ho, hxo⟩ | ⟨ks', hks', rfl⟩
  · obtain ⟨pi, hpi, mo, hmo, rfl⟩ := mem_projDoc_operations ho
    obtain ⟨y, hy, rfl⟩ := mem_schemas_map hxo
    exact Or.inl ⟨pi, hpi, mo, hmo, y, hy, rfl⟩
  · simp only [projDoc, mem_map] at hks'
    obtain ⟨ks, hks, rfl⟩ := hks'
    exact Or.inr ⟨ks, hks, rfl⟩

theorem projDoc_keys (v : Version) (paths : List (B × PathItem IR)) (comps : List (B × IR)) :
    (projDoc v paths comps).schemas.map (·.1) = comps.map (·.1) := by
  simp [projDoc, Function.comp_def]

/-! ## resolving a reference -/

theorem slash_not_ok : nameCharOK '/' = false := by decide
theorem tilde_not_ok : nameCharOK '~' = false := by decide

theorem unescapeToken_id : ∀ (k : B), k.all nameCharOK = true → unescapeToken k = k
  | [], _ => by simp [unescapeToken]
  | c :: rest, h => by
    simp only [all_cons, Bool.and_eq_true] at h
    have hc : c ≠ '~' := fun e => by rw [e, tilde_not_ok] at h; exact absurd h.1 (by simp)
    unfold unescapeToken
    split
    · rename_i heq; simp only [cons.injEq] at heq; exact absurd heq.1 hc
    · rename_i heq; simp only [cons.injEq] at heq; exact absurd heq.1 hc
    · rename_i c' rest' _ _ heq
      simp only [cons.injEq] at heq
      obtain ⟨rfl, rfl⟩ := heq
      rw [unescapeToken_id rest h.2]
    · rename_i heq; cases heq

theorem resolves_of_inNames {keys : List B} {r : B} (hk : ∀ k ∈ keys, nameOK k = true) (h : InNames keys r) :
    resolves keys r = true := by
  obtain ⟨k, hkm, e⟩ := h
  rw [e]
  have hok := hk k hkm
  simp only [nameOK, Bool.and_eq_true] at hok
  have hcut : cutPrefix (s "#/components/schemas/") (refPrefix ++ k) = some k := by
    have hp : (s "#/components/schemas/").isPrefixOf (s "#/components/schemas/" ++ k) = true := by
      rw [List.isPrefixOf_iff_prefix]; exact List.prefix_append _ _
    simp only [cutPrefix, refPrefix, hp, if_true, List.drop_left]
  simp only [resolves, hcut, Bool.and_eq_true, Bool.not_eq_eq_eq_not, Bool.not_true, unescapeToken_id k hok.2]
  refine ⟨?_, by simpa using hkm⟩
  simp only [contains_eq_mem, decide_eq_false_iff_not]
  intro hmem
  have := (all_eq_true.1 hok.2) '/' hmem
  rw [slash_not_ok] at this
  exact absurd this (by simp)

end Rivaas.OpenAPI
