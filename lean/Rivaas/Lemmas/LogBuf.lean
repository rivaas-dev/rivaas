import Rivaas.Spec.LogBuf
import Rivaas.Lemmas.ListCore
/-
Invariants of the buffering machine (`Model/LogBuf.lean`: `StartBuffering` / `FlushBuffer` / `SetLevel` / `Shutdown` and
logging through `bufferingHandler`) with all five repairs switched on (`Flags.fixed`). The case analysis of a segment is
made once (`advance_cases`); the structural (`SInv`), order (`OInv`) and delivery (`DInv`) invariants are proved rule by
rule over it and lifted to every schedule in `Props/C20.lean`.
-/
namespace Rivaas.LogBuf

/-- what a list of operations logs; the oracle's `loggedSeqs progs g` is `logSeqs` of worker `g`'s program, by definition -/
def logSeqs (ops : List Op) : List Nat :=
  ops.filterMap fun op => match op with | .log c => some c.seq | _ => none

def WF (progs : List (List Op)) : Prop := ∀ p ∈ progs, (logSeqs p).Pairwise (· < ·)

/-- no worker logs through a `slog.Logger` obtained before `StartBuffering` (the class of finding K20f; with the repair,
    `Flags.fixed.stable`, no theorem assumes it) -/
def NoStale (progs : List (List Op)) : Prop := ∀ p ∈ progs, ∀ c, Op.log c ∈ p → c.stale = false

@[simp] theorem emit_ws (s : St) (evs : List Ev) : (emit s evs).ws = s.ws := rfl
@[simp] theorem emit_level (s : St) (evs : List Ev) : (emit s evs).level = s.level := rfl
@[simp] theorem emit_shutdown (s : St) (evs : List Ev) : (emit s evs).shutdown = s.shutdown := rfl
@[simp] theorem emit_custom (s : St) (evs : List Ev) : (emit s evs).custom = s.custom := rfl
@[simp] theorem emit_wrapped (s : St) (evs : List Ev) : (emit s evs).wrapped = s.wrapped := rfl
@[simp] theorem emit_buffering (s : St) (evs : List Ev) : (emit s evs).buffering = s.buffering := rfl
@[simp] theorem emit_buffer (s : St) (evs : List Ev) : (emit s evs).buffer = s.buffer := rfl
@[simp] theorem emit_flusher (s : St) (evs : List Ev) : (emit s evs).flusher = s.flusher := rfl
@[simp] theorem emit_batch (s : St) (evs : List Ev) : (emit s evs).batch = s.batch := rfl
@[simp] theorem emit_trace (s : St) (evs : List Ev) : (emit s evs).trace = s.trace ++ evs := rfl

@[simp] theorem setWorker_ws (s : St) (g : Nat) (w : Worker) : (setWorker s g w).ws = s.ws.set g w := rfl
@[simp] theorem setWorker_level (s : St) (g : Nat) (w : Worker) : (setWorker s g w).level = s.level := rfl
@[simp] theorem setWorker_shutdown (s : St) (g : Nat) (w : Worker) : (setWorker s g w).shutdown = s.shutdown := rfl
@[simp] theorem setWorker_custom (s : St) (g : Nat) (w : Worker) : (setWorker s g w).custom = s.custom := rfl
@[simp] theorem setWorker_wrapped (s : St) (g : Nat) (w : Worker) : (setWorker s g w).wrapped = s.wrapped := rfl
@[simp] theorem setWorker_buffering (s : St) (g : Nat) (w : Worker) : (setWorker s g w).buffering = s.buffering := rfl
@[simp] theorem setWorker_buffer (s : St) (g : Nat) (w : Worker) : (setWorker s g w).buffer = s.buffer := rfl
@[simp] theorem setWorker_flusher (s : St) (g : Nat) (w : Worker) : (setWorker s g w).flusher = s.flusher := rfl
@[simp] theorem setWorker_batch (s : St) (g : Nat) (w : Worker) : (setWorker s g w).batch = s.batch := rfl
@[simp] theorem setWorker_trace (s : St) (g : Nat) (w : Worker) : (setWorker s g w).trace = s.trace := rfl

theorem finishOp_eq (s : St) (g : Nat) (w : Worker) :
    finishOp s g w = setWorker (emit s [.done g w.idx]) g { ops := w.ops.tail, idx := w.idx + 1, gate := none } := rfl

-- throughout: `s` is the state before a segment of worker `g`, which is `w` there; `s'` and `w'` what they become
variable {progs : List (List Op)} {s s' : St} {g : Nat} {w w' : Worker}

theorem advance_none {fl : Flags} (hw : s.ws[g]? = none) : advance fl s g = s := by
  simp only [advance, hw]

/-- how the control fields of the state hang together: the batch belongs to a `FlushBuffer` in progress; records wait in
    the batch or the buffer only while buffering is on (a `FlushBuffer` switches it off when it finds both empty); the
    wrapper is always there (`Flags.fixed.stable`: `New` installs it and `SetLevel` installs it again) -/
structure FlagInv (flusher : Option Nat) (batch : List BRec) (wrapped buffering : Bool) (buffer : List BRec) : Prop where
  idle : flusher = none → batch = []
  off : buffering = false → batch = [] ∧ buffer = []
  wr : wrapped = true

/-- `StartBuffering`, `SetLevel` (which a custom handler refuses) and `Shutdown` begin and end within one segment;
    `Plain s op l sd bf`: `op` leaves level `l`, shutdown flag `sd` and `buffering = bf` -/
inductive Plain (s : St) : Op → Nat → Bool → Bool → Prop
  | start : Plain s .startBuffering s.level s.shutdown true
  | level (l : Nat) : Plain s (.setLevel l) (if s.custom then s.level else l) s.shutdown s.buffering
  | shutdown : Plain s .shutdown s.level true s.buffering

/-- One segment of worker `g` (which is `w`) in the repaired machine, rule by rule, with the flags evaluated. With the wrapper
    always there the branches for a missing wrapper are dead, a `SetLevel` that finds buffering off rebuilds what is
    there already (`hf.off`), a `FlushBuffer` that gets `Logger.mu` finds no batch left over (`hf.idle`), and its first
    look at the buffer is like every later one (`loopFlush`; `flushTake Flags.fixed s true` unfolds to the same term). -/
theorem advance_cases {P : St → Prop} (hw : s.ws[g]? = some w)
    (hf : FlagInv s.flusher s.batch s.wrapped s.buffering s.buffer) (stutter : P s)
    (passed : ∀ r, w.gate = some (.pass r) → P (finishOp (emit s (writeEv Flags.fixed false r)) g w))
    (look : w.gate = some .replay → s.batch = [] → P (flushContinue (flushTake Flags.fixed s false) g w))
    (popLast : ∀ r, w.gate = some .replay → s.batch = [r] →
      P (flushContinue (flushTake Flags.fixed { emit s (writeEv Flags.fixed true r) with batch := [] } false) g w))
    (pop : ∀ r rest, w.gate = some .replay → s.batch = r :: rest →
      P { emit s (writeEv Flags.fixed true r) with batch := rest })
    (reject : ∀ c rest, w.gate = none → w.ops = .log c :: rest →
      (bif c.stale then decide (1 ≤ c.lvl) else decide (s.level ≤ c.lvl) && (c.derived || !s.shutdown)) = false →
      P (finishOp (emit s [.begin g w.idx]) g w))
    (buffer : ∀ c rest, w.gate = none → w.ops = .log c :: rest → s.buffering = true →
      P (finishOp { emit s [.begin g w.idx] with buffer := s.buffer ++ [{ g := g, c := c }] } g w))
    (block : ∀ c rest, w.gate = none → w.ops = .log c :: rest → s.buffering = false →
      P (setWorker (emit s [.begin g w.idx]) g { w with gate := some (.pass { g := g, c := c }) }))
    (plain : ∀ op rest l sd bf, w.gate = none → w.ops = op :: rest → Plain s op l sd bf →
      P (finishOp { emit s [.begin g w.idx] with level := l, shutdown := sd, buffering := bf } g w))
    (flush : ∀ rest, w.gate = none → w.ops = .flush :: rest → s.batch = [] →
      P (flushContinue (flushTake Flags.fixed (emit s [.begin g w.idx]) false) g w)) :
    P (advance Flags.fixed s g) := by
  have hwb : (s.wrapped && s.buffering) = s.buffering := by rw [hf.wr, Bool.true_and]
  unfold advance
  rw [hw]
  dsimp only
  cases hg : w.gate with
  | some gt =>
    cases gt with
    | pass r => exact passed r hg
    | replay =>
      cases hb : s.batch with
      | nil => exact look hg hb
      | cons r rest =>
        -- `continueOnError`: a failed write does not drop the rest of the batch
        refine iteInduction (fun hc => absurd hc (by simp [Flags.fixed])) fun _ => ?_
        cases rest with
        | nil => exact popLast r hg hb
        | cons r' rest' => exact pop r _ hg hb
  | none =>
    cases hops : w.ops with
    | nil => exact stutter
    | cons op rest =>
      cases op with
      | log c =>
        -- `stable`: a stale `slog.Logger` goes the same way as the Logger
        refine iteInduction (fun hc => absurd hc (by simp [Flags.fixed])) fun _ => ?_
        refine iteInduction (fun hacc => reject c rest hg hops ((Bool.not_eq_true' _).mp hacc)) fun _ => ?_
        refine iteInduction (fun hbf => ?_) fun hbf => ?_
        · exact buffer c rest hg hops (hwb ▸ hbf)
        · rw [← hops]
          exact block c rest hg hops (hwb ▸ Bool.of_not_eq_true hbf)
      | startBuffering =>
        dsimp only
        refine iteInduction (fun _ => stutter) fun _ => ?_
        exact iteInduction (motive := fun x => P (finishOp x g w)) (fun _ => plain _ rest _ _ _ hg hops .start)
          fun hwr => absurd hf.wr hwr
      | setLevel lvl =>
        dsimp only
        refine iteInduction (fun _ => stutter) fun _ => ?_
        have hpl := plain _ rest _ _ _ hg hops (.level lvl)
        refine iteInduction (fun hcu => ?_) fun hcu => ?_
        · rw [if_pos (show s.custom = true from hcu)] at hpl
          exact hpl
        · rw [if_neg (show ¬ s.custom = true from hcu)] at hpl
          refine iteInduction (motive := fun x => P (finishOp x g w)) (fun _ => hpl) fun hk => ?_
          have hbf : s.buffering = false := hwb ▸ Bool.of_not_eq_true hk
          have heq : ({ emit s [.begin g w.idx] with level := lvl, wrapped := true, buffering := false, buffer := [] } : St) =
              { emit s [.begin g w.idx] with level := lvl } := by
            simp only [emit, hf.wr, hbf, (hf.off hbf).2]
          exact (congrArg (fun x => P (finishOp x g w)) heq).mpr hpl
      | shutdown => exact plain _ rest _ _ _ hg hops .shutdown
      | flush =>
        dsimp only
        refine iteInduction (fun _ => stutter) fun hfl => ?_
        refine iteInduction (fun hwr => absurd hf.wr (by simpa using hwr)) fun _ => ?_
        exact flush rest hg hops (hf.idle (Option.not_isSome_iff_eq_none.mp hfl))

theorem flushLook_nil (g : Nat) (w : Worker) (hb : s.batch = []) (hbuf : s.buffer = []) :
    flushContinue (flushTake Flags.fixed s false) g w = finishOp { s with buffering := false, flusher := none } g w := by
  simp only [flushTake, Flags.fixed, if_true, hbuf, flushContinue, hb, List.isEmpty_nil]

theorem flushLook_cons (g : Nat) (w : Worker) {r : BRec} {rest : List BRec}
    (hbuf : s.buffer = r :: rest) :
    flushContinue (flushTake Flags.fixed s false) g w =
      setWorker { s with buffer := [], batch := r :: rest, flusher := some g } g { w with gate := some .replay } := by
  simp only [flushTake, Flags.fixed, if_true, hbuf, flushContinue, List.isEmpty_cons, Bool.false_eq_true, if_false]

/-! ### structural invariant -/

def pendSeqs (s : St) (g : Nat) : List Nat := ((s.batch ++ s.buffer).filter (·.g == g)).map (·.c.seq)

theorem pendSeqs_congr (h : s'.batch ++ s'.buffer = s.batch ++ s.buffer) (g : Nat) :
    pendSeqs s' g = pendSeqs s g := by
  simp only [pendSeqs, h]

theorem pendSeqs_nil_of_empty (hb : s.batch = []) (hbuf : s.buffer = []) (g : Nat) : pendSeqs s g = [] := by
  simp [pendSeqs, hb, hbuf]

theorem pendSeqs_cons (s : St) (r : BRec) (rest : List BRec) (hb : s.batch = r :: rest) (g : Nat) :
    pendSeqs s g = if r.g = g then r.c.seq :: pendSeqs { s with batch := rest } g else pendSeqs { s with batch := rest } g := by
  simp only [pendSeqs, hb, List.cons_append, List.filter_cons]
  by_cases hg : r.g = g
  · rw [if_pos hg, if_pos (beq_iff_eq.mpr hg)]; rfl
  · rw [if_neg hg, if_neg (mt beq_iff_eq.mp hg)]

theorem pendSeqs_snoc (s : St) (r : BRec) (g : Nat) :
    pendSeqs { s with buffer := s.buffer ++ [r] } g = if r.g = g then pendSeqs s g ++ [r.c.seq] else pendSeqs s g := by
  simp only [pendSeqs, ← List.append_assoc, List.filter_append, List.map_append, List.filter_cons, List.filter_nil]
  by_cases hg : r.g = g
  · rw [if_pos hg, if_pos (beq_iff_eq.mpr hg)]; rfl
  · rw [if_neg hg, if_neg (mt beq_iff_eq.mp hg)]; exact List.append_nil _

/-- worker `g` against its program: `ops` is the program from `idx` on, and a blocked worker's head op is the one its gate
    belongs to. A record starts to pass through only while buffering is off, when nothing waits (`FlagInv.off`), and only
    the worker's own calls add to what it has pending: hence the third clause of `pass`, by which the record written in
    case `passed` of `oinv_advance` is the next of `g`'s line -/
structure WorkerOK (progs : List (List Op)) (s : St) (g : Nat) (w : Worker) : Prop where
  sync : w.ops = (progs[g]?.getD []).drop w.idx
  rep : w.gate = some .replay → w.ops = .flush :: w.ops.tail
  pass : ∀ r, w.gate = some (.pass r) → r.g = g ∧ w.ops = .log r.c :: w.ops.tail ∧ pendSeqs s g = []

theorem WorkerOK.frame {g' : Nat} {wx : Worker} (h : WorkerOK progs s g' wx)
    (hp : pendSeqs s g' = [] → pendSeqs s' g' = []) : WorkerOK progs s' g' wx :=
  ⟨h.sync, h.rep, fun r hg => (h.pass r hg).imp id (.imp id hp)⟩

structure SInv (progs : List (List Op)) (s : St) : Prop where
  wk : ∀ (g : Nat) (w : Worker), s.ws[g]? = some w → WorkerOK progs s g w
  fl : FlagInv s.flusher s.batch s.wrapped s.buffering s.buffer

theorem sinv_setWorker (h : SInv progs s) (hws : s'.ws = s.ws.set g w')
    (hnew : WorkerOK progs s' g w')
    (hp : ∀ g', g' ≠ g → pendSeqs s g' = [] → pendSeqs s' g' = [])
    (hf : FlagInv s'.flusher s'.batch s'.wrapped s'.buffering s'.buffer) : SInv progs s' := by
  refine ⟨?_, hf⟩
  intro g' wx hx
  rw [hws] at hx
  rcases List.getElem?_set_cases hx with ⟨rfl, rfl⟩ | ⟨hne, hx⟩
  · exact hnew
  · exact (h.wk g' wx hx).frame (hp g' hne)

theorem sinv_finish (h : SInv progs s) (hw : s.ws[g]? = some w) (hws : s'.ws = s.ws)
    (hp : ∀ g', g' ≠ g → pendSeqs s g' = [] → pendSeqs s' g' = [])
    (hf : FlagInv s'.flusher s'.batch s'.wrapped s'.buffering s'.buffer) : SInv progs (finishOp s' g w) :=
  sinv_setWorker (w' := { ops := w.ops.tail, idx := w.idx + 1, gate := none }) h (by rw [← hws]; rfl)
    ⟨by rw [(h.wk g w hw).sync, List.tail_drop], nofun, nofun⟩ hp hf

theorem sinv_gate {gt : Option Gate} (h : SInv progs s) (hw : s.ws[g]? = some w) (hws : s'.ws = s.ws)
    (hgt : gt = some .replay → w.ops = .flush :: w.ops.tail)
    (hps : ∀ r, gt = some (.pass r) → r.g = g ∧ w.ops = .log r.c :: w.ops.tail ∧ pendSeqs s' g = [])
    (hp : ∀ g', g' ≠ g → pendSeqs s g' = [] → pendSeqs s' g' = [])
    (hf : FlagInv s'.flusher s'.batch s'.wrapped s'.buffering s'.buffer) :
    SInv progs (setWorker s' g { w with gate := gt }) :=
  sinv_setWorker (w' := { w with gate := gt }) h (by rw [← hws]; rfl) ⟨(h.wk g w hw).sync, hgt, hps⟩ hp hf

theorem sinv_emit (h : SInv progs s) (evs : List Ev) : SInv progs (emit s evs) :=
  ⟨fun g w hw => (h.wk g w hw).frame id, h.fl⟩

theorem sinv_pop {r : BRec} {rest : List BRec} (h : SInv progs s) (hb : s.batch = r :: rest) (evs : List Ev) :
    SInv progs { emit s evs with batch := rest } := by
  refine ⟨fun g' wx hx => (h.wk g' wx hx).frame fun hp => ?_,
    fun hc => (by cases hb.symm.trans (h.fl.idle hc)), fun hbf => (by cases hb.symm.trans (h.fl.off hbf).1), h.fl.wr⟩
  rw [pendSeqs_cons s r rest hb g'] at hp
  split at hp
  · cases hp
  · exact hp

theorem sinv_flush (h : SInv progs s) (hw : s.ws[g]? = some w) (hb : s.batch = []) (hhead : w.ops = .flush :: w.ops.tail) :
    SInv progs (flushContinue (flushTake Flags.fixed s false) g w) := by
  cases hbuf : s.buffer with
  | nil =>
    rw [flushLook_nil g w hb hbuf]
    exact sinv_finish h hw rfl (fun _ _ hp => hp) ⟨fun _ => hb, fun _ => ⟨hb, hbuf⟩, h.fl.wr⟩
  | cons r rest =>
    rw [flushLook_cons g w hbuf]
    exact sinv_gate h hw rfl (fun _ => hhead) nofun
      (fun g' _ hp => (pendSeqs_congr (by rw [hb, hbuf]; exact List.append_nil _) g').trans hp)
      ⟨nofun, fun hbf => (by cases hbuf.symm.trans (h.fl.off hbf).2), h.fl.wr⟩

theorem sinv_advance (g : Nat) (h : SInv progs s) :
    SInv progs (advance Flags.fixed s g) := by
  cases hw : s.ws[g]? with
  | none => rw [advance_none hw]; exact h
  | some w =>
    have hk := h.wk g w hw
    have keep : ∀ g', g' ≠ g → pendSeqs s g' = [] → pendSeqs s g' = [] := fun _ _ hp => hp
    apply advance_cases hw h.fl h
    case passed => exact fun r _ => sinv_finish h hw rfl keep h.fl
    case look => exact fun hg hb => sinv_flush h hw hb (hk.rep hg)
    case popLast => exact fun r hg hb => sinv_flush (sinv_pop h hb _) hw rfl (hk.rep hg)
    case pop => exact fun r rest _ hb => sinv_pop h hb _
    case reject => exact fun _ _ _ _ _ => sinv_finish h hw rfl keep h.fl
    case buffer =>
      intro c rest _ _ hbuf
      refine sinv_finish h hw rfl (fun g' hne hp => ?_)
        ⟨h.fl.idle, fun hc => (by cases hbuf.symm.trans hc), h.fl.wr⟩
      exact (pendSeqs_snoc s { g := g, c := c } g').trans ((if_neg (Ne.symm hne)).trans hp)
    case block =>
      intro c rest _ hops hnb
      refine sinv_gate h hw rfl nofun (fun r hr => ?_) keep h.fl
      cases hr
      have hemp := h.fl.off hnb
      exact ⟨rfl, by rw [hops]; rfl, pendSeqs_nil_of_empty hemp.1 hemp.2 g⟩
    case plain =>
      intro op rest l sd bf _ _ hpl
      cases hpl with
      | start => exact sinv_finish h hw rfl keep ⟨h.fl.idle, nofun, h.fl.wr⟩
      | _ => exact sinv_finish h hw rfl keep h.fl
    case flush =>
      exact fun rest _ hops hb => sinv_flush (sinv_emit h _) hw hb (by rw [hops]; rfl)

/-! ### order: what is still to come for each worker -/

def futureSeqs (s : St) (g : Nat) : List Nat :=
  match s.ws[g]? with
  | some w => logSeqs w.ops
  | none => []

/-- everything of worker `g` that can still reach the output, in the order it must -/
def lineSeqs (s : St) (g : Nat) : List Nat := pendSeqs s g ++ futureSeqs s g

theorem logSeqs_cons_log (c : LogCall) (rest : List Op) : logSeqs (.log c :: rest) = c.seq :: logSeqs rest := rfl

theorem logSeqs_cons_other (op : Op) (rest : List Op) (h : ∀ c, op ≠ .log c) : logSeqs (op :: rest) = logSeqs rest := by
  cases op with
  | log c => exact absurd rfl (h c)
  | _ => rfl

theorem futureSeqs_of_worker (hw : s.ws[g]? = some w) : futureSeqs s g = logSeqs w.ops := by
  simp only [futureSeqs, hw]

theorem futureSeqs_setWorker (hw : s.ws[g]? = some w)
    (hws : s'.ws = s.ws.set g w') (g' : Nat) :
    futureSeqs s' g' = if g' = g then logSeqs w'.ops else futureSeqs s g' := by
  simp only [futureSeqs, hws]
  by_cases hgg : g' = g
  · subst hgg
    rw [List.getElem?_set_self (List.getElem?_eq_some_iff.mp hw).1, if_pos rfl]
  · rw [List.getElem?_set_ne (Ne.symm hgg), if_neg hgg]

theorem futureSeqs_finish (hw : s.ws[g]? = some w) (hws : s'.ws = s.ws) (g' : Nat) :
    futureSeqs (finishOp s' g w) g' = if g' = g then logSeqs w.ops.tail else futureSeqs s g' :=
  futureSeqs_setWorker (s' := finishOp s' g w) hw (by rw [← hws]; rfl) g'

theorem futureSeqs_congr {s s' : St} (hws : s'.ws = s.ws) (g' : Nat) : futureSeqs s' g' = futureSeqs s g' := by
  simp only [futureSeqs, hws]

theorem pendSeqs_finish (s' : St) (g : Nat) (w : Worker) (g' : Nat) : pendSeqs (finishOp s' g w) g' = pendSeqs s' g' := rfl
theorem pendSeqs_gate (s' : St) (g : Nat) (w : Worker) (g' : Nat) : pendSeqs (setWorker s' g w) g' = pendSeqs s' g' := rfl

@[simp] theorem pendSeqs_emit (s : St) (evs : List Ev) (g : Nat) : pendSeqs (emit s evs) g = pendSeqs s g := rfl
@[simp] theorem futureSeqs_emit (s : St) (evs : List Ev) (g : Nat) : futureSeqs (emit s evs) g = futureSeqs s g := rfl
@[simp] theorem lineSeqs_emit (s : St) (evs : List Ev) (g : Nat) : lineSeqs (emit s evs) g = lineSeqs s g := rfl

theorem logSeqs_tail_sublist (ops : List Op) : (logSeqs ops.tail).Sublist (logSeqs ops) :=
  List.Sublist.filterMap _ (List.tail_sublist ops)

theorem lineSeqs_setWorker_sub (hw : s.ws[g]? = some w) (hws : s'.ws = s.ws.set g w')
    (hops : (logSeqs w'.ops).Sublist (logSeqs w.ops)) (hbb : s'.batch ++ s'.buffer = s.batch ++ s.buffer) (g' : Nat) :
    (lineSeqs s' g').Sublist (lineSeqs s g') := by
  simp only [lineSeqs, pendSeqs_congr hbb, futureSeqs_setWorker hw hws]
  split
  · rename_i hgg
    rw [hgg, futureSeqs_of_worker hw]
    exact hops.append_left _
  · exact List.Sublist.refl _

theorem lineSeqs_finish_sub (hw : s.ws[g]? = some w) (hws : s'.ws = s.ws)
    (hbb : s'.batch ++ s'.buffer = s.batch ++ s.buffer) (g' : Nat) :
    (lineSeqs (finishOp s' g w) g').Sublist (lineSeqs s g') :=
  lineSeqs_setWorker_sub (s' := finishOp s' g w) hw (by rw [← hws]; rfl) (logSeqs_tail_sublist _) hbb g'

theorem lineSeqs_finish_other {s s' : St} {g : Nat} {w : Worker} {op : Op} {rest : List Op}
    (hw : s.ws[g]? = some w) (hws : s'.ws = s.ws) (hops : w.ops = op :: rest) (hop : ∀ c, op ≠ .log c)
    (hbb : s'.batch ++ s'.buffer = s.batch ++ s.buffer) (g' : Nat) :
    lineSeqs (finishOp s' g w) g' = lineSeqs s g' := by
  simp only [lineSeqs, pendSeqs_finish, pendSeqs_congr hbb, futureSeqs_finish hw hws]
  split
  · rename_i hgg
    rw [hgg, futureSeqs_of_worker hw, hops, List.tail_cons, logSeqs_cons_other op rest hop]
  · rfl

/-- `lineSeqs` after finishing a log op whose record is dropped (not accepted, or its write failed) -/
theorem lineSeqs_finish_drop {s s' : St} {g : Nat} {w : Worker} {c : LogCall} {rest : List Op}
    (hw : s.ws[g]? = some w) (hws : s'.ws = s.ws) (hops : w.ops = .log c :: rest)
    (hbb : s'.batch ++ s'.buffer = s.batch ++ s.buffer) (g' : Nat) :
    (lineSeqs (finishOp s' g w) g').Sublist (lineSeqs s g') :=
  lineSeqs_finish_sub hw hws hbb g'

theorem orderMonitor_append (progs : List (List Op)) (tr evs : List Ev) :
    orderMonitor progs (tr ++ evs) = evs.foldl (oStep progs) (orderMonitor progs tr) :=
  List.foldl_append ..

theorem oStep_write_ok (progs : List (List Op)) (m : OMon) (g x : Nat) (i : Bool) :
    (oStep progs m (.write g x i)).ok = true ↔
      m.ok = true ∧ i = true ∧ x ∈ loggedSeqs progs g ∧ ∀ p ∈ m.written, p.1 = g → p.2 < x := by
  simp only [oStep, Bool.and_eq_true, List.contains_eq_mem, List.all_eq_true, Bool.or_eq_true, Bool.not_eq_true',
    beq_eq_false_iff_ne, decide_eq_true_eq, and_assoc, ne_eq, ← Decidable.imp_iff_not_or]

/-- the sequence numbers of worker `g` in the output, oldest first -/
def doneSeqs (m : OMon) (g : Nat) : List Nat := ((m.written.filter (·.1 == g)).map (·.2)).reverse

theorem mem_doneSeqs {m : OMon} {wr : Nat × Nat} (h : wr ∈ m.written) : wr.2 ∈ doneSeqs m wr.1 :=
  List.mem_reverse.mpr (List.mem_map.mpr ⟨wr, List.mem_filter.mpr ⟨h, beq_self_eq_true _⟩, rfl⟩)

theorem doneSeqs_write (progs : List (List Op)) (m : OMon) (g0 x : Nat) (i : Bool) (g : Nat) :
    doneSeqs (oStep progs m (.write g0 x i)) g = if g0 = g then doneSeqs m g ++ [x] else doneSeqs m g := by
  simp only [doneSeqs, oStep, List.filter_cons]
  by_cases hg : g0 = g
  · rw [if_pos hg, if_pos (beq_iff_eq.mpr hg), List.map_cons, List.reverse_cons]
  · rw [if_neg hg, if_neg (mt beq_iff_eq.mp hg)]

theorem loggedSeqs_pairwise (hwf : WF progs) (g : Nat) : (loggedSeqs progs g).Pairwise (· < ·) := by
  unfold loggedSeqs
  cases hp : progs[g]? with
  | none => exact List.Pairwise.nil
  | some p => exact hwf p (List.mem_of_getElem? hp)

structure OInv (progs : List (List Op)) (s : St) : Prop where
  ok : (orderMonitor progs s.trace).ok = true
  /-- per worker, what has been written followed by what is still to come is a subsequence of what its program logs
      (increasing, by `WF`): a write takes the head of the line to the end of the written part, so the list stays as it
      is; every other move only drops elements -/
  hist : ∀ g, (doneSeqs (orderMonitor progs s.trace) g ++ lineSeqs s g).Sublist (loggedSeqs progs g)

theorem oinv_quiet (h : OInv progs s) (evs : List Ev)
    (htr : s'.trace = s.trace ++ evs) (hnw : ∀ m, evs.foldl (oStep progs) m = m)
    (hline : ∀ g, (lineSeqs s' g).Sublist (lineSeqs s g)) : OInv progs s' := by
  have hm : orderMonitor progs s'.trace = orderMonitor progs s.trace := by
    rw [htr, orderMonitor_append, hnw]
  refine ⟨by rw [hm]; exact h.ok, fun g => ?_⟩
  rw [hm]
  exact ((hline g).append_left _).trans (h.hist g)

theorem oinv_write (hwf : WF progs) (h : OInv progs s) (g0 x : Nat) (evs : List Ev)
    (htr : s'.trace = s.trace ++ (Ev.write g0 x true :: evs)) (hnw : ∀ m, evs.foldl (oStep progs) m = m)
    (hline0 : lineSeqs s g0 = x :: lineSeqs s' g0)
    (hline : ∀ g, g ≠ g0 → (lineSeqs s' g).Sublist (lineSeqs s g)) : OInv progs s' := by
  have hm : orderMonitor progs s'.trace = oStep progs (orderMonitor progs s.trace) (.write g0 x true) := by
    rw [htr, orderMonitor_append, List.foldl_cons, hnw]
  have h0 := h.hist g0
  rw [hline0] at h0
  refine ⟨?_, fun g => ?_⟩
  · -- `x` is logged, and above what is written: it stands behind that in an increasing list
    have hinc := (List.pairwise_append.mp ((loggedSeqs_pairwise hwf g0).sublist h0)).2.2
    rw [hm, oStep_write_ok]
    exact ⟨h.ok, rfl, h0.subset (List.mem_append_right _ (List.mem_cons_self ..)),
      fun wr hwr hg => hinc wr.2 (hg ▸ mem_doneSeqs hwr) x (List.mem_cons_self ..)⟩
  · rw [hm, doneSeqs_write]
    by_cases hg : g0 = g
    · rw [if_pos hg, List.append_assoc, ← hg]
      exact h0
    · rw [if_neg hg]
      exact ((hline g (Ne.symm hg)).append_left _).trans (h.hist g)

theorem writeEv_fixed (replayed : Bool) (r : BRec) :
    writeEv Flags.fixed replayed r = if r.c.fail then [] else [.write r.g r.c.seq true] := by
  simp [writeEv, Flags.fixed]

/-- a transition in which the final handler is given the record at the head of its worker's line: it is written, or the
    environment fails the write and it is gone -/
theorem oinv_deliver (hwf : WF progs) (h : OInv progs s) (replayed : Bool) (r : BRec) (evs : List Ev)
    (htr : s'.trace = s.trace ++ (writeEv Flags.fixed replayed r ++ evs)) (hnw : ∀ m, evs.foldl (oStep progs) m = m)
    (hline0 : lineSeqs s r.g = r.c.seq :: lineSeqs s' r.g)
    (hline : ∀ g, g ≠ r.g → (lineSeqs s' g).Sublist (lineSeqs s g)) : OInv progs s' := by
  rw [writeEv_fixed] at htr
  cases hfail : r.c.fail with
  | false =>
    rw [hfail, if_neg Bool.false_ne_true] at htr
    exact oinv_write hwf h r.g r.c.seq evs htr hnw hline0 hline
  | true =>
    rw [hfail, if_pos rfl] at htr
    refine oinv_quiet h evs htr hnw fun g => ?_
    by_cases hg : g = r.g
    · rw [hg, hline0]
      exact List.sublist_cons_self ..
    · exact hline g hg

theorem stale_false_of_sync {progs : List (List Op)} {g : Nat} {w : Worker} {c : LogCall} {rest : List Op}
    (hns : NoStale progs) (hsync : w.ops = (progs[g]?.getD []).drop w.idx) (hops : w.ops = .log c :: rest) :
    c.stale = false := by
  have hmem : Op.log c ∈ progs[g]?.getD [] := List.mem_of_mem_drop (hsync ▸ hops ▸ List.mem_cons_self ..)
  cases hp : progs[g]? with
  | none => rw [hp] at hmem; cases hmem
  | some p =>
    rw [hp] at hmem
    exact hns p (List.mem_of_getElem? hp) c hmem

theorem oinv_finish_quiet (h : OInv progs s) (hw : s.ws[g]? = some w) (hws : s'.ws = s.ws) (evs : List Ev)
    (htr : s'.trace = s.trace ++ evs) (hnw : ∀ m, evs.foldl (oStep progs) m = m)
    (hbb : s'.batch ++ s'.buffer = s.batch ++ s.buffer) : OInv progs (finishOp s' g w) := by
  apply oinv_quiet h (evs ++ [.done g w.idx])
  · exact (congrArg (fun t => t ++ [Ev.done g w.idx]) htr).trans (List.append_assoc ..)
  · intro m; rw [List.foldl_append, hnw]; rfl
  · exact lineSeqs_finish_sub hw hws hbb

theorem oinv_flush (h : OInv progs s) (hw : s.ws[g]? = some w) (hb : s.batch = []) :
    OInv progs (flushContinue (flushTake Flags.fixed s false) g w) := by
  cases hbuf : s.buffer with
  | nil =>
    rw [flushLook_nil g w hb hbuf]
    exact oinv_finish_quiet h hw rfl [] (List.append_nil _).symm (fun _ => rfl) rfl
  | cons r rest =>
    rw [flushLook_cons g w hbuf]
    exact oinv_quiet h [] (by simp) (fun _ => rfl)
      (lineSeqs_setWorker_sub hw rfl (List.Sublist.refl _) (by simp [hb, hbuf]))

theorem oinv_pop {r : BRec} {rest : List BRec} (hwf : WF progs) (h : OInv progs s)
    (hb : s.batch = r :: rest) :
    OInv progs { (emit s (writeEv Flags.fixed true r)) with batch := rest } := by
  have hpc := pendSeqs_cons s r rest hb
  apply oinv_deliver hwf h true r []
  · exact congrArg (s.trace ++ ·) (List.append_nil _).symm
  · exact fun _ => rfl
  · show pendSeqs s r.g ++ futureSeqs s r.g = r.c.seq :: (pendSeqs { s with batch := rest } r.g ++ futureSeqs s r.g)
    rw [hpc r.g, if_pos rfl]; rfl
  · intro g hg
    show (pendSeqs { s with batch := rest } g ++ futureSeqs s g).Sublist (pendSeqs s g ++ futureSeqs s g)
    rw [hpc g, if_neg (Ne.symm hg)]
    exact List.Sublist.refl _

theorem oinv_advance (g : Nat) (hwf : WF progs) (hs : SInv progs s)
    (h : OInv progs s) : OInv progs (advance Flags.fixed s g) := by
  cases hw : s.ws[g]? with
  | none => rw [advance_none hw]; exact h
  | some w =>
    apply advance_cases hw hs.fl h
    case passed =>
      intro r hgate
      -- nothing of this worker is pending (`WorkerOK.pass`), so its line begins with the record it writes
      obtain ⟨rfl, hhead, hpend⟩ := (hs.wk g w hw).pass r hgate
      apply oinv_deliver hwf h false r [.done r.g w.idx]
      · exact List.append_assoc ..
      · exact fun _ => rfl
      · simp only [lineSeqs, pendSeqs_finish, pendSeqs_emit, hpend, List.nil_append, if_true,
          futureSeqs_finish (s' := emit s _) hw rfl, futureSeqs_of_worker hw]
        exact congrArg logSeqs hhead
      · exact fun g' _ => lineSeqs_finish_sub (s' := emit s _) hw rfl rfl g'
    case look => exact fun _ hb => oinv_flush h hw hb
    case popLast => exact fun r _ hb => oinv_flush (oinv_pop hwf h hb) hw rfl
    case pop => exact fun r rest _ hb => oinv_pop hwf h hb
    case reject => exact fun _ _ _ _ _ => oinv_finish_quiet h hw rfl [.begin g w.idx] rfl (fun _ => rfl) rfl
    case buffer =>
      -- the record goes from the head of what is to come to the end of what is pending
      intro c rest _ hops _
      let s1 : St := { (emit s [.begin g w.idx]) with buffer := s.buffer ++ [{ g := g, c := c }] }
      have hps : ∀ g', pendSeqs s1 g' = if g = g' then pendSeqs s g' ++ [c.seq] else pendSeqs s g' :=
        pendSeqs_snoc s { g := g, c := c }
      refine oinv_quiet (s' := finishOp s1 g w) h [.begin g w.idx, .done g w.idx] (by simp [finishOp_eq, s1])
        (fun _ => rfl) fun g' => ?_
      simp only [lineSeqs, pendSeqs_finish, hps g', futureSeqs_finish (s' := s1) hw rfl g']
      by_cases hgg : g' = g
      · subst hgg
        simp only [if_true, futureSeqs_of_worker hw, hops, List.tail_cons, logSeqs_cons_log, List.append_assoc,
          List.singleton_append]
        exact List.Sublist.refl _
      · rw [if_neg (Ne.symm hgg), if_neg hgg]
        exact List.Sublist.refl _
    case block =>
      intro c rest _ _ _
      exact oinv_quiet h [.begin g w.idx] (by simp) (fun _ => rfl)
        (lineSeqs_setWorker_sub hw rfl (List.Sublist.refl _) rfl)
    case plain => exact fun _ _ _ _ _ _ _ _ => oinv_finish_quiet h hw rfl [.begin g w.idx] rfl (fun _ => rfl) rfl
    case flush =>
      exact fun _ _ _ hb => oinv_flush (oinv_quiet h [.begin g w.idx] rfl (fun _ => rfl) fun _ => List.Sublist.refl _) hw hb

/-! ### delivery -/

variable {custom : Bool} {m : DMon}

theorem deliveryMonitor_append (custom : Bool) (progs : List (List Op)) (tr evs : List Ev) :
    deliveryMonitor custom progs (tr ++ evs) = evs.foldl (dStep custom progs) (deliveryMonitor custom progs tr) :=
  List.foldl_append ..

theorem opAt_of_sync {op : Op} {rest : List Op}
    (hsync : w.ops = (progs[g]?.getD []).drop w.idx) (hops : w.ops = op :: rest) :
    opAt progs g w.idx = some op := by
  have h : (progs[g]?.getD [])[w.idx]? = some op := by rw [← List.head?_drop, ← hsync, hops]; rfl
  unfold opAt
  cases hp : progs[g]? with
  | none => rw [hp] at h; cases h
  | some p => rw [hp] at h; exact h

/-- calls in progress are the workers blocked in a pass-through write -/
def InCallOK (s : St) (l : List (Nat × Nat × Bool)) : Prop :=
  ∀ (g i : Nat) (b : Bool), (g, i, b) ∈ l →
    ∃ w r, s.ws[g]? = some w ∧ w.gate = some (.pass r) ∧ w.idx = i ∧ (b = true → r.c.fail = false)

theorem InCallOK.frame {l : List (Nat × Nat × Bool)} (h : InCallOK s l)
    (hws : s'.ws = s.ws.set g w') (hno : ∀ i b, (g, i, b) ∉ l) : InCallOK s' l := by
  intro g' i b hmem
  obtain ⟨wx, r, hwx, hrest⟩ := h g' i b hmem
  have hne : g ≠ g' := fun e => hno i b (e ▸ hmem)
  exact ⟨wx, r, by rw [hws, List.getElem?_set_ne hne]; exact hwx, hrest⟩

structure DRel (custom : Bool) (s : St) (m : DMon) : Prop where
  lvl : m.level = s.level
  sd : m.shutdown = s.shutdown
  cust : s.custom = custom
  ok : m.ok = true
  inCall : InCallOK s m.inCall
  /-- a returned call that must be delivered is written or waits (unfailing) in the batch or the buffer -/
  ret : ∀ (g x : Nat), (g, x) ∈ m.returned →
    (g, x) ∈ m.written ∨ ∃ r ∈ s.batch ++ s.buffer, r.g = g ∧ r.c.seq = x ∧ r.c.fail = false
  snaps : ∀ (g i : Nat) (snap : List (Nat × Nat)), (g, i, snap) ∈ m.flushes → ∀ gs ∈ snap, gs ∈ m.returned

theorem inCall_none (h : DRel custom s m)
    (hw : s.ws[g]? = some w) (hgate : ∀ r, w.gate ≠ some (.pass r)) : ∀ i b, (g, i, b) ∉ m.inCall := by
  intro i b hmem
  obtain ⟨w', r, hw', hg', _⟩ := h.inCall g i b hmem
  rw [hw] at hw'; cases hw'
  exact hgate r hg'

theorem drel_setws {l : Nat} {sd : Bool} (h : DRel custom s m) (hws : s'.ws = s.ws.set g w')
    (hno : ∀ i b, (g, i, b) ∉ m.inCall) (hl : l = s'.level) (hsd : sd = s'.shutdown) (hc : s'.custom = s.custom)
    (hbb : s'.batch ++ s'.buffer = s.batch ++ s.buffer) : DRel custom s' { m with level := l, shutdown := sd } :=
  ⟨hl, hsd, hc ▸ h.cust, h.ok, h.inCall.frame hws hno, hbb ▸ h.ret, h.snaps⟩

/-- the state against the delivery monitor run over its own trace: what the `drel_…` rules below keep -/
def DInv (custom : Bool) (progs : List (List Op)) (s : St) : Prop :=
  DRel custom s (deliveryMonitor custom progs s.trace)

theorem DInv.step {evs : List Ev} (h : DInv custom progs s) (htr : s'.trace = s.trace ++ evs)
    (hrel : ∀ m, DRel custom s m → DRel custom s' (evs.foldl (dStep custom progs) m)) : DInv custom progs s' := by
  unfold DInv
  rw [htr, deliveryMonitor_append]
  exact hrel _ h

/-- a `FlushBuffer` returns while nothing is pending: every returned call has been written (the relation does not look at
    `buffering` and `flusher`) -/
theorem drel_flush_done (h : DInv custom progs s) (hw : s.ws[g]? = some w) (hemp : s.batch ++ s.buffer = [])
    (hgate : ∀ r, w.gate ≠ some (.pass r)) (hop : opAt progs g w.idx = some .flush) :
    DInv custom progs (finishOp { s with buffering := false, flusher := none } g w) := by
  refine h.step (evs := [.done g w.idx]) rfl fun m h => ?_
  simp only [List.foldl_cons, List.foldl_nil, dStep, hop]
  have hwritten : ∀ gs ∈ m.returned, gs ∈ m.written := by
    intro gs hgs
    rcases h.ret gs.1 gs.2 hgs with hwr | ⟨r, hr, _⟩
    · exact hwr
    · rw [hemp] at hr; cases hr
  refine ⟨h.lvl, h.sd, h.cust, ?_, h.inCall.frame rfl (inCall_none h hw hgate), ?_, ?_⟩
  · simp only [h.ok, Bool.true_and, List.all_eq_true, List.mem_filter, List.contains_eq_mem, decide_eq_true_eq]
    exact fun x hx gs hgs => hwritten gs (h.snaps x.1 x.2.1 x.2.2 hx.1 gs hgs)
  · exact fun g' x hmem => Or.inl (hwritten (g', x) hmem)
  · exact fun g' i snap hmem => h.snaps g' i snap (List.mem_filter.mp hmem).1

theorem drel_flush (h : DInv custom progs s) (hw : s.ws[g]? = some w) (hb : s.batch = [])
    (hgate : ∀ r, w.gate ≠ some (.pass r)) (hop : opAt progs g w.idx = some .flush) :
    DInv custom progs (flushContinue (flushTake Flags.fixed s false) g w) := by
  cases hbuf : s.buffer with
  | nil =>
    rw [flushLook_nil g w hb hbuf]
    exact drel_flush_done h hw (by rw [hb, hbuf]; rfl) hgate hop
  | cons r rest =>
    rw [flushLook_cons g w hbuf]
    exact h.step (evs := []) (List.append_nil _).symm fun m h => drel_setws (w' := { w with gate := some .replay }) h rfl
      (inCall_none h hw hgate) h.lvl h.sd rfl (by rw [hb, hbuf]; exact List.append_nil _)

theorem drel_finish_plain {op : Op} {l : Nat} {sd bf : Bool}
    (h : DInv custom progs s) (hw : s.ws[g]? = some w) (hgate : ∀ r, w.gate ≠ some (.pass r))
    (hop : opAt progs g w.idx = some op) (hpl : Plain s op l sd bf) :
    DInv custom progs (finishOp { emit s [.begin g w.idx] with level := l, shutdown := sd, buffering := bf } g w) := by
  refine h.step (evs := [.begin g w.idx, .done g w.idx]) (List.append_assoc ..) fun m h => ?_
  have hm : dStep custom progs m (.begin g w.idx) = { m with level := l, shutdown := sd } ∧
      ∀ m', dStep custom progs m' (.done g w.idx) = m' := by
    cases hpl <;> simp only [dStep, hop, ← h.lvl, ← h.sd, h.cust, implies_true, and_true]
    -- `StartBuffering` and `Shutdown` are done; left is `SetLevel`, which a custom handler refuses
    cases custom <;> rfl
  rw [List.foldl_cons, List.foldl_cons, List.foldl_nil, hm.1, hm.2]
  exact drel_setws (w' := { ops := w.ops.tail, idx := w.idx + 1, gate := none }) h rfl (inCall_none h hw hgate)
    rfl rfl rfl rfl

/-- a log call that the monitor says must be delivered is one the logger accepts (the machine's `accepted` test), and
    its write does not fail -/
theorem accepted_of_must {level : Nat} {shutdown : Bool} {c : LogCall} (h : mustDeliver level shutdown c = true) :
    (bif c.stale then decide (1 ≤ c.lvl) else decide (level ≤ c.lvl) && (c.derived || !shutdown)) = true ∧
      c.fail = false := by
  simp only [mustDeliver, Bool.and_eq_true, Bool.not_eq_true'] at h
  obtain ⟨h1, h3⟩ := h
  refine ⟨?_, h3⟩
  cases hst : c.stale with
  | true => simpa [hst] using h1
  | false =>
    simp only [hst, cond_false, Bool.and_eq_true, decide_eq_true_eq, Bool.not_eq_true'] at h1
    simp [h1.1, h1.2]

theorem mem_filter_not {l : List (Nat × Nat × Bool)} {g i : Nat} {x : Nat × Nat × Bool}
    (hx : x ∈ l.filter (fun x => !(x.1 == g && x.2.1 == i))) : x ∈ l ∧ ¬ (x.1 = g ∧ x.2.1 = i) := by
  simp only [List.mem_filter, Bool.not_eq_true', Bool.and_eq_false_iff, beq_eq_false_iff_ne] at hx
  exact ⟨hx.1, not_and_of_not_or_not hx.2⟩

theorem mem_ite_cons {α : Type} {c : Prop} [Decidable c] {a x : α} {l : List α} :
    x ∈ (if c then a :: l else l) ↔ (c ∧ x = a) ∨ x ∈ l := by
  by_cases hc : c
  · rw [if_pos hc, List.mem_cons]; exact or_congr_left ⟨fun h => ⟨hc, h⟩, fun h => h.2⟩
  · rw [if_neg hc]; exact ⟨Or.inr, fun h => h.elim (fun h => absurd h.1 hc) id⟩

theorem foldl_writeEv (custom : Bool) (progs : List (List Op)) (m : DMon) (replayed : Bool) (r : BRec) :
    (writeEv Flags.fixed replayed r).foldl (dStep custom progs) m =
      { m with written := if r.c.fail = false then (r.g, r.c.seq) :: m.written else m.written } := by
  rw [writeEv_fixed]
  cases r.c.fail <;> rfl

theorem dStep_done_log {i : Nat} {c : LogCall} (hop : opAt progs g i = some (.log c)) :
    dStep custom progs m (.done g i) =
      { m with inCall := m.inCall.filter (fun x => !(x.1 == g && x.2.1 == i)),
               returned := if (m.inCall.any fun x => x.1 == g && x.2.1 == i && x.2.2) then (g, c.seq) :: m.returned
                           else m.returned } := by
  simp only [dStep, hop]

theorem drel_pop {r : BRec} {rest : List BRec} (h : DInv custom progs s) (hb : s.batch = r :: rest) :
    DInv custom progs { (emit s (writeEv Flags.fixed true r)) with batch := rest } := by
  refine h.step (evs := writeEv Flags.fixed true r) rfl fun m h => ?_
  rw [foldl_writeEv]
  refine ⟨h.lvl, h.sd, h.cust, h.ok, h.inCall, ?_, h.snaps⟩
  intro g x hmem
  show (g, x) ∈ (if r.c.fail = false then (r.g, r.c.seq) :: m.written else m.written) ∨ _
  rw [mem_ite_cons]
  rcases h.ret g x hmem with hwr | ⟨r', hr', h1, h2, h3⟩
  · exact Or.inl (Or.inr hwr)
  · rw [hb] at hr'
    rcases List.mem_cons.mp hr' with heq | hr'
    · subst heq
      exact Or.inl (Or.inl ⟨h3, by rw [h1, h2]⟩)
    · exact Or.inr ⟨r', hr', h1, h2, h3⟩

theorem dStep_log_returns {i : Nat} {c : LogCall}
    (hop : opAt progs g i = some (.log c)) (hno : ∀ i b, (g, i, b) ∉ m.inCall) :
    dStep custom progs (dStep custom progs m (.begin g i)) (.done g i) =
      { m with returned := if mustDeliver m.level m.shutdown c then (g, c.seq) :: m.returned else m.returned } := by
  -- the monitor's tests for the call `(g, i)` fail on the calls of the other workers
  have hoth : ∀ x ∈ m.inCall, (x.1 == g && x.2.1 == i) = false := by
    intro x hx
    rw [Bool.and_eq_false_iff, beq_eq_false_iff_ne]
    exact .inl fun e => hno x.2.1 x.2.2 (by rw [← e]; exact hx)
  have hany : (m.inCall.any fun x => x.1 == g && x.2.1 == i && x.2.2) = false :=
    List.any_eq_false.mpr fun x hx => by rw [hoth x hx]; exact Bool.false_ne_true
  have hfil : m.inCall.filter (fun x => !(x.1 == g && x.2.1 == i)) = m.inCall :=
    List.filter_eq_self.mpr fun x hx => by rw [hoth x hx]; rfl
  simp only [dStep, hop, List.any_cons, hany, List.filter_cons, hfil, beq_self_eq_true, Bool.and_self, Bool.not_true,
    Bool.false_eq_true, if_false, Bool.true_and, Bool.or_false]

theorem drel_advance (g : Nat) (hs : SInv progs s) (h : DInv custom progs s) :
    DInv custom progs (advance Flags.fixed s g) := by
  cases hw : s.ws[g]? with
  | none => rw [advance_none hw]; exact h
  | some w =>
    have hk := hs.wk g w hw
    have hsync := hk.sync
    -- the flusher stands at its `FlushBuffer`
    have hflush : w.gate = some .replay → (∀ r, w.gate ≠ some (.pass r)) ∧ opAt progs g w.idx = some .flush :=
      fun hg => ⟨by simp [hg], opAt_of_sync hsync (hk.rep hg)⟩
    have hidle : w.gate = none → ∀ r, w.gate ≠ some (.pass r) := fun hg => by simp [hg]
    have hop : ∀ {op rest}, w.ops = op :: rest → opAt progs g w.idx = some op := opAt_of_sync hsync
    apply advance_cases hw hs.fl h
    case passed =>
      -- the stalled write completes and the call returns
      intro r hgate
      obtain ⟨hrg, hhead, _⟩ := hk.pass r hgate
      have hop := opAt_of_sync hsync hhead
      refine h.step (evs := writeEv Flags.fixed false r ++ [Ev.done g w.idx])
        (List.append_assoc s.trace _ [Ev.done g w.idx]) fun m h => ?_
      -- the flag the monitor recorded for this call implies the write does not fail
      have hflag : ∀ i b, (g, i, b) ∈ m.inCall → i = w.idx ∧ (b = true → r.c.fail = false) := by
        intro i b hmem
        obtain ⟨w', r', hw', hg', hi, hb⟩ := h.inCall g i b hmem
        rw [hw] at hw'; cases hw'
        rw [hgate] at hg'; cases hg'
        exact ⟨hi.symm, hb⟩
      rw [List.foldl_append, foldl_writeEv, List.foldl_cons, List.foldl_nil, dStep_done_log hop]
      refine ⟨h.lvl, h.sd, h.cust, h.ok, ?_, ?_, ?_⟩
      · refine InCallOK.frame (s := s) ?_ rfl ?_
        · exact fun g' i b hmem => h.inCall g' i b (mem_filter_not hmem).1
        · intro i b hmem
          obtain ⟨hmem', hnot⟩ := mem_filter_not hmem
          exact hnot ⟨rfl, (hflag i b hmem').1⟩
      · intro g' x hmem
        show (g', x) ∈ (if r.c.fail = false then (r.g, r.c.seq) :: m.written else m.written) ∨ _
        rw [mem_ite_cons]
        rcases mem_ite_cons.mp hmem with ⟨hmust, heq⟩ | hmem
        · cases heq
          -- the call had to be delivered: its write did not fail
          obtain ⟨y, hy, hyp⟩ := List.any_eq_true.mp hmust
          simp only [Bool.and_eq_true, beq_iff_eq] at hyp
          exact Or.inl (Or.inl ⟨(hflag y.2.1 y.2.2 (by rw [← hyp.1.1]; exact hy)).2 hyp.2, by rw [hrg]⟩)
        · exact (h.ret g' x hmem).imp Or.inr id
      · exact fun g' i snap hmem gs hgs => mem_ite_cons.mpr (Or.inr (h.snaps g' i snap hmem gs hgs))
    case look => exact fun hg hb => drel_flush h hw hb (hflush hg).1 (hflush hg).2
    case popLast => exact fun r hg hb => drel_flush (drel_pop h hb) hw rfl (hflush hg).1 (hflush hg).2
    case pop => exact fun r rest _ hb => drel_pop h hb
    case reject =>
      -- not accepted: the call returns at once
      intro c rest hg hops hrej
      refine h.step (evs := [.begin g w.idx, .done g w.idx]) (List.append_assoc ..) fun m h => ?_
      have hno := inCall_none h hw (hidle hg)
      have hmust : mustDeliver m.level m.shutdown c = false := by
        rw [h.lvl, h.sd]
        cases hmd : mustDeliver s.level s.shutdown c with
        | false => rfl
        | true => rw [(accepted_of_must hmd).1] at hrej; cases hrej
      rw [List.foldl_cons, List.foldl_cons, List.foldl_nil, dStep_log_returns (hop hops) hno, hmust,
        if_neg Bool.false_ne_true]
      exact drel_setws (s' := finishOp (emit s [.begin g w.idx]) g w) h rfl hno h.lvl h.sd rfl rfl
    case buffer =>
      -- buffered: the call returns at once, the record waits in the buffer
      intro c rest hg hops _
      refine h.step (evs := [.begin g w.idx, .done g w.idx]) (List.append_assoc ..) fun m h => ?_
      have hno := inCall_none h hw (hidle hg)
      rw [List.foldl_cons, List.foldl_cons, List.foldl_nil, dStep_log_returns (hop hops) hno]
      refine ⟨h.lvl, h.sd, h.cust, h.ok, h.inCall.frame rfl hno, ?_, ?_⟩
      · intro g' x hmem
        rcases mem_ite_cons.mp hmem with ⟨hmust, heq⟩ | hmem
        · cases heq
          exact Or.inr ⟨{ g := g, c := c }, List.mem_append_right _ (List.mem_append_right _ (List.mem_cons_self ..)), rfl, rfl, (accepted_of_must hmust).2⟩
        · refine (h.ret g' x hmem).imp id fun ⟨r', hr', hrest⟩ => ⟨r', ?_, hrest⟩
          show r' ∈ s.batch ++ (s.buffer ++ [{ g := g, c := c }])
          rw [← List.append_assoc]
          exact List.mem_append_left _ hr'
      · exact fun g' i snap hmem gs hgs => mem_ite_cons.mpr (Or.inr (h.snaps g' i snap hmem gs hgs))
    case block =>
      -- pass-through: the call is in progress, blocked in the final handler
      intro c rest hg hops _
      refine h.step (evs := [.begin g w.idx]) rfl fun m h => ?_
      have hno := inCall_none h hw (hidle hg)
      simp only [List.foldl_cons, List.foldl_nil, dStep, hop hops, h.lvl, h.sd]
      refine ⟨rfl, rfl, h.cust, h.ok, ?_, h.ret, h.snaps⟩
      intro g' i b hmem
      rcases List.mem_cons.mp hmem with heq | hmem
      · cases heq
        refine ⟨{ w with gate := some (.pass { g := g, c := c }) }, { g := g, c := c }, ?_, rfl, rfl,
          fun hbt => (accepted_of_must hbt).2⟩
        exact List.getElem?_set_self (List.getElem?_eq_some_iff.mp hw).1
      · exact h.inCall.frame rfl hno g' i b hmem
    case plain => exact fun op rest l sd bf hg hops hpl => drel_finish_plain h hw (hidle hg) (hop hops) hpl
    case flush =>
      -- the monitor notes what had returned when a FlushBuffer begins
      intro rest hg hops hb
      refine drel_flush (h.step (evs := [.begin g w.idx]) rfl fun m h => ?_) hw hb (hidle hg) (hop hops)
      simp only [List.foldl_cons, List.foldl_nil, dStep, hop hops]
      refine ⟨h.lvl, h.sd, h.cust, h.ok, h.inCall, h.ret, ?_⟩
      intro g' i snap hmem gs hgs
      simp only [List.mem_cons, Prod.mk.injEq] at hmem
      rcases hmem with ⟨_, _, hsnap⟩ | hmem
      · rw [hsnap] at hgs; exact hgs
      · exact h.snaps g' i snap hmem gs hgs

end Rivaas.LogBuf
