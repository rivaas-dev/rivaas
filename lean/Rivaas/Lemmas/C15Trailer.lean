import Rivaas.Lemmas.C15Misc
/-
C15, trailers.  What net/http sends after the body, looked up by name (`tlook`):
it depends on the live map only through the trailer keys, on which the two runs agree (`Ag`), and the
compressed header block announces the same names.
-/
namespace Rivaas.C15
open Rivaas.Http Rivaas.Compress Rivaas.CompressSpec

theorem lemma_startsWith_prefix (p s : Bytes) : startsWith p s = p.isPrefixOf s := by
  fun_induction startsWith p s <;> simp [*, List.isPrefixOf]

theorem lemma_prefix_key (s k : Bytes) :
    s = trailerPrefix ++ k ↔ (startsWith trailerPrefix s = true ∧ s.drop 8 = k) := by
  have hlen : trailerPrefix.length = 8 := by
    dsimp only [trailerPrefix]
    rewrite [String.toList_ofList]
    rfl
  rw [lemma_startsWith_prefix, List.isPrefixOf_iff_prefix, List.prefix_iff_eq_append, hlen]
  constructor
  · rintro rfl
    exact ⟨by rw [List.drop_left' hlen], List.drop_left' hlen⟩
  · rintro ⟨h, rfl⟩
    exact h.symm

theorem lemma_hget_prefPart (l : Hdrs) (k : Bytes) :
    hget ((l.filter (fun kv => startsWith trailerPrefix kv.1)).map (fun kv => (kv.1.drop 8, kv.2))) k =
      hget l (trailerPrefix ++ k) := by
  induction l with
  | nil => rfl
  | cons a as ih =>
    have key := lemma_prefix_key a.1 k
    by_cases hs : startsWith trailerPrefix a.1 = true
    · simp only [List.filter_cons, hs, if_true, List.map_cons, lemma_hget_cons, ih, key, true_and]
    · simp only [List.filter_cons, hs, Bool.false_eq_true, if_false, lemma_hget_cons, ih, key, false_and]

theorem lemma_hget_declPart (names : List Bytes) (live : Hdrs) (k : Bytes) :
    hget (names.filterMap (fun k' => (nonEmptyVals (hget live k')).map (fun vs => (k', vs)))) k =
      if k ∈ names then nonEmptyVals (hget live k) else none := by
  induction names with
  | nil => simp [lemma_hget_nil]
  | cons n ns ih =>
    simp only [List.filterMap_cons, List.mem_cons]
    by_cases hn : n = k
    · subst hn
      cases hg : nonEmptyVals (hget live n) <;> simp [ih, hg, lemma_hget_cons]
    · have hn' : ¬ (k = n) := fun e => hn e.symm
      cases nonEmptyVals (hget live n) <;> simp [lemma_hget_cons, hn, hn', ih]

/-- the value delivered under trailer name `k` when the response is chunked and announces `names` -/
def tlook (names : List Bytes) (live : Hdrs) (k : Bytes) : Option (List Bytes) :=
  (if k ∈ names then nonEmptyVals (hget live k) else none).or (hget live (trailerPrefix ++ k))

theorem lemma_hget_trailers (sn : Sniff) (b : Base) (e : Bool) (k : Bytes) :
    hget (b.trailersAtFinish sn e) k =
      if b.chunked sn e then tlook (announced (b.finish sn).snap) (b.finish sn).live k else none := by
  unfold Base.trailersAtFinish
  by_cases hc : b.chunked sn e = true
  · simp only [hc, Bool.not_true, Bool.false_eq_true, if_false, if_true]
    rw [lemma_hget_append, lemma_hget_declPart, lemma_hget_prefPart]
    rfl
  · have hc' : b.chunked sn e = false := by simpa using hc
    simp [hc', lemma_hget_nil]

theorem lemma_tlook_agree (snap l1 l2 : Hdrs)
    (h : ∀ κ, isTrailerKey snap κ = true → hget l1 κ = hget l2 κ) (k : Bytes) :
    tlook (announced snap) l1 k = tlook (announced snap) l2 k := by
  unfold tlook
  have h2 : hget l1 (trailerPrefix ++ k) = hget l2 (trailerPrefix ++ k) :=
    h _ (by simp [isTrailerKey, lemma_startsWith_prefix])
  rw [h2]
  by_cases hk : k ∈ announced snap
  · have h1 : hget l1 k = hget l2 k := h k (by simp [isTrailerKey, hk])
    simp [hk, h1]
  · simp [hk]

theorem lemma_hget_trailers_wrote (sn : Sniff) (b : Base) (e : Bool) (k : Bytes) (hw : b.wrote = true) :
    hget (b.trailersAtFinish sn e) k =
      if (!noBody b.status && !hhas b.snap kCL &&
          ((b.sent || e) || (!(announced b.snap).isEmpty || b.snap.any (fun kv => startsWith trailerPrefix kv.1)))) = true
      then tlook (announced b.snap) b.live k else none := by
  rw [lemma_hget_trailers]
  unfold Base.chunked Base.finish
  rw [lemma_flush_eq sn b hw]

theorem lemma_announced_cmpSnap (s : Hdrs) (T : Option Bytes) (enc : Bytes) :
    announced (cmpSnap s T enc) = announced s := by
  obtain ⟨_, _, _, h1, h2, h3, h4⟩ := lemma_keys_ne
  unfold announced
  rw [lemma_hget_cmpSnap, if_neg h1, if_neg h2, if_neg h3]
  cases T with
  | none => rfl
  | some t => simp only [addCT]; rw [lemma_hget_hset, if_neg h4]

theorem lemma_hhas_cmpSnap_CL (s : Hdrs) (T : Option Bytes) (enc : Bytes) : hhas (cmpSnap s T enc) kCL = false := by
  rw [lemma_hhas_hget, lemma_hget_cmpSnap, if_neg lemma_keys_ne.2.2.1, if_neg (Ne.symm lemma_keys_ne.2.1), if_pos rfl]
  rfl

theorem lemma_hget_noprefix (l : Hdrs) (k : Bytes) (h : ∀ kv ∈ l, startsWith trailerPrefix kv.1 = false) :
    hget l (trailerPrefix ++ k) = none := by
  rw [← lemma_hget_prefPart, List.filter_eq_nil_iff.mpr (fun kv hkv => by rw [h kv hkv]; exact Bool.false_ne_true)]
  rfl

/-- the trailers of the two exchanges, read off the end state: when the plain response declares no Content-Length
    (with one, net/http sends no trailers at all while the compressed response is chunked) and its trailers are
    announced or there is no `http.TrailerPrefix` key -/
theorem lemma_end_trailers (sn : Sniff) (W : CW) (p : Base) (h : EndRel sn W p)
    (hA : hhas (p.finish sn).snap kCL = false)
    (hB : announced (p.finish sn).snap ≠ [] ∨ ∀ kv ∈ (p.finish sn).live, startsWith trailerPrefix kv.1 = false)
    (wireBig : Bool) (k : Bytes) :
    hget (W.base.trailersAtFinish sn (W.compress && W.hasWriter && wireBig)) k = hget (p.trailersAtFinish sn false) k := by
  obtain ⟨hagW, hst⟩ := h
  rw [show (p.finish sn).live = p.live from lemma_flush_live sn p] at hB
  rcases hst with ⟨hc, hpr⟩ | ⟨core, _⟩
  · -- not compressing: the two base writers agree on everything but dead parts of the live map
    simp only [hc, Bool.false_and]
    rcases lemma_pass_cases W.base p hpr with e | ⟨b', L, rfl, e⟩
    · rw [e]
    · have hL : ∀ κ, isTrailerKey b'.snap κ = true → hget L κ = hget b'.live κ := fun κ hk => by
        have := hagW κ hk
        rwa [e] at this
      rw [e, lemma_hget_trailers_wrote sn _ false k rfl, lemma_hget_trailers_wrote sn _ false k rfl]
      simp only [lemma_tlook_agree b'.snap L b'.live hL k]
  · -- compressing: the compressed header block announces the same names and is always chunked
    have fs : (p.finish sn).snap = p.snap := by rw [Base.finish, lemma_flush_eq sn p core.pw]
    rw [fs] at hA hB
    rw [lemma_hget_trailers_wrote sn W.base _ k core.bw, lemma_hget_trailers_wrote sn p false k core.pw, core.snapEq,
      core.bst, lemma_announced_cmpSnap, lemma_hhas_cmpSnap_CL, hA, core.nb,
      lemma_tlook_agree p.snap W.base.live p.live hagW k]
    by_cases he : announced p.snap = []
    · -- nothing announced: without a prefix key there is no trailer at all, whether chunked or not
      have hno : tlook (announced p.snap) p.live k = none := by
        unfold tlook
        rw [he, lemma_hget_noprefix p.live k (hB.resolve_left (fun h => h he))]
        rfl
      rw [hno, ite_self, ite_self]
    · have hne : (announced p.snap).isEmpty = false := by simpa using he
      simp only [hne, Bool.not_false, Bool.true_or, Bool.or_true, Bool.and_true, if_true]

end Rivaas.C15
