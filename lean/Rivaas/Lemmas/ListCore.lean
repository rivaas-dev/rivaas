/-
What the development adds to core's theory of lists, each fact used by several properties. The models' splitters,
association-list readers, in-place updates and option folds ARE core functions (`List.splitOn`, `List.lookup`, `List.set`,
`List.foldl`); each cluster proves that once for its own definition and takes the theory from core and from here.
Core Lean only; namespace `List`, so the lemmas read like core's.
-/
namespace List

/-!
The one fact about core's `List.splitOn` that the text layers need and core does not state: no piece contains the
separator (the models' splitters `splitOnSlash`, `Reverse.splitSlash`, `OpenAPI.splitOn` are `List.splitOn`, their joiners
`List.intercalate`). Then cutting at the first occurrence of an element, found by index (`idxOf?`, Go's `IndexByte`) or by
scanning (`takeWhile` / `dropWhile`).
-/

section split

theorem not_mem_of_mem_splitOn {α} [BEq α] [LawfulBEq α] {a : α} {xs seg : List α} (h : seg ∈ xs.splitOn a) :
    a ∉ seg := by
  induction xs generalizing seg with
  | nil => simp_all
  | cons c cs ih =>
    rw [splitOn_cons_eq_if_modifyHead] at h
    split at h
    · rcases mem_cons.1 h with rfl | h
      · simp
      · exact ih h
    · rename_i hc
      cases hs : cs.splitOn a with
      | nil => exact absurd hs (splitOn_ne_nil a cs)
      | cons p t =>
        rw [hs] at ih h
        rcases mem_cons.1 h with rfl | h
        · simp only [beq_iff_eq] at hc
          simp only [mem_cons, not_or]
          exact ⟨Ne.symm hc, ih mem_cons_self⟩
        · exact ih (mem_cons_of_mem _ h)

variable {α} [BEq α] {a : α} {l : List α}

theorem span_bne_of_idxOf? {n : Nat} (h : l.idxOf? a = some n) :
    l.take n = l.takeWhile (· != a) ∧ l.drop n = l.dropWhile (· != a) ∧ l.dropWhile (· != a) ≠ [] := by
  obtain ⟨hn, rfl⟩ := findIdx?_eq_some_iff_findIdx_eq.1 h
  have : (fun x => !(x != a)) = (· == a) := funext fun x => Bool.not_not _
  rw [takeWhile_eq_take_findIdx_not, dropWhile_eq_drop_findIdx_not, this]
  exact ⟨rfl, rfl, fun e => Nat.not_le.2 hn (drop_eq_nil_iff.1 e)⟩

variable [LawfulBEq α]

theorem span_bne_of_not_mem (h : a ∉ l) : l.takeWhile (· != a) = l ∧ l.dropWhile (· != a) = [] := by
  have hall : ∀ x ∈ l, (x != a) = true := fun x hx => bne_iff_ne.2 fun e => h (e ▸ hx)
  exact ⟨by simpa using takeWhile_append_of_pos (l₂ := []) hall, by simpa using dropWhile_append_of_pos (l₂ := []) hall⟩

theorem takeWhile_bne_append_cons (h : a ∉ l) (r : List α) : (l ++ a :: r).takeWhile (· != a) = l := by
  rw [takeWhile_append, (span_bne_of_not_mem h).1]
  simp

end split

/-!
Association lists read through core's `List.lookup`: membership against lookup, and that a list with distinct keys is
read the same in any order. Shared by the text layers whose models carry Go maps as lists of entries.
-/

section lookup
variable {κ : Type} {β γ : Type _} [BEq κ] [LawfulBEq κ]

theorem lookup_cons_ite [DecidableEq κ] (a k : κ) (v : β) (l : List (κ × β)) :
    ((k, v) :: l).lookup a = if a = k then some v else l.lookup a := by
  by_cases h : a = k
  · simp [h]
  · rw [List.lookup_cons, beq_eq_false_iff_ne.2 h, if_neg h]

theorem mem_of_lookup_some (l : List (κ × β)) (k : κ) (v : β) (h : l.lookup k = some v) : (k, v) ∈ l := by
  obtain ⟨l₁, l₂, rfl, _⟩ := lookup_eq_some_iff.1 h
  exact mem_append_right _ mem_cons_self

theorem lookup_eq_none_iff_not_mem (l : List (κ × β)) (k : κ) : l.lookup k = none ↔ k ∉ l.map (·.1) := by
  simp only [lookup_eq_none_iff, bne_iff_ne, mem_map, not_exists, not_and]
  exact ⟨fun h p hp e => h p hp e.symm, fun h p hp e => h p hp e.symm⟩

theorem lookup_of_mem_nodup (l : List (κ × β)) (k : κ) (v : β) (hnd : (l.map (·.1)).Nodup) (h : (k, v) ∈ l) :
    l.lookup k = some v := by
  obtain ⟨l₁, l₂, rfl⟩ := append_of_mem h
  rw [map_append, nodup_append] at hnd
  exact lookup_eq_some_iff.2 ⟨l₁, l₂, rfl, fun p hp => bne_iff_ne.2 fun e =>
    hnd.2.2 _ (mem_map_of_mem hp) _ (mem_map_of_mem mem_cons_self) e.symm⟩

theorem lookup_map_snd [DecidableEq κ] (f : β → γ) : ∀ (l : List (κ × β)) (k : κ),
    (l.map fun e => (e.1, f e.2)).lookup k = (l.lookup k).map f
  | [], k => rfl
  | (k0, v0) :: rest, k => by
    rw [map_cons, lookup_cons_ite, lookup_cons_ite, lookup_map_snd f rest k]
    split <;> rfl

theorem lookup_perm {l₁ l₂ : List (κ × β)} (hp : l₁ ~ l₂) (hnd : (l₁.map (·.1)).Nodup) (k : κ) :
    l₁.lookup k = l₂.lookup k := by
  cases h : l₁.lookup k with
  | some v =>
    exact (lookup_of_mem_nodup l₂ k v ((hp.map _).nodup_iff.1 hnd) (hp.mem_iff.1 (mem_of_lookup_some _ _ _ h))).symm
  | none =>
    exact ((lookup_eq_none_iff_not_mem l₂ k).2 fun hm =>
      (lookup_eq_none_iff_not_mem l₁ k).1 h ((hp.map _).mem_iff.2 hm)).symm

theorem lookup_reverse (l : List (κ × β)) (hnd : (l.map (·.1)).Nodup) (k : κ) : l.reverse.lookup k = l.lookup k :=
  (lookup_perm (reverse_perm l).symm hnd k).symm

/-- assignment to a Go map kept as the list of its entries in first-insertion order: lookup after an update in place,
    for every `set` that satisfies the two equations -/
theorem lookup_set (set : List (κ × β) → κ → β → List (κ × β)) (hnil : ∀ k b, set [] k b = [(k, b)])
    (hcons : ∀ k' v rest k b,
      set ((k', v) :: rest) k b = if (k == k') = true then (k', b) :: rest else (k', v) :: set rest k b)
    (st : List (κ × β)) (k k2 : κ) (b : β) :
    (set st k b).lookup k2 = if (k2 == k) = true then some b else st.lookup k2 := by
  induction st with
  | nil => rw [hnil, lookup_cons, lookup_nil]; cases k2 == k <;> rfl
  | cons kv rest ih =>
    obtain ⟨k', v⟩ := kv
    rw [hcons]
    by_cases h : (k == k') = true
    · rw [if_pos h, lookup_cons, lookup_cons, ← eq_of_beq h]
      cases k2 == k <;> rfl
    · rw [if_neg h, lookup_cons, lookup_cons, ih]
      by_cases h2 : (k2 == k) = true
      · rw [if_pos h2, if_pos h2, eq_of_beq h2, Bool.eq_false_iff.mpr h]
      · rw [if_neg h2, if_neg h2]

/-- in a list whose keys are pairwise distinct an element is known by its key -/
theorem eq_of_key_eq {α κ} {key : α → κ} {l : List α} (h : l.Pairwise fun a b => key a ≠ key b) {x y : α}
    (hx : x ∈ l) (hy : y ∈ l) (hk : key x = key y) : x = y :=
  Pairwise.forall_of_forall_of_flip (R := fun a b => key a = key b → a = b) (fun _ _ _ => rfl)
    (h.imp fun h e => absurd e h) (h.imp fun h e => absurd e.symm h) hx hy hk

end lookup

/-!
Lists read by index: an index that answers is in range, and the one case analysis after `List.set` that the state
machines (threads, workers, goroutine positions kept in a list and updated in place) all need.
-/

theorem lt_of_getElem? {α} {l : List α} {i : Nat} {x : α} (h : l[i]? = some x) : i < l.length :=
  (getElem?_eq_some_iff.1 h).1

theorem getElem?_set_cases {α} {l : List α} {i j : Nat} {a b : α} (h : (l.set i a)[j]? = some b) :
    (j = i ∧ b = a) ∨ (j ≠ i ∧ l[j]? = some b) := by
  rw [getElem?_set] at h
  split at h
  · rename_i hij
    split at h
    · exact .inl ⟨hij.symm, (Option.some.inj h).symm⟩
    · cases h
  · rename_i hij
    exact .inr ⟨fun e => hij e.symm, h⟩

/-!
Option lists applied left to right where each option may overwrite a value: the fold holds what the last option that
speaks set. Shared by the configuration steps whose models are `List.foldl` over the options.
-/

theorem foldl_getD {α β} (f : β → Option α) (l : List β) (init : α) :
    l.foldl (fun a o => (f o).getD a) init = (l.reverse.findSome? f).getD init := by
  induction l generalizing init with
  | nil => rfl
  | cons o rest ih =>
    rw [foldl_cons, ih, reverse_cons, findSome?_append]
    cases rest.reverse.findSome? f with
    | some v => rfl
    | none => cases h : f o <;> simp [h]

end List

/-!
A test of a conjunction is the nested test of its members (core has the lemma for neither `ite` nor `cond`): the guard
chains of the Go handlers are compared with the oracles' conjunctions through it.
-/
namespace Rivaas

theorem ite_and {α : Type} (p q : Prop) [Decidable p] [Decidable q] (x y : α) :
    (if p ∧ q then x else y) = if p then (if q then x else y) else y := by
  by_cases hp : p <;> simp [hp]

end Rivaas
