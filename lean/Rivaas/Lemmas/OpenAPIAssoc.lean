import Rivaas.Model.OpenAPIBuild
import Rivaas.Lemmas.ListCore
/-
C07 — association lists: `List.lookup`, and `setAssoc` (assignment to a Go map kept as a list of its entries in
first-insertion order).
-/
namespace Rivaas.OpenAPI
open List

theorem nodup_concat {α} {l : List α} {a : α} (h : l.Nodup) (ha : a ∉ l) : (l ++ [a]).Nodup :=
  nodup_append.2 ⟨h, by simp, fun _ hx _ hy e => ha (mem_singleton.1 hy ▸ e ▸ hx)⟩

/-- up to the order of the entries, assignment erases the old entry of the key and adds the new one -/
theorem setAssoc_perm {β} (k : B) (v : β) : ∀ l : List (B × β), setAssoc k v l ~ (k, v) :: l.eraseP (·.1 == k)
  | [] => .refl _
  | (k', v') :: rest => by
    rw [setAssoc, eraseP_cons]
    by_cases h : k' = k
    · simp [h]
    · rw [if_neg h, beq_false_of_ne h, cond_false]
      exact ((setAssoc_perm k v rest).cons _).trans (.swap ..)

theorem mem_setAssoc {β} (k : B) (v : β) (l : List (B × β)) (x : B × β) (h : x ∈ setAssoc k v l) : x = (k, v) ∨ x ∈ l :=
  (mem_cons.1 ((setAssoc_perm k v l).mem_iff.1 h)).imp_right mem_of_mem_eraseP

theorem countP_setAssoc_le {β} (p : B × β → Bool) (k : B) (v : β) (l : List (B × β)) :
    (setAssoc k v l).countP p ≤ ((k, v) :: l).countP p :=
  (setAssoc_perm k v l).countP_eq p ▸ ((eraseP_sublist ..).cons_cons _).countP_le

theorem setAssoc_keys {β} (k : B) (v : β) : ∀ (l : List (B × β)),
    (setAssoc k v l).map (·.1) = if k ∈ l.map (·.1) then l.map (·.1) else l.map (·.1) ++ [k]
  | [] => by simp [setAssoc]
  | (k', v') :: rest => by
    rw [setAssoc]
    by_cases hk : k' = k
    · rw [if_pos hk, hk, map_cons, map_cons, if_pos (mem_cons_self ..)]
    · have : ¬ k = k' := fun e => hk e.symm
      rw [if_neg hk, map_cons, map_cons, setAssoc_keys k v rest]
      by_cases hm : k ∈ rest.map (·.1) <;> simp [hm, this]

theorem setAssoc_keys_nodup {β} (k : B) (v : β) (l : List (B × β)) (h : (l.map (·.1)).Nodup) :
    ((setAssoc k v l).map (·.1)).Nodup := by
  rw [setAssoc_keys]
  split
  · exact h
  next hk => exact nodup_concat h hk

theorem mem_keys_setAssoc {β} {k : B} {v : β} {l : List (B × β)} {x : B} :
    x ∈ (setAssoc k v l).map (·.1) ↔ x = k ∨ x ∈ l.map (·.1) := by
  rw [setAssoc_keys]
  split
  next hk => exact ⟨Or.inr, fun h => h.elim (fun e => e ▸ hk) id⟩
  · rw [mem_append, mem_singleton, or_comm]

theorem lookup_setAssoc {β} (k : B) (v : β) (l : List (B × β)) (k' : B) :
    (setAssoc k v l).lookup k' = if k' = k then some v else l.lookup k' := by
  simpa using lookup_set (fun l k v => setAssoc k v l) (fun _ _ => rfl)
    (fun k0 v0 rest k v => by by_cases h : k0 = k <;> simp [setAssoc, h, Ne.symm]) l k k' v

end Rivaas.OpenAPI
