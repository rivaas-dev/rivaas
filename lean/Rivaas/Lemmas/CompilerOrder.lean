import Rivaas.Lemmas.CompilerDynamic
/-
C11: why a template the compiled matcher accepts is the reference route. Stage 2 uses two facts: the matcher's
per-parameter constraint check is the full check when the constraint names are declared (`consOK_of_first`), and a
candidate that no candidate beats, live once its shape-mates have its pattern, is the reference choice over the live
routes outside the same-shape part of `overwrite` (`ref_of_admissible`). `names_differ` (two patterns of one shape
differ in a parameter name) and `ref_is_rho` (outside `cfall` the first-match route `rho` is the reference choice)
are stated for themselves: no later proof uses them.
-/
namespace Rivaas.CompilerL
open Rivaas.Route Rivaas.Radix Rivaas.Compiler Rivaas.Match Rivaas.MatchL Rivaas.RadixL

theorem names_differ (a b : Pat) (hs : shapeEq a b = true) (hne : a ≠ b) :
    ∃ (i : Nat) (n1 n2 : Bytes), prefixAgree i a b = true ∧ a[i]? = some (PSeg.par n1) ∧ b[i]? = some (PSeg.par n2) ∧ n1 ≠ n2 := by
  induction a generalizing b with
  | nil =>
    cases b with
    | nil => exact absurd rfl hne
    | cons y ys => cases hs
  | cons x xs ih =>
    cases b with
    | nil => cases hs
    | cons y ys =>
      rw [shapeEq, Bool.and_eq_true] at hs
      by_cases hxy : x = y
      · subst hxy
        obtain ⟨i, n1, n2, hp, h1, h2, h3⟩ := ih ys hs.2 (fun e => hne (e ▸ rfl))
        exact ⟨i + 1, n1, n2, by rw [prefixAgree, hs.1, hp]; rfl, h1, h2, h3⟩
      · -- heads of one shape that differ are parameters under two names
        cases x <;> cases y <;> try cases hs.1
        · exact absurd (congrArg PSeg.lit (of_decide_eq_true hs.1)) hxy
        · exact ⟨0, _, _, rfl, rfl, rfl, fun e => hxy (e ▸ rfl)⟩
        · exact absurd rfl hxy

/-- with declared constraint names the per-parameter check of the compiled matcher is the full check -/
theorem consOK_of_first (sat : Nat → Bytes → Bool) (cons : List (Bytes × Nat)) (b : List (Bytes × Bytes))
    (hdecl : ∀ c ∈ cons, c.1 ∈ b.map (·.1)) (hdist : distinct (b.map (·.1)) = true)
    (h : consFirstOK sat cons b = true) : consOK sat cons b = true := by
  rw [consOK, List.all_eq_true]
  rintro ⟨n, cid⟩ hc
  obtain ⟨⟨k, v⟩, hkv, rfl⟩ := List.mem_map.mp (hdecl (n, cid) hc)
  rw [consFirstOK, List.all_eq_true] at h
  -- `cid` is among the constraints compiled for the parameter `k`, whose value is `v`
  have hcid : cid ∈ consFor false k cons := by
    simp only [consFor, Bool.false_eq_true, if_false, List.mem_map, List.mem_filter, decide_eq_true_eq]
    exact ⟨(k, cid), ⟨hc, rfl⟩, rfl⟩
  simpa [bindGet_mem b hdist k v hkv] using List.all_eq_true.mp (h (k, v) hkv) cid hcid

theorem ref_is_rho (sat : Nat → Bytes → Bool) (R : List Route) (m : Bytes) (p : RPath)
    (hstat : staticHit R m p = false) (hC : dCfall1 sat R m p = false) (hc : cands sat R m p ≠ []) :
    ∃ ρ, rho R m p = some ρ ∧ refRoute sat R m p = some ρ := by
  have hcands := cands_eq sat R m p hstat
  have hSCm : ∀ c ∈ shapeCands R m p, (matchPat p.trail c.pat p.segs).isSome = true := by
    intro c hcm
    simp only [shapeCands, List.mem_filter] at hcm
    exact hcm.2
  have hSCne : shapeCands R m p ≠ [] := by
    intro e; rw [hcands, e] at hc; exact hc rfl
  cases hrho : rho R m p with
  | none => exact absurd (pick_none_nil _ hrho) hSCne
  | some ρ =>
    refine ⟨ρ, rfl, ?_⟩
    have hrho' : pick none (shapeCands R m p) = some ρ := hrho
    rcases pick_nec p.trail p.segs _ none ρ hSCm (by intro c hcc; cases hcc) hrho' with ⟨h, _⟩ | ⟨l1, l2, hl12, _, h1, h2⟩
    · cases h
    -- ρ passes its constraints, otherwise the request is in the `cfall` class
    have hany : (shapeCands R m p).any (fun r => (routeMatch sat r p).isSome) = true := by
      obtain ⟨a, ha⟩ := List.exists_mem_of_ne_nil _ hc
      rw [hcands] at ha
      exact List.any_eq_true.mpr ⟨a, List.mem_filter.mp ha⟩
    have hρm : (routeMatch sat ρ p).isSome = true := by
      cases hr : routeMatch sat ρ p with
      | some b => rfl
      | none => simp [dCfall1, hstat, hrho, hr, hany] at hC
    unfold refRoute
    rw [hcands, hl12, List.filter_append, List.filter_cons]
    simp only [hρm, if_true]
    apply pick_suff
    · intro c hcc; cases hcc
    · intro c hcc; exact h1 c (List.mem_filter.mp hcc).1
    · intro c hcc; exact h2 c (List.mem_filter.mp hcc).1

/-- an admissible candidate that is live once the routes of its method and shape have its pattern (as the last
registration of a (method, text) is) is the reference choice over the live routes, outside the same-shape part of the
class `overwrite`: it has the pattern of the reference choice, and so has every route of its shape -/
theorem ref_of_admissible (sat : Nat → Bytes → Bool) (R : List Route) (r : Route) (m : Bytes) (p : RPath)
    (hlive : (∀ x ∈ R, x.method = r.method → shapeEq x.pat r.pat = true → x.pat = r.pat) → r ∈ live R)
    (hns : isStaticPat r.pat = false) (hadm : admissible sat R m p r = true)
    (hNm : dSameShape1 sat R m p = false) :
    refRoute sat (live R) m p = some r := by
  simp only [admissible, Bool.and_eq_true, List.all_eq_true, Bool.not_eq_true', List.contains_iff_mem] at hadm
  obtain ⟨hrc, hadm'⟩ := hadm
  obtain ⟨ρ, href⟩ := C01.lemma_refRoute_some (List.ne_nil_of_mem hrc)
  obtain ⟨hρc, hρmax⟩ := C01.lemma_ref_max href
  obtain ⟨hrR, hcm, hrm⟩ := C01.lemma_mem_cands.mp hrc
  -- a parameter route of the method with the shape of the reference choice has its pattern
  have hsame : ∀ x ∈ R, x.method = m → isStaticPat x.pat = false → shapeEq x.pat ρ.pat = true → x.pat = ρ.pat := by
    intro x hx hxm hxs hsh
    refine Decidable.byContradiction fun hne => ?_
    have : dSameShape1 sat R m p = true := by
      simp only [dSameShape1, href]
      exact List.any_eq_true.mpr ⟨x, by simp [dynRoutes, hx, hxm, hxs], by simp [hsh, hne]⟩
    rw [hNm] at this; cases this
  -- `r` and the reference choice do not beat each other: one shape
  have hpp := hsame r hrR hcm hns (shapeEq_of_incomparable _ _ _ _ (routeMatch_isSome_match sat r p hrm)
    (routeMatch_isSome_match sat ρ p (C01.lemma_mem_cands.mp hρc).2.2) (hρmax r hrc) (hadm' ρ hρc))
  have hl : r ∈ live R := hlive fun x hx hxm hsh =>
    (hsame x hx (hxm.trans hcm) ((shape_congr isStaticPat_erase hsh).trans hns) (hpp ▸ hsh)).trans hpp.symm
  exact ref_of_max (live_pairwise R) (C01.lemma_mem_cands.mpr ⟨hl, hcm, hrm⟩) fun c hc =>
    hadm' c (C01.lemma_mem_cands.mpr ⟨live_sub (C01.lemma_mem_cands.mp hc).1, (C01.lemma_mem_cands.mp hc).2⟩)

end Rivaas.CompilerL
