import Rivaas.Model.Compress
import Rivaas.Spec.Compress
/-
C15, the choice of the encoding: the implementation's character-level Accept-Encoding reader
(`scanAE` / `parseCoding` / `paramsQ` / `parseQValue`, loops over `strings.Cut`) against the
token-level specification (`splitOnC`, `elemCoding`, `elemRefused`, `listed`).
-/
namespace Rivaas.C15
open Rivaas.Http Rivaas.Compress Rivaas.CompressSpec

theorem lemma_splitOnC (sep : Char) (s : Bytes) : splitOnC sep s = s.splitOn sep := by
  induction s with
  | nil => rfl
  | cons c cs ih =>
    simp only [splitOnC, List.splitOn_cons_eq_if_modifyHead, ih]
    cases h : cs.splitOn sep with
    | nil => exact absurd h (List.splitOn_ne_nil _ _)
    | cons _ _ => rfl

/-- one step of the model's `strings.Cut` loop is one field of the specification's split -/
theorem lemma_splitOnC_cut (sep : Char) (s : Bytes) :
    splitOnC sep s = (cut sep s).1 :: (if (cut sep s).2.2 then splitOnC sep (cut sep s).2.1 else []) := by
  simp only [lemma_splitOnC]
  induction s with
  | nil => rfl
  | cons c cs ih =>
    rw [List.splitOn_cons_eq_if_modifyHead, cut]
    split
    · rfl
    · rw [ih]; rfl

theorem lemma_cut_eq (sep : Char) (s : Bytes) :
    (cut sep s).1 = s.takeWhile (· != sep) ∧ (cut sep s).2.1 = (s.dropWhile (· != sep)).drop 1 := by
  induction s with
  | nil => exact ⟨rfl, rfl⟩
  | cons c cs ih =>
    by_cases hc : (c == sep) = true
    · have : (c != sep) = false := by simp [bne, hc]
      simp [cut, hc, this]
    · have hc' : (c == sep) = false := by simpa using hc
      have : (c != sep) = true := by simp [bne, hc']
      simp [cut, hc', this, ih]

-- the model's `trimTS` / `lowerA` are the specification's `trimOWS` / `map lowerC` by definition: the `rfl`s that close
-- `lemma_paramsQ_qOf` and `lemma_parseCoding_eq` rest on it
theorem lemma_trim_eq (s : Bytes) : trimTS s = trimOWS s := rfl

theorem lemma_lower_eq (s : Bytes) : lowerA s = s.map CompressSpec.lowerC := rfl

theorem lemma_cut_notfound (sep : Char) (s : Bytes) (h : (cut sep s).2.2 = false) : (cut sep s).2.1 = [] := by
  induction s with
  | nil => rfl
  | cons c cs ih =>
    unfold cut at h ⊢
    by_cases hc : (c == sep) = true
    · simp [hc] at h
    · simp only [hc] at h ⊢
      exact ih h

theorem lemma_zeros_sum (ds : Bytes) (hz : ∀ c ∈ ds, c = '0') (ws : List Nat) (acc : Nat) :
    (ds.zip ws).foldl (fun a p => a + (p.1.toNat - 48) * p.2) acc = acc :=
  List.foldlRecOn (motive := (· = acc)) (ds.zip ws) _ rfl fun a ha p hp => by
    rw [ha, hz _ (List.of_mem_zip hp).1]; exact Nat.zero_mul p.2 ▸ rfl

/-- a syntactically valid zero weight is read as 0 by the implementation's parser: the fraction is made of
    digits and sums to nothing (with more than three of them the parser gives 0 for the length alone) -/
theorem lemma_parseQ_zero (v : Bytes) (h : isZeroQ v = true) : parseQValue v = 0 := by
  unfold isZeroQ at h
  split at h
  · decide
  · rename_i ds
    simp only [Bool.and_eq_true, decide_eq_true_eq, List.all_eq_true, beq_iff_eq] at h
    have hdig : ds.all (fun c => decide ('0' ≤ c) && decide (c ≤ '9')) = true :=
      List.all_eq_true.mpr fun c hc => by rw [h.2 c hc]; decide
    simp [parseQValue, hdig, lemma_zeros_sum ds h.2]
  · simp at h

/-- how the specification reads one `name=value` parameter -/
def sParam (p : Bytes) : Bytes × Bytes :=
  ((trimOWS (p.takeWhile (· != '='))).map CompressSpec.lowerC, trimOWS ((p.dropWhile (· != '=')).drop 1))

/-- the parameter loop as a fold over the parameters, each read as the specification reads it (the last `q` wins) -/
def qOf (ps : List Bytes) (q : Nat) : Nat :=
  ps.foldl (fun q p => if (cut '=' p).2.2 && ((sParam p).1 == ['q']) then parseQValue (sParam p).2 else q) q

theorem lemma_paramsQ_qOf (params : Bytes) (q : Nat) :
    paramsQ params q = qOf (splitOnC ';' params) q := by
  fun_induction paramsQ params q with
  | case1 q => rfl  -- nothing left
  | case2 params q hne r nv q' ih =>  -- `r`: the first parameter cut off at `;`, `nv`: that parameter cut at `=`
    -- `strings.Cut` at `=` gives the two halves the specification takes with `takeWhile` / `dropWhile`
    have hq' : q' = if nv.2.2 && ((sParam r.1).1 == ['q']) then parseQValue (sParam r.1).2 else q := by
      unfold sParam
      rw [← (lemma_cut_eq '=' r.1).1, ← (lemma_cut_eq '=' r.1).2]
      rfl
    rw [lemma_splitOnC_cut ';' params, ih, hq']
    show qOf (splitOnC ';' r.2.1) _ = qOf (r.1 :: (if r.2.2 then splitOnC ';' r.2.1 else [])) q
    by_cases hf : r.2.2 = true
    · simp only [hf, if_true, qOf, List.foldl_cons]
      rfl
    · have hf' : r.2.2 = false := by simpa using hf
      rw [hf', lemma_cut_notfound ';' params hf']
      rfl

theorem lemma_sParam_noeq (p : Bytes) (h : (cut '=' p).2.2 = false) : (sParam p).2 = [] := by
  unfold sParam
  rw [← (lemma_cut_eq '=' p).2, lemma_cut_notfound '=' p h]
  rfl

theorem lemma_qOf_refused (ps : List Bytes) (q : Nat)
    (hall : ∀ p ∈ ps, (sParam p).1 == ['q'] → isZeroQ (sParam p).2 = true) :
    qOf ps q = if ps.any (fun p => (sParam p).1 == ['q']) then 0 else q := by
  induction ps generalizing q with
  | nil => simp [qOf]
  | cons p ps ih =>
    have ih' := fun q => ih q (fun p' hp' => hall p' (List.mem_cons_of_mem _ hp'))
    simp only [qOf, List.foldl_cons, List.any_cons] at ih' ⊢
    by_cases hq : ((sParam p).1 == ['q']) = true
    · have hz := hall p (List.mem_cons_self ..) hq
      -- without a `=` the value is empty, and that is no zero weight
      have hfound : (cut '=' p).2.2 = true := (Bool.not_eq_false _).mp fun hf => by
        rw [lemma_sParam_noeq p hf] at hz
        exact Bool.false_ne_true hz
      simp only [hfound, hq, lemma_parseQ_zero _ hz, ih' 0, Bool.and_self, Bool.true_or, if_true, ite_self]
    · have hq' : ((sParam p).1 == ['q']) = false := by simpa using hq
      simp only [hq', ih' q, Bool.and_false, Bool.false_or, Bool.false_eq_true, if_false]

theorem lemma_parseCoding_eq (el : Bytes) :
    parseCoding el = (trimOWS (el.takeWhile (· != ';')), qOf ((splitOnC ';' el).drop 1) 1000) := by
  unfold parseCoding
  simp only
  rw [lemma_splitOnC_cut ';' el, lemma_paramsQ_qOf, (lemma_cut_eq ';' el).1]
  by_cases hf : (cut ';' el).2.2 = true
  · rw [hf]
    rfl
  · have hf' : (cut ';' el).2.2 = false := by simpa using hf
    rw [hf', lemma_cut_notfound ';' el hf']
    rfl

theorem lemma_refused_q0 (el : Bytes) (h : elemRefused el = true) : (parseCoding el).2 = 0 := by
  unfold elemRefused elemParams at h
  simp only [Bool.and_eq_true, Bool.not_eq_true', List.isEmpty_eq_false_iff, List.all_eq_true,
    List.mem_filter, List.mem_map] at h
  obtain ⟨hne, hall⟩ := h
  obtain ⟨x, hx⟩ := List.exists_mem_of_ne_nil _ hne
  simp only [List.mem_filter, List.mem_map] at hx
  obtain ⟨⟨p, hp, rfl⟩, hq⟩ := hx
  rw [lemma_parseCoding_eq, lemma_qOf_refused _ _ (fun p hp hq => hall (sParam p) ⟨⟨p, hp, rfl⟩, hq⟩),
    if_pos (List.any_eq_true.mpr ⟨p, hp, hq⟩)]

theorem lemma_splitOnC_head (sep : Char) (s : Bytes) : (cut sep s).1 ∈ splitOnC sep s := by
  rw [lemma_splitOnC_cut]; exact List.mem_cons_self ..

theorem lemma_splitOnC_tail (sep : Char) (s el : Bytes) (hel : el ∈ splitOnC sep (cut sep s).2.1)
    (hne : (cut sep s).2.1 ≠ []) : el ∈ splitOnC sep s := by
  rw [lemma_splitOnC_cut]
  rw [if_pos ((Bool.not_eq_false _).mp (mt (lemma_cut_notfound sep s) hne))]
  exact List.mem_cons_of_mem _ hel

/-- what the element loop reports for a coding comes from an element of the list that names it -/
theorem lemma_scanAE (ae : Bytes) (b0 g0 : Option Nat) :
    ((scanAE ae b0 g0).1 = b0 ∨ ∃ el ∈ splitOnC ',' ae, ae ≠ [] ∧
      eqFold (parseCoding el).1 brB = true ∧ (scanAE ae b0 g0).1 = some (parseCoding el).2) ∧
    ((scanAE ae b0 g0).2 = g0 ∨ ∃ el ∈ splitOnC ',' ae, ae ≠ [] ∧
      eqFold (parseCoding el).1 gzipB = true ∧ (scanAE ae b0 g0).2 = some (parseCoding el).2) := by
  have lift : ∀ (ae : Bytes) (P : Bytes → Prop), ae ≠ [] →
      (∃ el ∈ splitOnC ',' (cut ',' ae).2.1, (cut ',' ae).2.1 ≠ [] ∧ P el) → ∃ el ∈ splitOnC ',' ae, ae ≠ [] ∧ P el :=
    fun ae P hne ⟨el, hel, hr, h⟩ => ⟨el, lemma_splitOnC_tail ',' ae el hel hr, hne, h⟩
  fun_induction scanAE ae b0 g0 with
  | case1 b g => exact ⟨Or.inl rfl, Or.inl rfl⟩  -- the header is used up
  | case2 ae b g hne r cq hbr ih =>  -- the first element `r.1` names `br`
    refine ⟨Or.inr ?_, ih.2.imp id (lift ae _ hne)⟩
    rcases ih.1 with i1 | i1
    · exact ⟨r.1, lemma_splitOnC_head ',' ae, hne, hbr, i1⟩
    · exact lift ae _ hne i1
  | case3 ae b g hne r cq hbr hgz ih =>  -- it names `gzip`
    refine ⟨ih.1.imp id (lift ae _ hne), Or.inr ?_⟩
    rcases ih.2 with i2 | i2
    · exact ⟨r.1, lemma_splitOnC_head ',' ae, hne, hgz, i2⟩
    · exact lift ae _ hne i2
  | case4 ae b g hne r cq hbr hgz ih =>  -- it names neither
    exact ⟨ih.1.imp id (lift ae _ hne), ih.2.imp id (lift ae _ hne)⟩

theorem lemma_listed_of_elem (e ae el : Bytes) (hel : el ∈ splitOnC ',' ae)
    (hc : eqFold (parseCoding el).1 e = true) (he : lowerA e = e) (hq : (parseCoding el).2 > 0) :
    listed e ae = true := by
  unfold listed
  simp only [Bool.or_eq_true]
  left
  apply List.any_eq_true.mpr
  refine ⟨el, hel, ?_⟩
  have h1 : elemCoding el = e := by
    rw [lemma_parseCoding_eq, eqFold, he] at hc
    exact eq_of_beq hc
  have h2 : elemRefused el = false := (Bool.not_eq_true _).mp (mt (lemma_refused_q0 el) (Nat.ne_of_gt hq))
  simp [h1, h2]

end Rivaas.C15
