import Rivaas.Spec.Version
import Rivaas.Lemmas.ListCore
/-
String-level lemmas for C13: the Go-style scanners of the model (`index`, `indexByte`, `splitByte`,
`trimSpace`, prefix/suffix tests, slicing) against the list combinators the spec is written with.
-/
namespace Rivaas.Version
open Rivaas.Version.Spec

/-! ### the cut at the first occurrence of a byte: `strings.IndexByte` against `takeWhile` / `dropWhile` -/

theorem indexByte_eq (l : Bytes) (b : Char) : indexByte l b = l.idxOf? b := by
  suffices ∀ i, indexByteFrom b l i = (l.idxOf? b).map (· + i) by simpa [indexByte] using this 0
  induction l with
  | nil => exact fun _ => rfl
  | cons c cs ih =>
    intro i
    rw [indexByteFrom, ih, List.idxOf?_cons]
    by_cases hc : c = b <;> simp [hc, Function.comp_def, Nat.add_comm, Nat.add_left_comm]

theorem lemma_indexByte_none (l : Bytes) (b : Char) (h : indexByte l b = none) :
    l.takeWhile (· != b) = l ∧ l.dropWhile (· != b) = [] :=
  List.span_bne_of_not_mem (List.idxOf?_eq_none_iff.1 (indexByte_eq l b ▸ h))

theorem lemma_indexByte_some (l : Bytes) (b : Char) (e : Nat) (h : indexByte l b = some e) :
    l.take e = l.takeWhile (· != b) ∧ l.drop e = l.dropWhile (· != b) ∧ l.dropWhile (· != b) ≠ [] :=
  List.span_bne_of_idxOf? (indexByte_eq l b ▸ h)

theorem lemma_splitByte_eq (sep : Char) (l : Bytes) : splitByte sep l = Spec.splitOn sep l := by
  induction l with
  | nil => simp [splitByte, Spec.splitOn]
  | cons c cs ih =>
    simp only [splitByte, Spec.splitOn, List.foldr_cons, Spec.splitStep] at ih ⊢
    rw [ih]
    by_cases hc : c = sep
    · simp [hc]
    · simp only [hc, if_false]
      cases List.foldr _ _ cs <;> rfl

/-! ### trimming -/

/-- no control character other than HTAB: what `net/http` lets through in a header value -/
def HeaderSafe (l : Bytes) : Prop := ∀ c ∈ l, c ≠ '\n' ∧ c ≠ '\x0b' ∧ c ≠ '\x0c' ∧ c ≠ '\r'

theorem lemma_isSpace_eq_isOWS (c : Char) (h : c ≠ '\n' ∧ c ≠ '\x0b' ∧ c ≠ '\x0c' ∧ c ≠ '\r') :
    isSpace c = isOWS c := by
  simp [isSpace, isOWS, h.1, h.2.1, h.2.2.1, h.2.2.2]

theorem lemma_dropWhile_congr {p q : Char → Bool} (l : Bytes) (h : ∀ c ∈ l, p c = q c) :
    l.dropWhile p = l.dropWhile q := by
  induction l with
  | nil => rfl
  | cons c cs ih =>
    have hc := h c (by simp)
    simp only [List.dropWhile_cons, hc]
    split
    · exact ih (fun d hd => h d (by simp [hd]))
    · rfl

theorem lemma_trimSpace_eq_trimOWS (l : Bytes) (h : HeaderSafe l) : trimSpace l = trimOWS l := by
  unfold trimSpace trimRight trimLeft trimOWS
  rw [lemma_dropWhile_congr l fun c hc => lemma_isSpace_eq_isOWS c (h c hc),
    lemma_dropWhile_congr _ fun c hc => lemma_isSpace_eq_isOWS c
      (h c ((List.dropWhile_sublist _).subset (List.mem_reverse.1 hc)))]

/-! The facts about `strings.TrimSpace` hold of every input; that a header value is `HeaderSafe` is used once, in
    `lemma_accept_scan_eq_std`, to read `TrimSpace` as the removal of optional white space. -/

theorem lemma_trimRight_append_cons (p q : Bytes) (c : Char) (hc : isSpace c = false) :
    trimRight (p ++ c :: q) = p ++ c :: trimRight q := by
  unfold trimRight
  simp only [List.reverse_append, List.reverse_cons, List.append_assoc, List.singleton_append]
  rw [List.dropWhile_append]
  split
  · rename_i hq
    have hq' : List.dropWhile isSpace q.reverse = [] := by simpa using hq
    simp [hq', hc]
  · simp

theorem lemma_trimRight_mem (l : Bytes) (c : Char) (h : c ∈ trimRight l) : c ∈ l := by
  unfold trimRight at h
  exact List.mem_reverse.1 ((List.dropWhile_sublist _).subset (List.mem_reverse.1 h))

theorem lemma_trimLeft_of_head (l : Bytes) (h : ∀ c, l.head? = some c → isSpace c = false) :
    trimLeft l = l := by
  cases l with
  | nil => rfl
  | cons a t => simp [trimLeft, h a (by simp)]

theorem lemma_head_trimLeft (l : Bytes) : ∀ c, (trimLeft l).head? = some c → isSpace c = false := by
  intro c hc
  have := List.head?_dropWhile_not isSpace l
  rwa [← trimLeft, hc] at this

theorem lemma_trimRight_idem (l : Bytes) : trimRight (trimRight l) = trimRight l := by
  unfold trimRight
  rw [List.reverse_reverse, ← trimLeft, ← trimLeft, lemma_trimLeft_of_head _ (lemma_head_trimLeft _)]

theorem lemma_head_trimRight (l : Bytes) (h : ∀ c, l.head? = some c → isSpace c = false) :
    ∀ c, (trimRight l).head? = some c → isSpace c = false := by
  intro c hc
  cases l with
  | nil => cases hc
  | cons a t =>
    have ha := h a rfl
    rw [show trimRight (a :: t) = a :: trimRight t from lemma_trimRight_append_cons [] t a ha] at hc
    cases hc
    exact ha

theorem lemma_trimSpace_idem (x : Bytes) : trimSpace (trimSpace x) = trimSpace x := by
  rw [trimSpace, trimSpace,
    lemma_trimLeft_of_head _ (lemma_head_trimRight _ (lemma_head_trimLeft x)), lemma_trimRight_idem]

theorem lemma_sep_not_space : isSpace ';' = false := by decide

theorem lemma_item_mediaType (x : Bytes) :
    trimSpace ((trimSpace x).takeWhile (· != ';')) = trimSpace (x.takeWhile (· != ';')) := by
  -- x = ws ++ y with y = trimLeft x
  have hx : x = x.takeWhile isSpace ++ trimLeft x := (List.takeWhile_append_dropWhile).symm
  generalize hy : trimLeft x = y at hx
  have hwsall : ∀ a ∈ x.takeWhile isSpace, isSpace a = true := List.all_eq_true.1 List.all_takeWhile
  have hws : ∀ a ∈ x.takeWhile isSpace, (a != ';') = true := by
    intro a ha
    have : isSpace a = true := hwsall a ha
    simp only [bne_iff_ne, ne_eq]
    intro h; subst h; simp [isSpace] at this
  -- right-hand side: the white space in front of `y` goes with the first trim
  have hR : trimSpace (x.takeWhile (· != ';')) = trimSpace (y.takeWhile (· != ';')) := by
    conv => lhs; rw [hx]
    rw [List.takeWhile_append_of_pos hws]
    unfold trimSpace trimLeft
    rw [List.dropWhile_append_of_pos hwsall]
  rw [hR, show trimSpace x = trimRight y from hy ▸ rfl]
  -- compare `takeWhile` on `trimRight y` and on `y`
  by_cases hs : ';' ∈ y
  · obtain ⟨p, q, hpq, hp⟩ := List.eq_append_cons_of_mem hs
    rw [hpq, lemma_trimRight_append_cons p q ';' lemma_sep_not_space, List.takeWhile_bne_append_cons hp,
      List.takeWhile_bne_append_cons hp]
  · -- no `;` at all: trimming what is trimmed already changes nothing
    rw [(List.span_bne_of_not_mem hs).1, (List.span_bne_of_not_mem fun h => hs (lemma_trimRight_mem y _ h)).1, ← hy]
    exact (lemma_trimSpace_idem x).trans (congrArg trimRight (lemma_trimLeft_of_head _ (lemma_head_trimLeft x)).symm)

/-! ### prefix, suffix, middle -/

theorem lemma_middle_iff (pfx sfx mt : Bytes) :
    (hasPrefix mt pfx = true ∧ hasSuffix mt sfx = true ∧ pfx.length + sfx.length ≤ mt.length) ↔
    mt = pfx ++ (mt.drop pfx.length).take (mt.length - pfx.length - sfx.length) ++ sfx := by
  unfold hasPrefix hasSuffix
  rw [List.isPrefixOf_iff_prefix, List.isSuffixOf_iff_suffix]
  constructor
  · rintro ⟨⟨t, rfl⟩, hs, hl⟩
    obtain ⟨u, rfl⟩ := List.suffix_of_suffix_length_le hs (List.suffix_append pfx t)
      (by simp only [List.length_append] at hl; omega)
    simp
  · intro h
    refine ⟨⟨_, by rw [List.append_assoc] at h; exact h.symm⟩, ⟨_, h.symm⟩, ?_⟩
    have := congrArg List.length h
    simp only [List.length_append] at this
    omega

theorem lemma_accept_mediaType (item : Bytes) :
    acceptMediaType item = trimSpace (item.takeWhile (· != ';')) := by
  unfold acceptMediaType
  cases hi : indexByte (trimSpace item) ';' with
  | none =>
    simp only [hi]
    rw [← lemma_item_mediaType, (lemma_indexByte_none _ _ hi).1, lemma_trimSpace_idem]
  | some semi =>
    simp only [hi]
    rw [(lemma_indexByte_some _ _ _ hi).1, lemma_item_mediaType]

theorem lemma_accept_conditions (pfx sfx mt : Bytes) (k : Option Bytes) :
    (if !hasPrefix mt pfx then k
     else if !hasSuffix mt sfx then k
     else if mt.length < pfx.length + sfx.length then k
     else if sliceFromTo mt pfx.length (mt.length - sfx.length) != [] then
       some (sliceFromTo mt pfx.length (mt.length - sfx.length))
     else k) =
    (match middle pfx sfx mt with
     | some v => some v
     | none => k) := by
  have hslice : sliceFromTo mt pfx.length (mt.length - sfx.length) =
      (mt.drop pfx.length).take (mt.length - pfx.length - sfx.length) := by
    unfold sliceFromTo
    rw [Nat.sub_right_comm]
  rw [hslice]
  unfold middle
  -- the three guards together say `mt = pfx ++ v ++ sfx` for the slice `v`
  simp only [← lemma_middle_iff]
  cases hasPrefix mt pfx
  · rfl
  cases hasSuffix mt sfx
  · rfl
  by_cases hl : mt.length < pfx.length + sfx.length
  · simp [hl, Nat.not_le.2 hl]
  · by_cases hv : (mt.drop pfx.length).take (mt.length - pfx.length - sfx.length) = [] <;> simp [hl, Nat.not_lt.1 hl, hv]

theorem lemma_acceptLoop_eq (pfx sfx : Bytes) (items : List Bytes) :
    acceptLoop pfx sfx items =
      (items.map fun r => trimSpace (r.takeWhile (· != ';'))).findSome? (middle pfx sfx) := by
  induction items with
  | nil => simp [acceptLoop]
  | cons item rest ih =>
    simp only [acceptLoop, List.map_cons, List.findSome?_cons]
    rw [lemma_accept_mediaType item, lemma_accept_conditions, ih]
    cases middle pfx sfx (trimSpace (List.takeWhile (fun x => x != ';') item)) <;> rfl

theorem lemma_flatten_splitOn (sep : Char) (l : Bytes) : (Spec.splitOn sep l).flatten = l.filter (· != sep) := by
  induction l with
  | nil => rfl
  | cons c cs ih =>
    simp only [Spec.splitOn, List.foldr_cons] at ih ⊢
    generalize List.foldr (Spec.splitStep sep) [[]] cs = acc at ih ⊢
    unfold Spec.splitStep
    by_cases hc : c = sep
    · simpa [hc] using ih
    · rw [if_neg hc, List.filter_cons_of_pos (by simpa using hc), ← ih]
      cases acc <;> rfl

theorem lemma_mem_splitOn {sep c : Char} {l it : Bytes} (hit : it ∈ Spec.splitOn sep l) (hc : c ∈ it) : c ∈ l :=
  (List.mem_filter.1 (lemma_flatten_splitOn sep l ▸ List.mem_flatten.2 ⟨it, hit, hc⟩)).1

theorem lemma_accept_scan_eq_std (pattern accept : Bytes) (i : Nat)
    (hp : index pattern versionPlaceholder = some i) (hs : HeaderSafe accept) :
    extractFromAccept (acceptParts pattern).1 (acceptParts pattern).2 accept = acceptVersion pattern accept := by
  unfold extractFromAccept acceptVersion acceptParts mediaTypes
  simp only [hp]
  rw [lemma_splitByte_eq, lemma_acceptLoop_eq]
  congr 1
  exact List.map_congr_left fun it hit => lemma_trimSpace_eq_trimOWS _ fun c hc =>
    hs c (lemma_mem_splitOn hit ((List.takeWhile_sublist _).subset hc))

end Rivaas.Version
