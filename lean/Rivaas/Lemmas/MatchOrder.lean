import Rivaas.Spec.MatchClass
/-
The reference matcher (Spec/Match) by itself, before any engine. `matchPat` one head at a time and its inversion on a
non-empty path; the shape of a pattern (`shapeOf`: what depends on the shape only is proved once about it and
carried over by `shape_congr`); `better` is a strict weak order on the patterns that match one path (`better_iff`:
core's lexicographic order on the kinds); `pick` returns a maximum, the last registered among equals (`pick_suff`,
`pick_nec`). The last section says the same of `cands` and `refRoute` in the namespace `C01` (`lemma_mem_cands`,
`lemma_ref_max`): the tree proofs (from RadixLive on) and Props/C01 both read the reference choice through it.
-/
namespace Rivaas.Match
open Rivaas.Route

/-! ### `matchPat`, one head at a time (its defining equations overlap at `[wild]`) -/

theorem matchPat_lit (trail : Bool) (s x : Bytes) (pt : Pat) (xs : List Bytes) :
    matchPat trail (PSeg.lit s :: pt) (x :: xs) = if s = x then matchPat trail pt xs else none := by
  cases pt <;> rfl

theorem matchPat_par (trail : Bool) (n x : Bytes) (pt : Pat) (xs : List Bytes) :
    matchPat trail (PSeg.par n :: pt) (x :: xs) = (matchPat trail pt xs).map ((n, x) :: ·) := by
  cases pt <;> rfl

theorem matchPat_wild (trail : Bool) (x : Bytes) (pt : Pat) (xs : List Bytes) :
    matchPat trail (PSeg.wild :: pt) (x :: xs) =
      if pt = [] then some [(wildName, joinSlash (x :: xs) ++ (if trail then ['/'] else []))] else none := by
  cases pt <;> rfl

theorem matchPat_nil (trail : Bool) (s : PSeg) (pt : Pat) : matchPat trail (s :: pt) [] = none := by
  cases s <;> cases pt <;> rfl

theorem matchPat_nil_segs (trail : Bool) (suf : Pat) (h : (matchPat trail suf []).isSome = true) : suf = [] ∧ trail = false := by
  cases suf with
  | nil => cases trail <;> simp [matchPat] at h ⊢
  | cons a as => rw [matchPat_nil] at h; cases h

end Rivaas.Match

namespace Rivaas.MatchL
open Rivaas.Route Rivaas.Match

theorem better_irrefl (a : Pat) : better a a = false := by
  induction a with
  | nil => rfl
  | cons x xs ih => simp [better, ih]

theorem shapeEq_better (a b : Pat) (h : shapeEq a b = true) : better a b = false := by
  induction a generalizing b with
  | nil => cases b <;> simp [better]
  | cons x xs ih =>
    cases b with
    | nil => simp [better]
    | cons y ys =>
      simp only [shapeEq, Bool.and_eq_true] at h
      have hk : kind x = kind y := by
        cases x <;> cases y <;> simp [sameShape] at h <;> rfl
      simp only [better, hk, if_true]
      exact ih ys h.2

/-! ### the shape of a pattern: its parameter names erased. `shapeEq` is equality of shapes, and what depends on
the shape only is stated once per function, about `shapeOf` -/

def eraseName : PSeg → PSeg
  | .lit s => .lit s
  | .par _ => .par []
  | .wild => .wild

def shapeOf (a : Pat) : Pat := a.map eraseName

theorem shapeOf_eq {a : Pat} : ∀ {b : Pat}, shapeEq a b = true → shapeOf a = shapeOf b := by
  induction a with
  | nil => intro b h; cases b with | nil => rfl | cons y ys => cases h
  | cons x xs ih =>
    intro b h
    cases b with
    | nil => cases h
    | cons y ys =>
      simp only [shapeEq, Bool.and_eq_true] at h
      have hxy : eraseName x = eraseName y := by
        cases x <;> cases y <;> first | rfl | cases h.1 | rw [of_decide_eq_true h.1]
      simp only [shapeOf, List.map_cons, hxy]
      exact congrArg _ (ih h.2)

theorem shape_congr {β} {f : Pat → β} (hf : ∀ a, f (shapeOf a) = f a) {a b : Pat} (h : shapeEq a b = true) : f a = f b := by
  rw [← hf a, ← hf b, shapeOf_eq h]

theorem matchPat_erase (trail : Bool) (segs : List Bytes) (a : Pat) :
    (matchPat trail (shapeOf a) segs).isSome = (matchPat trail a segs).isSome := by
  induction a generalizing segs with
  | nil => rfl
  | cons x xs ih =>
    cases segs with
    | nil => rw [shapeOf, List.map_cons, matchPat_nil, matchPat_nil]
    | cons z zs =>
      rw [shapeOf, List.map_cons]
      cases x with
      | lit s =>
        rw [eraseName, matchPat_lit, matchPat_lit]
        split
        · exact ih zs
        · rfl
      | par n =>
        rw [eraseName, matchPat_par, matchPat_par, Option.isSome_map, Option.isSome_map]
        exact ih zs
      | wild => cases xs <;> rfl

theorem matchPat_shape (trail : Bool) {a b : Pat} (segs : List Bytes) (h : shapeEq a b = true) :
    (matchPat trail a segs).isSome = (matchPat trail b segs).isSome :=
  shape_congr (f := fun a => (matchPat trail a segs).isSome) (matchPat_erase trail segs) h

theorem static_lits {pat : Pat} (h : isStaticPat pat = true) : ∃ lits : List Bytes, pat = lits.map PSeg.lit := by
  induction pat with
  | nil => exact ⟨[], rfl⟩
  | cons a rest ih =>
    simp only [isStaticPat, List.all_cons, Bool.and_eq_true, decide_eq_true_eq] at h
    obtain ⟨lits, rfl⟩ := ih (by simpa [isStaticPat] using h.2)
    cases a with
    | lit s => exact ⟨s :: lits, rfl⟩
    | par n => cases h.1
    | wild => cases h.1

theorem matchPat_lits (trail : Bool) (lits segs : List Bytes) :
    (matchPat trail (lits.map PSeg.lit) segs).isSome = true ↔ trail = false ∧ segs = lits := by
  induction lits generalizing segs with
  | nil =>
    cases segs with
    | nil => cases trail <;> simp [matchPat]
    | cons x xs => simp [matchPat]
  | cons s rest ih =>
    cases segs with
    | nil => rw [List.map_cons, matchPat_nil]; simp
    | cons x xs =>
      rw [List.map_cons, matchPat_lit]
      by_cases e : s = x
      · rw [if_pos e, ih xs, e]; simp
      · rw [if_neg e]; simp [Ne.symm e]

theorem matchPat_cons_some {trail : Bool} {a : Pat} {x : Bytes} {xs : List Bytes} {b : List (Bytes × Bytes)}
    (h : matchPat trail a (x :: xs) = some b) :
    (a = [PSeg.wild] ∧ b = [(wildName, joinSlash (x :: xs) ++ (if trail then ['/'] else []))]) ∨
    (∃ t, a = PSeg.lit x :: t ∧ matchPat trail t xs = some b) ∨
    (∃ n t b', a = PSeg.par n :: t ∧ matchPat trail t xs = some b' ∧ b = (n, x) :: b') := by
  cases a with
  | nil => cases h
  | cons s t =>
    cases s with
    | wild =>
      rw [matchPat_wild] at h
      split at h
      · left; exact ⟨by congr, (Option.some.inj h).symm⟩
      · cases h
    | lit s =>
      rw [matchPat_lit] at h
      split at h
      · subst s; exact Or.inr (Or.inl ⟨t, rfl, h⟩)
      · cases h
    | par n =>
      rw [matchPat_par] at h
      cases hm : matchPat trail t xs with
      | none => rw [hm] at h; cases h
      | some b' =>
        rw [hm] at h
        exact Or.inr (Or.inr ⟨n, t, b', rfl, hm, (Option.some.inj h).symm⟩)

theorem matchPat_cons_inv (trail : Bool) (a : Pat) (x : Bytes) (xs : List Bytes)
    (h : (matchPat trail a (x :: xs)).isSome = true) :
    a = [PSeg.wild] ∨ (∃ t, a = PSeg.lit x :: t ∧ (matchPat trail t xs).isSome = true) ∨
      (∃ n t, a = PSeg.par n :: t ∧ (matchPat trail t xs).isSome = true) := by
  obtain ⟨b, hb⟩ := Option.isSome_iff_exists.mp h
  rcases matchPat_cons_some hb with ⟨ha, _⟩ | ⟨t, ha, ht⟩ | ⟨n, t, b', ha, ht, _⟩
  · exact Or.inl ha
  · exact Or.inr (Or.inl ⟨t, ha, by rw [ht]; rfl⟩)
  · exact Or.inr (Or.inr ⟨n, t, ha, by rw [ht]; rfl⟩)

/-- the head of a pattern that matches a non-empty segment list: a final `*`, or a literal or parameter
whose tail matches the remaining segments -/
theorem match_head {trail : Bool} {a : Pat} {x : Bytes} {xs : List Bytes}
    (h : (matchPat trail a (x :: xs)).isSome = true) :
    ∃ s t, a = s :: t ∧ (kind s = 1 ∧ t = [] ∨ kind s ≠ 1 ∧ (matchPat trail t xs).isSome = true) := by
  rcases matchPat_cons_inv trail a x xs h with rfl | ⟨t, rfl, ht⟩ | ⟨n, t, rfl, ht⟩
  · exact ⟨_, _, rfl, Or.inl ⟨rfl, rfl⟩⟩
  · exact ⟨_, _, rfl, Or.inr ⟨by simp [kind], ht⟩⟩
  · exact ⟨_, _, rfl, Or.inr ⟨by simp [kind], ht⟩⟩

/-- among the patterns that match one path `better` is core's lexicographic order on the kinds of the segments (none
is a proper prefix of another: only a final `*` ends a pattern early), so its order laws there are core's -/
theorem better_iff {trail : Bool} {segs : List Bytes} {a b : Pat} (ha : (matchPat trail a segs).isSome = true)
    (hb : (matchPat trail b segs).isSome = true) : better a b = true ↔ b.map kind < a.map kind := by
  induction segs generalizing a b with
  | nil =>
    obtain ⟨rfl, _⟩ := matchPat_nil_segs trail a ha
    obtain ⟨rfl, _⟩ := matchPat_nil_segs trail b hb
    simp [better]
  | cons x xs ih =>
    obtain ⟨sa, ta, rfl, ma⟩ := match_head ha
    obtain ⟨sb, tb, rfl, mb⟩ := match_head hb
    rw [better, List.map_cons, List.map_cons, List.cons_lt_cons_iff]
    by_cases hk : kind sa = kind sb
    · rw [if_pos hk, hk]
      simp only [Nat.lt_irrefl, false_or, true_and]
      rcases ma with ⟨h1, rfl⟩ | ⟨h1, ma⟩ <;> rcases mb with ⟨h2, rfl⟩ | ⟨h2, mb⟩
      · simp [better]
      · exact absurd (hk ▸ h1) h2
      · exact absurd (hk ▸ h2) h1
      · exact ih ma mb
    · rw [if_neg hk, decide_eq_true_eq]
      exact ⟨Or.inl, fun h => h.elim id fun h => absurd h.1.symm hk⟩

theorem not_better_iff {trail : Bool} {segs : List Bytes} {a b : Pat} (ha : (matchPat trail a segs).isSome = true)
    (hb : (matchPat trail b segs).isSome = true) : better a b = false ↔ a.map kind ≤ b.map kind := by
  rw [Bool.eq_false_iff, Ne, better_iff ha hb, List.not_lt]

theorem better_asymm {trail : Bool} {segs : List Bytes} {a b : Pat} (ha : (matchPat trail a segs).isSome = true)
    (hb : (matchPat trail b segs).isSome = true) (h : better a b = true) : better b a = false :=
  (not_better_iff hb ha).2 (List.le_of_lt ((better_iff ha hb).1 h))

theorem better_negtrans (trail : Bool) (segs : List Bytes) (a b c : Pat)
    (ha : (matchPat trail a segs).isSome = true) (hb : (matchPat trail b segs).isSome = true)
    (hc : (matchPat trail c segs).isSome = true)
    (hab : better a b = false) (hbc : better b c = false) : better a c = false :=
  (not_better_iff ha hc).2 (List.le_trans ((not_better_iff ha hb).1 hab) ((not_better_iff hb hc).1 hbc))

theorem shapeEq_of_kinds (trail : Bool) (segs : List Bytes) (a b : Pat)
    (ha : (matchPat trail a segs).isSome = true) (hb : (matchPat trail b segs).isSome = true)
    (hk : a.map kind = b.map kind) : shapeEq a b = true := by
  induction segs generalizing a b with
  | nil =>
    obtain ⟨rfl, _⟩ := matchPat_nil_segs trail a ha
    obtain ⟨rfl, _⟩ := matchPat_nil_segs trail b hb
    rfl
  | cons x xs ih =>
    -- both heads match `x`: of one kind they have one shape
    rcases matchPat_cons_inv trail a x xs ha with rfl | ⟨ta, rfl, hta⟩ | ⟨na, ta, rfl, hta⟩ <;>
    rcases matchPat_cons_inv trail b x xs hb with rfl | ⟨tb, rfl, htb⟩ | ⟨nb, tb, rfl, htb⟩ <;>
    obtain ⟨h1, h2⟩ := List.cons.inj hk
    · rfl
    · cases h1
    · cases h1
    · cases h1
    · simp only [shapeEq, sameShape, decide_true, Bool.true_and]; exact ih ta tb hta htb h2
    · cases h1
    · cases h1
    · cases h1
    · exact ih ta tb hta htb h2

theorem shapeEq_of_incomparable (trail : Bool) (segs : List Bytes) (a b : Pat)
    (ha : (matchPat trail a segs).isSome = true) (hb : (matchPat trail b segs).isSome = true)
    (hab : better a b = false) (hba : better b a = false) : shapeEq a b = true :=
  shapeEq_of_kinds trail segs a b ha hb (List.le_antisymm ((not_better_iff ha hb).1 hab) ((not_better_iff hb ha).1 hba))

/-! ### `pick` -/

theorem pick_suff (l1 l2 : List Route) (r : Route) (cur : Option Route)
    (hcur : ∀ c, cur = some c → better c.pat r.pat = false)
    (h1 : ∀ c ∈ l1, better c.pat r.pat = false) (h2 : ∀ c ∈ l2, better r.pat c.pat = true) :
    pick cur (l1 ++ r :: l2) = some r := by
  induction l1 generalizing cur with
  | nil =>
    have hstay : ∀ (l : List Route), (∀ c ∈ l, better r.pat c.pat = true) → pick (some r) l = some r := by
      intro l
      induction l with
      | nil => intro _; rfl
      | cons d ds ih =>
        intro h
        simp only [pick, h d (List.mem_cons_self ..), if_true]
        exact ih (fun c hc => h c (List.mem_cons_of_mem _ hc))
    cases cur with
    | none => simp only [List.nil_append, pick]; exact hstay l2 h2
    | some c0 =>
      simp only [List.nil_append, pick, hcur c0 rfl, Bool.false_eq_true, if_false]
      exact hstay l2 h2
  | cons d ds ih =>
    have hd := h1 d (List.mem_cons_self ..)
    have hds : ∀ c ∈ ds, better c.pat r.pat = false := fun c hc => h1 c (List.mem_cons_of_mem _ hc)
    cases cur with
    | none =>
      simp only [List.cons_append, pick]
      exact ih (some d) (by intro c hc; injection hc with hc; subst hc; exact hd) hds
    | some c0 =>
      simp only [List.cons_append, pick]
      by_cases hb : better c0.pat d.pat = true
      · simp only [hb, if_true]
        exact ih (some c0) hcur hds
      · simp only [hb, Bool.false_eq_true, if_false]
        exact ih (some d) (by intro c hc; injection hc with hc; subst hc; exact hd) hds

theorem pick_nec (trail : Bool) (segs : List Bytes) (l : List Route) (cur : Option Route) (r : Route)
    (hl : ∀ c ∈ l, (matchPat trail c.pat segs).isSome = true)
    (hc : ∀ c, cur = some c → (matchPat trail c.pat segs).isSome = true)
    (h : pick cur l = some r) :
    (cur = some r ∧ ∀ c ∈ l, better r.pat c.pat = true) ∨
    ∃ l1 l2, l = l1 ++ r :: l2 ∧ (∀ c, cur = some c → better c.pat r.pat = false) ∧
      (∀ c ∈ l1, better c.pat r.pat = false) ∧ (∀ c ∈ l2, better r.pat c.pat = true) := by
  -- along the scan `pick` keeps its candidate while it beats the next route and takes the next route otherwise: the
  -- result is the initial candidate, which then beat every route, or a route of the list that beats all after it and
  -- that nothing before it beats. "Not beaten by" is carried across a replaced candidate by `better_negtrans`, which
  -- is why every pattern in play has to match the one path.
  induction l generalizing cur with
  | nil =>
    simp only [pick] at h
    left; exact ⟨h, by simp⟩
  | cons d ds ih =>
    have hds : ∀ c ∈ ds, (matchPat trail c.pat segs).isSome = true := fun c hc => hl c (List.mem_cons_of_mem _ hc)
    have hdm := hl d (List.mem_cons_self ..)
    -- the case where `d` becomes the current candidate
    have take : pick (some d) ds = some r → (∀ c, cur = some c → better c.pat d.pat = false) →
        (cur = some r ∧ ∀ c ∈ d :: ds, better r.pat c.pat = true) ∨
        ∃ l1 l2, d :: ds = l1 ++ r :: l2 ∧ (∀ c, cur = some c → better c.pat r.pat = false) ∧
          (∀ c ∈ l1, better c.pat r.pat = false) ∧ (∀ c ∈ l2, better r.pat c.pat = true) := by
      intro h' hcd
      right
      rcases ih (some d) hds (by intro c hc; injection hc with hc; subst hc; exact hdm) h' with ⟨hdr, hall⟩ | ⟨l1, l2, hl12, hd1, h1, h2⟩
      · injection hdr with hdr; subst hdr
        exact ⟨[], ds, rfl, hcd, by simp, hall⟩
      · refine ⟨d :: l1, l2, by simp [hl12], ?_, ?_, h2⟩
        · intro c hcc
          have hrm : (matchPat trail r.pat segs).isSome = true := hds r (by rw [hl12]; simp)
          exact better_negtrans trail segs c.pat d.pat r.pat (hc c hcc) hdm hrm (hcd c hcc) (hd1 d rfl)
        · intro c hcc
          simp only [List.mem_cons] at hcc
          rcases hcc with rfl | hcc
          · exact hd1 c rfl
          · exact h1 c hcc
    cases cur with
    | none =>
      simp only [pick] at h
      exact take h (by intro c hc; cases hc)
    | some c0 =>
      simp only [pick] at h
      by_cases hb : better c0.pat d.pat = true
      · simp only [hb, if_true] at h
        rcases ih (some c0) hds hc h with ⟨hcr, hall⟩ | ⟨l1, l2, hl12, hd1, h1, h2⟩
        · left
          injection hcr with hcr; subst hcr
          refine ⟨rfl, ?_⟩
          intro c hcc
          simp only [List.mem_cons] at hcc
          rcases hcc with rfl | hcc
          · exact hb
          · exact hall c hcc
        · right
          refine ⟨d :: l1, l2, by simp [hl12], hd1, ?_, h2⟩
          intro c hcc
          simp only [List.mem_cons] at hcc
          rcases hcc with rfl | hcc
          · -- d is beaten by c0, c0 is not better than r: d is not better than r
            have hrm : (matchPat trail r.pat segs).isSome = true := hds r (by rw [hl12]; simp)
            exact better_negtrans trail segs c.pat c0.pat r.pat hdm (hc c0 rfl) hrm (better_asymm (hc c0 rfl) hdm hb) (hd1 c0 rfl)
          · exact h1 c hcc
      · simp only [hb, Bool.false_eq_true, if_false] at h
        exact take h (by intro c hcc; injection hcc with hcc; subst hcc; exact Bool.eq_false_iff.mpr hb)

theorem pick_max (trail : Bool) (segs : List Bytes) (l : List Route) (r : Route)
    (hl : ∀ c ∈ l, (matchPat trail c.pat segs).isSome = true) (h : pick none l = some r) :
    r ∈ l ∧ ∀ c ∈ l, better c.pat r.pat = false := by
  rcases pick_nec trail segs l none r hl (by intro c hc; cases hc) h with ⟨h, _⟩ | ⟨l1, l2, rfl, _, h1, h2⟩
  · cases h
  · refine ⟨by simp, fun c hc => ?_⟩
    simp only [List.mem_append, List.mem_cons] at hc
    rcases hc with hc | rfl | hc
    · exact h1 c hc
    · exact better_irrefl _
    · exact better_asymm (hl r (by simp)) (hl c (by simp [hc])) (h2 c hc)

end Rivaas.MatchL

namespace Rivaas.RadixL
open Rivaas.Route Rivaas.Match

theorem pick_some_isSome (c : Route) (l : List Route) : (pick (some c) l).isSome = true := by
  induction l generalizing c with
  | nil => rfl
  | cons d ds ih =>
    simp only [pick]
    split
    · exact ih c
    · exact ih d

theorem pick_none_nil (l : List Route) (h : pick none l = none) : l = [] := by
  cases l with
  | nil => rfl
  | cons d ds =>
    simp only [pick] at h
    have := pick_some_isSome d ds
    rw [h] at this; exact absurd this (by simp)

theorem routeMatch_isSome_match (sat : Nat → Bytes → Bool) (r : Route) (p : RPath)
    (h : (routeMatch sat r p).isSome = true) : (matchPat p.trail r.pat p.segs).isSome = true := by
  unfold routeMatch at h
  cases hm : matchPat p.trail r.pat p.segs with
  | none => simp [hm] at h
  | some b => rfl

theorem routeMatch_some {sat : Nat → Bytes → Bool} {r : Route} {p : RPath} {b : List (Bytes × Bytes)}
    (h : routeMatch sat r p = some b) : matchPat p.trail r.pat p.segs = some b ∧ consOK sat r.cons b = true := by
  unfold routeMatch at h
  split at h
  · rename_i b' hb'
    split at h
    · rename_i hc
      injection h with h
      subst h
      exact ⟨hb', hc⟩
    · cases h
  · cases h

end Rivaas.RadixL

namespace Rivaas.C01
open Rivaas.Route Rivaas.Match

theorem lemma_mem_cands {sat : Nat → Bytes → Bool} {R : List Route} {m : Bytes} {p : RPath} {r : Route} :
    r ∈ cands sat R m p ↔ r ∈ R ∧ r.method = m ∧ (routeMatch sat r p).isSome = true := by
  simp only [cands, List.mem_filter, decide_eq_true_eq]

theorem lemma_pick_isSome (l : List Route) : (pick none l).isSome = !l.isEmpty := by
  cases l with
  | nil => rfl
  | cons a rest => simp [pick, RadixL.pick_some_isSome]

theorem lemma_refRoute_none {sat : Nat → Bytes → Bool} {R : List Route} {m : Bytes} {p : RPath}
    (h : cands sat R m p = []) : refRoute sat R m p = none := by
  unfold refRoute; rw [h]; rfl

theorem lemma_refRoute_some {sat : Nat → Bytes → Bool} {R : List Route} {m : Bytes} {p : RPath}
    (h : cands sat R m p ≠ []) : ∃ ρ, refRoute sat R m p = some ρ := by
  apply Option.isSome_iff_exists.mp
  unfold refRoute
  rw [lemma_pick_isSome]
  cases hc : cands sat R m p with
  | nil => exact absurd hc h
  | cons a rest => rfl

theorem lemma_allowedSet (sat : Nat → Bytes → Bool) (R : List Route) (p : RPath) :
    allowedSet sat R p = stdMethods.filter fun m => (refRoute sat R m p).isSome :=
  List.filter_congr fun m _ => by
    unfold refRoute
    rw [lemma_pick_isSome]
    cases cands sat R m p <;> rfl

theorem lemma_ref_max {sat : Nat → Bytes → Bool} {R : List Route} {m : Bytes} {p : RPath} {ρ : Route}
    (h : refRoute sat R m p = some ρ) :
    ρ ∈ cands sat R m p ∧ ∀ c ∈ cands sat R m p, better c.pat ρ.pat = false :=
  MatchL.pick_max p.trail p.segs _ ρ (fun c hc => RadixL.routeMatch_isSome_match sat c p (lemma_mem_cands.mp hc).2.2) h

end Rivaas.C01
