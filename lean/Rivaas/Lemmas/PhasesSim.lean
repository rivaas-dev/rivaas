import Rivaas.Lemmas.PhasesCore
import Rivaas.Lemmas.ListCore
/-
C12 — the shared state against the trace monitor. What the monitor knows is a function of the shared state (`monOf`):
the operations of the two `Once` bodies leave it alone (but for the flag `enterFreeze` sets), and every report of a
goroutine (`Report`) is accepted by the monitor, which then mirrors the new shared state (`lemma_report`). The scheduler
steps and the induction over schedules are in `PhasesLive`; what the probe requests see at the end is `lemma_probes`.
-/
namespace Rivaas.Phases
open Rivaas.Phases.Spec

/-- state and monitor as `C12.trace_accepted` relates them. It fixes the monitor (`lemma_rel_mon`: `m = monOf s.core`),
    so the induction over schedules carries `Good` (`PhasesLive`) and `Rel` is read off at the end (`lemma_good_rel`). -/
structure Rel (s : St) (m : Mon) : Prop where
  inv : Inv s.core
  serving : m.servingBegun = s.core.frozen
  accepted : m.accepted = s.core.objs
  cons : m.cons = s.core.cons
  names : m.names = s.core.named
  /-- a request parked at `serve.frozen` has returned from `Freeze()`: `freezeOnce` is done -/
  frozenPt : (∃ i : Nat, s.status[i]? = some Status.atFrozen) → s.core.fpc = .done

theorem lemma_rel_mon {s : St} {m : Mon} (h : Rel s m) : m = monOf s.core := by
  obtain ⟨sb, a, cs, n⟩ := m
  obtain ⟨_, h1, h2, h3, h4, _⟩ := h
  dsimp only at h1 h2 h3 h4
  rw [h1, h2, h3, h4]
  rfl

theorem lemma_mon_reg (c : Core) (r : RouteId) : monOf (registerRoute c r) = monOf c := by
  obtain ⟨_, _, e, _⟩ := lemma_reg c r
  rw [e]
  rfl

theorem lemma_mon_foldl (l : List RouteId) (c : Core) : monOf (l.foldl registerRoute c) = monOf c := by
  obtain ⟨_, _, e, _⟩ := lemma_foldl_reg l c
  rw [e]
  rfl

/-- the operations of the two `Once` bodies; they do not touch objects, constraints or names (`lemma_mon_body`) -/
def Op.isBody : Op → Bool
  | .enterFreeze | .freezeCallWarmup | .enterWarmup | .warmupStep | .freezeFinish => true
  | _ => false

theorem lemma_mon_body (c : Core) (op : Op) (hb : op.isBody = true) (hne : op ≠ .enterFreeze) : monOf (c.step op) = monOf c := by
  cases op with
  | enterFreeze => exact absurd rfl hne
  | freezeCallWarmup =>
    simp only [Core.step]
    split
    · cases c.wpc <;> rfl
    · rfl
  | warmupStep =>
    simp only [Core.step]
    cases c.wpc
    case drained => exact lemma_mon_foldl _ _
    all_goals rfl
  | register r => cases hb
  | whereInt r => cases hb
  | setName r => cases hb
  | _ =>
    simp only [Core.step]
    split <;> rfl

theorem lemma_mon_enterFreeze (c : Core) (h : c.fpc = .idle) :
    monOf (c.step .enterFreeze) = { monOf c with servingBegun := true } := by
  simp only [Core.step, h, if_true]
  rfl

theorem lemma_next_none (m : Mon) (k : Kind) (i : Nat) (v : Vis) :
    m.next k { actor := i, vis := v, out := .none } =
      some (if v = .freezeFlags then { m with servingBegun := true } else m) := by
  cases k with
  | request t v g => cases g <;> rfl
  | _ => rfl

theorem lemma_setStatus_core (s : St) (i : Nat) (st : Status) : (setStatus s i st).core = s.core := rfl

def NoFrozenPt (l : List Status) : Prop := ∀ i : Nat, l[i]? ≠ some Status.atFrozen

theorem lemma_setStatus_self (s : St) (i : Nat) (st : Status) {old : Status} (h : s.status[i]? = some old) :
    (setStatus s i st).status[i]? = some st := by
  simp [setStatus, List.lt_of_getElem? h]

theorem lemma_wpcVis_ne (w : WPc) : wpcVis w ≠ .freezeFlags := by cases w <;> simp [wpcVis]

theorem lemma_visFF_frozen (s : St) (i : Nat) (hI : Inv s.core) (h : visOf s i = .freezeFlags) :
    s.core.frozen = true := by
  unfold visOf at h
  cases hs : s.status[i]? with
  | none => simp [hs] at h
  | some st =>
    simp only [hs] at h
    -- only the owner of the `freezeOnce` body, at `flags`, is seen at `freeze.flags`
    cases st with
    | inFreeze =>
      simp only [vis] at h
      cases hf : s.core.fpc with
      | flags => exact hI.frozen_iff.2 (by simp [hf])
      | idle | tail | done => simp [hf] at h
      | inWarmup =>
        simp only [hf] at h
        split at h
        · exact absurd h (lemma_wpcVis_ne _)
        · simp at h
    | inWarmup => exact absurd h (lemma_wpcVis_ne _)
    | _ => simp [vis] at h

/-- a step that reports nothing: the monitor only looks whether the goroutine is now parked at `freeze.flags` — and
    then the flags are set -/
theorem lemma_quiet (s s' : St) (hI : Inv s'.core) (hm : monOf s'.core = monOf s.core) (k : Kind) (i : Nat) :
    (monOf s.core).next k { actor := i, vis := visOf s' i, out := .none } = some (monOf s'.core) := by
  rw [lemma_next_none, ← hm]
  split
  · rename_i h
    have hf : (monOf s'.core).servingBegun = true := lemma_visFF_frozen s' i hI h
    rw [← hf]
  · rfl

theorem lemma_vis_finished (s : St) (i : Nat) {old : Status} (h : s.status[i]? = some old) :
    visOf (setStatus s i .finished) i = .done := by
  simp [visOf, lemma_setStatus_self s i .finished h, vis]

/-! ### reports -/

theorem lemma_mon_register (c : Core) (r : RouteId) :
    monOf (c.step (.register r)) =
      if registerRes c r = .accepted then { monOf c with accepted := r :: c.objs } else monOf c := by
  rw [Core.step, registerRes]
  cases c.objs.contains r
  · cases (c.serving || c.frozen)
    · cases c.warmedUp
      · rfl
      · exact lemma_mon_reg _ r
    · rfl
  · rfl

theorem lemma_mon_whereInt (c : Core) (r : RouteId) :
    monOf (c.step (.whereInt r)) = if mutateRes c r = .accepted then { monOf c with cons := r :: c.cons } else monOf c := by
  rw [Core.step, mutateRes]
  cases c.objs.contains r
  · rfl
  · -- not `cases c.frozen`: it would replace the field inside `{ c with cons := … }` too, and not inside `monOf c`
    by_cases h : c.frozen = true
    · rw [if_pos h, if_pos h]; rfl
    · rw [if_neg h, if_neg h]
      cases c.regd.contains r
      · rfl
      · exact lemma_mon_reg _ r

theorem lemma_mon_setName (c : Core) (r : RouteId) :
    monOf (c.step (.setName r)) = if mutateRes c r = .accepted then { monOf c with names := r :: c.named } else monOf c := by
  rw [Core.step, mutateRes]
  cases c.objs.contains r
  · rfl
  · by_cases h : c.frozen = true
    · rw [if_pos h, if_pos h]; rfl
    · rw [if_neg h, if_neg h]; rfl

/-- A goroutine in position `st` reports `out` and has finished; the shared state is `c'` afterwards. -/
inductive Report (c : Core) : Kind → Status → Core → Out → Prop
  | refused (r : RouteId) (h : registerRes c r ≠ .accepted) : Report c (.register r) .start c (.mut (registerRes c r))
  | register (r : RouteId) : Report c (.register r) .atChecked (c.step (.register r)) (.mut (registerRes c r))
  | whereInt (r : RouteId) : Report c (.whereInt r) .start (c.step (.whereInt r)) (.mut (mutateRes c r))
  | setName (r : RouteId) : Report c (.setName r) .start (c.step (.setName r)) (.mut (mutateRes c r))
  | urlFor (r : RouteId) : Report c (.urlFor r) .start c (.url (urlFor c r))
  | whereBad (r : RouteId) : Report c (.whereBad r) .start c (.mut (mutateRes c r))
  | answer (t : RouteId) (v g : Bool) : Report c (.request t v g) .atFrozen c (if g then .gone else .hit (lookup c t v))

theorem lemma_register_verdict (c : Core) (hI : Inv c) (i : Nat) (r : RouteId) :
    (monOf c).next (.register r) { actor := i, vis := .done, out := .mut (registerRes c r) } =
      some (if registerRes c r = .accepted then { monOf c with accepted := r :: c.objs } else monOf c) := by
  -- `serving` equals `frozen`, which the monitor mirrors
  have hsf : (c.serving || c.frozen) = c.frozen := by rw [hI.serving_frozen, Bool.or_self]
  rw [registerRes, hsf]
  dsimp only [Mon.next, monOf]
  cases c.objs.contains r <;> cases c.frozen <;> rfl

theorem lemma_mutate_verdict (c : Core) (i : Nat) (r : RouteId) :
    (monOf c).next (.whereInt r) { actor := i, vis := .done, out := .mut (mutateRes c r) } =
      some (if mutateRes c r = .accepted then { monOf c with cons := r :: c.cons } else monOf c) ∧
    (monOf c).next (.setName r) { actor := i, vis := .done, out := .mut (mutateRes c r) } =
      some (if mutateRes c r = .accepted then { monOf c with names := r :: c.named } else monOf c) ∧
    (monOf c).next (.whereBad r) { actor := i, vis := .done, out := .mut (mutateRes c r) } = some (monOf c) := by
  rw [mutateRes]
  dsimp only [Mon.next, monOf]
  cases c.objs.contains r <;> cases c.frozen <;> exact ⟨rfl, rfl, rfl⟩

theorem lemma_report (c c' : Core) (k : Kind) (st : Status) (out : Out) (h : Report c k st c' out) (hI : Inv c)
    (hd : st = .atFrozen → c.fpc = .done) (i : Nat) :
    (monOf c).next k { actor := i, vis := .done, out := out } = some (monOf c') := by
  cases h with
  | refused r h => rw [lemma_register_verdict c hI, if_neg h]
  | register r => rw [lemma_register_verdict c hI, lemma_mon_register]
  | whereInt r => rw [(lemma_mutate_verdict c i r).1, lemma_mon_whereInt]
  | setName r => rw [(lemma_mutate_verdict c i r).2.1, lemma_mon_setName]
  | whereBad r => exact (lemma_mutate_verdict c i r).2.2
  | urlFor r =>
    dsimp only [Mon.next, urlFor, monOf]
    cases c.frozen <;> cases c.named.contains r <;> rfl
  | answer t v g =>
    have hd := hd rfl
    have hfr : c.frozen = true := hI.frozen_iff.2 (by simp [hd])
    cases g with
    | true => simp [Mon.next, monOf, hfr]
    | false =>
      have hsb : (monOf c).servingBegun = true := hfr
      simp [Mon.next, lemma_lookup_done c hI hd, hsb]

theorem lemma_report_frame (c c' : Core) (k : Kind) (st : Status) (out : Out) (h : Report c k st c' out) :
    (c'.fpc, c'.wpc) = (c.fpc, c.wpc) ∧ (Inv c → Inv c') := by
  cases h
  case register r => exact ⟨lemma_ctl_step c (.register r), lemma_inv_step c _⟩
  case whereInt r => exact ⟨lemma_ctl_step c (.whereInt r), lemma_inv_step c _⟩
  case setName r => exact ⟨lemma_ctl_step c (.setName r), lemma_inv_step c _⟩
  all_goals exact ⟨rfl, id⟩

/-- a request parked at `serve.frozen` consults the tree (a request whose context was done on arrival only
    returns: serving has begun — the monitor is told so, and it knew already): the `answer` case of `lemma_report`,
    stated with `Rel` -/
theorem lemma_lookup (s : St) (m : Mon) (hR : Rel s m) (i : Nat) (t : RouteId) (v g : Bool)
    (hs : s.status[i]? = some .atFrozen) :
    ∃ m', m.next (.request t v g)
        { actor := i, vis := visOf (setStatus s i .finished) i,
          out := if g then .gone else .hit (lookup s.core t v) } = some m' ∧
      Rel (setStatus s i .finished) m' := by
  rw [lemma_rel_mon hR, lemma_vis_finished s i hs]
  refine ⟨_, lemma_report _ _ _ _ _ (.answer t v g) hR.inv (fun _ => hR.frozenPt ⟨i, hs⟩) i, hR.inv, rfl, rfl, rfl, rfl, ?_⟩
  rintro ⟨j, hj⟩
  rcases List.getElem?_set_cases hj with ⟨_, h⟩ | ⟨_, h⟩
  · cases h
  · exact hR.frozenPt ⟨j, h⟩

theorem lemma_wakeF_length (kinds : List Kind) (s : St) (h : s.status.length = kinds.length) :
    (wakeF kinds s).status.length = s.status.length := by
  simp [wakeF, List.length_zip, h]

theorem lemma_callFreeze_length (s : St) (i : Nat) (k : Kind) :
    (callFreeze s i k).status.length = s.status.length := by
  unfold callFreeze
  cases s.core.fpc <;> simp [setStatus]

/-! ### the freeze that the first probe request completes -/

def completeOps : List Op := [.enterFreeze, .freezeCallWarmup, .warmupStep, .warmupStep, .warmupStep, .freezeFinish]

theorem lemma_completeFreeze_eq (c : Core) : completeFreeze c = completeOps.foldl Core.step c := rfl

/-- from every pair of positions the invariant allows, the six operations lead to `done`: evaluation on the
    control automaton (of the 25 pairs only `inWarmup` with `warmupOnce` idle or done would not, and `Inv` excludes them) -/
theorem lemma_completeFreeze_done (c : Core) (h : Inv c) : (completeFreeze c).fpc = .done := by
  have h2 := h.in_warmup
  refine (congrArg Prod.fst (lemma_ctl_fold completeOps c)).trans ?_
  revert h2
  generalize c.fpc = f
  generalize c.wpc = w
  intro h2
  cases f
  case inWarmup =>
    cases w
    case idle => exact absurd rfl (h2 rfl).1
    case done => exact absurd rfl (h2 rfl).2
    all_goals rfl
  all_goals cases w <;> rfl

theorem lemma_mon_fold (ops : List Op) (c : Core) (h : ∀ op ∈ ops, op.isBody = true) :
    ∃ b, monOf (ops.foldl Core.step c) = { monOf c with servingBegun := b } := by
  induction ops generalizing c with
  | nil => exact ⟨_, rfl⟩
  | cons o os ih =>
    obtain ⟨b, e⟩ := ih (c.step o) (fun op hop => h op (by simp [hop]))
    refine ⟨b, e.trans ?_⟩
    by_cases he : o = .enterFreeze
    · subst he
      simp only [Core.step]
      split <;> rfl
    · rw [lemma_mon_body c o (h o (by simp)) he]

theorem lemma_probes (c : Core) (hI : Inv c) (ids : List RouteId) :
    probes c ids = ids.map fun r => (expected (monOf c) r true, expected (monOf c) r false) := by
  unfold probes
  have hI' : Inv (completeFreeze c) := lemma_inv_run completeOps c hI
  have hd := lemma_completeFreeze_done c hI
  obtain ⟨b, e⟩ := lemma_mon_fold completeOps c (by decide)
  apply List.map_congr_left
  intro r _
  -- `expected` does not read the flag
  rw [lemma_lookup_done _ hI' hd, lemma_lookup_done _ hI' hd, lemma_completeFreeze_eq, e]
  rfl

end Rivaas.Phases
