import Rivaas.Lemmas.PhasesSim
/-
C12 — the goroutine-level model along every schedule. `Move` lists what releasing a goroutine can do (`lemma_move`: the
only proof that reads `stepActor`); the invariant `Good` — the invariant of the shared state, every goroutine in a
position that fits its kind (`Pos`), and ownership of the two `Once`s (`Own`: a body that has been entered and not left
is owned by exactly one live goroutine; goroutines blocked on a `Once` exist only while it is running) — is kept by
every move, and the monitor accepts what the move shows (`lemma_good_move`), hence along every schedule
(`lemma_run_good`). Deadlock freedom ("Freeze and Warmup are safe to call from many goroutines"): under `Good`, if some
goroutine has not finished, some goroutine can take an effective step (`lemma_progress`).
-/
namespace Rivaas.Phases

def frun (f : FPc) : Bool := f = .flags || f = .inWarmup || f = .tail
def wrun (w : WPc) : Bool := w = .drained || w = .registered || w = .compiled

/-- a `sync.Once` with `o` goroutines inside its body and `b` goroutines blocked in `Do`: one owner exactly while
    the body runs, nobody blocked unless it runs -/
def OnceOK (o b : Nat) (running : Bool) : Prop := o = running.toNat ∧ (0 < b → running = true)

theorem lemma_once_running {o b : Nat} {r : Bool} (h : OnceOK o b r) (ho : 0 < o) : r = true := by
  cases r
  · rw [h.1] at ho; exact absurd ho (Nat.lt_irrefl 0)
  · rfl

theorem lemma_once_owner {o b : Nat} {r : Bool} (h : OnceOK o b r) (hr : r = true) : 0 < o := by
  rw [h.1, hr]
  decide

/-- both `Once`s at the positions `p` of their bodies; the owner of `warmupOnce` is an explicit `Warmup()` or the owner
    of `freezeOnce` (`b`: the freeze owner is the goroutine inside `doWarmup`) -/
def OwnAt (l : List Status) (p : FPc × WPc) (b : Bool) : Prop :=
  OnceOK (l.count .inFreeze) (l.count .blockedF) (frun p.1) ∧
  OnceOK (l.count .inWarmup + (p.1 == .inWarmup && b).toNat) (l.count .blockedW) (wrun p.2)

def Own (s : St) : Prop := OwnAt s.status (s.core.fpc, s.core.wpc) s.wByFreeze

/-- the freeze owner is the goroutine inside `doWarmup` -/
def nested (s : St) : Bool := s.core.fpc == .inWarmup && s.wByFreeze

theorem Own.fz {s : St} (h : Own s) :
    OnceOK (s.status.count .inFreeze) (s.status.count .blockedF) (frun s.core.fpc) := h.1

theorem Own.wu {s : St} (h : Own s) :
    OnceOK (s.status.count .inWarmup + (nested s).toNat) (s.status.count .blockedW) (wrun s.core.wpc) := h.2

/-- positions that only some kinds of goroutine can be in, stated on its own; the invariant the proofs carry is
    `Pos` (with `fits`), which says this and that `serve.frozen` is reached only once `freezeOnce` is done -/
structure WT (kinds : List Kind) (s : St) : Prop where
  entry : ∀ i : Nat, s.status[i]? = some Status.atEntry → ∃ t v g, kinds[i]? = some (Kind.request t v g)
  frozen : ∀ i : Nat, s.status[i]? = some Status.atFrozen → ∃ t v g, kinds[i]? = some (Kind.request t v g)
  checked : ∀ i : Nat, s.status[i]? = some Status.atChecked → ∃ r, kinds[i]? = some (Kind.register r)
  len : s.status.length = kinds.length

theorem lemma_count_set (l : List Status) (i : Nat) (old new x : Status) (h : l[i]? = some old) :
    (l.set i new).count x + (if old = x then 1 else 0) = l.count x + (if new = x then 1 else 0) := by
  induction l generalizing i with
  | nil => simp at h
  | cons a t ih =>
    cases i with
    | zero =>
      simp only [List.getElem?_cons_zero, Option.some.injEq] at h
      subst h
      simp only [List.set_cons_zero, List.count_cons, beq_iff_eq]
      omega
    | succ j =>
      have := ih j (by simpa using h)
      simp only [List.set_cons_succ, List.count_cons]
      omega

theorem lemma_count_keep {l : List Status} {i : Nat} {old : Status} (h : l[i]? = some old) (new x : Status) (ho : old ≠ x)
    (hn : new ≠ x) : (l.set i new).count x = l.count x := by
  have := lemma_count_set l i old new x h
  rw [if_neg ho, if_neg hn] at this
  exact this

theorem lemma_count_pos (l : List Status) (x : Status) : 0 < l.count x ↔ ∃ i : Nat, l[i]? = some x := by
  rw [List.count_pos_iff, List.mem_iff_getElem?]

/-! ### a `Once` when one goroutine changes position

`own` / `blk`: the positions "inside the body" and "blocked in `Do`"; `e`: owners that are not in position `own`. -/

section
variable {l : List Status} {i : Nat} {old : Status} (hs : l[i]? = some old) (own blk : Status) (e : Nat)
include hs

theorem lemma_once_keep (new : Status) (ho : old ≠ own) (hb : old ≠ blk) (hn : new ≠ own) (hn' : new ≠ blk) {r : Bool}
    (h : OnceOK (l.count own + e) (l.count blk) r) :
    OnceOK ((l.set i new).count own + e) ((l.set i new).count blk) r := by
  rw [lemma_count_keep hs new own ho hn, lemma_count_keep hs new blk hb hn']
  exact h

theorem lemma_once_enter (ho : old ≠ own) (hb : old ≠ blk) (hne : own ≠ blk)
    (h : OnceOK (l.count own + e) (l.count blk) false) :
    OnceOK ((l.set i own).count own + e) ((l.set i own).count blk) true := by
  have := lemma_count_set l i old own own hs
  rw [if_neg ho, if_pos rfl, Nat.add_zero] at this
  rw [lemma_count_keep hs own blk hb hne, this, Nat.add_right_comm, h.1]
  exact ⟨rfl, fun _ => rfl⟩

theorem lemma_once_block (ho : old ≠ own) (hne : blk ≠ own) (h : OnceOK (l.count own + e) (l.count blk) true) :
    OnceOK ((l.set i blk).count own + e) ((l.set i blk).count blk) true := by
  rw [lemma_count_keep hs blk own ho hne]
  exact ⟨h.1, fun _ => rfl⟩

/-- the owner returns from the body, the blocked callers having been woken -/
theorem lemma_once_leave (new : Status) (ho : old = own) (hn : new ≠ own) (hn' : new ≠ blk) (hne : own ≠ blk)
    (hb : l.count blk = 0) (h : l.count own + e = 1) :
    OnceOK ((l.set i new).count own + e) ((l.set i new).count blk) false := by
  have := lemma_count_set l i old new own hs
  rw [if_pos ho, if_neg hn, Nat.add_zero (l.count own)] at this
  rw [← this, Nat.add_right_comm] at h
  rw [lemma_count_keep hs new blk (ho ▸ hne) hn', hb]
  exact ⟨Nat.succ.inj h, fun h0 => absurd h0 (Nat.lt_irrefl 0)⟩

end

/-- a position outside the two `Once` bodies and not blocked on one: it takes no part in the ownership invariant -/
def neutral (st : Status) : Bool :=
  st != .inFreeze && st != .inWarmup && st != .blockedF && st != .blockedW

theorem lemma_neutral (st : Status) (h : neutral st = true) :
    st ≠ .inFreeze ∧ st ≠ .inWarmup ∧ st ≠ .blockedF ∧ st ≠ .blockedW := by
  simp only [neutral, Bool.and_eq_true, bne_iff_ne, ne_eq] at h
  exact ⟨h.1.1.1, h.1.1.2, h.1.2, h.2⟩

theorem lemma_afterFreeze_neutral (k : Kind) : neutral (afterFreeze k) = true := by cases k <;> rfl

/-! ### waking

Both wake-ups map over the goroutines: who is in position `blk` moves to `f a`, the others stay where they are
(`π a`: the position of `a`; for `wakeF` the list is zipped with the kinds). -/

def wake {α} (π : α → Status) (blk : Status) (f : α → Status) (a : α) : Status := if π a = blk then f a else π a

theorem lemma_wakeW_status (s : St) : (wakeW s).status = s.status.map (wake id .blockedW fun _ => .finished) := rfl

theorem lemma_wakeF_status (kinds : List Kind) (s : St) :
    (wakeF kinds s).status = (s.status.zip kinds).map (wake Prod.fst .blockedF fun p => afterFreeze p.2) := rfl

theorem lemma_wakeW_core (s : St) : (wakeW s).core = s.core := rfl
theorem lemma_wakeF_core (kinds : List Kind) (s : St) : (wakeF kinds s).core = s.core := rfl

section
variable {α} (L : List α) (π : α → Status) (blk : Status) (f : α → Status)

theorem lemma_wake_count (x : Status) (hx : x ≠ blk) (hf : ∀ a, f a ≠ x) :
    (L.map (wake π blk f)).count x = (L.map π).count x := by
  induction L with
  | nil => rfl
  | cons a t ih =>
    have : (wake π blk f a == x) = (π a == x) := by
      unfold wake
      split
      · rename_i h
        rw [h, beq_eq_false_iff_ne.2 (hf a), beq_eq_false_iff_ne.2 hx.symm]
      · rfl
    simp only [List.map_cons, List.count_cons, ih, this]

theorem lemma_wake_zero (hf : ∀ a, f a ≠ blk) : (L.map (wake π blk f)).count blk = 0 := by
  rw [List.count_eq_zero]
  intro hm
  obtain ⟨a, _, ha⟩ := List.mem_map.1 hm
  unfold wake at ha
  split at ha
  · exact hf a ha
  · rename_i h; exact h ha

theorem lemma_wake_get (j : Nat) (a : α) (h : L[j]? = some a) (ha : π a ≠ blk) :
    (L.map (wake π blk f))[j]? = some (π a) := by
  rw [List.getElem?_map, h, Option.map_some, wake, if_neg ha]

theorem lemma_wake_of (j : Nat) (x : Status) (h : (L.map (wake π blk f))[j]? = some x) :
    ∃ a, L[j]? = some a ∧ (π a = x ∨ f a = x) := by
  rw [List.getElem?_map] at h
  cases hj : L[j]? with
  | none => rw [hj] at h; cases h
  | some a =>
    rw [hj, Option.map_some, wake] at h
    refine ⟨a, rfl, ?_⟩
    split at h
    · exact Or.inr (Option.some.inj h)
    · exact Or.inl (Option.some.inj h)

end

theorem lemma_wakeW_counts (s : St) :
    (wakeW s).status.count .inFreeze = s.status.count .inFreeze ∧
    (wakeW s).status.count .inWarmup = s.status.count .inWarmup ∧
    (wakeW s).status.count .blockedF = s.status.count .blockedF ∧
    (wakeW s).status.count .blockedW = 0 := by
  have h : ∀ x, x ≠ .blockedW → Status.finished ≠ x → (wakeW s).status.count x = s.status.count x := fun x h1 h2 => by
    rw [lemma_wakeW_status, lemma_wake_count _ _ _ _ x h1 fun _ => h2, List.map_id]
  exact ⟨h _ (by decide) (by decide), h _ (by decide) (by decide), h _ (by decide) (by decide),
    lemma_wake_zero _ _ _ _ fun _ => by decide⟩

theorem lemma_wakeF_counts (kinds : List Kind) (s : St) (hlen : s.status.length = kinds.length) :
    (wakeF kinds s).status.count .inFreeze = s.status.count .inFreeze ∧
    (wakeF kinds s).status.count .inWarmup = s.status.count .inWarmup ∧
    (wakeF kinds s).status.count .blockedW = s.status.count .blockedW ∧
    (wakeF kinds s).status.count .blockedF = 0 := by
  have hf := fun p : Status × Kind => lemma_neutral _ (lemma_afterFreeze_neutral p.2)
  have h : ∀ x, x ≠ .blockedF → (∀ p : Status × Kind, afterFreeze p.2 ≠ x) →
      (wakeF kinds s).status.count x = s.status.count x := fun x h1 h2 => by
    rw [lemma_wakeF_status, lemma_wake_count _ _ _ _ x h1 h2, List.map_fst_zip (Nat.le_of_eq hlen)]
  exact ⟨h _ (by decide) fun p => (hf p).1, h _ (by decide) fun p => (hf p).2.1, h _ (by decide) fun p => (hf p).2.2.2,
    lemma_wake_zero _ _ _ _ fun p => (hf p).2.2.1⟩

theorem lemma_wakeW_get (s : St) (i : Nat) (st : Status) (h : s.status[i]? = some st) (hst : st ≠ .blockedW) :
    (wakeW s).status[i]? = some st :=
  lemma_wake_get _ id _ _ i st h hst

theorem lemma_wakeF_get (kinds : List Kind) (s : St) (i : Nat) (st : Status) (h : s.status[i]? = some st)
    (hst : st ≠ .blockedF) (hlen : s.status.length = kinds.length) : (wakeF kinds s).status[i]? = some st := by
  have hi : i < kinds.length := hlen ▸ List.lt_of_getElem? h
  exact lemma_wake_get _ Prod.fst _ _ i (st, kinds[i]) (List.getElem?_zip_eq_some.2 ⟨h, by simp [hi]⟩) hst

/-! ### positions and kinds -/

/-- a goroutine of kind `k` can be in position `st` (`done`: `freezeOnce` is done) -/
def fits (done : Bool) (st : Status) (k : Kind) : Bool :=
  match st with
  | .atEntry => (match k with | .request .. => true | _ => false)
  | .atFrozen => done && (match k with | .request .. => true | _ => false)
  | .atChecked => (match k with | .register _ => true | _ => false)
  | _ => true

theorem lemma_fits_afterFreeze (k : Kind) : fits true (afterFreeze k) k = true := by cases k <;> rfl

theorem lemma_fits_mono (d d' : Bool) (st : Status) (k : Kind) (h : fits d st k = true) (hd : d = true → d' = true) :
    fits d' st k = true := by
  cases d
  · cases d' <;> cases st <;> first | exact h | cases h
  · rw [hd rfl]; exact h

def Pos (kinds : List Kind) (s : St) : Prop :=
  s.status.length = kinds.length ∧
    ∀ (j : Nat) (x : Status) (k : Kind), s.status[j]? = some x → kinds[j]? = some k → fits (s.core.fpc == .done) x k = true

theorem lemma_pos_core {kinds : List Kind} {s : St} (hP : Pos kinds s) (c' : Core) (b' : Bool)
    (h : s.core.fpc = .done → c'.fpc = .done) : Pos kinds { s with core := c', wByFreeze := b' } :=
  ⟨hP.1, fun j x k hj hk => lemma_fits_mono _ _ x k (hP.2 j x k hj hk) (by simpa using h)⟩

theorem lemma_pos_set {kinds : List Kind} {s : St} (hP : Pos kinds s) {i : Nat} {k : Kind} (hk : kinds[i]? = some k)
    (x : Status) (hx : fits (s.core.fpc == .done) x k = true) : Pos kinds (setStatus s i x) := by
  refine ⟨List.length_set.trans hP.1, fun j y k' hj hk' => ?_⟩
  rcases List.getElem?_set_cases hj with ⟨rfl, rfl⟩ | ⟨_, h⟩
  · rw [hk] at hk'; cases hk'; exact hx
  · exact hP.2 j y k' h hk'

theorem lemma_pos_wakeW {kinds : List Kind} {s : St} (hP : Pos kinds s) : Pos kinds (wakeW s) := by
  refine ⟨(List.length_map _).trans hP.1, fun j x k hj hk => ?_⟩
  obtain ⟨y, hy, rfl | rfl⟩ := lemma_wake_of _ _ _ _ j x hj
  · exact hP.2 j y k hy hk
  · rfl

theorem lemma_pos_wakeF {kinds : List Kind} {s : St} (hP : Pos kinds s) (hd : s.core.fpc = .done) :
    Pos kinds (wakeF kinds s) := by
  refine ⟨(lemma_wakeF_length kinds s hP.1).trans hP.1, fun j x k hj hk => ?_⟩
  obtain ⟨⟨y, k'⟩, hy, rfl | rfl⟩ := lemma_wake_of _ _ _ _ j x hj
  · exact hP.2 j y k (List.getElem?_zip_eq_some.1 hy).1 hk
  · rw [(List.getElem?_zip_eq_some.1 hy).2] at hk
    cases hk
    rw [lemma_wakeF_core, hd]
    exact lemma_fits_afterFreeze _

theorem lemma_pos_frozenPt {kinds : List Kind} {s : St} (hP : Pos kinds s)
    (h : ∃ i : Nat, s.status[i]? = some Status.atFrozen) : s.core.fpc = .done := by
  obtain ⟨j, hj⟩ := h
  have hj' : j < kinds.length := hP.1 ▸ List.lt_of_getElem? hj
  have := hP.2 j _ kinds[j] hj (by simp [hj'])
  simp only [fits, Bool.and_eq_true, beq_iff_eq] at this
  exact this.1

/-! ### the shape of a scheduler step -/

/-- nothing happens when a goroutine in position `st` is released: it is blocked, has finished, or `st` is no
    position of a goroutine of kind `k` -/
def stuck (st : Status) (k : Kind) : Bool := st == .blockedF || st == .blockedW || st == .finished || !fits true st k

/-- What releasing goroutine `i` (kind `k`, position `st`) does, with what it reports. -/
inductive Move (kinds : List Kind) (s : St) (i : Nat) (k : Kind) : Status → St × Out → Prop
  | stay (st : Status) (h : stuck st k = true) : Move kinds s i k st (s, .none)
  /-- the owner of the `freezeOnce` body waits for the explicit owner of `warmupOnce` (or is no owner: the body does
      not run) -/
  | wait (h : frun s.core.fpc = false ∨ (s.core.fpc = .inWarmup ∧ s.wByFreeze = false)) : Move kinds s i k .inFreeze (s, .none)
  | park (st st' : Status) (hn : neutral st = true) (hn' : neutral st' = true) (hne : st' ≠ st)
      (hf : fits (s.core.fpc == .done) st' k = true) : Move kinds s i k st (setStatus s i st', .none)
  | report (st : Status) (c' : Core) (out : Out) (h : Report s.core k st c' out) :
      Move kinds s i k st (setStatus { s with core := c' } i .finished, out)
  | enterF (st : Status) (hn : neutral st = true) (hf : s.core.fpc = .idle) :
      Move kinds s i k st (setStatus { s with core := s.core.step .enterFreeze } i .inFreeze, .none)
  | blockF (st : Status) (hn : neutral st = true) (hf : frun s.core.fpc = true) :
      Move kinds s i k st (setStatus s i .blockedF, .none)
  | enterW (hw : s.core.wpc = .idle) :
      Move kinds s i k .start (setStatus { s with core := s.core.step .enterWarmup } i .inWarmup, .none)
  | blockW (hw : wrun s.core.wpc = true) : Move kinds s i k .start (setStatus s i .blockedW, .none)
  /-- `Freeze` calls `Warmup`: it becomes the owner of `warmupOnce` if nobody is -/
  | callW (hf : s.core.fpc = .flags) :
      Move kinds s i k .inFreeze
        ({ s with core := s.core.step .freezeCallWarmup, wByFreeze := decide (s.core.wpc = .idle) }, .none)
  /-- the owner of `warmupOnce` — an explicit `Warmup()` or the freeze owner — goes on inside `doWarmup` -/
  | stepW (st : Status) (h : st = .inWarmup ∨ (st = .inFreeze ∧ s.core.fpc = .inWarmup ∧ s.wByFreeze = true))
      (hw : s.core.wpc ≠ .compiled) :
      Move kinds s i k st ({ s with core := s.core.step .warmupStep }, .none)
  | leaveWn (hf : s.core.fpc = .inWarmup) (hb : s.wByFreeze = true) (hw : s.core.wpc = .compiled) :
      Move kinds s i k .inFreeze (wakeW { s with core := s.core.step .warmupStep }, .none)
  | leaveW (hw : s.core.wpc = .compiled) :
      Move kinds s i k .inWarmup (setStatus (wakeW { s with core := s.core.step .warmupStep }) i .finished, .none)
  | leaveF (hf : s.core.fpc = .tail) :
      Move kinds s i k .inFreeze
        (setStatus (wakeF kinds { s with core := s.core.step .freezeFinish }) i (afterFreeze k), .none)

theorem lemma_move_callFreeze (kinds : List Kind) (s : St) (i : Nat) (k : Kind) (st : Status) (hn : neutral st = true)
    (h : (st == .start || st == .atEntry) = true) : Move kinds s i k st (callFreeze s i k, .none) := by
  unfold callFreeze
  cases hf : s.core.fpc
  case done =>
    exact .park st _ hn (lemma_afterFreeze_neutral k) (fun e => by rw [← e] at h; cases k <;> cases h)
      (by rw [hf]; exact lemma_fits_afterFreeze k)
  case idle => exact .enterF st hn hf
  all_goals exact .blockF st hn (by rw [hf]; rfl)

theorem lemma_move (kinds : List Kind) (s : St) (i : Nat) (k : Kind) (st : Status) :
    Move kinds s i k st (stepActor kinds s i k st) := by
  cases st with
  | inFreeze =>
    simp only [stepActor]
    cases hf : s.core.fpc
    case flags => exact .callW hf
    case tail => exact .leaveF hf
    case inWarmup =>
      dsimp only
      by_cases hb : s.wByFreeze = true
      · rw [if_pos hb]
        split
        · rename_i hw; exact .leaveWn hf hb hw
        · rename_i hw; exact .stepW _ (Or.inr ⟨rfl, hf, hb⟩) hw
      · rw [if_neg hb]
        exact .wait (Or.inr ⟨hf, by simpa using hb⟩)
    all_goals exact .wait (Or.inl (by rw [hf]; rfl))
  | inWarmup =>
    simp only [stepActor]
    split
    · rename_i hw; exact .leaveW hw
    · rename_i hw; exact .stepW _ (Or.inl rfl) hw
  | blockedF => exact .stay _ rfl
  | blockedW => exact .stay _ rfl
  | finished => exact .stay _ rfl
  | atEntry =>
    cases k with
    | request t v g => exact lemma_move_callFreeze kinds s i _ _ rfl rfl
    | _ => exact .stay _ rfl
  | atFrozen =>
    cases k with
    | request t v g => exact .report _ _ _ (.answer t v g)
    | _ => exact .stay _ rfl
  | atChecked =>
    cases k with
    | register r => exact .report _ _ _ (.register r)
    | _ => exact .stay _ rfl
  | start =>
    cases k with
    | request t v g => exact .park _ .atEntry rfl rfl (by decide) rfl
    | freeze => exact lemma_move_callFreeze kinds s i _ _ rfl rfl
    | warmup =>
      simp only [stepActor]
      cases hw : s.core.wpc
      case done => exact .park _ .finished rfl rfl (by decide) rfl
      case idle => exact .enterW hw
      all_goals exact .blockW (by rw [hw]; rfl)
    | register r =>
      simp only [stepActor]
      cases hr : registerRes s.core r
      case accepted => exact .park _ .atChecked rfl rfl (by decide) rfl
      all_goals
        have := Move.report (kinds := kinds) (s := s) (i := i) _ _ _ (.refused r (by rw [hr]; decide))
        rw [hr] at this
        exact this
    | whereInt r => exact .report _ _ _ (.whereInt r)
    | setName r => exact .report _ _ _ (.setName r)
    | urlFor r => exact .report _ _ _ (.urlFor r)
    | whereBad r => exact .report _ _ _ (.whereBad r)

/-! ### the invariant along a step -/

theorem lemma_frun_warmupStep (f : FPc) (w : WPc) : frun (ctlStep (f, w) .warmupStep).1 = frun f := by
  show frun (if f = .inWarmup ∧ w = .compiled then .tail else f) = frun f
  split
  · rename_i h; rw [h.1]; rfl
  · rfl

theorem lemma_ctl_warmupStep (c : Core) (hw : c.wpc ≠ .compiled) :
    (c.step .warmupStep).fpc = c.fpc ∧ wrun (c.step .warmupStep).wpc = wrun c.wpc := by
  rw [lemma_step_fpc, lemma_step_wpc]
  refine ⟨if_neg fun h => hw h.2, ?_⟩
  revert hw
  cases c.wpc <;> intro hw <;> first | rfl | exact absurd rfl hw

structure Good (kinds : List Kind) (s : St) : Prop where
  inv : Inv s.core
  pos : Pos kinds s
  own : Own s

theorem lemma_own_of (s' : St) (p : FPc × WPc) (hp : (s'.core.fpc, s'.core.wpc) = p)
    (h : OwnAt s'.status p s'.wByFreeze) : Own s' := by
  rw [Own, hp]
  exact h

theorem lemma_own_park (s : St) (i : Nat) (old new : Status) (c' : Core) (hs : s.status[i]? = some old)
    (ho : neutral old = true) (hn : neutral new = true) (hc : (c'.fpc, c'.wpc) = (s.core.fpc, s.core.wpc))
    (hO : Own s) : Own (setStatus { s with core := c' } i new) := by
  obtain ⟨o1, o2, o3, o4⟩ := lemma_neutral old ho
  obtain ⟨n1, n2, n3, n4⟩ := lemma_neutral new hn
  exact lemma_own_of _ _ hc ⟨lemma_once_keep hs .inFreeze .blockedF 0 new o1 o3 n1 n3 hO.1,
    lemma_once_keep hs .inWarmup .blockedW _ new o2 o4 n2 n4 hO.2⟩

theorem lemma_good_move (kinds : List Kind) (s : St) (p : St × Out) (i : Nat) (k : Kind) (st : Status)
    (hG : Good kinds s) (hs : s.status[i]? = some st) (hk : kinds[i]? = some k) (hM : Move kinds s i k st p) :
    Good kinds p.1 ∧ (monOf s.core).next k { actor := i, vis := visOf p.1 i, out := p.2 } = some (monOf p.1.core) := by
  obtain ⟨hI, hP, hO⟩ := hG
  obtain ⟨fz, wu⟩ := id hO
  -- per move: the three parts of `Good` (for `Own`: what the move is for `freezeOnce`, then for `warmupOnce`), then
  -- the monitor
  cases hM with
  | stay => exact ⟨⟨hI, hP, hO⟩, lemma_quiet s s hI rfl k i⟩
  | wait => exact ⟨⟨hI, hP, hO⟩, lemma_quiet s s hI rfl k i⟩
  | park _ st' hn hn' _ hf =>
    exact ⟨⟨hI, lemma_pos_set hP hk st' hf,
      lemma_own_park s i st st' s.core hs hn hn' rfl hO⟩, lemma_quiet s (setStatus s i st') hI rfl k i⟩
  | report _ c' out h =>
    obtain ⟨hc, hI'⟩ := lemma_report_frame _ _ _ _ _ h
    have hn : neutral st = true := by cases h <;> rfl
    refine ⟨⟨hI' hI,
      lemma_pos_set (lemma_pos_core hP c' _ (congrArg Prod.fst hc).trans) hk .finished rfl,
      lemma_own_park s i st .finished c' hs hn rfl hc hO⟩, ?_⟩
    rw [lemma_vis_finished { s with core := c' } i hs]
    exact lemma_report _ _ _ _ _ h hI (fun e => lemma_pos_frozenPt hP ⟨i, e ▸ hs⟩) i
  | enterF _ hn hf =>
    -- serving begins: the goroutine stores the flags and is parked at `freeze.flags`, owner of the `freezeOnce` body
    obtain ⟨o1, o2, o3, o4⟩ := lemma_neutral st hn
    have hc := lemma_ctl_step s.core .enterFreeze
    rw [hf] at fz wu hc
    refine ⟨⟨lemma_inv_step _ .enterFreeze hI,
      lemma_pos_set (lemma_pos_core hP _ _ (lemma_done_stable _ _)) hk .inFreeze rfl,
      lemma_own_of _ _ hc ⟨lemma_once_enter hs .inFreeze .blockedF 0 o1 o3 (by decide) fz,
        lemma_once_keep hs .inWarmup .blockedW _ .inFreeze o2 o4 (by decide) (by decide) wu⟩⟩, ?_⟩
    have hvis : visOf (setStatus { s with core := s.core.step .enterFreeze } i .inFreeze) i = .freezeFlags := by
      have hfp : (s.core.step .enterFreeze).fpc = .flags := congrArg Prod.fst hc
      simp only [visOf, lemma_setStatus_self { s with core := s.core.step .enterFreeze } i .inFreeze hs, vis, lemma_setStatus_core, hfp]
    rw [lemma_next_none, hvis, if_pos rfl]
    exact congrArg some (lemma_mon_enterFreeze s.core hf).symm
  | blockF _ hn hf =>
    obtain ⟨o1, o2, o3, o4⟩ := lemma_neutral st hn
    rw [hf] at fz
    exact ⟨⟨hI, lemma_pos_set hP hk .blockedF rfl,
      lemma_own_of _ _ rfl ⟨hf ▸ lemma_once_block hs .inFreeze .blockedF 0 o1 (by decide) fz,
        lemma_once_keep hs .inWarmup .blockedW _ .blockedF o2 o4 (by decide) (by decide) wu⟩⟩,
      lemma_quiet s (setStatus s i .blockedF) hI rfl k i⟩
  | enterW hw =>
    have hc := lemma_ctl_step s.core .enterWarmup
    rw [hw] at wu hc
    have hI' := lemma_inv_step _ .enterWarmup hI
    exact ⟨⟨hI', lemma_pos_set (lemma_pos_core hP _ _ (lemma_done_stable _ _)) hk .inWarmup rfl,
      lemma_own_of _ _ hc ⟨lemma_once_keep hs .inFreeze .blockedF 0 .inWarmup (by decide) (by decide) (by decide) (by decide) fz,
        lemma_once_enter hs .inWarmup .blockedW _ (by decide) (by decide) (by decide) wu⟩⟩,
      lemma_quiet s _ hI' (lemma_mon_body _ .enterWarmup rfl nofun) k i⟩
  | blockW hw =>
    rw [hw] at wu
    exact ⟨⟨hI, lemma_pos_set hP hk .blockedW rfl,
      lemma_own_of _ _ rfl ⟨lemma_once_keep hs .inFreeze .blockedF 0 .blockedW (by decide) (by decide) (by decide) (by decide) fz,
        hw ▸ lemma_once_block hs .inWarmup .blockedW _ (by decide) (by decide) wu⟩⟩,
      lemma_quiet s (setStatus s i .blockedW) hI rfl k i⟩
  | callW hf =>
    have hc := lemma_ctl_step s.core .freezeCallWarmup
    have hI' := lemma_inv_step _ .freezeCallWarmup hI
    rw [hf] at fz wu hc
    have hO' : Own { s with core := s.core.step .freezeCallWarmup, wByFreeze := decide (s.core.wpc = .idle) } := by
      cases hw : s.core.wpc <;> rw [hw] at wu hc
      case idle => exact lemma_own_of _ _ hc ⟨fz, congrArg Nat.succ wu.1, fun _ => rfl⟩
      all_goals exact lemma_own_of _ _ hc ⟨fz, wu⟩
    exact ⟨⟨hI', lemma_pos_core hP _ _ (lemma_done_stable _ _), hO'⟩,
      lemma_quiet s _ hI' (lemma_mon_body _ .freezeCallWarmup rfl nofun) k i⟩
  | stepW _ _ hw =>
    have hI' := lemma_inv_step _ .warmupStep hI
    have hO' : Own { s with core := s.core.step .warmupStep } := by
      obtain ⟨h1, h2⟩ := lemma_ctl_warmupStep s.core hw
      unfold Own OwnAt
      dsimp only
      rw [h1, h2]
      exact hO
    exact ⟨⟨hI', lemma_pos_core hP _ _ (lemma_done_stable _ _), hO'⟩,
      lemma_quiet s _ hI' (lemma_mon_body _ .warmupStep rfl nofun) k i⟩
  | leaveWn hf hb hw =>
    -- `warmupOnce` is done: the freeze owner goes on in its own body, everybody blocked on `warmupOnce` goes on
    have hc := lemma_ctl_step s.core .warmupStep
    have hI' := lemma_inv_step _ .warmupStep hI
    rw [hf, hw] at fz wu hc
    rw [hb] at wu
    obtain ⟨c1, c2, c3, c4⟩ := lemma_wakeW_counts { s with core := s.core.step .warmupStep }
    have hO' : Own (wakeW { s with core := s.core.step .warmupStep }) := by
      refine lemma_own_of _ _ hc ⟨?_, ?_, ?_⟩
      · rw [c1, c3]; exact fz
      · rw [c2]; exact Nat.succ.inj wu.1
      · rw [c4]; exact fun h => absurd h (Nat.lt_irrefl 0)
    exact ⟨⟨hI', lemma_pos_wakeW (lemma_pos_core hP _ _ (lemma_done_stable _ _)), hO'⟩,
      lemma_quiet s _ hI' (lemma_mon_body _ .warmupStep rfl nofun) k i⟩
  | leaveW hw =>
    have hc := lemma_ctl_step s.core .warmupStep
    have hI' := lemma_inv_step _ .warmupStep hI
    -- this goroutine is the owner, so the freeze owner is not inside `doWarmup`
    have hn0 : nested s = false := by
      have hpos : 0 < s.status.count .inWarmup := (lemma_count_pos _ _).2 ⟨i, hs⟩
      have := hO.wu.1
      cases h : nested s
      · rfl
      · rw [h, hw] at this
        have : s.status.count .inWarmup + 1 = 1 := this
        omega
    have hnf : ((ctlStep (s.core.fpc, .compiled) .warmupStep).1 == .inWarmup && s.wByFreeze) = false := by
      cases s.core.fpc <;> rfl
    rw [hw] at wu hc
    obtain ⟨c1, c2, c3, c4⟩ := lemma_wakeW_counts { s with core := s.core.step .warmupStep }
    have hsi := lemma_wakeW_get { s with core := s.core.step .warmupStep } i _ hs (by decide)
    have hO' : Own (setStatus (wakeW { s with core := s.core.step .warmupStep }) i .finished) := by
      refine lemma_own_of _ _ hc ⟨?_, ?_⟩
      · rw [lemma_frun_warmupStep]
        exact lemma_once_keep hsi .inFreeze .blockedF 0 .finished (by decide) (by decide) (by decide) (by decide)
          (by rw [c1, c3]; exact fz)
      · refine lemma_once_leave hsi .inWarmup .blockedW _ .finished rfl (by decide) (by decide) (by decide) c4 ?_
        rw [c2]
        exact (congrArg (fun b => s.status.count .inWarmup + b.toNat) (hnf.trans hn0.symm)).trans wu.1
    exact ⟨⟨hI', lemma_pos_set (lemma_pos_wakeW (lemma_pos_core hP _ _ (lemma_done_stable _ _))) hk
        .finished rfl, hO'⟩,
      lemma_quiet s _ hI' (lemma_mon_body _ .warmupStep rfl nofun) k i⟩
  | leaveF hf =>
    -- the body returns: everybody blocked on `freezeOnce` goes on
    have hc := lemma_ctl_step s.core .freezeFinish
    have hI' := lemma_inv_step _ .freezeFinish hI
    rw [hf] at fz wu hc
    have hd : (s.core.step .freezeFinish).fpc = .done := congrArg Prod.fst hc
    obtain ⟨c1, c2, c3, c4⟩ := lemma_wakeF_counts kinds { s with core := s.core.step .freezeFinish } hP.1
    have hsi := lemma_wakeF_get kinds { s with core := s.core.step .freezeFinish } i _ hs (by decide) hP.1
    obtain ⟨n1, n2, n3, n4⟩ := lemma_neutral _ (lemma_afterFreeze_neutral k)
    have hO' : Own (setStatus (wakeF kinds { s with core := s.core.step .freezeFinish }) i (afterFreeze k)) :=
      lemma_own_of _ _ hc
        ⟨lemma_once_leave hsi .inFreeze .blockedF 0 _ rfl n1 n3 (by decide) c4 (by rw [c1]; exact fz.1),
          lemma_once_keep hsi .inWarmup .blockedW _ _ (by decide) (by decide) n2 n4 (by rw [c2, c3]; exact wu)⟩
    exact ⟨⟨hI', lemma_pos_set (lemma_pos_wakeF (lemma_pos_core hP _ _ (lemma_done_stable _ _)) hd) hk _
        (by rw [lemma_wakeF_core, hd]; exact lemma_fits_afterFreeze k), hO'⟩,
      lemma_quiet s _ hI' (lemma_mon_body _ .freezeFinish rfl nofun) k i⟩

/-- `ServeHTTP` returns for a request whose context was done on arrival: the request was parked at `serve.frozen` -/
theorem lemma_out_gone (kinds : List Kind) (s : St) (i : Nat) (k : Kind) (st : Status)
    (h : (stepActor kinds s i k st).2 = .gone) : st = .atFrozen := by
  have hM := lemma_move kinds s i k st
  generalize stepActor kinds s i k st = p at hM h
  cases hM with
  | report _ _ _ hr =>
    cases hr
    case answer => rfl
    all_goals cases h
  | _ => cases h

/-! ### progress -/

def Effective (kinds : List Kind) (s : St) (i : Nat) : Prop := (step kinds s i).1 ≠ s

theorem lemma_drain_ctl (c : Core) : (drain c).fpc = c.fpc ∧ (drain c).wpc = .drained := ⟨rfl, rfl⟩

theorem lemma_step_eq (kinds : List Kind) (s : St) (i : Nat) (k : Kind) (st : Status)
    (hk : kinds[i]? = some k) (hs : s.status[i]? = some st) : step kinds s i = stepActor kinds s i k st := by
  simp [step, hk, hs]

theorem lemma_status_differs (s s' : St) (i : Nat) (a b : Status) (h : s.status[i]? = some a)
    (h' : s'.status[i]? = some b) (hab : b ≠ a) : s' ≠ s := by
  intro e
  rw [e, h] at h'
  exact hab (Option.some.inj h').symm

theorem lemma_wpc_differs (s s' : St) (h : s'.core.wpc ≠ s.core.wpc) : s' ≠ s := fun e => h (by rw [e])
theorem lemma_fpc_differs (s s' : St) (h : s'.core.fpc ≠ s.core.fpc) : s' ≠ s := fun e => h (by rw [e])

theorem lemma_ws_changes (c : Core) (h : wrun c.wpc = true) : (c.step .warmupStep).wpc ≠ c.wpc := by
  rw [lemma_step_wpc]
  revert h
  cases c.wpc <;> simp [wrun, ctlStep]

theorem lemma_move_eff (kinds : List Kind) (s : St) (p : St × Out) (i : Nat) (k : Kind) (st : Status)
    (hG : Good kinds s) (hs : s.status[i]? = some st) (hk : kinds[i]? = some k) (hM : Move kinds s i k st p) :
    p.1 ≠ s ∨ st = .blockedF ∨ st = .blockedW ∨ st = .finished ∨
      (st = .inFreeze ∧ wrun s.core.wpc = true ∧ nested s = false) := by
  have hset : ∀ (s0 : St) (st' : Status), s0.status = s.status → st' ≠ st → setStatus s0 i st' ≠ s := fun s0 st' e hne =>
    lemma_status_differs s _ i _ _ hs (lemma_setStatus_self s0 i st' (e ▸ hs)) hne
  cases hM with
  | stay _ h =>
    have hfit := lemma_fits_mono _ true st k (hG.pos.2 i st k hs hk) (fun _ => rfl)
    simp only [stuck, hfit, Bool.not_true, Bool.or_false, Bool.or_eq_true, beq_iff_eq] at h
    rcases h with (h | h) | h
    · exact Or.inr (Or.inl h)
    · exact Or.inr (Or.inr (Or.inl h))
    · exact Or.inr (Or.inr (Or.inr (Or.inl h)))
  | wait h =>
    have hfr : frun s.core.fpc = true := lemma_once_running hG.own.fz ((lemma_count_pos _ _).2 ⟨i, hs⟩)
    rcases h with h | ⟨hf, hb⟩
    · rw [hfr] at h; cases h
    · obtain ⟨h1, h2⟩ := hG.inv.in_warmup hf
      refine Or.inr (Or.inr (Or.inr (Or.inr ⟨rfl, ?_, by rw [nested, hb, Bool.and_false]⟩)))
      revert h1 h2
      cases s.core.wpc <;> simp [wrun]
  | park _ st' _ _ hne => exact Or.inl (hset s st' rfl hne)
  | report _ c' _ h => exact Or.inl (hset _ _ rfl (by cases h <;> decide))
  | enterF _ hn => exact Or.inl (hset _ _ rfl (lemma_neutral st hn).1.symm)
  | blockF _ hn => exact Or.inl (hset _ _ rfl (lemma_neutral st hn).2.2.1.symm)
  | enterW => exact Or.inl (hset _ _ rfl (by decide))
  | blockW => exact Or.inl (hset _ _ rfl (by decide))
  | callW hf =>
    refine Or.inl (lemma_fpc_differs s _ ?_)
    show (s.core.step .freezeCallWarmup).fpc ≠ s.core.fpc
    rw [lemma_step_fpc, hf]
    cases s.core.wpc <;> decide
  | stepW _ h hw =>
    refine Or.inl (lemma_wpc_differs s _ (lemma_ws_changes s.core ?_))
    rcases h with rfl | ⟨rfl, hf, _⟩
    · exact lemma_once_running hG.own.wu (Nat.lt_of_lt_of_le ((lemma_count_pos _ _).2 ⟨i, hs⟩) (Nat.le_add_right _ _))
    · obtain ⟨h1, h2⟩ := hG.inv.in_warmup hf
      revert h1 h2
      cases s.core.wpc <;> simp [wrun]
  | leaveWn _ _ hw => exact Or.inl (lemma_wpc_differs s _ (lemma_ws_changes s.core (by rw [hw]; rfl)))
  | leaveW hw => exact Or.inl (lemma_wpc_differs s _ (lemma_ws_changes s.core (by rw [hw]; rfl)))
  | leaveF hf =>
    refine Or.inl (lemma_fpc_differs s _ ?_)
    show (s.core.step .freezeFinish).fpc ≠ s.core.fpc
    rw [lemma_step_fpc, hf]
    show FPc.done ≠ FPc.tail
    decide

theorem lemma_eff (kinds : List Kind) (s : St) (i : Nat) (st : Status) (hG : Good kinds s)
    (hs : s.status[i]? = some st) :
    Effective kinds s i ∨ st = .blockedF ∨ st = .blockedW ∨ st = .finished ∨
      (st = .inFreeze ∧ wrun s.core.wpc = true ∧ nested s = false) := by
  have hi : i < kinds.length := hG.pos.1 ▸ List.lt_of_getElem? hs
  have hk : kinds[i]? = some kinds[i] := by simp [hi]
  rw [Effective, lemma_step_eq kinds s i _ st hk hs]
  exact lemma_move_eff kinds s _ i _ st hG hs hk (lemma_move kinds s i _ st)

theorem lemma_progress (kinds : List Kind) (s : St) (hG : Good kinds s)
    (h : ∃ (i : Nat) (st : Status), s.status[i]? = some st ∧ st ≠ .finished) : ∃ i, Effective kinds s i := by
  obtain ⟨i, st, hs, hne⟩ := h
  have fz := hG.own.fz
  have wu := hG.own.wu
  -- every case ends at an owner: the explicit `Warmup()` owner can go on; the owner of the freeze body can, or waits
  -- for it
  have hW : (∃ j : Nat, s.status[j]? = some Status.inWarmup) → ∃ i, Effective kinds s i := by
    rintro ⟨j, hj⟩
    rcases lemma_eff kinds s j _ hG hj with h | h | h | h | h
    · exact ⟨j, h⟩
    all_goals cases h
    rename_i h _; cases h
  have hF : (∃ j : Nat, s.status[j]? = some Status.inFreeze) → ∃ i, Effective kinds s i := by
    rintro ⟨j, hj⟩
    rcases lemma_eff kinds s j _ hG hj with h | h | h | h | ⟨_, hwr, hn⟩
    · exact ⟨j, h⟩
    · cases h
    · cases h
    · cases h
    · -- `warmupOnce` runs, and not in this goroutine: an explicit `Warmup()` owns it
      have ho := lemma_once_owner wu hwr
      rw [hn] at ho
      exact hW ((lemma_count_pos _ _).1 ho)
  cases st with
  | inWarmup => exact hW ⟨i, hs⟩
  | inFreeze => exact hF ⟨i, hs⟩
  | blockedF => exact hF ((lemma_count_pos _ _).1 (lemma_once_owner fz (fz.2 ((lemma_count_pos _ _).2 ⟨i, hs⟩))))
  | blockedW =>
    have ho := lemma_once_owner wu (wu.2 ((lemma_count_pos _ _).2 ⟨i, hs⟩))
    cases hn : nested s with
    | false =>
      rw [hn] at ho
      exact hW ((lemma_count_pos _ _).1 ho)
    | true =>
      -- the freeze owner runs `doWarmup` itself
      have hfpc : s.core.fpc = .inWarmup := by
        simp only [nested, Bool.and_eq_true, beq_iff_eq] at hn; exact hn.1
      exact hF ((lemma_count_pos _ _).1 (lemma_once_owner fz (by rw [hfpc]; rfl)))
  | _ =>
    rcases lemma_eff kinds s i _ hG hs with h | h | h | h | h
    · exact ⟨i, h⟩
    · cases h
    · cases h
    · first | exact absurd h hne | cases h
    · cases h.1

/-! ### every schedule -/

theorem lemma_good_init (kinds : List Kind) : Good kinds (St.init kinds.length) := by
  have h : ∀ x : Status, x ≠ .start → (List.replicate kinds.length Status.start).count x = 0 := by
    intro x hx
    rw [List.count_eq_zero]
    intro hm
    exact hx (List.eq_of_mem_replicate hm)
  refine ⟨lemma_inv_init, ⟨by simp [St.init], fun j x k hj _ => ?_⟩, ?_⟩
  · cases List.eq_of_mem_replicate (List.mem_of_getElem? hj)
    rfl
  · exact ⟨⟨h _ (by decide), fun hx => by rw [St.init, h _ (by decide)] at hx; cases hx⟩,
      ⟨by rw [St.init, h _ (by decide)]; rfl, fun hx => by rw [St.init, h _ (by decide)] at hx; cases hx⟩⟩

theorem lemma_run_good (kinds : List Kind) (sched : List Nat) (s : St) (hG : Good kinds s)
    (hv : ∀ i ∈ sched, i < kinds.length) :
    Spec.monitor kinds (monOf s.core) (runFrom kinds s sched).2 = some (monOf (runFrom kinds s sched).1.core) ∧
      Good kinds (runFrom kinds s sched).1 := by
  induction sched generalizing s with
  | nil => exact ⟨rfl, hG⟩
  | cons i rest ih =>
    have hi : i < kinds.length := hv i (by simp)
    have hk : kinds[i]? = some kinds[i] := by simp [hi]
    obtain ⟨st, hst⟩ : ∃ st, s.status[i]? = some st := ⟨s.status[i]'(hG.pos.1 ▸ hi), by simp [hG.pos.1, hi]⟩
    have hstep : step kinds s i = stepActor kinds s i kinds[i] st := lemma_step_eq kinds s i _ st hk hst
    obtain ⟨hG1, hm1⟩ := lemma_good_move kinds s _ i _ st hG hst hk (lemma_move kinds s i _ st)
    obtain ⟨hm2, hG2⟩ := ih (stepActor kinds s i kinds[i] st).1 hG1 (fun j hj => hv j (by simp [hj]))
    simp only [runFrom, hstep, Spec.monitor, hk, hm1]
    exact ⟨hm2, hG2⟩

theorem lemma_good_rel {kinds : List Kind} {s : St} (hG : Good kinds s) : Rel s (monOf s.core) :=
  ⟨hG.inv, rfl, rfl, rfl, rfl, lemma_pos_frozenPt hG.pos⟩

end Rivaas.Phases
