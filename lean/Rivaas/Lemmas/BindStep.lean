import Rivaas.Model.BindAll
/-
C04: one iteration of bindFieldsWithDepth on a field that is not a nested struct (a map, a slice, a scalar) does the same
in the plain and in the collecting loop, whatever the treatment of nested structs and the depth: `leafAction` is that step,
`fieldAction` and `fieldActionAll` package its error under the field's name, each in its own way. These and the equations
for a struct field are what the other files know of the two steps (and that neither reads the index path:
`lemma_action_pj`, `lemma_actionAll_index`).
-/
namespace Rivaas.Bind

variable (P : Params) (cfg : Cfg)

/-- the value a resolved field that is not a struct receives, or the error of the field -/
def leafAction (g : Getter) (f : FieldInfo) (cur : Val) : Except Err Val :=
  if isMapTy f.ty then setMap P cfg f.ty cur g f.tagName
  else
    let (key, value, has) := lookupField g f
    match (if has then none else f.typedDefault) with
    | some d => .ok d
    | none =>
      if isSliceTy f.ty then setSlice P cfg f.ty cur (g.getAll key)
      else match setField P cfg f.ty cur (if has then value else f.dflt) with
        | none => .error .conv
        | some nv => .ok nv

def underName (name : Bytes) : Except Err Val → Val ⊕ Stop
  | .error e => .inr (.err (.bind name e))
  | .ok nv => .inl nv

def underNameAll (name : Bytes) : Except Err Val → StepAll
  | .error e => .skip [.bind name e]
  | .ok nv => .store nv []

theorem fieldAction_leaf (nest : Nest) (g : Getter) (d : Nat) (f : FieldInfo) (cur : Val) (hs : isStructTy f.ty = false) :
    fieldAction P cfg nest g d f cur = underName f.name (leafAction P cfg g f cur) := by
  unfold fieldAction leafAction
  by_cases hm : isMapTy f.ty = true
  · rw [if_pos hm, if_pos hm]
    cases setMap P cfg f.ty cur g f.tagName <;> rfl
  · rw [if_neg hm, if_neg hm, if_neg (by rw [hs]; exact Bool.false_ne_true)]
    dsimp only
    generalize (if (lookupField g f).2.2 = true then none else f.typedDefault) = td
    cases td with
    | some d => rfl
    | none =>
      dsimp only
      by_cases hsl : isSliceTy f.ty = true
      · rw [if_pos hsl, if_pos hsl]
        cases setSlice P cfg f.ty cur (g.getAll (lookupField g f).1) <;> rfl
      · rw [if_neg hsl, if_neg hsl]
        cases setField P cfg f.ty cur (if (lookupField g f).2.2 = true then (lookupField g f).2.1 else f.dflt) <;> rfl

theorem fieldActionAll_leaf (nest : NestAll) (g : Getter) (d : Nat) (f : FieldInfo) (cur : Val)
    (hs : isStructTy f.ty = false) :
    fieldActionAll P cfg nest g d f cur = underNameAll f.name (leafAction P cfg g f cur) := by
  unfold fieldActionAll leafAction
  by_cases hm : isMapTy f.ty = true
  · rw [if_pos hm, if_pos hm]
    cases setMap P cfg f.ty cur g f.tagName <;> rfl
  · rw [if_neg hm, if_neg hm, if_neg (by rw [hs]; exact Bool.false_ne_true)]
    dsimp only
    generalize (if (lookupField g f).2.2 = true then none else f.typedDefault) = td
    cases td with
    | some d => rfl
    | none =>
      dsimp only
      by_cases hsl : isSliceTy f.ty = true
      · rw [if_pos hsl, if_pos hsl]
        cases setSlice P cfg f.ty cur (g.getAll (lookupField g f).1) <;> rfl
      · rw [if_neg hsl, if_neg hsl]
        cases setField P cfg f.ty cur (if (lookupField g f).2.2 = true then (lookupField g f).2.1 else f.dflt) <;> rfl

/-! ### … and on a struct field (`setNestedStructWithDepth`) it is the depth test, then the bind one level down -/

theorem lemma_map_not_struct (t : Ty) (h : isMapTy t = true) : isStructTy t = false := by
  cases t with
  | map e => rfl
  | ptr e => cases e <;> first | rfl | cases h
  | _ => cases h

def nestedOut (name : Bytes) (ty : Ty) : Outcome → Val ⊕ Stop
  | .ok nv => .inl (rewrap ty nv)
  | .err e => .inr (.err (.bind name e))
  | .panic => .inr .panic

def nestedOutAll (name : Bytes) (ty : Ty) : OutAll → StepAll
  | .done nv es => .store (rewrap ty nv) (es.map (.bind name))
  | .panic => .panic

theorem fieldAction_struct (nest : Nest) (g : Getter) (d : Nat) (f : FieldInfo) (cur : Val) (hs : isStructTy f.ty = true) :
    fieldAction P cfg nest g d f cur =
      if cfg.maxDepth < d + 1 then .inr (.err (.bind f.name .depth))
      else nestedOut f.name f.ty (nest (structTyOf f.ty) (innerOf (structTyOf f.ty) cur) (g.push f.tagName) (d + 1)) := by
  have hm : ¬ isMapTy f.ty = true := fun hm => by rw [lemma_map_not_struct f.ty hm] at hs; cases hs
  unfold fieldAction
  rw [if_neg hm, if_pos hs]
  split
  · rfl
  · dsimp only
    cases nest (structTyOf f.ty) (innerOf (structTyOf f.ty) cur) (g.push f.tagName) (d + 1) <;> rfl

theorem fieldActionAll_struct (nest : NestAll) (g : Getter) (d : Nat) (f : FieldInfo) (cur : Val)
    (hs : isStructTy f.ty = true) :
    fieldActionAll P cfg nest g d f cur =
      if cfg.maxDepth < d + 1 then .skip [.bind f.name .depth]
      else nestedOutAll f.name f.ty (nest (structTyOf f.ty) (innerOf (structTyOf f.ty) cur) (g.push f.tagName) (d + 1)) := by
  have hm : ¬ isMapTy f.ty = true := fun hm => by rw [lemma_map_not_struct f.ty hm] at hs; cases hs
  unfold fieldActionAll
  rw [if_neg hm, if_pos hs]
  split
  · rfl
  · dsimp only
    cases nest (structTyOf f.ty) (innerOf (structTyOf f.ty) cur) (g.push f.tagName) (d + 1) <;> rfl

end Rivaas.Bind
