import Rivaas.Lemmas.ComposeSound
/-
Soundness of the composition model, `Mount` included (the code after the K02b fix: a mount reads the
`route.Route` objects of the sub-router, warmed up or not): `Rivaas.Compose.compose_admitted_mount`. The router
invariant `RInvM` speaks of the records any op (declaration or mount) hands to a router; `bridge_wf` says every such
record is an instance the oracle knows, hence `served_admitted`: whatever is served under a path is admitted by a
target with that path, and the path names the target (`levels_path_inj`); `presence` says every instance of the oracle
is handed over, hence served (`admitted_of_handed`, which `C02.compose_admitted_mountfree` uses with the record of the
declaring op itself).
-/
namespace Rivaas.Compose

/-! ### what `Mount` hands to the parent -/

def mountRecs (w : World) (p s seg : Nat) (inh : Bool) (extra : List Hid) : List RouteRec :=
  match w.routers[p]?, w.routers[s]? with
  | some pr, some sr =>
    let f := fun (rt : RouteRec) =>
      ({ ver := none, path := seg :: rt.path, hs := ((if inh then pr.mw else []) ++ sr.mw ++ extra) ++ rt.hs } : RouteRec)
    sr.objs.map f
  | _, _ => []

theorem mem_mountRecs {w : World} {p s seg : Nat} {inh : Bool} {extra : List Hid} {rec : RouteRec} :
    rec ∈ mountRecs w p s seg inh extra ↔ ∃ pr sr recS, w.routers[p]? = some pr ∧ w.routers[s]? = some sr ∧
      recS ∈ sr.objs ∧
      rec = { ver := none, path := seg :: recS.path, hs := ((if inh then pr.mw else []) ++ sr.mw ++ extra) ++ recS.hs } := by
  unfold mountRecs
  cases w.routers[p]? with
  | none => simp
  | some pr =>
    cases w.routers[s]? with
    | none => simp
    | some sr =>
      simp only [List.mem_map]
      constructor
      · rintro ⟨recS, h1, rfl⟩; exact ⟨pr, sr, recS, rfl, rfl, h1, rfl⟩
      · rintro ⟨_, _, recS, h1, h2, h3, rfl⟩; cases h1; cases h2; exact ⟨recS, h3, rfl⟩

theorem mountOp_eq (w : World) (p s seg : Nat) (inh : Bool) (extra : List Hid) :
    mountOp w p s seg inh extra = (mountRecs w p s seg inh extra).foldl (fun w rt => w.addRouteOn p rt) w := by
  unfold mountOp mountRecs
  cases w.routers[p]? with
  | none => rfl
  | some pr =>
    cases w.routers[s]? with
    | none => rfl
    | some sr => simp only [List.foldl_map]

def handed (w : World) (op : Op) : List (Nat × RouteRec) :=
  match op with
  | .mount p s seg inh extra => (mountRecs w p s seg inh extra).map fun rt => (p, rt)
  | _ => (routeRecOf w op).toList

def Handed (script : List Op) (i r : Nat) (rec : RouteRec) : Prop :=
  ∃ op, script[i]? = some op ∧ (r, rec) ∈ handed (W script i) op

theorem mem_handed {w : World} {op : Op} {r : Nat} {rec : RouteRec} : (r, rec) ∈ handed w op ↔
    routeRecOf w op = some (r, rec) ∨
    ∃ s seg inh extra, op = .mount r s seg inh extra ∧ rec ∈ mountRecs w r s seg inh extra := by
  unfold handed
  split
  · rename_i p s seg inh extra
    simp only [List.mem_map, Prod.mk.injEq, routeRecOf, reduceCtorEq, false_or, Op.mount.injEq]
    constructor
    · rintro ⟨rt, h, rfl, rfl⟩; exact ⟨s, seg, inh, extra, ⟨rfl, rfl, rfl, rfl, rfl⟩, h⟩
    · rintro ⟨_, _, _, _, ⟨rfl, rfl, rfl, rfl, rfl⟩, h⟩; exact ⟨rec, h, rfl, rfl⟩
  · rename_i hne
    exact ⟨fun h => .inl (Option.mem_toList.mp h),
      fun h => h.elim Option.mem_toList.mpr fun ⟨_, _, _, _, h, _⟩ => (hne _ _ _ _ _ h).elim⟩

theorem foldl_addRoute_fields (recs : List RouteRec) (rs : RouterSt) :
    (recs.foldl addRoute rs).mw = rs.mw ∧ (recs.foldl addRoute rs).warmed = rs.warmed ∧
    (recs.foldl addRoute rs).objs = rs.objs ++ recs ∧
    (recs.foldl addRoute rs).pending = (if rs.warmed then rs.pending else rs.pending ++ recs) ∧
    (recs.foldl addRoute rs).tree =
      (if rs.warmed then rs.tree ++ recs.map fun rt => { rt with hs := rs.mw ++ rt.hs } else rs.tree) := by
  induction recs generalizing rs with
  | nil => cases hw : rs.warmed <;> simp [hw]
  | cons a l ih =>
    obtain ⟨h1, h2, h3, h4, h5⟩ := ih (addRoute rs a)
    rw [List.foldl_cons, h1, h2, h3, h4, h5]
    unfold addRoute
    cases hw : rs.warmed <;> simp [register]

/-! ### the router invariant, with records handed over by any op -/

/-- Router `r` at time `t`, described from the script. `treg` is the moment `RegisterRoute` ran for a tree node: the
    hand-over itself on a warmed-up router, else the later `Warmup`, and every `Where…` on a registered route adds a node
    with its own moment; the model keeps no record of it, so it is only bounded. `pres` and `opres` ask that the router
    existed at the hand-over: `addRouteOn` on an index that is not there drops the record. -/
structure RInvM (script : List Op) (t r : Nat) (rs : RouterSt) : Prop where
  mw : rs.mw = usesB script (selUse r) t
  pend : ∀ rec ∈ rs.pending, ∃ i, i < t ∧ Handed script i r rec
  tree : ∀ rec ∈ rs.tree, ∃ i rec0 treg, i < t ∧ i ≤ treg ∧ treg ≤ t ∧ Handed script i r rec0 ∧
    rec = regRec script r treg rec0
  pres : ∀ i rec0, i < t → Handed script i r rec0 → r < (W script i).routers.length →
    rec0 ∈ rs.pending ∨ ∃ treg, i ≤ treg ∧ treg ≤ t ∧ regRec script r treg rec0 ∈ rs.tree
  warmed : rs.warmed = true → rs.pending = []
  cold : rs.warmed = false → rs.tree = []
  objs : ∀ rec ∈ rs.objs, ∃ i, i < t ∧ Handed script i r rec
  /-- every record ever handed to the router is one of its route objects (what `Mount` reads) -/
  opres : ∀ i rec0, i < t → Handed script i r rec0 → r < (W script i).routers.length → rec0 ∈ rs.objs

theorem warmup_eq {script : List Op} {t r : Nat} {rs : RouterSt} (h : RInvM script t r rs) :
    warmup rs = { rs with warmed := true, pending := [], tree := rs.tree ++ rs.pending.map (regRec script r t) } := by
  unfold warmup
  cases hw : rs.warmed with
  | true =>
    have hp := h.warmed hw
    obtain ⟨mw, pending, warmed, tree, hasInfo, objs⟩ := rs
    subst hw hp
    simp
  | false =>
    rw [if_neg Bool.false_ne_true, foldl_register]
    simp only [h.mw]
    rfl

theorem warmup_tree {script : List Op} {t r : Nat} {rs : RouterSt} (h : RInvM script t r rs) :
    (warmup rs).tree = rs.tree ++ rs.pending.map (regRec script r t) :=
  congrArg (·.tree) (warmup_eq h)

section
variable (script : List Op) (t : Nat) (htl : t < script.length)
include htl

theorem handed_at (r : Nat) (rec : RouteRec) :
    Handed script t r rec ↔ (r, rec) ∈ handed (W script t) script[t] := by
  unfold Handed
  rw [List.getElem?_eq_getElem htl]
  constructor
  · rintro ⟨op, h1, h2⟩; cases h1; exact h2
  · intro h; exact ⟨_, rfl, h⟩

theorem rinvM_step (r : Nat) (rs rs' : RouterSt) (h : RInvM script t r rs) (recs reg : List RouteRec)
    (hrecs : ∀ rec, Handed script t r rec ↔ rec ∈ recs)
    (hmw : rs'.mw = rs.mw ++ (selUse r script[t]).getD []) (hobjs : rs'.objs = rs.objs ++ recs)
    (htree : rs'.tree = rs.tree ++ reg.map (regRec script r t))
    (hreg : ∀ rec ∈ reg, ∃ i, i < t + 1 ∧ Handed script i r rec)
    (hp1 : ∀ rec ∈ rs'.pending, rec ∈ rs.pending ++ recs)
    (hp2 : ∀ rec ∈ rs.pending ++ recs, rec ∈ rs'.pending ∨ rec ∈ reg)
    (hw : rs'.warmed = true → rs'.pending = []) (hc : rs'.warmed = false → rs'.tree = []) :
    RInvM script (t + 1) r rs' := by
  have hadd : ∀ l : List RouteRec, (∀ rec ∈ l, ∃ i, i < t ∧ Handed script i r rec) →
      ∀ rec ∈ l ++ recs, ∃ i, i < t + 1 ∧ Handed script i r rec := by
    intro l hl rec hr
    rcases List.mem_append.mp hr with hr | hr
    · obtain ⟨i, a, b⟩ := hl rec hr
      exact ⟨i, by omega, b⟩
    · exact ⟨t, by omega, (hrecs rec).mpr hr⟩
  refine ⟨by rw [hmw, h.mw, usesB_succ _ _ _ htl], fun rec hr => hadd _ h.pend rec (hp1 rec hr), ?_, ?_, hw, hc,
    fun rec hr => hadd _ h.objs rec (hobjs ▸ hr), ?_⟩
  · intro rec hr
    rcases List.mem_append.mp (htree ▸ hr) with hr | hr
    · obtain ⟨i, rec0, treg, a, b, c, d, e⟩ := h.tree rec hr
      exact ⟨i, rec0, treg, by omega, b, by omega, d, e⟩
    · obtain ⟨rt, hrt, rfl⟩ := List.mem_map.mp hr
      obtain ⟨i, a, b⟩ := hreg rt hrt
      exact ⟨i, rt, t, a, by omega, by omega, b, rfl⟩
  · intro i rec0 a b c
    rw [htree]
    have : rec0 ∈ rs.pending ++ recs ∨ ∃ treg, i ≤ treg ∧ treg ≤ t ∧ regRec script r treg rec0 ∈ rs.tree := by
      rcases Nat.lt_succ_iff_lt_or_eq.mp a with hlt | rfl
      · exact (h.pres i rec0 hlt b c).imp_left (List.mem_append_left _)
      · exact .inl (List.mem_append_right _ ((hrecs rec0).mp b))
    rcases this with hp | ⟨treg, x, y, z⟩
    · rcases hp2 rec0 hp with hp | hp
      · exact .inl hp
      · exact .inr ⟨t, by omega, by omega, List.mem_append_right _ (List.mem_map_of_mem hp)⟩
    · exact .inr ⟨treg, x, by omega, List.mem_append_left _ z⟩
  · intro i rec0 a b c
    rw [hobjs]
    rcases Nat.lt_succ_iff_lt_or_eq.mp a with hlt | rfl
    · exact List.mem_append_left _ (h.opres i rec0 hlt b c)
    · exact List.mem_append_right _ ((hrecs rec0).mp b)

theorem rinvM_keep (r : Nat) (rs rs' : RouterSt) (h : RInvM script t r rs) (hnone : ∀ rec, Handed script t r rec ↔ rec ∈ [])
    (h1 : rs'.mw = rs.mw ++ (selUse r script[t]).getD []) (h2 : rs'.pending = rs.pending) (h3 : rs'.tree = rs.tree)
    (h4 : rs'.warmed = rs.warmed) (h5 : rs'.objs = rs.objs) : RInvM script (t + 1) r rs' := by
  apply rinvM_step script t htl r rs rs' h [] [] hnone h1
  · rw [h5, List.append_nil]
  · rw [h3]; exact (List.append_nil _).symm
  · nofun
  · rw [h2, List.append_nil]; exact fun _ => id
  · rw [h2, List.append_nil]; exact fun _ => .inl
  · rw [h4, h2]; exact h.warmed
  · rw [h4, h3]; exact h.cold

theorem rinvM_same (r : Nat) (rs : RouterSt) (h : RInvM script t r rs)
    (hsel : selUse r script[t] = none) (hnone : ∀ rec, Handed script t r rec ↔ rec ∈ []) : RInvM script (t + 1) r rs :=
  rinvM_keep script t htl r rs rs h hnone (by rw [hsel]; exact (List.append_nil _).symm) rfl rfl rfl rfl

theorem rinvM_warm (r : Nat) (rs : RouterSt) (h : RInvM script t r rs)
    (hsel : selUse r script[t] = none) (hnone : ∀ rec, Handed script t r rec ↔ rec ∈ []) :
    RInvM script (t + 1) r (warmup rs) := by
  rw [warmup_eq h]
  apply rinvM_step script t htl r rs _ h [] rs.pending hnone
  · rw [hsel]; exact (List.append_nil _).symm
  · exact (List.append_nil _).symm
  · rfl
  · intro rec hr
    obtain ⟨i, a, b⟩ := h.pend rec hr
    exact ⟨i, by omega, b⟩
  · nofun
  · rw [List.append_nil]; exact fun _ => .inr
  · exact fun _ => rfl
  · nofun

theorem rinvM_add (r : Nat) (rs : RouterSt) (h : RInvM script t r rs) (recs : List RouteRec)
    (hsel : selUse r script[t] = none) (hrecs : ∀ rec, Handed script t r rec ↔ rec ∈ recs) :
    RInvM script (t + 1) r (recs.foldl addRoute rs) := by
  obtain ⟨f1, f2, f3, f4, f5⟩ := foldl_addRoute_fields recs rs
  have hmw : (recs.foldl addRoute rs).mw = rs.mw ++ (selUse r script[t]).getD [] := by
    rw [f1, hsel]; exact (List.append_nil _).symm
  cases hw : rs.warmed with
  | true =>
    rw [hw, if_pos rfl] at f4 f5
    apply rinvM_step script t htl r rs _ h recs recs hrecs hmw f3
    · rw [f5, h.mw]; rfl
    · exact fun rec hr => ⟨t, by omega, (hrecs rec).mpr hr⟩
    · rw [f4]; exact fun _ => List.mem_append_left _
    · rw [h.warmed hw]; exact fun _ => .inr
    · rw [f4]; exact fun _ => h.warmed hw
    · rw [f2, hw]; nofun
  | false =>
    rw [hw, if_neg Bool.false_ne_true] at f4 f5
    apply rinvM_step script t htl r rs _ h recs [] hrecs hmw f3
    · rw [f5, h.cold hw]; rfl
    · nofun
    · rw [f4]; exact fun _ => id
    · rw [f4]; exact fun _ => .inl
    · rw [f2, hw]; nofun
    · rw [f5]; exact fun _ => h.cold hw

/-- `rt.Where…` on a route of this router: a route object that is in the tree is registered again -/
theorem rinvM_rereg (r : Nat) (rs : RouterSt) (h : RInvM script t r rs) (ver : Option Nat) (path : Path)
    (hsel : selUse r script[t] = none) (hnone : ∀ rec, Handed script t r rec ↔ rec ∈ []) :
    RInvM script (t + 1) r (reRegister ver path rs) := by
  have hk := rinvM_same script t htl r rs h hsel hnone
  unfold reRegister
  cases hf : rs.objs.find? (fun o => o.ver == ver && o.path == path) with
  | none => exact hk
  | some o =>
    simp only []
    by_cases ha : rs.tree.any (fun rt => rt.ver == ver && rt.path == path) = true
    · rw [if_pos ha]
      have hwarm : rs.warmed = true := by
        cases hw : rs.warmed with
        | true => rfl
        | false => rw [h.cold hw] at ha; cases ha
      apply rinvM_step script t htl r rs _ h [] [o] hnone
      · rw [hsel]; exact (List.append_nil _).symm
      · exact (List.append_nil _).symm
      · simp [register, regRec, h.mw]
      · intro rec hr
        cases List.mem_singleton.mp hr
        obtain ⟨i, a, b⟩ := h.objs o (List.mem_of_find?_eq_some hf)
        exact ⟨i, by omega, b⟩
      · exact fun _ => List.mem_append_left _
      · rw [List.append_nil]; exact fun _ => .inl
      · exact h.warmed
      · exact fun hx => Bool.noConfusion (hwarm.symm.trans hx)
    · rw [if_neg ha]
      exact hk

end

/-! ### one step on the routers, `Mount` included -/

inductive RMod (op : Op) (r : Nat) : List RouteRec → (RouterSt → RouterSt) → Prop
  | use (hs : List Hid) : selUse r op = some hs → RMod op r [] fun x => { x with mw := x.mw ++ hs }
  | warm : op = .warmup r → RMod op r [] warmup
  | rereg (ver : Option Nat) (path : Path) : op = .whereOp r ver path → RMod op r [] (reRegister ver path)
  | hand (recs : List RouteRec) : selUse r op = none → RMod op r recs fun x => recs.foldl addRoute x

inductive RStepM (w : World) (op : Op) (rs' : List RouterSt) : Prop
  | new : op = .newRouter → rs' = w.routers ++ [({} : RouterSt)] → RStepM w op rs'
  | mod (r : Nat) (recs : List RouteRec) (f : RouterSt → RouterSt) : RMod op r recs f →
      handed w op = recs.map (fun rt => (r, rt)) → isNewRouter op = false → (∀ r', r' ≠ r → selUse r' op = none) →
      rs' = modifyAt w.routers r f → RStepM w op rs'

theorem rstepM (w : World) (op : Op) : RStepM w op (apply w op).routers := by
  have hand : ∀ (p : Nat) (recs : List RouteRec) rs', handed w op = recs.map (fun rt => (p, rt)) → (∀ r', selUse r' op = none) →
      isNewRouter op = false → rs' = modifyAt w.routers p (fun x => recs.foldl addRoute x) → RStepM w op rs' :=
    fun p recs rs' h1 h2 h3 h4 => .mod p recs _ (.hand recs (h2 p)) h1 h3 (fun r' _ => h2 r') h4
  cases op with
  | newRouter => exact .new rfl rfl
  | use r hs => exact .mod r [] _ (.use hs (if_pos rfl)) rfl rfl (fun r' hr' => if_neg (Ne.symm hr')) rfl
  | ause hs => exact .mod 0 [] _ (.use hs rfl) rfl rfl (fun r' hr' => if_neg hr') rfl
  | warmup r => exact .mod r [] _ (.warm rfl) rfl rfl (fun _ _ => rfl) rfl
  | whereOp r v p => exact .mod r [] _ (.rereg v p rfl) rfl rfl (fun _ _ => rfl) rfl
  | mount p s seg inh extra =>
    refine hand p (mountRecs w p s seg inh extra) _ rfl (fun _ => rfl) rfl ?_
    show (mountOp w p s seg inh extra).routers = _
    rw [mountOp_eq, foldl_addRouteOn]
  | route o seg hs =>
    rw [apply_route]
    cases hrec : routeRecOf w (.route o seg hs) with
    | none => exact hand 0 [] _ (congrArg Option.toList hrec) (fun _ => rfl) rfl (modifyAt_id ..).symm
    | some x => exact hand x.1 [x.2] _ (congrArg Option.toList hrec) (fun _ => rfl) rfl rfl
  | aroute o seg b h a =>
    rw [apply_aroute]
    cases hrec : routeRecOf w (.aroute o seg b h a) with
    | none => exact hand 0 [] _ (congrArg Option.toList hrec) (fun _ => rfl) rfl (modifyAt_id ..).symm
    | some x => exact hand x.1 [x.2] _ (congrArg Option.toList hrec) (fun _ => rfl) rfl rfl
  | _ => exact hand 0 [] _ rfl (fun _ => rfl) rfl ((apply_routers w _ rfl).trans (modifyAt_id ..).symm)

theorem routers_length_M (script : List Op) :
    ∀ t, t ≤ script.length → (W script t).routers.length = 1 + cnt isNewRouter script t := by
  intro t
  induction t with
  | zero => intro _; rw [W_zero]; rfl
  | succ t ih =>
    intro ht
    have htl : t < script.length := ht
    have hs := rstepM (W script t) script[t]
    rw [← W_succ script t htl] at hs
    have hcnt := cnt_succ isNewRouter script t htl
    have ih' := ih (Nat.le_of_lt htl)
    cases hs with
    | new h1 h2 => rw [h2, hcnt, h1, List.length_append, ih']; rfl
    | mod r _ f _ _ hne _ h => rw [h, modifyAt_eq_modify, List.length_modify, hcnt, hne, ih']; rfl

/-- only the serving router is ever warmed up explicitly -/
def SubsCold (script : List Op) : Prop := ∀ op ∈ script, ∀ r, op = .warmup r → r = 0

theorem rinvM_fresh (script : List Op) (t r : Nat) (hmw : usesB script (selUse r) t = [])
    (hfresh : ∀ i, i < t → ¬ r < (W script i).routers.length) : RInvM script t r {} :=
  ⟨hmw.symm, nofun, nofun, fun i _ a _ c => absurd c (hfresh i a), fun _ => rfl, fun _ => rfl, nofun,
    fun i _ a _ c => absurd c (hfresh i a)⟩

theorem rinvM (script : List Op) (hwf : WFR script) :
    ∀ t, t ≤ script.length → ∀ r rs, (W script t).routers[r]? = some rs → RInvM script t r rs := by
  intro t
  induction t with
  | zero =>
    intro _ r rs h
    rw [W_zero] at h
    have : r = 0 ∧ rs = {} := by
      cases r with
      | zero => simp at h; exact ⟨rfl, h.symm⟩
      | succ r => simp at h
    obtain ⟨rfl, rfl⟩ := this
    exact rinvM_fresh script 0 0 (usesB_zero ..) nofun
  | succ t ih =>
    intro ht r rs hr
    have htl : t < script.length := ht
    have ih' := ih (Nat.le_of_lt htl)
    have hs := rstepM (W script t) script[t]
    rw [← W_succ script t htl] at hs
    have hlen := routers_length_M script t (Nat.le_of_lt htl)
    have hH := handed_at script t htl
    have hkeep : ∀ r rs, (W script t).routers[r]? = some rs → selUse r script[t] = none →
        (∀ rec, Handed script t r rec ↔ rec ∈ []) → RInvM script (t + 1) r rs :=
      fun r rs hr => rinvM_same script t htl r rs (ih' r rs hr)
    cases hs with
    | new h1 h2 =>
      have hsel : ∀ r', selUse r' script[t] = none := by intro r'; rw [h1]; rfl
      rw [h2] at hr
      rcases getElem?_concat_cases hr with hr | ⟨rfl, rfl⟩
      · exact hkeep r rs hr (hsel r) fun rec => by rw [hH, h1]; exact ⟨nofun, nofun⟩
      · -- the new router: nothing was attached or handed to it before it existed
        refine rinvM_fresh script (t + 1) _ ?_ fun i hi => ?_
        · rw [usesB_succ _ _ _ htl, hsel, usesB_router_future_nil script hwf _ t (by omega)]; rfl
        · rw [routers_length_M script i (by omega), hlen]
          have := cnt_mono isNewRouter script i t (by omega)
          omega
    | mod r0 recs f hm hh _ hother h =>
      rw [h] at hr
      rcases modifyAt_getElem?_cases hr with ⟨rfl, rs0, hold, rfl⟩ | ⟨hrr, hr⟩
      · have ih0 := ih' r0 rs0 hold
        have hrecs : ∀ rec, Handed script t r0 rec ↔ rec ∈ recs := by intro rec; rw [hH, hh]; simp
        cases hm with
        | use hs h1 => exact rinvM_keep script t htl r0 rs0 _ ih0 hrecs (by rw [h1]; rfl) rfl rfl rfl rfl
        | warm h1 => exact rinvM_warm script t htl r0 rs0 ih0 (by rw [h1]; rfl) hrecs
        | rereg v p h1 => exact rinvM_rereg script t htl r0 rs0 ih0 v p (by rw [h1]; rfl) hrecs
        | hand _ h2 => exact rinvM_add script t htl r0 rs0 ih0 recs h2 hrecs
      · -- what the op hands over goes to `r0`
        exact hkeep r rs hr (hother r (Ne.symm hrr)) fun rec => by rw [hH, hh]; simp [hrr]

structure WFM (script : List Op) : Prop extends WF script where
  rt : ∀ (t : Nat) (op : Op), script[t]? = some op →
    match op with
    | .route (.router r) _ _ => r < 1 + cnt isNewRouter script t
    | .group r _ _ => r < 1 + cnt isNewRouter script t
    | .version r _ => r = 0
    | .mount p s _ _ _ => p < s ∧ s < 1 + cnt isNewRouter script t
    | _ => True
  msegs : ∀ (i j : Nat) (opi opj : Op) (sg : Nat), script[i]? = some opi → script[j]? = some opj →
    mountSegOf opi = some sg → mountSegOf opj = some sg → i = j

theorem wfm_of_wfB (script : List Op) (h : wfB script = true) : WFM script where
  toWF := wf_of_wfB script h
  rt := by
    intro t op ht
    have h4 := (wfB_refs h ht).2.2.2.2
    cases op with
    | route o seg hs =>
      cases o with
      | router r => exact of_decide_eq_true h4
      | _ => trivial
    | group r seg hs => exact of_decide_eq_true h4
    | version r v => exact of_decide_eq_true h4
    | mount p s seg inh extra =>
      simp only [routerRefsOK, Bool.and_eq_true, decide_eq_true_eq] at h4
      exact h4
    | _ => trivial
  msegs := (wfB_segs h).2

theorem reRegister_warmed (ver : Option Nat) (path : Path) (rs : RouterSt) :
    (reRegister ver path rs).warmed = rs.warmed := by
  unfold reRegister
  split
  · split <;> rfl
  · rfl

/-- under `SubsCold` no sub-router is ever warm; `compose_admitted_mount` does not ask for it -/
theorem subs_cold (script : List Op) (hc : SubsCold script) :
    ∀ t, t ≤ script.length → ∀ r rs, 1 ≤ r → (W script t).routers[r]? = some rs → rs.warmed = false := by
  intro t
  induction t with
  | zero =>
    intro _ r rs h1 h
    rw [W_zero] at h
    cases r with
    | zero => omega
    | succ r => simp at h
  | succ t ih =>
    intro ht r rs h1 hr
    have htl : t < script.length := ht
    have ih' := ih (Nat.le_of_lt htl)
    have hs := rstepM (W script t) script[t]
    rw [← W_succ script t htl] at hs
    cases hs with
    | new a b =>
      rw [b] at hr
      rcases getElem?_concat_cases hr with hr | ⟨_, rfl⟩
      · exact ih' r rs h1 hr
      · rfl
    | mod r0 recs f hm _ _ _ b =>
      rw [b] at hr
      rcases modifyAt_getElem?_cases hr with ⟨rfl, rs0, hold, rfl⟩ | ⟨_, hr⟩
      · have ih0 := ih' r0 rs0 h1 hold
        cases hm with
        | use => exact ih0
        | warm a => cases hc script[t] (List.getElem_mem htl) r0 a; omega
        | rereg => rw [reRegister_warmed]; exact ih0
        | hand => rw [(foldl_addRoute_fields recs rs0).2.1]; exact ih0
      · exact ih' r rs h1 hr

/-! ### every record handed to a router is an instance the oracle knows -/

abbrev arr := arrival

/-- what the oracle says about a record handed to router `r` at time `j` -/
def IDesc (script : List Op) (r : Nat) (rec : RouteRec) (j : Nat) : Prop :=
  ∃ (js : List Nat) (i rr : Nat) (ver0 : Option Nat) (path0 : Path) (gls : List Level) (hs : List Hid)
    (mpre : Path) (mls : List Level),
    arr js i = j ∧ routeInfo script i = some (rr, ver0, path0, gls, hs) ∧
    mountLevels script i rr js r = some (mpre, mls) ∧
    rec.path = mpre ++ path0 ∧ rec.ver = (if js = [] then ver0 else none) ∧
    matchLevels (mls ++ gls ++ [(hs, [])]) rec.hs = true ∧
    (∃ sg op, path0.getLast? = some sg ∧ script[i]? = some op ∧ routeSegOf op = some sg)

theorem handed_not_use (w : World) (op : Op) (x : Nat × RouteRec) (h : x ∈ handed w op) :
    ∀ r, selUse r op = none := by
  intro r
  -- only `use` and `ause` select, and neither hands over a record
  cases op with
  | use | ause => cases h
  | _ => rfl

theorem matchLevels_routerLevel (script : List Op) (r i treg : Nat) {r' : Nat} {rec : RouteRec}
    (hH : Handed script i r' rec) (hle : i ≤ treg) (ls : List Level) (c : List Hid) (hc : matchLevels ls c = true) :
    matchLevels (routerLevel script r i :: ls) (usesB script (selUse r) treg ++ c) = true := by
  obtain ⟨op, hop, hmem⟩ := hH
  obtain ⟨mid, hmid, hsub⟩ := usesB_split script (selUse r) i treg op hop (handed_not_use _ _ _ hmem r) hle
  rw [hmid, routerLevel_eq, splitAt_eq]
  exact matchLevels_cons _ _ mid c ls hsub hc

theorem bridge_wf (script : List Op) (hwf : WF script) :
    ∀ j r rec, Handed script j r rec → IDesc script r rec j := by
  intro j
  induction j using Nat.strongRecOn with
  | _ j ih =>
    intro r rec ⟨op, hop, hmem⟩
    have hjl := List.lt_of_getElem? hop
    rcases mem_handed.mp hmem with hrec | ⟨s, seg, inh, extra, rfl, hrt⟩
    · obtain ⟨gls, hs, hinfo, hhs⟩ := routeInfo_of_model script hwf j op r rec hop hrec
      obtain ⟨sg, c1, c2⟩ := routeRecOf_seg _ _ _ _ hrec
      refine ⟨[], j, r, rec.ver, rec.path, gls, hs, [], [], rfl, hinfo, by simp [mountLevels], by simp, by simp, ?_,
        ⟨sg, op, c2, hop, c1⟩⟩
      rw [hhs]
      simpa using matchLevels_musts gls hs
    · obtain ⟨pr, sr, recS, hp, hs, hin, hrec⟩ := mem_mountRecs.mp hrt
      -- the record is a route object of the sub-router `s`, handed to it at some `i' < j`: an instance `(js, i)` by
      -- induction; the mount makes it `(j :: js, i)`, its own levels in front (the parent's if inherited, `s`'s, the extras)
      have hinvS := rinvM script hwf.r j (Nat.le_of_lt hjl) s sr hs
      have hinvP := rinvM script hwf.r j (Nat.le_of_lt hjl) r pr hp
      obtain ⟨i', hi'j, hH'⟩ := hinvS.objs recS hin
      obtain ⟨js, i, rr, ver0, path0, gls, hs0, mpre, mls, a1, a2, a3, a4, a5, a6, a7⟩ := ih i' hi'j s recS hH'
      refine ⟨j :: js, i, rr, ver0, path0, gls, hs0, seg :: mpre,
        (if inh then [routerLevel script r j] else []) ++ [routerLevel script s i', (extra, [])] ++ mls,
        rfl, a2, ?_, ?_, by simp [hrec], ?_, a7⟩
      · -- `mountLevels` at `j :: js`: the mount is on `r`, the arrival `i'` precedes it, and `js` below `s` is `a3`
        simp only [mountLevels, hop]
        rw [show arrival js i = i' from a1]
        simp [hi'j, a3]
      · rw [hrec]; simp [a4]
      · -- the chain against the levels, from the inside out
        rw [hrec, hinvP.mw, hinvS.mw]
        have e1 := matchLevels_cons extra [] [] _ _ (List.Sublist.refl _) a6
        -- middleware of the sub-router between the arrival there and the mount
        have e2 := matchLevels_routerLevel script s i' j hH' (Nat.le_of_lt hi'j) _ _ e1
        cases inh with
        | false => simpa [List.append_assoc] using e2
        | true => simpa [List.append_assoc] using matchLevels_routerLevel script r j j ⟨_, hop, hmem⟩ (Nat.le_refl j) _ _ e2

theorem bridge (script : List Op) (hwf : WFM script) :
    ∀ j r rec, Handed script j r rec → IDesc script r rec j :=
  bridge_wf script hwf.toWF

theorem mountLevels_nil {script : List Op} {i rr r : Nat} {x : Path × List Level}
    (h : mountLevels script i rr [] r = some x) : r = rr ∧ x = ([], []) := by
  rw [mountLevels] at h
  by_cases hr : r = rr
  · rw [if_pos hr] at h; cases h; exact ⟨hr, rfl⟩
  · rw [if_neg hr] at h; cases h

theorem mountLevels_cons {script : List Op} {i rr j r : Nat} {js : List Nat} {x : Path × List Level}
    (h : mountLevels script i rr (j :: js) r = some x) :
    ∃ s seg inh extra mpre mls, script[j]? = some (.mount r s seg inh extra) ∧ arrival js i < j ∧
      mountLevels script i rr js s = some (mpre, mls) ∧
      x = (seg :: mpre, (if inh then [routerLevel script r j] else []) ++
            [routerLevel script s (arrival js i), (extra, [])] ++ mls) := by
  rw [mountLevels] at h
  split at h
  · rename_i p s seg inh extra hop
    simp only [] at h
    by_cases hg : (p ≠ r || !decide (arrival js i < j)) = true
    · rw [if_pos hg] at h; cases h
    · rw [if_neg hg] at h
      obtain ⟨⟨mp, ml⟩, hsub, hx⟩ := Option.bind_eq_some_iff.mp h
      cases hx
      have hg' : p = r ∧ arrival js i < j := by simpa using hg
      obtain ⟨rfl, hlt⟩ := hg'
      exact ⟨s, seg, inh, extra, mp, ml, hop, hlt, hsub, rfl⟩
  · cases h

/-! ### presence: the oracle's instances are in the model -/

theorem vrouter_is_serving (script : List Op) (hwf : WFM script) (t v r ver : Nat) (ht : t ≤ script.length)
    (h : (W script t).vrouters[v]? = some (r, ver)) : r = 0 := by
  obtain ⟨i, op, h1, _, _, h4⟩ := created_of_get vrouterA vrouterA_ok script ht h
  rcases vrouterA_make_inv h4 with rfl | ⟨_, rfl⟩
  · exact hwf.rt i _ h1
  · rfl

theorem decl_router_exists (script : List Op) (hwf : WFM script) (j : Nat) (op : Op) (r : Nat) (rec : RouteRec)
    (hop : script[j]? = some op) (hrec : routeRecOf (W script j) op = some (r, rec)) :
    r < (W script j).routers.length := by
  have hjle : j ≤ script.length := Nat.le_of_lt (List.lt_of_getElem? hop)
  have hlen := routers_length_M script j hjle
  have hzero : 0 < (W script j).routers.length := by omega
  cases decl_of_routeRecOf hrec with
  | router r seg hs => rw [hlen]; exact hwf.rt j _ hop
  | group g seg hs p hp =>
    obtain ⟨ri, rop, ls, _, _, h3, h4, h5, h6⟩ := genLevels_of_model groupM groupM_ok script hwf.g g (g + 1) j p (Nat.lt_succ_self g) hjle hp
    obtain ⟨r', seg', hs', rfl⟩ := groupC_root_inv h4
    have hrt : r' < 1 + cnt isNewRouter script ri := hwf.rt ri _ h3
    have := cnt_mono isNewRouter script ri j (Nat.le_of_lt h6)
    rw [hlen, h5]
    exact Nat.lt_of_lt_of_le hrt (by omega)
  | vrouter v seg hs r ver hv => rw [vrouter_is_serving script hwf j v r ver hjle hv]; exact hzero
  | vgroup vg seg hs p r ver hp hv => rw [vrouter_is_serving script hwf j _ r ver hjle hv]; exact hzero
  | app | agroup => exact hzero
  | avgroup vg seg b hh a p r ver hp hv => rw [vrouter_is_serving script hwf j _ r ver hjle hv]; exact hzero

theorem routers_length_mono (script : List Op) (a b : Nat) (hab : a ≤ b) (hb : b ≤ script.length) :
    (W script a).routers.length ≤ (W script b).routers.length := by
  rw [routers_length_M script a (Nat.le_trans hab hb), routers_length_M script b hb]
  have := cnt_mono isNewRouter script a b hab
  omega

theorem presence (script : List Op) (hwf : WFM script) (i rr : Nat) (ver0 : Option Nat)
    (path0 : Path) (gls : List Level) (hs : List Hid)
    (hri : routeInfo script i = some (rr, ver0, path0, gls, hs)) :
    ∀ (js : List Nat) (r : Nat) (mpre : Path) (mls : List Level),
      mountLevels script i rr js r = some (mpre, mls) →
      ∃ rec, Handed script (arr js i) r rec ∧ rec.path = mpre ++ path0 ∧
        r < (W script (arr js i)).routers.length ∧ arr js i < script.length ∧
        rec.ver = (if js = [] then ver0 else none) := by
  intro js
  induction js with
  | nil =>
    intro r mpre mls hml
    obtain ⟨rfl, hx⟩ := mountLevels_nil hml
    cases hx
    obtain ⟨op, rec0, hop, hrec, hver, hpath⟩ := model_of_routeInfo script hwf.toWF hri
    exact ⟨rec0, ⟨op, hop, mem_handed.mpr (.inl hrec)⟩, hpath, decl_router_exists script hwf i op r rec0 hop hrec,
      List.lt_of_getElem? hop, hver⟩
  | cons j js ih =>
    intro r mpre mls hml
    obtain ⟨s, seg, inh, extra, mpre', mls', hop, htn, hsub, hx⟩ := mountLevels_cons hml
    cases hx
    obtain ⟨recS, hH, hpath, hex, _, _⟩ := ih s mpre' mls' hsub
    have hjl := List.lt_of_getElem? hop
    have hrt : r < s ∧ s < 1 + cnt isNewRouter script j := hwf.rt j _ hop
    have hlenj := routers_length_M script j (Nat.le_of_lt hjl)
    have hs_lt : s < (W script j).routers.length := by rw [hlenj]; exact hrt.2
    have hp_lt : r < (W script j).routers.length := by omega
    have hsr := List.getElem?_eq_getElem hs_lt
    have hpr := List.getElem?_eq_getElem hp_lt
    -- the record the sub-router got is one of its route objects at the time of the mount
    have hobj : recS ∈ ((W script j).routers[s]).objs :=
      (rinvM script hwf.r j (Nat.le_of_lt hjl) s _ hsr).opres (arr js i) recS htn hH hex
    refine ⟨{ ver := none, path := seg :: recS.path,
              hs := ((if inh then ((W script j).routers[r]).mw else []) ++ ((W script j).routers[s]).mw ++ extra) ++
                recS.hs }, ⟨_, hop, ?_⟩, by rw [hpath]; rfl, hp_lt, hjl, rfl⟩
    exact mem_handed.mpr (.inr ⟨_, _, _, _, rfl, mem_mountRecs.mpr ⟨_, _, recS, hpr, hsr, hobj, rfl⟩⟩)

/-! ### uniqueness of the instance behind a path, and the theorems -/

theorem mounts_unique (script : List Op) (hms : SegNames mountSegOf script) (i rr : Nat) :
    ∀ (js js' : List Nat) (r : Nat) (mpre : Path) (mls mls' : List Level),
      mountLevels script i rr js r = some (mpre, mls) → mountLevels script i rr js' r = some (mpre, mls') →
      js = js' := by
  intro js
  induction js with
  | nil =>
    intro js' r mpre mls mls' h1 h2
    obtain ⟨_, hx⟩ := mountLevels_nil h1
    cases hx
    cases js' with
    | nil => rfl
    | cons j' t' =>
      obtain ⟨_, _, _, _, _, _, _, _, _, hx'⟩ := mountLevels_cons h2
      cases hx'
  | cons j t ih =>
    intro js' r mpre mls mls' h1 h2
    obtain ⟨s, seg, inh, extra, mp1, ml1, hop, _, hsub, hx⟩ := mountLevels_cons h1
    cases hx
    cases js' with
    | nil =>
      obtain ⟨_, hx'⟩ := mountLevels_nil h2
      cases hx'
    | cons j' t' =>
      obtain ⟨s', seg', inh', extra', mp2, ml2, hop', _, hsub', hx'⟩ := mountLevels_cons h2
      cases hx'
      -- the same segment: the same mount
      cases hms j j' _ _ seg hop hop' rfl rfl
      rw [hop] at hop'
      cases hop'
      rw [ih t' s _ _ _ hsub hsub']

theorem mounted_from_sub (script : List Op) (hwf : WFM script) (i rr : Nat) :
    ∀ (js : List Nat) (r : Nat) (x : Path × List Level), mountLevels script i rr js r = some x → js ≠ [] → 1 ≤ rr := by
  intro js
  induction js with
  | nil => intro r x _ h; exact (h rfl).elim
  | cons j t ih =>
    intro r x h _
    obtain ⟨s, seg, inh, extra, mp, ml, hop, _, hsub, _⟩ := mountLevels_cons h
    have hrt : r < s ∧ s < 1 + cnt isNewRouter script j := hwf.rt j _ hop
    cases t with
    | nil =>
      obtain ⟨rfl, _⟩ := mountLevels_nil hsub
      omega
    | cons j' t' => exact ih s _ hsub (by simp)

theorem versioned_on_serving (script : List Op) (hwf : WFM script) (i rr v : Nat) (path0 : Path)
    (gls : List Level) (hs : List Hid) (hri : routeInfo script i = some (rr, some v, path0, gls, hs)) : rr = 0 := by
  obtain ⟨op, rec0, hop, hrec, hver, _⟩ := model_of_routeInfo script hwf.toWF hri
  have hile : i ≤ script.length := Nat.le_of_lt (List.lt_of_getElem? hop)
  cases decl_of_routeRecOf hrec with
  | router | group | app | agroup => cases hver
  | vrouter v' seg hs r ver hv => exact vrouter_is_serving script hwf i v' _ ver hile hv
  | vgroup vg seg hs p r ver hp hv => exact vrouter_is_serving script hwf i _ _ ver hile hv
  | avgroup vg seg b hh a p r ver hp hv => exact vrouter_is_serving script hwf i _ _ ver hile hv

theorem routeInfo_seg (script : List Op) (hwf : WF script) (i rr : Nat) (ver0 : Option Nat) (path0 : Path)
    (gls : List Level) (hs : List Hid) (hri : routeInfo script i = some (rr, ver0, path0, gls, hs)) :
    ∃ sg op, path0.getLast? = some sg ∧ script[i]? = some op ∧ routeSegOf op = some sg := by
  obtain ⟨op, rec0, hop, hrec, _, rfl⟩ := model_of_routeInfo script hwf hri
  obtain ⟨sg, c1, c2⟩ := routeRecOf_seg _ _ _ _ hrec
  exact ⟨sg, op, c2, hop, c1⟩

theorem levels_eq_some {script : List Op} {tg : Target} {ver : Option Nat} {path : Path} {ls : List Level} :
    levels script tg = some (ver, path, ls) ↔
    ∃ rr path0 gls hs mpre mls, routeInfo script tg.route = some (rr, ver, path0, gls, hs) ∧
      mountLevels script tg.route rr tg.mounts 0 = some (mpre, mls) ∧ path = mpre ++ path0 ∧
      ls = [routerLevel script 0 (arrival tg.mounts tg.route)] ++ mls ++ gls ++ [(hs, [])] := by
  unfold levels
  constructor
  · intro hl
    obtain ⟨⟨rr, ver0, path0, gls, hs⟩, hri, hl⟩ := Option.bind_eq_some_iff.mp hl
    obtain ⟨⟨mpre, mls⟩, hml, hl⟩ := Option.bind_eq_some_iff.mp hl
    cases hl
    exact ⟨rr, path0, gls, hs, mpre, mls, hri, hml, rfl, rfl⟩
  · rintro ⟨rr, path0, gls, hs, mpre, mls, hri, hml, rfl, rfl⟩
    simp only [hri, hml, Option.bind_eq_bind, Option.bind_some]
    rfl

theorem findRoute_eq_some {tree : List RouteRec} {ver : Option Nat} {path : Path} {c : List Hid}
    (h : findRoute tree ver path = some c) : ∃ y ∈ tree, y.ver = ver ∧ y.path = path ∧ y.hs = c := by
  obtain ⟨y, hy, rfl⟩ := Option.map_eq_some_iff.mp h
  have hyp := List.find?_some hy
  simp only [Bool.and_eq_true, beq_iff_eq] at hyp
  exact ⟨y, List.mem_reverse.mp (List.mem_of_find?_eq_some hy), hyp.1, hyp.2, rfl⟩

theorem findRoute_isSome {tree : List RouteRec} {y : RouteRec} (h : y ∈ tree) :
    (findRoute tree y.ver y.path).isSome = true := by
  rw [findRoute, Option.isSome_map, List.find?_isSome]
  exact ⟨y, List.mem_reverse.mpr h, by simp⟩

theorem serving_final (script : List Op) (hwf : WFR script) :
    ∃ rs0, (build script).routers[0]? = some rs0 ∧ RInvM script script.length 0 rs0 := by
  have hlen := routers_length_M script script.length (Nat.le_refl _)
  have h0 : (W script script.length).routers[0]? = some _ := List.getElem?_eq_getElem (by omega)
  exact ⟨_, W_full script ▸ h0, rinvM script hwf script.length (Nat.le_refl _) 0 _ h0⟩

theorem compose_eq_some (script : List Op) (hwf : WFR script) {ver : Option Nat} {path : Path} {chain : List Hid}
    (h : compose script ver path = some chain) :
    ∃ i rec treg, i ≤ treg ∧ Handed script i 0 rec ∧ rec.ver = ver ∧ rec.path = path ∧
      chain = usesB script (selUse 0) treg ++ rec.hs := by
  obtain ⟨rs0, hrs0, hinv⟩ := serving_final script hwf
  rw [compose, hrs0] at h
  obtain ⟨y, hy, rfl, rfl, rfl⟩ := findRoute_eq_some h
  rw [warmup_tree hinv, List.mem_append, List.mem_map] at hy
  rcases hy with hy | ⟨rt, hrt, rfl⟩
  · obtain ⟨i, rec, treg, _, a3, _, a5, rfl⟩ := hinv.tree y hy
    exact ⟨i, rec, treg, a3, a5, rfl, rfl, rfl⟩
  · obtain ⟨i, a2, a3⟩ := hinv.pend rt hrt
    exact ⟨i, rt, script.length, Nat.le_of_lt a2, a3, rfl, rfl, rfl⟩

theorem served_of_handed (script : List Op) (hwf : WFR script) {i : Nat} {rec : RouteRec}
    (hH : Handed script i 0 rec) : ∃ chain, compose script rec.ver rec.path = some chain := by
  obtain ⟨rs0, hrs0, hinv⟩ := serving_final script hwf
  have hi : i < script.length := hH.elim fun _ h => List.lt_of_getElem? h.1
  have hex : 0 < (W script i).routers.length := by
    rw [routers_length_M script _ (Nat.le_of_lt hi)]; omega
  have hmem : ∃ treg, regRec script 0 treg rec ∈ (warmup rs0).tree := by
    rw [warmup_tree hinv]
    rcases hinv.pres i rec hi hH hex with hp | ⟨treg, _, _, c⟩
    · exact ⟨script.length, List.mem_append_right _ (List.mem_map_of_mem hp)⟩
    · exact ⟨treg, List.mem_append_left _ c⟩
  obtain ⟨treg, hmem⟩ := hmem
  rw [compose, hrs0]
  exact Option.isSome_iff_exists.mp (findRoute_isSome (y := regRec script 0 treg rec) hmem)

theorem served_admitted (script : List Op) (hwf : WF script) {ver : Option Nat} {path : Path} {chain : List Hid}
    (h : compose script ver path = some chain) :
    ∃ tg ver' ls, levels script tg = some (ver', path, ls) ∧ matchLevels ls chain = true := by
  obtain ⟨i', rec, treg, b2, b3, _, rfl, rfl⟩ := compose_eq_some script hwf.r h
  obtain ⟨js, i, rr, ver0, path0, gls, hs, mpre, mls, d1, d2, d3, d4, _, d6, _⟩ := bridge_wf script hwf i' 0 rec b3
  refine ⟨⟨js, i⟩, ver0, _, levels_eq_some.mpr ⟨rr, path0, gls, hs, mpre, mls, d2, d3, d4, rfl⟩, ?_⟩
  rw [show arrival js i = i' from d1]
  exact matchLevels_routerLevel script 0 i' treg b3 b2 _ _ d6

/-- A path names its target: its last segment names the declaring op, its mount segments name the mounts. -/
theorem levels_path_inj (script : List Op) (hwf : WF script) (hms : SegNames mountSegOf script)
    {tg tg' : Target} {v v' : Option Nat} {p : Path} {ls ls' : List Level}
    (h : levels script tg = some (v, p, ls)) (h' : levels script tg' = some (v', p, ls')) : tg = tg' := by
  obtain ⟨js, i⟩ := tg
  obtain ⟨js', i'⟩ := tg'
  obtain ⟨rr, path0, gls, hs, mpre, mls, hri, hml, rfl, _⟩ := levels_eq_some.mp h
  obtain ⟨rr', path0', gls', hs', mpre', mls', hri', hml', hp, _⟩ := levels_eq_some.mp h'
  obtain ⟨sg, op, hsg, hop, hseg⟩ := routeInfo_seg script hwf _ _ _ _ _ _ hri
  obtain ⟨sg', op', hsg', hop', hseg'⟩ := routeInfo_seg script hwf _ _ _ _ _ _ hri'
  have hlast := congrArg List.getLast? hp
  rw [List.getLast?_append, List.getLast?_append, hsg, hsg'] at hlast
  cases hlast
  cases hwf.segs i i' op op' sg hop hop' hseg hseg'
  rw [show routeInfo script i = _ from hri] at hri'
  cases hri'
  cases List.append_cancel_right hp
  cases mounts_unique script hms i rr js js' 0 mpre mls mls' hml hml'
  rfl

theorem admitted_of_served (script : List Op) (hwf : WF script) (hms : SegNames mountSegOf script) {tg : Target}
    {ver ver' : Option Nat} {path : Path} {ls : List Level} {chain : List Hid}
    (hl : levels script tg = some (ver, path, ls)) (hc : compose script ver' path = some chain) :
    matchLevels ls chain = true := by
  obtain ⟨tg', v, ls', hl', hm⟩ := served_admitted script hwf hc
  cases levels_path_inj script hwf hms hl' hl
  rw [hl] at hl'
  cases hl'
  exact hm

theorem admitted_of_handed (script : List Op) (hwf : WF script) (hms : SegNames mountSegOf script) {tg : Target}
    {ver : Option Nat} {path : Path} {ls : List Level} (hl : levels script tg = some (ver, path, ls))
    {i : Nat} {rec : RouteRec} (hH : Handed script i 0 rec) (hpath : rec.path = path)
    (hv : rec.ver = ver) : ∃ chain, compose script ver path = some chain ∧ chainOK script tg chain = true := by
  obtain ⟨chain, hc⟩ := served_of_handed script hwf.r hH
  rw [hpath, hv] at hc
  exact ⟨chain, hc, by simp [chainOK, hl, admitted_of_served script hwf hms hl hc]⟩

/-- Soundness of the composition model, `Mount` included (`Rivaas.C02.compose_admitted_mounts`): `presence` supplies
    the record. -/
theorem compose_admitted_mount (script : List Op) (hwf : WFM script) (tg : Target)
    (ver : Option Nat) (path : Path) (ls : List Level) (hl : levels script tg = some (ver, path, ls)) :
    ∃ chain, compose script ver path = some chain ∧ chainOK script tg chain = true := by
  obtain ⟨rr, path0, gls, hs, mpre, mls, hri, hml, hp, _⟩ := levels_eq_some.mp hl
  obtain ⟨rec, hH, hpath, _, _, hver⟩ := presence script hwf _ rr ver path0 gls hs hri _ 0 mpre mls hml
  have hv : rec.ver = ver := by
    by_cases hjs : tg.mounts = []
    · simpa [hjs] using hver
    · -- a mounted route comes from a sub-router, a versioned one is declared on the serving router
      have hnone : rec.ver = none := by simpa [hjs] using hver
      have h1 := mounted_from_sub script hwf _ rr _ 0 _ hml hjs
      cases ver with
      | none => exact hnone
      | some v =>
        have := versioned_on_serving script hwf _ rr v path0 gls hs hri
        omega
  exact admitted_of_handed script hwf.toWF hwf.msegs hl hH (hpath.trans hp.symm) hv

theorem isMount_of_mountSeg {op : Op} {sg : Nat} (h : mountSegOf op = some sg) : isMount op = true := by
  cases op with
  | mount => rfl
  | _ => cases h

theorem subsCold_of_subsColdB (script : List Op) (h : subsColdB script = true) : SubsCold script := by
  intro op hop r hr
  simp only [subsColdB, List.all_eq_true] at h
  have := h op hop
  rw [hr] at this
  simpa using this

end Rivaas.Compose
