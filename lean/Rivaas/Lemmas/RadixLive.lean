import Rivaas.Lemmas.MatchOrder
/-
The routes a method tree still holds. A registration replaces an earlier one of the same method and shape
(one leaf per node, one `staticPaths` entry per text); `live R` keeps of every such group the last member.
Among live routes that match one path `better` is total, so the reference choice over them is the one
candidate nothing beats.
-/
namespace Rivaas.RadixL
open Rivaas.Route Rivaas.Match Rivaas.MatchL

def replaces (r r1 : Route) : Bool := r1.method = r.method && shapeEq r1.pat r.pat

def live : List Route → List Route
  | [] => []
  | r :: rest => if rest.any (replaces r) then live rest else r :: live rest

theorem mem_live_iff {R : List Route} {r : Route} :
    r ∈ live R ↔ ∃ R1 R2, R = R1 ++ r :: R2 ∧ R2.any (replaces r) = false := by
  induction R with
  | nil => simp [live]
  | cons h rest ih =>
    rw [live]
    have lift : r ∈ live rest → ∃ R1 R2, h :: rest = R1 ++ r :: R2 ∧ R2.any (replaces r) = false := fun hr =>
      let ⟨R1, R2, hs, h2⟩ := ih.mp hr
      ⟨h :: R1, R2, by rw [hs]; rfl, h2⟩
    constructor
    · intro hr
      split at hr
      · exact lift hr
      · rename_i hh
        rcases List.mem_cons.mp hr with rfl | hr
        · exact ⟨[], rest, rfl, Bool.eq_false_iff.mpr hh⟩
        · exact lift hr
    · rintro ⟨R1, R2, hs, h2⟩
      cases R1 with
      | nil =>
        obtain ⟨rfl, rfl⟩ := List.cons.inj hs
        rw [if_neg (by rw [h2]; simp)]
        exact List.mem_cons_self ..
      | cons a R1' =>
        obtain ⟨rfl, rfl⟩ := List.cons.inj hs
        have := ih.mpr ⟨R1', R2, rfl, h2⟩
        split
        · exact this
        · exact List.mem_cons_of_mem _ this

theorem live_sub {R : List Route} {r : Route} (h : r ∈ live R) : r ∈ R := by
  obtain ⟨R1, R2, rfl, _⟩ := mem_live_iff.mp h
  simp

theorem live_pairwise (R : List Route) : (live R).Pairwise fun a b => replaces a b = false := by
  induction R with
  | nil => exact List.Pairwise.nil
  | cons h rest ih =>
    rw [live]
    split
    · exact ih
    · rename_i hh
      refine List.pairwise_cons.mpr ⟨fun b hb => Bool.eq_false_iff.mpr fun hrep => ?_, ih⟩
      exact hh (List.any_eq_true.mpr ⟨b, live_sub hb, hrep⟩)

theorem ref_none {sat : Nat → Bytes → Bool} {L : List Route} {m : Bytes} {p : RPath}
    (h : ∀ r ∈ L, r.method = m → (routeMatch sat r p).isSome = true → False) : refRoute sat L m p = none :=
  C01.lemma_refRoute_none <| List.eq_nil_iff_forall_not_mem.mpr fun c hc =>
    h c (C01.lemma_mem_cands.mp hc).1 (C01.lemma_mem_cands.mp hc).2.1 (C01.lemma_mem_cands.mp hc).2.2

theorem ref_filter {sat : Nat → Bytes → Bool} {L : List Route} {m : Bytes} {p : RPath} {Q : Route → Bool}
    (h : ∀ r ∈ L, r.method = m → (routeMatch sat r p).isSome = true → Q r = true) :
    refRoute sat (L.filter Q) m p = refRoute sat L m p := by
  unfold refRoute cands
  rw [List.filter_filter]
  congr 1
  apply List.filter_congr
  intro r hr
  cases hc : decide (r.method = m ∧ (routeMatch sat r p).isSome = true) with
  | false => rfl
  | true => rw [h r hr (of_decide_eq_true hc).1 (of_decide_eq_true hc).2]; rfl

theorem better_of_shapeNe {trail : Bool} {segs : List Bytes} {a b : Pat} (ha : (matchPat trail a segs).isSome = true)
    (hb : (matchPat trail b segs).isSome = true) (hab : better a b = false) (hs : shapeEq a b = false) :
    better b a = true := by
  cases hba : better b a with
  | true => rfl
  | false => rw [shapeEq_of_incomparable trail segs a b ha hb hab hba] at hs; cases hs

theorem ref_of_max {sat : Nat → Bytes → Bool} {L : List Route} (hL : L.Pairwise fun a b => replaces a b = false)
    {m : Bytes} {p : RPath} {r : Route}
    (hr : r ∈ cands sat L m p) (hmax : ∀ c ∈ cands sat L m p, better c.pat r.pat = false) :
    refRoute sat L m p = some r := by
  have hmatch : ∀ c ∈ cands sat L m p, c.method = m ∧ (matchPat p.trail c.pat p.segs).isSome = true :=
    fun c hc => ⟨(C01.lemma_mem_cands.mp hc).2.1, routeMatch_isSome_match sat c p (C01.lemma_mem_cands.mp hc).2.2⟩
  have hpw : (cands sat L m p).Pairwise fun a b => replaces a b = false := hL.filter _
  obtain ⟨l1, l2, hl⟩ := List.append_of_mem hr
  unfold refRoute
  rw [hl] at hmax hmatch hpw ⊢
  refine pick_suff l1 l2 r none (fun c hc => by cases hc) (fun c hc => hmax c (by simp [hc])) fun c hc => ?_
  -- a later candidate has another shape, and does not beat `r`: `r` beats it
  have hc' : c ∈ l1 ++ r :: l2 := by simp [hc]
  have hrc := (List.pairwise_cons.mp (List.pairwise_append.mp hpw).2.1).1 c hc
  simp only [replaces, (hmatch c hc').1, (hmatch r (by simp)).1, decide_true, Bool.true_and] at hrc
  exact better_of_shapeNe (hmatch c hc').2 (hmatch r (by simp)).2 (hmax c hc') hrc

theorem laterThan_split (ρ : Route) (R : List Route) (h : ρ ∈ R) : ∃ R1, R = R1 ++ ρ :: laterThan ρ R := by
  induction R with
  | nil => simp at h
  | cons r rest ih =>
    by_cases hr : r = ρ
    · subst hr; exact ⟨[], by simp [laterThan]⟩
    · simp only [List.mem_cons] at h
      rcases h with h | h
      · exact absurd h.symm hr
      · obtain ⟨R1, hR1⟩ := ih h
        refine ⟨r :: R1, ?_⟩
        simp only [laterThan, hr, if_false, List.cons_append]
        rw [← hR1]

theorem mem_live_of_last {R : List Route} {r : Route} {m : Bytes} (hr : r ∈ R) (hm : r.method = m)
    (h : ((laterThan r R).any fun r1 => r1.method = m && shapeEq r1.pat r.pat) = false) : r ∈ live R :=
  let ⟨R1, hs⟩ := laterThan_split r R hr
  mem_live_iff.mpr ⟨R1, _, hs, by subst hm; exact h⟩

theorem refRoute_live {sat : Nat → Bytes → Bool} {R : List Route} {m : Bytes} {p : RPath}
    (hOw : dReplaced1 sat R m p = false) : refRoute sat (live R) m p = refRoute sat R m p := by
  have hsub : ∀ c ∈ cands sat (live R) m p, c ∈ cands sat R m p := fun c hc =>
    C01.lemma_mem_cands.mpr ⟨live_sub (C01.lemma_mem_cands.mp hc).1, (C01.lemma_mem_cands.mp hc).2⟩
  cases href : refRoute sat R m p with
  | none =>
    refine ref_none fun c hc hm hrm => ?_
    have := hsub c (C01.lemma_mem_cands.mpr ⟨hc, hm, hrm⟩)
    rw [pick_none_nil _ href] at this
    cases this
  | some ρ =>
    obtain ⟨hρc, hρmax⟩ := C01.lemma_ref_max href
    obtain ⟨hρR, hρm, hρrm⟩ := C01.lemma_mem_cands.mp hρc
    simp only [dReplaced1, href] at hOw
    exact ref_of_max (live_pairwise R) (C01.lemma_mem_cands.mpr ⟨mem_live_of_last hρR hρm hOw, hρm, hρrm⟩) fun c hc => hρmax c (hsub c hc)

theorem refMatch_live {sat : Nat → Bytes → Bool} {R : List Route} {req : Req} {p : RPath}
    (hOw : dReplaced sat R req p = false) (noRoute : Bool) :
    refMatch sat noRoute (live R) req p = refMatch sat noRoute R req p := by
  unfold dReplaced at hOw
  rw [Bool.or_eq_false_iff] at hOw
  unfold refMatch
  rw [refRoute_live hOw.1]
  cases href : refRoute sat R req.method p with
  | some ρ => rfl
  | none =>
    -- the other methods are probed only in this case (the 405 answer)
    have hOwS : ∀ m ∈ stdMethods, dReplaced1 sat R m p = false := by simpa [href] using hOw.2
    have : allowedSet sat (live R) p = allowedSet sat R p := by
      rw [C01.lemma_allowedSet, C01.lemma_allowedSet]
      exact List.filter_congr fun m hm => by rw [refRoute_live (hOwS m hm)]
    simp only [this]

end Rivaas.RadixL
