import Rivaas.Lemmas.CompilerStage2
/-
C11, stage 1: the compiler's static table (hash map + bloom filter) answers with the route the tree
engine serves.
-/
namespace Rivaas.CompilerL
open Rivaas.Route Rivaas.Radix Rivaas.Compiler Rivaas.Match Rivaas.MatchL Rivaas.RadixL Rivaas.C01

theorem std_noslash : ∀ x ∈ stdMethods, '/' ∉ x := by
  -- the method names as character lists first: evaluating `toList` on a literal is dear in the kernel
  unfold stdMethods
  repeat rewrite [String.toList_ofList]
  decide +kernel

/-- a method text without `/` and a `/`-led text are recovered from their concatenation: the key
`method ++ pattern` of the static table determines both -/
theorem append_inj_noslash (m m' t t' : Bytes) (hm : '/' ∉ m) (hm' : '/' ∉ m')
    (ht : t.head? = some '/') (ht' : t'.head? = some '/') (h : m ++ t = m' ++ t') : m = m' ∧ t = t' := by
  -- the longer of the two method texts would contain the `/` that starts the other text
  rcases List.append_eq_append_iff.mp h with ⟨a, rfl, rfl⟩ | ⟨a, rfl, rfl⟩
  · cases a with
    | nil => exact ⟨(List.append_nil m).symm, rfl⟩
    | cons c cs =>
      cases (Option.some.inj ht : c = '/')
      exact absurd (List.mem_append_right m (List.mem_cons_self ..)) hm'
  · cases a with
    | nil => exact ⟨List.append_nil m', rfl⟩
    | cons c cs =>
      cases (Option.some.inj ht' : c = '/')
      exact absurd (List.mem_append_right m' (List.mem_cons_self ..)) hm

def StatR (R : List Route) : Prop :=
  ∀ r ∈ R, NormalPat r.text r.pat ∧ r.method ∈ stdMethods ∧ parsePattern r.text = some r.pat

theorem static_match_text (r : Route) (hn : NormalPat r.text r.pat) (hs : isStaticPat r.pat = true)
    (path : Bytes) (hp : path.head? = some '/') (h : r.text = path) :
    (matchPat (cutAny path).trail r.pat (cutAny path).segs).isSome = true := by
  by_cases hpe : r.pat = []
  · rw [← h, hn.text, hpe]
    rfl
  · exact (static_text_iff r hn hs hpe path hp).mp h

/-- Stage 1 of the compiled engine, with neither `order` nor `overwrite` excluded (the route set is `normal`): both
engines keep the last registration of a parameter-free (method, pattern), and that route is live in the tree. -/
theorem stage1_live (hash : Bytes → Nat) (sat : Nat → Bytes → Bool) (noRoute : Bool) (script : List Reg) (R : List Route)
    (hRs : specRoutes script = some R) (hN : normal R = true)
    (hstd : ∀ g ∈ script, g.method ∈ stdMethods) (req : Req) (hp : req.path.head? = some '/')
    (hmeth : '/' ∉ req.method)
    (hinj : InjOn hash ((req.method ++ req.path) :: R.map fun r => r.method ++ r.text))
    (cr : CRoute) (h : (rcBuild hash script).lookupStatic hash req.method req.path = some cr) :
    servedStatic cr req = serve sat (build noRoute script) req := by
  have hNR := lemma_normalR R hN
  have hg : GoodR R := fun r hr => (hNR r hr).1
  -- the template is the last registration of its key, and its key is the request's
  obtain ⟨hlr, hρs, hρh⟩ := lookupStatic_sound hash script R hRs hg req.method req.path cr h
  obtain ⟨ρ, hρR, rfl, hlive⟩ := hlr.live hg
  have hn := hg ρ hρR
  obtain ⟨g, hgs, hgm⟩ := lemma_methods script 0 R hRs ρ hρR
  obtain ⟨hmeta, hpatt, hrid⟩ := C_meta ρ hn
  rw [hmeta, hpatt] at hρh
  have hhead : ρ.text.head? = some '/' := by rw [hn.text]; rfl
  obtain ⟨hρm, hρt⟩ := append_inj_noslash _ _ _ _ (std_noslash _ (hgm ▸ hstd g hgs)) hmeth hhead hp <|
    hinj _ (List.mem_cons_of_mem _ (List.mem_map.mpr ⟨ρ, hρR, rfl⟩)) _ (List.mem_cons_self ..) hρh
  rw [C_isStatic ρ hn] at hρs
  -- a route with the shape of a parameter-free one has its pattern: `ρ` is live, it matches, and nothing beats it
  rw [serve_ref sat noRoute script R hRs hN hstd req hp (leafOf ρ) Ctx.fresh
    (ref_live_static sat (hlive fun x _ _ hsh => shapeEq_static hρs hsh) hρm (hNR ρ hρR).2 hρs
      (static_match_text ρ hn hρs req.path hp hρt))]
  have htne : ρ.text ≠ [] := fun e => by rw [e] at hhead; cases hhead
  simp only [servedStatic, served, leafOf, hpatt, hrid, htne, if_false]
  rfl

/-- an instance of `stage1_live` with two redundant hypotheses: `hR` follows from `hN` and `hstd`, `hOw` is not used -/
theorem stage1_eq (hash : Bytes → Nat) (sat : Nat → Bytes → Bool) (noRoute : Bool) (script : List Reg) (R : List Route)
    (hRs : specRoutes script = some R) (hN : normal R = true) (hR : StatR R)
    (hstd : ∀ g ∈ script, g.method ∈ stdMethods) (req : Req) (hp : req.path.head? = some '/')
    (hmeth : '/' ∉ req.method)
    (hinj : InjOn hash ((req.method ++ req.path) :: R.map fun r => r.method ++ r.text))
    (hOw : dReplaced1 sat R req.method (cutAny req.path) = false)
    (cr : CRoute) (h : (rcBuild hash script).lookupStatic hash req.method req.path = some cr) :
    servedStatic cr req = serve sat (build noRoute script) req :=
  stage1_live hash sat noRoute script R hRs hN hstd req hp hmeth hinj cr h

end Rivaas.CompilerL
