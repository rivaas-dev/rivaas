import Rivaas.Spec.VersionCfg
import Rivaas.Lemmas.VersionSel
import Rivaas.Lemmas.ListCore
/-
C13 — the configuration step: closed form of `applyAll` (the loop of `NewConfig` over the options).
-/
namespace Rivaas.Version
open Rivaas.Version.Spec

/-- what a well-formed option does to the configuration -/
def upd (b : Built) : Opt → Built
  | .det d => { b with dets := if isCustom d then toDet d :: b.dets else b.dets ++ [toDet d] }
  | .customNil => b
  | .dflt v => { b with dflt := v }
  | .valid vs => { b with valid := vs }
  | .responseHeaders => { b with sendVersionHeader := true }
  | .warning299 => { b with sendWarning299 := true }
  | .sunsetEnforcement => { b with enforceSunset := true }
  | .observer => { b with hasObserver := true }
  | .clock => { b with hasClock := true }

theorem lemma_firstEmpty_none (vs : List Bytes) (i : Nat) : firstEmpty vs i = none ↔ ([] : Bytes) ∉ vs := by
  induction vs generalizing i with
  | nil => simp [firstEmpty]
  | cons v rest ih =>
    simp only [firstEmpty]
    by_cases hv : v = []
    · subst hv; simp
    · simp only [hv, if_false, ih, List.mem_cons, not_or]
      exact (and_iff_right fun e => hv e.symm).symm

theorem ok_ite_iff {ε α} {c : Prop} [Decidable c] {e : ε} {x : Except ε α} {b' : α} :
    (if c then .error e else x) = .ok b' ↔ ¬c ∧ x = .ok b' := by
  by_cases h : c <;> simp [h]

/-- an option function succeeds exactly on a well-formed argument, and then does `upd`: its guards are the negated
    conjuncts of `wellFormed` -/
theorem lemma_applyOption (b b' : Built) (o : Opt) :
    applyOption b o = .ok b' ↔ wellFormed o = true ∧ upd b o = b' := by
  -- option by option both sides are read off their tables; `ok_ite_iff` turns each guard of the option function into
  -- a conjunct, and the conjuncts are those of `wellFormed`
  cases o with
  | det d =>
    cases d <;>
      simp [applyOption, ok_ite_iff, wellFormed, hasPlaceholder, containsSub, upd, isCustom, toDet,
        Option.isSome_iff_ne_none, and_assoc]
  | valid vs =>
    cases hf : firstEmpty vs 0 with
    | none => simp [applyOption, ok_ite_iff, wellFormed, upd, hf, (lemma_firstEmpty_none vs 0).1 hf]
    | some i =>
      have : ([] : Bytes) ∈ vs := Decidable.byContradiction fun hne => by
        rw [(lemma_firstEmpty_none vs 0).2 hne] at hf
        cases hf
      simp [applyOption, ok_ite_iff, wellFormed, hf, this]
  | _ => simp [applyOption, ok_ite_iff, wellFormed, upd]

theorem lemma_applyAll (opts : List Opt) (b b' : Built) :
    applyAll b opts = .ok b' ↔ opts.all wellFormed = true ∧ opts.foldl upd b = b' := by
  induction opts generalizing b with
  | nil => simp [applyAll]
  | cons o rest ih =>
    simp only [applyAll, List.all_cons, List.foldl_cons, Bool.and_eq_true, and_assoc]
    cases h : applyOption b o with
    | error e =>
      refine ⟨nofun, fun hw => ?_⟩
      rw [(lemma_applyOption b _ o).2 ⟨hw.1, rfl⟩] at h
      cases h
    | ok b1 =>
      obtain ⟨hw, rfl⟩ := (lemma_applyOption b b1 o).1 h
      simp only [hw, true_and]
      exact ih _

/-! ### closed form of the fold: each field of `upd` commutes with it (`List.foldl_hom`) -/

theorem lemma_upd_dets (opts : List Opt) (b : Built) :
    (opts.foldl upd b).dets =
      (((opts.filterMap detOf).filter isCustom).reverse.map toDet) ++ b.dets ++
      (((opts.filterMap detOf).filter (fun d => !isCustom d)).map toDet) := by
  rw [← foldl_front_back, List.foldl_filterMap]
  exact (List.foldl_hom Built.dets fun b o => by cases o <;> rfl).symm

theorem foldl_or_beq {β} [BEq β] (x : β) (l : List β) (init : Bool) :
    l.foldl (fun a o => x == o || a) init = (init || l.contains x) := by
  induction l generalizing init with
  | nil => simp
  | cons o rest ih => rw [List.foldl_cons, ih, List.contains_cons, ← Bool.or_assoc, Bool.or_comm init]

/-- a field that one kind of option overwrites holds what the last option of that kind set, else its initial value -/
theorem lemma_upd_last {α} (π : Built → α) (f : Opt → Option α) (h : ∀ b o, π (upd b o) = (f o).getD (π b))
    (opts : List Opt) (b : Built) : π (opts.foldl upd b) = lastOr f (π b) opts := by
  rw [lastOr, List.getLast?_filterMap, ← List.foldl_getD]
  exact (List.foldl_hom π fun b o => (h b o).symm).symm

/-- a switch of the configuration is on exactly when it was on or its option occurs -/
theorem lemma_upd_flag (π : Built → Bool) (x : Opt) (h : ∀ b o, π (upd b o) = (x == o || π b))
    (opts : List Opt) (b : Built) : π (opts.foldl upd b) = (π b || opts.contains x) := by
  rw [← foldl_or_beq]
  exact (List.foldl_hom π fun b o => (h b o).symm).symm

end Rivaas.Version
