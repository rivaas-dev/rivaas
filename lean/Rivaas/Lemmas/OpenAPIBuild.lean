import Rivaas.Lemmas.OpenAPIGen
import Rivaas.Lemmas.OpenAPIAssoc
/-
C07 — helper lemmas: the registry invariant and reference closure through request parameters,
request bodies, responses, `buildOperation` and the loops of `Build`. Each piece of the builder is a
`Run` (a `Step` of the registry together with the schemas produced, good for the registry reached),
and `Run.trans` puts the pieces together; the loops add that operation ids stay distinct, by counting.
-/
namespace Rivaas.OpenAPI

/-- top level (empty generation stack): references are registered components -/
def GoodT (st : Schemas) (t : IR) : Prop := Good (Schemas.keys st) t

theorem names_nil (env : Env) (st : Schemas) : names env [] st = Schemas.keys st := by
  simp [names, seenNames]

theorem GoodT.mono {st st' : Schemas} (h : ∀ k ∈ Schemas.keys st, k ∈ Schemas.keys st') {t : IR} (g : GoodT st t) :
    GoodT st' t := Good.mono h g

/-- a stretch of `Build` at top level (empty generation stack) that takes the registry from `st` to `st'` and produces the
    schemas `xs`: if the invariant held of `st`, it is a `Step`, and `xs` refer only to components of `st'` -/
def Run (env : Env) (st st' : Schemas) (xs : List IR) : Prop :=
  Inv env [] st → Step env [] st st' ∧ ∀ x ∈ xs, GoodT st' x

section
variable {env : Env} {st st₁ st₂ : Schemas} {xs ys : List IR}

theorem Run.refl : Run env st st [] := fun h => ⟨.refl h, fun _ hx => nomatch hx⟩

/-- one stretch after another: the registry only grows, so what the first produced stays good -/
theorem Run.trans (h₁ : Run env st st₁ xs) (h₂ : Run env st₁ st₂ ys) : Run env st st₂ (xs ++ ys) := fun h =>
  have ⟨s₁, g₁⟩ := h₁ h
  have ⟨s₂, g₂⟩ := h₂ s₁.inv
  ⟨s₁.trans s₂, List.forall_mem_append.2 ⟨fun x hx => (g₁ x hx).mono s₂.keys, g₂⟩⟩

end

theorem gen_top (env : Env) (t : Ty) (st : Schemas) : Run env st (gen env [] [] t st).2 [(gen env [] [] t st).1] := by
  intro hinv
  obtain ⟨h1, h2⟩ := (gen_genFields_post env).1 [] [] t st hinv
  exact ⟨h1, List.forall_mem_singleton.2 (by simpa only [GoodT, names_nil] using h2)⟩

theorem paramOfSpec_post (env : Env) (ps : ParamSpec) (st : Schemas) :
    Run env st (paramOfSpec env ps st).2 [(paramOfSpec env ps st).1.schema] := by
  intro hinv
  obtain ⟨h1, h2⟩ := gen_top env ps.ty st hinv
  refine ⟨h1, List.forall_mem_singleton.2 ?_⟩
  replace h2 := h2 _ (List.mem_singleton_self _)
  simp only [paramOfSpec]
  have e0 : GoodT (gen env [] [] ps.ty st).2 (setDflt ps.dflt (gen env [] [] ps.ty st).1) := by
    unfold setDflt
    cases ps.dflt with
    | none => exact h2
    | some d => exact h2.modHead (f := fun h => { h with dflt := some d }) fun _ => rfl
  generalize setDflt ps.dflt (gen env [] [] ps.ty st).1 = s0 at e0 ⊢
  have e1 : GoodT (gen env [] [] ps.ty st).2
      (if ps.enum.isEmpty = true then s0 else s0.modHead fun h => { h with enum := ps.enum }) := by
    split
    · exact e0
    · exact e0.modHead (f := fun h => { h with enum := ps.enum }) fun _ => rfl
  split
  · exact e1.modHead (f := fun h => { h with format := ps.format }) fun _ => rfl
  · exact e1

theorem mdParams_post (env : Env) (l : List ParamSpec) : ∀ (sk : List (B × B)) (sp : List B) (st : Schemas),
    Run env st (mdParams env l sk sp st).2.2 ((mdParams env l sk sp st).1.map (·.schema)) := by
  induction l with
  | nil => exact fun sk sp st => .refl
  | cons ps rest ih =>
    intro sk sp st
    rw [mdParams]
    split
    · exact ih sk sp st
    · exact (paramOfSpec_post env ps st).trans (ih _ _ _)

theorem schemaName_all_ok (name pkgPath : B) : (schemaName name pkgPath).all nameCharOK = true := by
  rcases schemaName_wellformed name pkgPath with h | h
  · simp [h]
  · simp only [nameOK, Bool.and_eq_true] at h
    exact h.2

theorem bodyName_ok (name pkgPath : B) : nameOK (schemaName name pkgPath ++ s "Body") = true := by
  simp only [nameOK, Bool.and_eq_true, List.all_append, schemaName_all_ok, true_and]
  constructor
  · cases h : schemaName name pkgPath <;> simp [s]
  · decide +kernel

theorem Inv.register {env : Env} {st : Schemas} {nm : B} {sch : IR} (hinv : Inv env [] st) (hok : nameOK nm = true)
    (hs : GoodT ((nm, sch) :: st) sch) : Inv env [] ((nm, sch) :: st) :=
  hinv.cons hok (names_mono_keys (keys_cons_sub _ _)) (names_nil env _ ▸ hs)

theorem genProjected_post (env : Env) (md : Meta) (st : Schemas) :
    Run env st (genProjected env md st).2 [(genProjected env md st).1] := by
  intro hinv
  unfold genProjected
  split
  next name pkg fs heq =>
    dsimp only
    split
    next hk => exact ⟨.refl hinv, List.forall_mem_singleton.2 (good_ref _ _ ((hasKey_iff _ _).1 hk))⟩
    next hk =>
      obtain ⟨h1, h2, h3⟩ := (gen_genFields_post env).2 [] [] true md.flat .nil [] st hinv trivial List.nodup_nil
      rw [names_nil] at h2
      exact ⟨h1.trans ⟨keys_cons_sub _ _,
          h1.inv.register (bodyName_ok name pkg) (Good.mono (keys_cons_sub _ _) (good_objNode h3 h2))⟩,
        List.forall_mem_singleton.2 (good_ref _ _ (List.mem_cons_self ..))⟩
  next => exact ⟨.refl hinv, List.forall_mem_singleton.2 (good_object _)⟩

def respSchema (env : Env) (status : Nat) (rt : Option Ty) (st : Schemas) : Option IR × Schemas :=
  match rt with
  | some t => if status ≠ 204 then (some (gen env [] [] t st).1, (gen env [] [] t st).2) else (none, st)
  | none => (none, st)

theorem genResps_cons_ok {env : Env} {status : Nat} {text : B} {rt : Option Ty} {rest : List (Nat × B × Option Ty)}
    {st st' : Schemas} {rs : List (Resp IR)} (h : genResps env ((status, text, rt) :: rest) st = .ok (rs, st')) :
    validResponseCode (itoa status) = true ∧ ∃ rr, genResps env rest (respSchema env status rt st).2 = .ok (rr, st') ∧
      rs = { code := itoa status, description := if text = [] then s "Response" else text,
             schema := (respSchema env status rt st).1 } :: rr := by
  rw [genResps] at h
  split at h
  · cases h
  next hc =>
    refine ⟨by simpa using hc, ?_⟩
    cases rt with
    | none =>
      simp only [respSchema] at h ⊢
      split at h
      · cases h
      next rr heq => cases h; exact ⟨rr.1, heq, rfl⟩
    | some t =>
      simp only [respSchema] at h ⊢
      split at h <;> split at h
      · cases h
      next hs _ rr heq => cases h; rw [if_pos hs]; exact ⟨rr.1, heq, rfl⟩
      · cases h
      next hs _ rr heq => cases h; rw [if_neg hs]; exact ⟨rr.1, heq, rfl⟩

theorem respSchema_post (env : Env) (status : Nat) (rt : Option Ty) (st : Schemas) :
    Run env st (respSchema env status rt st).2 (respSchema env status rt st).1.toList := by
  unfold respSchema
  cases rt with
  | none => exact .refl
  | some t =>
    dsimp only
    split
    · exact gen_top env t st
    · exact .refl

theorem genResps_post (env : Env) (l : List (Nat × B × Option Ty)) : ∀ (st : Schemas) (rs : List (Resp IR)) (st' : Schemas),
    genResps env l st = .ok (rs, st') → Run env st st' (rs.filterMap (·.schema)) := by
  induction l with
  | nil =>
    intro st rs st' h
    simp only [genResps, Except.ok.injEq, Prod.mk.injEq] at h
    obtain ⟨rfl, rfl⟩ := h
    exact .refl
  | cons x rest ih =>
    obtain ⟨status, text, rt⟩ := x
    intro st rs st' h
    obtain ⟨_, rr, hrr, rfl⟩ := genResps_cons_ok h
    have h2 := (respSchema_post env status rt st).trans (ih _ rr st' hrr)
    rw [List.filterMap_cons]
    generalize (respSchema env status rt st).1 = x at h2 ⊢
    cases x <;> exact h2

theorem goodT_pathParams (st : Schemas) (path : B) : ∀ p ∈ extractPathParams path, GoodT st p.schema := by
  intro p hp
  simp only [extractPathParams, List.mem_map] at hp
  obtain ⟨n, _, rfl⟩ := hp
  exact good_leaf _ _ (by simp)

theorem opParams_post (env : Env) (md : Option Meta) (path : B) (st : Schemas) :
    Run env st (opParams env md (extractPathParams path) st).2
      ((opParams env md (extractPathParams path) st).1.map (·.schema)) := by
  intro hinv
  unfold opParams
  cases md with
  | none => exact ⟨.refl hinv, List.forall_mem_map.2 (goodT_pathParams _ _)⟩
  | some m =>
    obtain ⟨h1, h2⟩ := mdParams_post env m.params [] [] st hinv
    refine ⟨h1, List.forall_mem_map.2 fun p hp => ?_⟩
    rcases List.mem_append.1 hp with hp | hp
    · exact h2 _ (List.mem_map_of_mem hp)
    · exact goodT_pathParams _ _ p (List.mem_filter.1 hp).1

theorem opBody_post (env : Env) (md : Option Meta) (st : Schemas) :
    Run env st (opBody env md st).2 (opBody env md st).1.toList := by
  unfold opBody
  cases md with
  | none => exact .refl
  | some m =>
    dsimp only
    split
    · exact genProjected_post env m st
    · exact .refl

def GoodOp (st : Schemas) (o : Operation IR) : Prop := ∀ x ∈ o.schemas, GoodT st x

theorem goodOp_mono {st st' : Schemas} (h : ∀ k ∈ Schemas.keys st, k ∈ Schemas.keys st') {o : Operation IR}
    (g : GoodOp st o) : GoodOp st' o := fun x hx => GoodT.mono h (g x hx)

theorem exampleOf_exclusive (opts : List RespOpt) (n : Nat) :
    ¬ ((exampleOf opts n).1 = true ∧ (exampleOf opts n).2 ≠ []) := by
  unfold exampleOf
  simp only []
  split <;> simp

theorem mem_attachEx {opts : List RespOpt} {rs : List (Resp IR)} {r' : Resp IR}
    (h : r' ∈ attachEx opts rs) :
    ∃ r ∈ rs, r'.code = r.code ∧ r'.description = r.description ∧
      ¬ (r'.hasExample = true ∧ r'.exampleNames ≠ []) := by
  simp only [attachEx, List.mem_map] at h
  obtain ⟨r, hr, rfl⟩ := h
  refine ⟨r, hr, ?_⟩
  split
  · split
    · exact ⟨rfl, rfl, exampleOf_exclusive _ _⟩
    · exact ⟨rfl, rfl, by simp⟩
  · exact ⟨rfl, rfl, by simp⟩

theorem filterMap_schema_attachEx (opts : List RespOpt) (rs : List (Resp IR)) :
    (attachEx opts rs).filterMap (·.schema) = rs.filterMap (·.schema) := by
  rw [attachEx, List.filterMap_map]
  congr 1
  funext r
  simp only [Function.comp]
  split
  · split <;> rfl
  · rfl

/-- What a successful `buildOperation` did, in one shape for both of its cases: an undocumented operation (`doc == nil`)
    is the documented case with no request metadata: it has no response types
    either (`hasDoc`), so the response loop runs over nothing and leaves the default response -/
theorem buildOperation_ok {env : Env} {op : OpIn} {st st' : Schemas} {so so' : List B} {o : Operation IR}
    (h : buildOperation env op st so = .ok (o, st', so')) :
    opIdOf op ∉ so ∧ so' = opIdOf op :: so ∧ o.opId = opIdOf op ∧
    let md := if op.hasDoc then op.req.bind (introspect env) else none
    let pr := opParams env md (extractPathParams op.path) st
    let br := opBody env md pr.2
    ∃ rr, (∀ p ∈ pr.1, styleOK p.loc p.style = true) ∧ genResps env (sortStatuses op.resps) br.2 = .ok (rr, st') ∧
      o.params = pr.1 ∧ o.body = br.1 ∧ o.resps = attachEx op.respOpts (if rr.isEmpty then defaultResps else rr) := by
  unfold buildOperation at h
  by_cases hdup : so.contains (opIdOf op) = true
  · rw [if_pos hdup] at h; cases h
  rw [if_neg hdup] at h
  refine ⟨by simpa using hdup, ?_⟩
  by_cases hdoc : op.hasDoc = true
  · simp only [hdoc, Bool.not_true, Bool.false_eq_true, if_false] at h
    split at h
    · cases h
    next hstyle =>
      split at h
      · cases h
      next rr heq =>
        cases h
        rw [if_pos hdoc]
        exact ⟨rfl, rfl, rr.1, by simpa [List.all_eq_true] using hstyle, heq, rfl, rfl, rfl⟩
  · simp only [hdoc, Bool.not_false, if_true] at h
    cases h
    have hresps : op.resps = [] := by
      simp only [OpIn.hasDoc, Bool.or_eq_true, not_or, Bool.not_eq_true'] at hdoc
      simpa using hdoc.2
    rw [if_neg hdoc, hresps]
    refine ⟨rfl, rfl, [], fun p hp => ?_, rfl, rfl, rfl, rfl⟩
    obtain ⟨n, _, rfl⟩ := List.mem_map.1 hp
    rfl

theorem buildOperation_post (env : Env) (op : OpIn) (st : Schemas) (so : List B) (o : Operation IR) (st' : Schemas)
    (so' : List B) (h : buildOperation env op st so = .ok (o, st', so')) :
    Run env st st' o.schemas ∧ so' = o.opId :: so ∧ o.opId ∉ so := by
  obtain ⟨hnot, rfl, hid, rr, _, hrr, hp, hb, hr⟩ := buildOperation_ok h
  rw [hid]
  refine ⟨?_, rfl, hnot⟩
  -- without response types the default response is put in: it has no schema either
  have hs : o.resps.filterMap (·.schema) = rr.filterMap (·.schema) := by
    rw [hr, filterMap_schema_attachEx]
    split
    next he => rw [List.isEmpty_iff.1 he]; rfl
    · rfl
  rw [Operation.schemas, hp, hb, hs]
  exact ((opParams_post env _ op.path st).trans (opBody_post env _ _)).trans (genResps_post env _ _ rr st' hrr)

/-! ## the loops of Build -/

/-- the path item after `Build` put the operation built for `op` under the member of its method (TRACE and custom methods
    have none: the operation is dropped) -/
def storeOp {σ} (op : OpIn) (o : Operation σ) (item : PathItem σ) : PathItem σ :=
  match methodMember op.method with
  | some m => setAssoc m o item
  | none => item

theorem buildGroup_cons_ok {env : Env} {op : OpIn} {rest : List OpIn} {item : PathItem IR} {st : Schemas} {so : List B}
    {R : PathItem IR × Schemas × List B} (h : buildGroup env (op :: rest) item st so = .ok R) :
    ∃ o st₁ so₁, buildOperation env op st so = .ok (o, st₁, so₁) ∧ buildGroup env rest (storeOp op o item) st₁ so₁ = .ok R := by
  rw [buildGroup] at h
  split at h
  · cases h
  next r heq => exact ⟨r.1, r.2.1, r.2.2, heq, h⟩

theorem buildGroups_cons_ok {env : Env} {p : B} {grp : List OpIn} {rest : List (B × List OpIn)} {st st' : Schemas} {so : List B}
    {paths : List (B × PathItem IR)} (h : buildGroups env ((p, grp) :: rest) st so = .ok (paths, st')) :
    ∃ item st₁ so₁ paths', buildGroup env grp [] st so = .ok (item, st₁, so₁) ∧
      buildGroups env rest st₁ so₁ = .ok (paths', st') ∧ paths = (p, item) :: paths' := by
  rw [buildGroups] at h
  split at h
  · cases h
  next r heq =>
    split at h
    · cases h
    next rr heq2 => cases h; exact ⟨r.1, r.2.1, r.2.2, rr.1, heq, heq2, rfl⟩

def itemIds {σ} (item : PathItem σ) : List B := item.map (·.2.opId)

theorem mem_storeOp {σ} {op : OpIn} {o : Operation σ} {item : PathItem σ} {mo : B × Operation σ}
    (h : mo ∈ storeOp op o item) : mo.2 = o ∨ mo ∈ item := by
  unfold storeOp at h
  cases hm : methodMember op.method with
  | none => rw [hm] at h; exact Or.inr h
  | some m => rw [hm] at h; exact (mem_setAssoc m o item mo h).imp_left (congrArg Prod.snd)

theorem count_itemIds_storeOp {σ} (i : B) (op : OpIn) (o : Operation σ) (item : PathItem σ) :
    (itemIds (storeOp op o item)).count i ≤ (o.opId :: itemIds item).count i := by
  unfold storeOp
  cases methodMember op.method with
  | none => exact List.count_le_count_cons
  | some m =>
    show ((setAssoc m o item).map _).count i ≤ (((m, o) :: item).map fun x => x.2.opId).count i
    rw [List.count_eq_countP, List.count_eq_countP, List.countP_map, List.countP_map]
    exact countP_setAssoc_le _ m o item

/-- the inner loop. `seenOps` stays without duplicates (the duplicate test), and an id that enters the path item enters
    `seenOps` at the same step: counted with multiplicity, the item gains no more than `seenOps` does. The inequality is
    relative, so nothing has to be assumed about the ids already stored, and the rounds add up -/
theorem buildGroup_post (env : Env) (grp : List OpIn) : ∀ (item : PathItem IR) (st : Schemas) (so : List B)
    (item' : PathItem IR) (st' : Schemas) (so' : List B),
    Inv env [] st → (∀ mo ∈ item, GoodOp st mo.2) → so.Nodup → buildGroup env grp item st so = .ok (item', st', so') →
    Step env [] st st' ∧ (∀ mo ∈ item', GoodOp st' mo.2) ∧ so'.Nodup ∧
      ∀ i, (itemIds item').count i + so.count i ≤ (itemIds item).count i + so'.count i := by
  induction grp with
  | nil =>
    intro item st so item' st' so' hinv hg hnd h
    simp only [buildGroup, Except.ok.injEq, Prod.mk.injEq] at h
    obtain ⟨rfl, rfl, rfl⟩ := h
    exact ⟨.refl hinv, hg, hnd, fun _ => Nat.le_refl _⟩
  | cons op rest ih =>
    intro item st so item' st' so' hinv hg hnd h
    obtain ⟨o, st₁, so₁, hbo, h⟩ := buildGroup_cons_ok h
    obtain ⟨hrun, rfl, n1⟩ := buildOperation_post env op st so o st₁ so₁ hbo
    obtain ⟨s1, g1⟩ := hrun hinv
    obtain ⟨s2, g2, nd2, c2⟩ := ih _ st₁ _ item' st' so' s1.inv
      (fun mo hmo => (mem_storeOp hmo).elim (fun e => e ▸ g1) fun hmo => goodOp_mono s1.keys (hg mo hmo))
      (List.nodup_cons.2 ⟨n1, hnd⟩) h
    refine ⟨s1.trans s2, g2, nd2, fun i => ?_⟩
    have h1 := c2 i
    have h2 := count_itemIds_storeOp i op o item
    rw [List.count_cons] at h1 h2
    omega

def pathsIds {σ} (paths : List (B × PathItem σ)) : List B := paths.flatMap fun pi => itemIds pi.2

theorem buildGroups_post (env : Env) (groups : List (B × List OpIn)) : ∀ (st : Schemas) (so : List B)
    (paths : List (B × PathItem IR)) (st' : Schemas),
    Inv env [] st → so.Nodup → buildGroups env groups st so = .ok (paths, st') →
    Step env [] st st' ∧ (∀ pi ∈ paths, ∀ mo ∈ pi.2, GoodOp st' mo.2) ∧ ∀ i, (pathsIds paths).count i + so.count i ≤ 1 := by
  induction groups with
  | nil =>
    intro st so paths st' hinv hnd h
    simp only [buildGroups, Except.ok.injEq, Prod.mk.injEq] at h
    obtain ⟨rfl, rfl⟩ := h
    exact ⟨.refl hinv, fun pi hpi => (nomatch hpi),
      fun i => Nat.le_trans (Nat.le_of_eq (Nat.zero_add _)) (List.nodup_iff_count.1 hnd i)⟩
  | cons g rest ih =>
    obtain ⟨p, grp⟩ := g
    intro st so paths st' hinv hnd h
    obtain ⟨item, st₁, so₁, paths', hg, hrest, rfl⟩ := buildGroups_cons_ok h
    obtain ⟨s1, g1, nd1, c1⟩ := buildGroup_post env grp [] st so item st₁ so₁ hinv (fun mo hmo => nomatch hmo) hnd hg
    obtain ⟨s2, g2, c2⟩ := ih st₁ so₁ paths' st' s1.inv nd1 hrest
    refine ⟨s1.trans s2, List.forall_mem_cons.2 ⟨fun mo hmo => goodOp_mono s2.keys (g1 mo hmo), g2⟩, fun i => ?_⟩
    have h1 : (itemIds item).count i + so.count i ≤ 0 + so₁.count i := c1 i
    have h2 := c2 i
    show (itemIds item ++ pathsIds paths').count i + so.count i ≤ 1
    rw [List.count_append]
    omega

theorem build_ok {env : Env} {ops : List OpIn} {paths : List (B × PathItem IR)} {comps : List (B × IR)}
    (h : build env ops = .ok (paths, comps)) :
    ∃ st, buildGroups env (sortByKey (groupByPath ops)) [] [] = .ok (paths, st) ∧ comps = sortByKey (componentList st) := by
  simp only [build, buildFromGroups] at h
  split at h
  · cases h
  next r heq => cases h; exact ⟨r.2, heq, rfl⟩

end Rivaas.OpenAPI
