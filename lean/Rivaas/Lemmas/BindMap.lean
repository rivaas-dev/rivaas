import Rivaas.Model.Bind
import Rivaas.Spec.Bind
import Rivaas.Lemmas.BindVal
import Rivaas.Lemmas.BindConv
import Rivaas.Lemmas.BindLookup
import Rivaas.Lemmas.BindExpect
import Rivaas.Lemmas.ListCore
/-
C04: map leaves. `setMapField` (count, limit, dot/bracket entries in container order, JSON-object
fallback) against the oracle's `expectMap`; the two independent readings of the key syntax
(`extractMapKey` with index arithmetic, `Spec.entryKey` with takeWhile/dropWhile) agree. Both sides are brought to the list
of entries of the field (`entriesOf`): `lemma_setMap_core` with `lemma_setMapCore_eq` for the model (one list is bound - the
entries or else the JSON object -: limit, keys, then one conversion loop), `lemma_expectMap_E` for the oracle.
At the end `lemma_leaf` joins the kinds of leaf - scalars and slices from BindExpect, maps from here - into the one
statement the later files use.
-/
namespace Rivaas.Bind
open Spec

/-! ### the key syntax -/

theorem indexOfB_eq (c : Char) (s : Bytes) : indexOfB c s = s.idxOf? c := by
  induction s with
  | nil => rfl
  | cons x r ih => rw [indexOfB, ih, List.idxOf?_cons]

theorem lemma_trimQuotes (s : Bytes) :
    trimQuotes s = ((s.dropWhile (fun c => c == '"' || c == '\'')).reverse.dropWhile (fun c => c == '"' || c == '\'')).reverse := rfl

theorem lemma_entryKey (full key : Bytes) :
    entryKey full key = (extractMapKey key full).map (fun k => if k.isEmpty then none else some k) := by
  unfold entryKey extractMapKey
  cases hd : cutPrefix key (full ++ B ".") with
  | some k => simp
  | none =>
    simp only
    cases hpp : (full ++ B "[").isPrefixOf key with
    | false => simp [cutPrefix, hasPrefix, hpp]
    | true =>
      -- bracket notation: the model cuts `after` at the index of the first `]`, the oracle by `takeWhile` / `dropWhile`, which is
      -- the same cut (`List.span_bne_of_idxOf?`); the cases below are the tests for a malformed key: no `]`, nothing before it,
      -- a `[` from it on
      have hb : cutPrefix key (full ++ B "[") = some (key.drop (full ++ B "[").length) := by simp [cutPrefix, hpp]
      have hp : hasPrefix key (full ++ B "[") = true := by simp [hasPrefix, hpp]
      generalize key.drop (full ++ B "[").length = after at hb
      simp only [hp, if_true, Option.map_some, extractBracketKey, hb]
      rw [indexOfB_eq]
      cases hi : after.idxOf? ']' with
      | none => simp [(List.span_bne_of_not_mem (List.idxOf?_eq_none_iff.1 hi)).2]
      | some n =>
        obtain ⟨h1, h2, h3⟩ := List.span_bne_of_idxOf? hi
        simp only [h1, h2]
        have hne : (after.dropWhile (· != ']')).isEmpty = false := by
          cases hdw : after.dropWhile (· != ']') with
          | nil => exact absurd hdw h3
          | cons _ _ => rfl
        simp only [hne, Bool.false_or]
        by_cases he : (after.takeWhile (· != ']')).isEmpty = true
        · simp [he]
        · have he' : (after.takeWhile (· != ']')).isEmpty = false := by simpa using he
          simp only [he', Bool.false_or, Bool.false_eq_true, if_false]
          by_cases hc : (after.dropWhile (· != ']')).contains '[' = true
          · have hmem : '[' ∈ after.dropWhile (· != ']') := by simpa using hc
            simp [hmem]
          · have hc' : (after.dropWhile (· != ']')).contains '[' = false := by simpa using hc
            simp only [hc', Bool.false_eq_true, if_false, lemma_trimQuotes]

theorem lemma_mapInsert_eq (k : Bytes) (v : Val) : ∀ m, mapInsert k v m = insertKV k v m
  | [] => rfl
  | (k', v') :: r => by
    simp only [mapInsert, insertKV]
    split
    · rfl
    · split
      · rfl
      · rw [lemma_mapInsert_eq k v r]


/-! ### the dot / bracket entries of a map field, in container order -/

/-- (map key as written — empty when the bracket notation is malformed —, first value) -/
def mEntries (full : Bytes) (kvs : List (Bytes × List Bytes)) : List (Bytes × Bytes) :=
  kvs.filterMap (fun e => (extractMapKey e.1 full).map (·, e.2.headD []))

variable (P : Params) (cfg : Cfg)

/-- bindMapFromValues on the entries -/
def bindEs (p : Prim) : List (Bytes × Bytes) → Nat → List (Bytes × Val) → Except Err (List (Bytes × Val))
  | [], _, m => .ok m
  | (mk, v) :: r, c, m =>
    if mk.isEmpty then .error .conv
    else if cfg.maxMap > 0 && c + 1 > cfg.maxMap then .error .mapSize
    else match convPrim P cfg p v with
      | none => .error .conv
      | some x => bindEs p r (c + 1) (mapInsert mk x m)

theorem lemma_bindMapEntries (p : Prim) (full : Bytes) : ∀ (kvs : List (Bytes × List Bytes)) (c : Nat) (m : List (Bytes × Val)),
    bindMapEntries P cfg (.prim p) full kvs c m = bindEs P cfg p (mEntries full kvs) c m
  | [], c, m => by simp [bindMapEntries, mEntries, bindEs]
  | (key, vals) :: rest, c, m => by
    simp only [bindMapEntries, mEntries, List.filterMap_cons]
    cases hk : extractMapKey key full with
    | none => simpa [mEntries] using lemma_bindMapEntries p full rest c m
    | some mk =>
      simp only [Option.map_some, bindEs, convTy]
      split
      · rfl
      · split
        · rfl
        · cases convPrim P cfg p (vals.headD []) with
          | none => rfl
          | some x => simpa [mEntries] using lemma_bindMapEntries p full rest (c+1) (mapInsert mk x m)

def convE (p : Prim) (e : Bytes × Bytes) : Option (Bytes × Val) := (convPrim P cfg p e.2).map (e.1, ·)

theorem lemma_jsonEntries_eq (p : Prim) : ∀ (es : List (Bytes × Bytes)) (m : List (Bytes × Val)),
    jsonEntries P cfg (.prim p) es m = match mapMOpt (convE P cfg p) es with
      | some kvs => .ok (kvs.foldl (fun m e => insertKV e.1 e.2 m) m)
      | none => .error .conv
  | [], m => rfl
  | (k, sv) :: r, m => by
    simp only [jsonEntries, convTy, mapMOpt, convE]
    cases convPrim P cfg p sv with
    | none => rfl
    | some x =>
      simp only [Option.map_some, lemma_jsonEntries_eq p r, lemma_mapInsert_eq]
      cases mapMOpt (convE P cfg p) r <;> rfl

theorem lemma_bindEs_eq (p : Prim) : ∀ (E : List (Bytes × Bytes)) (c : Nat) (m : List (Bytes × Val)),
    (cfg.maxMap > 0 → c + E.length ≤ cfg.maxMap) →
    bindEs P cfg p E c m = if E.all (fun e => !e.1.isEmpty) then jsonEntries P cfg (.prim p) E m else .error .conv
  | [], _, _, _ => rfl
  | (mk, v) :: r, c, m, hl => by
    simp only [bindEs, List.all_cons, jsonEntries, convTy]
    by_cases hmk : mk.isEmpty = true
    · simp [hmk]
    · have hlim : ¬ (decide (cfg.maxMap > 0) && decide (c + 1 > cfg.maxMap)) = true := by
        simp only [Bool.and_eq_true, decide_eq_true_eq, not_and]
        intro h0
        have := hl h0
        simp only [List.length_cons] at this
        omega
      simp only [hmk, hlim, Bool.false_eq_true, if_false, Bool.not_false, Bool.true_and]
      cases convPrim P cfg p v with
      | none => simp
      | some x => exact lemma_bindEs_eq p r (c + 1) _ (fun h0 => by have := hl h0; simp only [List.length_cons] at this; omega)


/-! ### the oracle's entries are the model's entries -/

def specKey (e : Bytes × Bytes) : Option Bytes × Bytes := (if e.1.isEmpty then none else some e.1, e.2)

theorem lemma_entries_list (full : Bytes) : ∀ kvs : List (Bytes × List Bytes),
    kvs.filterMap (fun e => (entryKey full e.1).map (fun mk => (mk, e.2.headD []))) = (mEntries full kvs).map specKey
  | [] => rfl
  | e :: r => by
    have ih := lemma_entries_list full r
    unfold mEntries at ih ⊢
    rw [List.filterMap_cons, List.filterMap_cons, lemma_entryKey full e.1]
    cases h : extractMapKey e.1 full with
    | none => simp only [Option.map_none]; exact ih
    | some mk => simp only [Option.map_some, List.map_cons, specKey, ih]

theorem lemma_mapKeyMatches_eq (full : Bytes) (e : Bytes × List Bytes) :
    mapKeyMatches full e = (extractMapKey e.1 full).isSome := by
  unfold mapKeyMatches extractMapKey cutPrefix hasPrefix
  cases h1 : (full ++ B ".").isPrefixOf e.1 <;> cases h2 : (full ++ B "[").isPrefixOf e.1 <;> simp

theorem lemma_filterMap_some {α β} (F : α → Option β) (l : List α) :
    (l.filter (fun a => (F a).isSome)).length = (l.filterMap F).length ∧
    l.any (fun a => (F a).isSome) = !(l.filterMap F).isEmpty := by
  refine ⟨List.countP_eq_length_filter.symm.trans List.length_filterMap_eq_countP.symm, ?_⟩
  rw [← List.isSome_findSome?, ← List.head?_filterMap]
  cases l.filterMap F <;> rfl

theorem lemma_no_entries (full : Bytes) (kvs : List (Bytes × List Bytes)) (h : mEntries full kvs = [])
    (e : Bytes × List Bytes) (he : e ∈ kvs) : hasPrefix e.1 (full ++ B ".") = false ∧ hasPrefix e.1 (full ++ B "[") = false := by
  have hm := lemma_mapKeyMatches_eq full e
  rw [show extractMapKey e.1 full = none by simpa using List.filterMap_eq_nil_iff.1 h e he] at hm
  simpa [mapKeyMatches] using hm


/-! ### setMapField and expectMap through the entries -/

def mapWrap (isPtr : Bool) (m : List (Bytes × Val)) : Val := if isPtr then .ptr (.map m) else .map m

/-- setMapField on the entries `E`, with what `Has`/`Get` answer for the bare key -/
def setMapCore (p : Prim) (isPtr : Bool) (m0 : List (Bytes × Val)) (E : List (Bytes × Bytes)) (has : Bool) (jv : Bytes) :
    Except Err Val :=
  if E.length > 0 && cfg.maxMap > 0 && E.length > cfg.maxMap then .error .mapSize else
  match bindEs P cfg p E 0 m0 with
  | .error e => .error e
  | .ok m1 =>
    if E.isEmpty && has then
      if jv.isEmpty then .ok (mapWrap isPtr m1)
      else match (P jv).j with
        | none => .ok (mapWrap isPtr m1)
        | some es =>
          if cfg.maxMap > 0 && es.length > cfg.maxMap then .error .mapSize
          else match jsonEntries P cfg (.prim p) es m1 with
            | .error e => .error e
            | .ok m2 => .ok (mapWrap isPtr m2)
    else .ok (mapWrap isPtr m1)

/-- the oracle's expectation on the entries `E` and the JSON-object entries `J` -/
def mapExpectOf (p : Prim) (isPtr : Bool) (m0 : List (Bytes × Val)) (E J : List (Bytes × Bytes)) : Expect :=
  let badKey := E.any (fun e => e.1.isEmpty)
  let src := if !E.isEmpty then E.filter (fun e => !e.1.isEmpty) else J
  let tooMany := cfg.maxMap > 0 && (E.length > cfg.maxMap || src.length > cfg.maxMap)
  let ds := src.map fun e => (e.1, denote P cfg p e.2)
  { oks := if tooMany || badKey then [] else
             (allSome (ds.map fun e => e.2.val.map (e.1, ·))).toList.map
               (fun kvs => some (mapWrap isPtr (kvs.foldl (fun m e => insertKV e.1 e.2 m) m0))),
    errs := (if tooMany then [.mapSize] else []) ++ (if badKey || ds.any (·.2.refusable) then [.conv] else []) }

theorem lemma_setMapCore_eq (p : Prim) (isPtr : Bool) (m0 : List (Bytes × Val)) (E : List (Bytes × Bytes)) (has : Bool)
    (jv : Bytes) :
    setMapCore P cfg p isPtr m0 E has jv =
      if cfg.maxMap > 0 &&
          (if E.isEmpty then (if has then (if jv.isEmpty then [] else ((P jv).j).getD []) else []) else E).length > cfg.maxMap
      then .error .mapSize
      else if E.all (fun e => !e.1.isEmpty) then
        match jsonEntries P cfg (.prim p)
          (if E.isEmpty then (if has then (if jv.isEmpty then [] else ((P jv).j).getD []) else []) else E) m0 with
        | .error e => .error e
        | .ok m => .ok (mapWrap isPtr m)
      else .error .conv := by
  unfold setMapCore
  cases E with
  | nil =>
    simp only [List.length_nil, Nat.lt_irrefl, decide_false, Bool.false_and, Bool.false_eq_true, if_false, bindEs,
      List.isEmpty_nil, Bool.true_and, gt_iff_lt, if_true, List.all_nil]
    cases has with
    | false => simp [jsonEntries]
    | true =>
      by_cases hjv : jv.isEmpty = true
      · simp [hjv, jsonEntries]
      · cases (P jv).j with
        | none => simp [hjv, jsonEntries]
        | some es => simp only [hjv, if_true, Bool.false_eq_true, if_false, Option.getD_some]
  | cons e r =>
    simp only [List.isEmpty_cons, Bool.false_eq_true, if_false, Bool.false_and, List.length_cons, Nat.zero_lt_succ,
      decide_true, Bool.true_and, gt_iff_lt]
    by_cases hlim : (decide (0 < cfg.maxMap) && decide (cfg.maxMap < r.length + 1)) = true
    · simp only [hlim, if_true]
    · simp only [hlim, Bool.false_eq_true, if_false]
      rw [lemma_bindEs_eq P cfg p (e :: r) 0 m0 (fun h0 => by
        simp only [Bool.and_eq_true, decide_eq_true_eq, not_and] at hlim; have := hlim h0; simp only [List.length_cons]; omega)]
      by_cases hv : (e :: r).all (fun e => !e.1.isEmpty) = true
      · simp only [hv, if_true]
      · simp only [hv, Bool.false_eq_true, if_false]

theorem lemma_mapExpect_mapSize (p : Prim) (isPtr : Bool) (m0 : List (Bytes × Val)) (E J : List (Bytes × Bytes))
    (h0 : cfg.maxMap > 0)
    (h : E.length > cfg.maxMap ∨ (if !E.isEmpty then E.filter (fun e => !e.1.isEmpty) else J).length > cfg.maxMap) :
    Err.mapSize ∈ (mapExpectOf P cfg p isPtr m0 E J).errs := by
  have : (decide (cfg.maxMap > 0) && (decide (E.length > cfg.maxMap) ||
      decide ((if (!E.isEmpty) = true then E.filter (fun e => !e.1.isEmpty) else J).length > cfg.maxMap))) = true := by
    simpa [h0] using h
  simp only [mapExpectOf, this, if_true, List.mem_append, List.mem_singleton, true_or]

theorem lemma_map_conv (hP : FloatSane P) (p : Prim) (isPtr : Bool) (iv : Val) (name : Bytes)
    (m0 : List (Bytes × Val)) (E J : List (Bytes × Bytes)) (hv : E.all (fun e => !e.1.isEmpty) = true)
    (hlim : cfg.maxMap > 0 → (if E.isEmpty then J else E).length ≤ cfg.maxMap) :
    LeafOK (mapExpectOf P cfg p isPtr m0 E J) false iv name
      (underName name (match jsonEntries P cfg (.prim p) (if E.isEmpty then J else E) m0 with
        | .error e => .error e
        | .ok m => .ok (mapWrap isPtr m))) := by
  have hsrc : (if (!E.isEmpty) = true then E.filter (fun e => !e.1.isEmpty) else J) = if E.isEmpty then J else E := by
    rw [List.filter_eq_self.2 (List.all_eq_true.1 hv)]; cases E.isEmpty <;> rfl
  have hbad : E.any (fun e => e.1.isEmpty) = false := by rw [List.any_eq_not_all_not, hv]; rfl
  have htm : (decide (cfg.maxMap > 0) && (decide (E.length > cfg.maxMap) ||
      decide ((if E.isEmpty then J else E).length > cfg.maxMap))) = false := by
    cases h0 : decide (cfg.maxMap > 0) with
    | false => rfl
    | true =>
      have := hlim (of_decide_eq_true h0)
      cases E with
      | nil => simpa using this
      | cons e r => simpa using this
  rw [lemma_jsonEntries_eq]
  generalize (if E.isEmpty then J else E) = src at *
  have hm := lemma_meets_list _ _ _ (fun e => (lemma_meets_denote P hP cfg p e.2).map (e.1, ·)) src
  cases hmm : mapMOpt (convE P cfg p) src with
  | some kvs =>
    refine leafOK_store ?_
    simp only [mapExpectOf, hsrc, htm, hbad, Bool.or_self, Bool.false_eq_true, if_false, List.map_map, Function.comp_def,
      hm.1 kvs hmm, Option.toList_some, List.map_cons, List.map_nil, List.mem_singleton]
  | none =>
    refine leafOK_refuse ?_
    have : (src.map fun e => (e.1, denote P cfg p e.2)).any (·.2.refusable) = true := by
      simpa [List.any_map, Function.comp_def] using hm.2 hmm
    simp only [mapExpectOf, hsrc, this, Bool.or_true, if_true, List.mem_append, List.mem_singleton, or_true]

theorem lemma_setMapCore_ok (hP : FloatSane P) (p : Prim) (isPtr : Bool) (iv : Val) (name : Bytes)
    (m0 : List (Bytes × Val)) (E J : List (Bytes × Bytes)) (has : Bool) (jv : Bytes)
    (hJ : E = [] → J = if has then (if jv.isEmpty then [] else ((P jv).j).getD []) else []) :
    LeafOK (mapExpectOf P cfg p isPtr m0 E J) false iv name (underName name (setMapCore P cfg p isPtr m0 E has jv)) := by
  have hsrc : (if E.isEmpty then (if has then (if jv.isEmpty then [] else ((P jv).j).getD []) else []) else E) =
      if E.isEmpty then J else E := by
    cases E with
    | nil => rw [hJ rfl]
    | cons _ _ => rfl
  rw [lemma_setMapCore_eq, hsrc]
  by_cases hlim : cfg.maxMap > 0 ∧ (if E.isEmpty then J else E).length > cfg.maxMap
  · simp only [decide_eq_true hlim.1, decide_eq_true hlim.2, Bool.and_self, if_true]
    refine leafOK_refuse (lemma_mapExpect_mapSize P cfg p isPtr m0 E J hlim.1 ?_)
    cases E with
    | nil => exact Or.inr hlim.2
    | cons _ _ => exact Or.inl hlim.2
  · rw [← Bool.decide_and, decide_eq_false hlim]
    by_cases hv : E.all (fun e => !e.1.isEmpty) = true
    · simp only [hv, Bool.false_eq_true, if_false, if_true]
      exact lemma_map_conv P cfg hP p isPtr iv name m0 E J hv (fun h0 => by have := fun h => hlim ⟨h0, h⟩; omega)
    · have : E.any (fun e => e.1.isEmpty) = true := by rw [List.any_eq_not_all_not]; simpa using hv
      simp only [hv, Bool.false_eq_true, if_false]
      exact leafOK_refuse (by simp only [mapExpectOf, this, Bool.true_or, if_true, List.mem_append, List.mem_singleton, or_true])


/-! ### assembling the map leaf -/

/-- the entries of the map field `full` in the source (none for sources without key enumeration) -/
def entriesOf (s : Src) (full : Bytes) : List (Bytes × Bytes) := if isQF s.kind then mEntries full s.kvs else []

/-- the JSON-object entries under the bare key, as the oracle reads them -/
def jsonOf (s : Src) (full : Bytes) : List (Bytes × Bytes) :=
  match present s full with
  | some (v :: _) => if v.isEmpty then [] else ((P v).j).getD []
  | _ => []

theorem lemma_setMap_core (p : Prim) (isPtr : Bool) (cur : Val) (g : Getter) (name : Bytes) (ty : Ty)
    (hty : ty = if isPtr then .ptr (.map (.prim p)) else .map (.prim p)) :
    setMap P cfg ty cur g name =
      setMapCore P cfg p isPtr (mapOf (some cur)) (entriesOf g.src (g.pre ++ name)) (g.has name) (g.get name) := by
  subst hty
  have hm0 : curMap cur = mapOf (some cur) := by
    cases cur with
    | ptr y => cases y <;> rfl
    | _ => rfl
  -- what `setMapField` computes from the container, in terms of the entries (none unless query/form)
  have h1 : (if isQF g.src.kind then (g.src.kvs.filter (mapKeyMatches (g.pre ++ name))).length else 0) =
      (entriesOf g.src (g.pre ++ name)).length := by
    unfold entriesOf mEntries
    cases isQF g.src.kind with
    | false => rfl
    | true =>
      simp only [if_true, ← (lemma_filterMap_some _ g.src.kvs).1, Option.isSome_map,
        funext (lemma_mapKeyMatches_eq (g.pre ++ name))]
  have h2 : ∀ m, (if isQF g.src.kind then bindMapEntries P cfg (.prim p) (g.pre ++ name) g.src.kvs 0 m else .ok m) =
      bindEs P cfg p (entriesOf g.src (g.pre ++ name)) 0 m := by
    intro m; unfold entriesOf; split <;> simp [lemma_bindMapEntries, bindEs]
  have h3 : (isQF g.src.kind && g.src.kvs.any (fun e => (extractMapKey e.1 (g.pre ++ name)).isSome)) =
      !(entriesOf g.src (g.pre ++ name)).isEmpty := by
    unfold entriesOf mEntries
    cases isQF g.src.kind with
    | false => rfl
    | true => simp only [if_true, ← (lemma_filterMap_some _ g.src.kvs).2, Option.isSome_map, Bool.true_and]
  cases isPtr <;>
  · simp only [setMap, setMapCore, h1, h2, h3, hm0, Bool.not_not, mapWrap, if_true, if_false, Bool.false_eq_true]
    rfl


theorem lemma_specKey_any : ∀ E : List (Bytes × Bytes),
    (E.map specKey).any (fun e => e.1.isNone) = E.any (fun e => e.1.isEmpty)
  | [] => rfl
  | e :: r => by
    simp only [List.map_cons, List.any_cons, lemma_specKey_any r, specKey]
    cases e.1.isEmpty <;> simp

theorem lemma_specKey_filter : ∀ E : List (Bytes × Bytes),
    (E.map specKey).filterMap (fun e => e.1.map (·, e.2)) = E.filter (fun e => !e.1.isEmpty)
  | [] => rfl
  | e :: r => by
    simp only [List.map_cons, List.filterMap_cons, List.filter_cons, specKey]
    cases h : e.1.isEmpty <;> simp [lemma_specKey_filter r]

theorem lemma_mapEntries_E (s : Src) (full : Bytes) : mapEntries s full = (entriesOf s full).map specKey := by
  unfold mapEntries entriesOf isQF
  split
  · exact lemma_entries_list full s.kvs
  · rfl

theorem lemma_expectMap_E (s : Src) (l : Leaf) (p : Prim) (isPtr : Bool) (m0 : List (Bytes × Val)) :
    expectMap P cfg s l (.prim p) isPtr m0 =
      mapExpectOf P cfg p isPtr m0 (entriesOf s (l.keys.headD [])) (jsonOf P s (l.keys.headD [])) := by
  unfold expectMap mapExpectOf jsonOf
  simp only [lemma_mapEntries_E, lemma_specKey_any, lemma_specKey_filter, List.length_map, List.isEmpty_map, mapWrap]
  cases isPtr <;> rfl


theorem lemma_prefix_bracket (full : Bytes) : hasPrefix (full ++ B "[]") (full ++ B "[") = true :=
  List.isPrefixOf_iff_prefix.2 ((List.prefix_append_right_inj full).2 ⟨[']'], by decide⟩)

theorem lemma_json_link (g : Getter) (hs : srcOK g.src = true) (name : Bytes)
    (hE : entriesOf g.src (g.pre ++ name) = []) :
    jsonOf P g.src (g.pre ++ name) =
      if g.has name then (if (g.get name).isEmpty then [] else ((P (g.get name)).j).getD []) else [] := by
  -- no key extends the full key with a dot or a bracket
  have hno : isQF g.src.kind = true → ∀ e ∈ g.src.kvs,
      hasPrefix e.1 (g.pre ++ name ++ B ".") = false ∧ hasPrefix e.1 (g.pre ++ name ++ B "[") = false := by
    intro hq e he
    have : mEntries (g.pre ++ name) g.src.kvs = [] := by simpa [entriesOf, hq] using hE
    exact lemma_no_entries _ _ this e he
  have hdot : dotAmb g.src g.nested (g.pre ++ name) = false := by
    unfold dotAmb
    cases hq : isQF g.src.kind with
    | false => simp
    | true =>
      simp only [Bool.true_and, Bool.and_eq_false_iff, List.any_eq_false]
      right
      intro e he
      simpa using (hno hq e he).1
  have hbr : bracketOnly g.src (g.pre ++ name) = false := by
    unfold bracketOnly
    cases hq : isQF g.src.kind with
    | false => simp
    | true =>
      simp only [Bool.true_and, Bool.and_eq_false_iff]
      cases hb : assoc (g.pre ++ name ++ B "[]") g.src.kvs with
      | none => right; rfl
      | some ws =>
        have hm := lemma_assoc_mem _ _ _ hb
        have := (hno hq _ hm).2
        rw [lemma_prefix_bracket] at this
        cases this
  have hhas := lemma_has_present g hs name hdot
  unfold jsonOf
  cases hp : present g.src (g.pre ++ name) with
  | none => simp [hhas, hp]
  | some vs =>
    have hget : g.get name = vs.headD [] := lemma_get_present g.src hs _ vs hp hbr
    simp only [hhas, hp, Option.isSome_some, if_true, hget]
    cases vs with
    | nil => simp
    | cons v r => simp

/-- **map leaf** (`map[string]V` and `*map[string]V`): entries in dot / bracket notation, or a
    JSON object under the bare key; the size limit applies to both -/
theorem lemma_leaf_map (hP : FloatSane P) (g : Getter) (hs : srcOK g.src = true)
    (f : FieldInfo) (l : Leaf) (p : Prim) (isPtr : Bool) (hl : LeafLink P g f l)
    (hty : f.ty = if isPtr then .ptr (.map (.prim p)) else .map (.prim p)) (iv : Val) :
    wants g f = true ∧
    LeafOK (expectMap P cfg g.src l (.prim p) isPtr (mapOf (some iv))) false iv f.name
      (underName f.name (leafAction P cfg g f iv)) := by
  have hmp : isMapTy f.ty = true := by rw [hty]; cases isPtr <;> simp [isMapTy]
  refine ⟨by simp [wants, hmp], ?_⟩
  have hfa : leafAction P cfg g f iv = setMap P cfg f.ty iv g f.tagName := by
    unfold leafAction
    rw [if_pos hmp]
  have hfull : l.keys.headD [] = g.pre ++ f.tagName := by rw [hl.keys]; rfl
  rw [hfa, lemma_setMap_core P cfg p isPtr iv g f.tagName f.ty hty, lemma_expectMap_E, hfull]
  exact lemma_setMapCore_ok P cfg hP p isPtr iv f.name _ _ _ _ _ (lemma_json_link P g hs f.tagName)

theorem lemma_leaf (hP : FloatSane P) (g : Getter) (hs : srcOK g.src = true) (f : FieldInfo) (l : Leaf)
    (hl : LeafLink P g f l) (hleaf : leafTy f.ty = true) (iv : Val) :
    LeafOK (expectV P cfg g.src l (mapOf (some iv))) (ambiguous g.src l) iv f.name
      (if !wants g f then .inl iv else underName f.name (leafAction P cfg g f iv)) := by
  unfold expectV ambiguous
  rw [hl.ty]
  obtain ⟨p, isPtr, ht | ht | ht⟩ := leafTy_cases hleaf
  · have := lemma_leaf_scalar P cfg hP g hs f l p isPtr hl ht iv
    rw [ht]
    cases isPtr <;> exact this
  · have := lemma_leaf_slice P cfg hP g hs f l p isPtr hl ht iv
    rw [ht]
    cases isPtr <;> exact this
  · -- a map field is always resolved, and no excuse for ambiguous keys is needed
    have := lemma_leaf_map P cfg hP g hs f l p isPtr hl ht iv
    rw [ht, this.1]
    cases isPtr <;> exact leafOK_mono _ _ _ _ _ this.2

end Rivaas.Bind
