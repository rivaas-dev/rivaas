import Rivaas.Lemmas.RadixSearch
import Rivaas.Lemmas.RadixLive
/-
C01, the tree against the reference: a method tree filled from a list of routes, looked up with the model's
`walk`, against the reference choice of Spec/Match. A node holds the leaf of the live route that ends there
(`slot_live`, `node_live`), so the search is the reference choice over the live routes of the tree (`walk_live`,
which RadixServe builds the lookup of a whole router on). Soundness, priority and the guarded equality with the
choice over all routes are read off it at the level of one tree (`walk_sound_prio`, `walk_sound`, `walk_ref`);
Props/C01 states them for the whole dispatch from `dispatch_eq_ref_live` and does not go through these three. Nor
does anything use the forms over all routes of the facts about live ones (`node_route`, `accAt_route`, `accAt_of_last`).
-/
namespace Rivaas.RadixL
open Rivaas.Route Rivaas.Radix Rivaas.Match Rivaas.MatchL

def leafOf (r : Route) : Leaf := ⟨r.rid, r.cons, r.text, declNames r.pat⟩
def bodyOf (pat : Pat) : Pat := if endsWild pat then pat.dropLast else pat
def toEntry (r : Route) : Entry := ⟨bodyOf r.pat, endsWild r.pat, leafOf r⟩

/-- routes that live in the node map: everything except non-empty parameter-free patterns -/
def inTree (r : Route) : Bool := !isStaticPat r.pat || r.pat.isEmpty

/-- a pattern the tree registration handles as the vocabulary intends -/
def patOK (pat : Pat) : Prop := (bodyOf pat).all litOK = true

def entriesOf (R : List Route) (m : Bytes) : List Entry :=
  (R.filter fun r => r.method = m && inTree r).map toEntry

theorem pat_split (pat : Pat) : pat = bodyOf pat ++ (if endsWild pat then [PSeg.wild] else []) := by
  unfold bodyOf
  by_cases hw : endsWild pat = true
  · simp only [hw, if_true]
    unfold endsWild at hw
    simp only [decide_eq_true_eq] at hw
    have hne : pat ≠ [] := by intro e; rw [e] at hw; simp at hw
    rw [List.getLast?_eq_some_getLast hne] at hw
    rw [← Option.some.inj hw]
    exact (List.dropLast_concat_getLast hne).symm
  · simp [hw]

theorem toEntry_pat (r : Route) : (toEntry r).pat = r.pat := (pat_split r.pat).symm

theorem entriesOf_ok (R : List Route) (hR : ∀ r ∈ R, patOK r.pat) (m : Bytes) : ∀ e ∈ entriesOf R m, e.ok := by
  intro e he
  simp only [entriesOf, List.mem_map, List.mem_filter] at he
  obtain ⟨r, ⟨hr, _⟩, rfl⟩ := he
  exact hR r hr

theorem cand_root {R : List Route} {m : Bytes} {r : Route} (hr : r ∈ R) (hm : r.method = m) (ht : inTree r = true)
    {trail : Bool} {segs : List Bytes} (hmat : (matchPat trail r.pat segs).isSome = true) :
    Cand (entriesOf R m) trail [] segs (toEntry r) r.pat :=
  ⟨List.mem_map.mpr ⟨r, List.mem_filter.mpr ⟨hr, by simp [hm, ht]⟩, rfl⟩, by rw [strip_nil_key, toEntry_pat], hmat⟩

theorem cand_root_inv {R : List Route} {m : Bytes} {trail : Bool} {segs : List Bytes} {e : Entry} {suf : Pat}
    (hc : Cand (entriesOf R m) trail [] segs e suf) : ∃ r ∈ R, e = toEntry r ∧ suf = r.pat := by
  have he := hc.mem
  simp only [entriesOf, List.mem_map, List.mem_filter] at he
  obtain ⟨r, ⟨hr, _⟩, rfl⟩ := he
  have hs := hc.str
  rw [strip_nil_key, toEntry_pat] at hs
  exact ⟨r, hr, rfl, (Option.some.inj hs).symm⟩

theorem mem_dynRoutes {R : List Route} {m : Bytes} {r : Route} (hr : r ∈ R) (hm : r.method = m)
    (ht : inTree r = true) (hne : r.pat ≠ []) : r ∈ dynRoutes R m := by
  simp only [dynRoutes, List.mem_filter, decide_eq_true_eq]
  refine ⟨hr, hm, ?_⟩
  simp only [inTree, Bool.or_eq_true, Bool.not_eq_true', List.isEmpty_iff] at ht
  rcases ht with h | h
  · simp [h]
  · exact absurd h hne

theorem declNames_cons (a : PSeg) (pt : Pat) (ha : a ≠ PSeg.wild) :
    declNames (a :: pt) = (match a with | PSeg.par n => [n] | _ => []) ++ declNames pt := by
  have hl : ((a :: pt).getLast? = some PSeg.wild) ↔ (pt.getLast? = some PSeg.wild) := by
    cases pt with
    | nil => simp [ha]
    | cons b bs => simp [List.getLast?_cons_cons]
  unfold declNames
  cases a with
  | wild => exact absurd rfl ha
  | lit s => simp only [parNames, List.nil_append]; simp only [hl]
  | par n => simp only [parNames, List.cons_append, List.nil_append]; simp only [hl]

theorem matchPat_keys (trail : Bool) (pat : Pat) (segs : List Bytes) (b : List (Bytes × Bytes))
    (h : matchPat trail pat segs = some b) : b.map (·.1) = declNames pat := by
  induction segs generalizing pat b with
  | nil =>
    obtain ⟨rfl, rfl⟩ := matchPat_nil_segs trail pat (by rw [h]; rfl)
    cases h
    rfl
  | cons x xs ih =>
    rcases matchPat_cons_some h with ⟨rfl, rfl⟩ | ⟨t, rfl, ht⟩ | ⟨n, t, b', rfl, ht, rfl⟩
    · rfl
    · rw [declNames_cons _ _ (by simp)]
      exact ih t b ht
    · rw [declNames_cons _ _ (by simp), List.map_cons, ih t b' ht]
      rfl

theorem notStatic_of_noHit {R : List Route} {m : Bytes} {p : RPath} (hstat : staticHit R m p = false) {r : Route}
    (hr : r ∈ R) (hm : r.method = m) (hmp : (matchPat p.trail r.pat p.segs).isSome = true) : isStaticPat r.pat = false := by
  cases hsp : isStaticPat r.pat with
  | false => rfl
  | true =>
    have : staticHit R m p = true := by
      simp only [staticHit, List.any_eq_true, decide_eq_true_eq]
      exact ⟨r, hr, hm, by simp [hsp], hmp⟩
    rw [hstat] at this; cases this

theorem cands_eq (sat : Nat → Bytes → Bool) (R : List Route) (m : Bytes) (p : RPath)
    (hstat : staticHit R m p = false) :
    cands sat R m p = (shapeCands R m p).filter fun r => (routeMatch sat r p).isSome := by
  unfold cands shapeCands dynRoutes
  rw [List.filter_filter, List.filter_filter]
  apply List.filter_congr
  intro r hr
  by_cases hm : r.method = m
  · by_cases hrt : (routeMatch sat r p).isSome = true
    · have hmp := routeMatch_isSome_match sat r p hrt
      have hns := notStatic_of_noHit hstat hr hm hmp
      simp [hm, hrt, hmp, hns]
    · simp [hm, hrt]
  · simp [hm]

theorem ekeys_body (pat : Pat) : ekeys (bodyOf pat) = ekeys pat := by
  conv => rhs; rw [pat_split pat]
  unfold ekeys
  rw [List.filterMap_append]
  split <;> simp [ekey]

theorem inTree_notStatic (r : Route) (trail : Bool) (segs : List Bytes) (hseg : segs ≠ []) (ht : inTree r = true)
    (hm : (matchPat trail r.pat segs).isSome = true) : isStaticPat r.pat = false := by
  simp only [inTree, Bool.or_eq_true, Bool.not_eq_true', List.isEmpty_iff] at ht
  rcases ht with h | h
  · exact h
  · rw [h] at hm
    cases segs with
    | nil => exact absurd rfl hseg
    | cons x xs => simp [matchPat] at hm

theorem notStatic_inTree (r : Route) (h : isStaticPat r.pat = false) : inTree r = true := by
  simp [inTree, h]

theorem endsWild_not_static (pat : Pat) (hw : endsWild pat = true) : isStaticPat pat = false := by
  rw [pat_split pat, hw]
  simp [isStaticPat, kind]

theorem inTree_shape {a b : Route} (h : shapeEq a.pat b.pat = true) : inTree a = inTree b := by
  unfold inTree
  rw [shape_congr isStaticPat_erase h]
  cases ha : a.pat <;> cases hb : b.pat <;> first | rfl | (rw [ha, hb] at h; cases h)

/-! ### routes that end at one node in one way are the routes of one shape -/

theorem shapeEq_refl (t : Pat) : shapeEq t t = true := by
  induction t with
  | nil => rfl
  | cons a rest ih => cases a <;> simp [shapeEq, sameShape, ih]

theorem shapeEq_of_strip {k : Key} {t : Pat} : ∀ {a b : Pat}, strip a k = some t → strip b k = some t → shapeEq a b = true := by
  induction k with
  | nil =>
    intro a b ha hb
    rw [strip_nil_key] at ha hb
    rw [Option.some.inj ha, Option.some.inj hb]
    exact shapeEq_refl t
  | cons e k ih =>
    intro a b ha hb
    obtain ⟨x, a', rfl, hx, ha'⟩ := strip_cons_inv a e k t ha
    obtain ⟨y, b', rfl, hy, hb'⟩ := strip_cons_inv b e k t hb
    simp only [shapeEq, sameShape_of_ekey hx hy, ih ha' hb', Bool.and_self]

theorem shapeEq_key (t : Pat) (ba : Pat) :
    ∀ (bb : Pat), ba.all litOK = true → bb.all litOK = true → ekeys ba = ekeys bb → shapeEq (ba ++ t) (bb ++ t) = true :=
  fun bb ha hb hk => shapeEq_of_strip (strip_ekeys ba t ha) (hk ▸ strip_ekeys bb t hb)

theorem pushesFor_key (ns : Nodes) (trail : Bool) (t : Pat) (ba : Pat) :
    ∀ (bb : Pat) (cur : Key) (segs : List Bytes), ba.all litOK = true → bb.all litOK = true → ekeys ba = ekeys bb →
      pushesFor ns trail cur (ba ++ t) segs = pushesFor ns trail cur (bb ++ t) segs :=
  fun bb cur segs ha hb hk => pushesFor_shape ns trail cur segs (shapeEq_key t ba bb ha hb hk)

/-- `shapeEq_key` for the two tails a pattern of the vocabulary can have; `ht` is not needed -/
theorem shapeEq_of_key (t : Pat) (ht : t = [] ∨ t = [PSeg.wild]) (ba : Pat) :
    ∀ (bb : Pat), ba.all litOK = true → bb.all litOK = true → ekeys ba = ekeys bb → shapeEq (ba ++ t) (bb ++ t) = true :=
  shapeEq_key t ba

theorem shapeEq_node {a b : Pat} (ha : patOK a) (hb : patOK b) (hk : ekeys (bodyOf a) = ekeys (bodyOf b))
    (hw : endsWild a = endsWild b) : shapeEq a b = true := by
  rw [pat_split a, pat_split b, hw]
  exact shapeEq_key _ _ _ ha hb hk

/-! ### a node holds the leaf of the live route that ends there -/

theorem slot_routes (R : List Route) (hR : ∀ r ∈ R, patOK r.pat) (m : Bytes) (k : Key) (w : Bool) :
    (if w then (getK (nodesOf (entriesOf R m)) k).wild else (getK (nodesOf (entriesOf R m)) k).leaf) =
      lastSome (fun r => if (decide (r.method = m) && inTree r) = true then slotAt w k (toEntry r) else none) R := by
  rw [nodesOf_slot _ (entriesOf_ok R hR m), entriesOf, lastSome_map, lastSome_filter]

theorem slot_live (R : List Route) (hR : ∀ r ∈ R, patOK r.pat) (m : Bytes) {r : Route} (hr : r ∈ live R)
    (hm : r.method = m) (ht : inTree r = true) :
    (if endsWild r.pat then (getK (nodesOf (entriesOf R m)) (ekeys (bodyOf r.pat))).wild
     else (getK (nodesOf (entriesOf R m)) (ekeys (bodyOf r.pat))).leaf) = some (leafOf r) := by
  rw [slot_routes R hR m]
  obtain ⟨R1, R2, rfl, h2⟩ := mem_live_iff.mp hr
  apply lastSome_suff
  · rw [if_pos (by simp [hm, ht])]
    exact if_pos ⟨rfl, rfl⟩
  · intro x hx
    split
    · rename_i hc
      simp only [Bool.and_eq_true, decide_eq_true_eq] at hc
      refine if_neg fun h => ?_
      -- a later route of the method that ends at the node of `r` has its shape
      have hrep := List.any_eq_false.mp h2 x hx
      rw [replaces, hc.1, hm, decide_eq_true rfl, Bool.true_and,
        shapeEq_node (hR x (by simp [hx])) (hR r (by simp)) h.2.symm h.1] at hrep
      exact hrep rfl
    · rfl

theorem node_live (R : List Route) (hR : ∀ r ∈ R, patOK r.pat) (m : Bytes) (k : Key) (w : Bool) (lf : Leaf)
    (h : (if w then (getK (nodesOf (entriesOf R m)) k).wild else (getK (nodesOf (entriesOf R m)) k).leaf) = some lf) :
    ∃ r ∈ live R, r.method = m ∧ inTree r = true ∧ lf = leafOf r ∧ k = ekeys (bodyOf r.pat) ∧ w = endsWild r.pat := by
  rw [slot_routes R hR m] at h
  obtain ⟨R1, r, R2, rfl, hfr, h2⟩ := lastSome_split _ _ _ h
  split at hfr
  · rename_i hc
    simp only [Bool.and_eq_true, decide_eq_true_eq] at hc
    unfold slotAt at hfr
    split at hfr
    · rename_i hn
      refine ⟨r, mem_live_iff.mpr ⟨R1, R2, rfl, List.any_eq_false.mpr fun x hx hrep => ?_⟩, hc.1, hc.2,
        (Option.some.inj hfr).symm, hn.2, hn.1.symm⟩
      -- a later route of the method and shape of `r` would have taken the slot
      simp only [replaces, Bool.and_eq_true, decide_eq_true_eq] at hrep
      have hx2 := h2 x hx
      rw [if_pos (by simp [hrep.1, hc.1, inTree_shape hrep.2, hc.2])] at hx2
      have hsame : (toEntry x).w = w ∧ k = ekeys (toEntry x).bp :=
        ⟨(shape_congr endsWild_erase hrep.2).trans hn.1, by
          rw [hn.2]; show ekeys (bodyOf r.pat) = ekeys (bodyOf x.pat)
          rw [ekeys_body, ekeys_body, shape_congr ekeys_erase hrep.2]⟩
      rw [slotAt, if_pos hsame] at hx2
      cases hx2
    · cases hfr
  · cases hfr

theorem node_route (R : List Route) (hR : ∀ r ∈ R, patOK r.pat) (m : Bytes) (k : Key) (w : Bool) (lf : Leaf)
    (h : (if w then (getK (nodesOf (entriesOf R m)) k).wild else (getK (nodesOf (entriesOf R m)) k).leaf) = some lf) :
    ∃ r ∈ R, r.method = m ∧ inTree r = true ∧ lf = leafOf r ∧ k = ekeys (bodyOf r.pat) ∧ w = endsWild r.pat :=
  let ⟨r, hr, h'⟩ := node_live R hR m k w lf h
  ⟨r, live_sub hr, h'⟩

/-- what `accepts` answers at a node holding the leaf of a route whose pattern matches: the captures, named
after the route's own pattern, are exactly its bindings, and its constraints decide -/
theorem accepts_route (sat : Nat → Bytes → Bool) (ns : Nodes) (r : Route) (hD : distinct (declNames r.pat) = true)
    (p : RPath) (b : List (Bytes × Bytes)) (hb : matchPat p.trail r.pat p.segs = some b) :
    acceptsGen false sat (some (leafOf r)) (pushAllT (Ctx.fresh, []) (pushesFor ns p.trail [] r.pat p.segs)) =
      (routeMatch sat r p).map fun b => (leafOf r, pushAll Ctx.fresh b) := by
  have hvals := pushesFor_vals ns p.trail p.segs [] r.pat b hb
  have hnames : (leafOf r).names = b.map (·.1) := by rw [matchPat_keys _ _ _ _ hb]; rfl
  have hlen : (leafOf r).names.length = (pushesFor ns p.trail [] r.pat p.segs).length := by
    have h2 := congrArg List.length hvals
    simp only [List.length_map] at h2
    rw [hnames, List.length_map, h2]
  have hkeys : distinct (b.map (·.1)) = true := by rw [matchPat_keys _ _ _ _ hb]; exact hD
  simp only [acceptsGen, routeMatch, hb]
  rw [bound_fresh _ _ hlen, hvals, hnames, zip_fst_snd, validate_pushAll sat _ b hkeys]
  show (if consOK sat r.cons b = true then _ else _) = _
  cases consOK sat r.cons b <;> rfl

theorem accAt_live (sat : Nat → Bytes → Bool) (R : List Route) (hR : ∀ r ∈ R, patOK r.pat)
    (hD : ∀ r ∈ R, distinct (declNames r.pat) = true) (m : Bytes) (p : RPath)
    {r : Route} (hr : r ∈ live R) (hm : r.method = m) (ht : inTree r = true)
    (hmatch : (matchPat p.trail r.pat p.segs).isSome = true) :
    accAt sat (nodesOf (entriesOf R m)) p.trail [] (Ctx.fresh, []) r.pat p.segs =
      (routeMatch sat r p).map fun b => (leafOf r, pushAll Ctx.fresh b) := by
  obtain ⟨b, hb⟩ := Option.isSome_iff_exists.mp hmatch
  have hleaf := slot_live R hR m hr hm ht
  rw [ekeys_body] at hleaf
  unfold accAt
  simp only [List.nil_append]
  rw [hleaf, accepts_route sat _ r (hD r (live_sub hr)) p b hb]

theorem accAt_of_last (sat : Nat → Bytes → Bool) (R : List Route) (hR : ∀ r ∈ R, patOK r.pat)
    (hD : ∀ r ∈ R, distinct (declNames r.pat) = true) (m : Bytes) (p : RPath)
    (ρ : Route) (hρR : ρ ∈ R) (hρm : ρ.method = m) (hρt : inTree ρ = true) (b : List (Bytes × Bytes))
    (hrm : routeMatch sat ρ p = some b)
    (hlast : ((laterThan ρ R).any fun r1 => r1.method = m && shapeEq r1.pat ρ.pat) = false) :
    accAt sat (nodesOf (entriesOf R m)) p.trail [] (Ctx.fresh, []) ρ.pat p.segs = some (leafOf ρ, pushAll Ctx.fresh b) := by
  rw [accAt_live sat R hR hD m p (mem_live_of_last hρR hρm hlast) hρm hρt (routeMatch_isSome_match sat ρ p (by rw [hrm]; rfl)), hrm]
  rfl

theorem accAt_route_live (sat : Nat → Bytes → Bool) (R : List Route) (hR : ∀ r ∈ R, patOK r.pat)
    (hD : ∀ r ∈ R, distinct (declNames r.pat) = true) (m : Bytes) (p : RPath)
    (r : Route) (hr : r ∈ R) (hmatch : (matchPat p.trail r.pat p.segs).isSome = true) (res : Leaf × Ctx)
    (h : accAt sat (nodesOf (entriesOf R m)) p.trail [] (Ctx.fresh, []) r.pat p.segs = some res) :
    ∃ r2 ∈ live R, r2.method = m ∧ inTree r2 = true ∧ shapeEq r.pat r2.pat = true ∧
      ∃ b2, routeMatch sat r2 p = some b2 ∧ res = (leafOf r2, pushAll Ctx.fresh b2) := by
  cases hlf : (if endsWild r.pat = true then (getK (nodesOf (entriesOf R m)) (ekeys r.pat)).wild
      else (getK (nodesOf (entriesOf R m)) (ekeys r.pat)).leaf) with
  | none =>
    unfold accAt at h
    simp only [List.nil_append] at h
    rw [hlf] at h
    cases h
  | some lf =>
    -- r and the live route r2 whose leaf the node holds end there in one way: they have one shape
    obtain ⟨r2, hr2, hr2m, hr2t, _, hk, hw⟩ := node_live R hR m _ _ lf hlf
    have hs := shapeEq_node (hR r hr) (hR r2 (live_sub hr2)) ((ekeys_body r.pat).trans hk) hw
    rw [accAt_shape sat _ p.trail [] _ hs,
      accAt_live sat R hR hD m p hr2 hr2m hr2t ((matchPat_shape p.trail p.segs hs).symm.trans hmatch)] at h
    obtain ⟨b2, hb2, hres⟩ := Option.map_eq_some_iff.mp h
    exact ⟨r2, hr2, hr2m, hr2t, hs, b2, hb2, hres.symm⟩

theorem accAt_route (sat : Nat → Bytes → Bool) (R : List Route) (hR : ∀ r ∈ R, patOK r.pat)
    (hD : ∀ r ∈ R, distinct (declNames r.pat) = true) (m : Bytes) (p : RPath)
    (r : Route) (hr : r ∈ R) (hmatch : (matchPat p.trail r.pat p.segs).isSome = true) (res : Leaf × Ctx)
    (h : accAt sat (nodesOf (entriesOf R m)) p.trail [] (Ctx.fresh, []) r.pat p.segs = some res) :
    ∃ r2 ∈ R, r2.method = m ∧ inTree r2 = true ∧ ekeys (bodyOf r2.pat) = ekeys (bodyOf r.pat) ∧
      endsWild r2.pat = endsWild r.pat ∧
      ∃ b2, routeMatch sat r2 p = some b2 ∧ res = (leafOf r2, pushAll Ctx.fresh b2) :=
  let ⟨r2, hr2, hm2, ht2, hs, hb2⟩ := accAt_route_live sat R hR hD m p r hr hmatch res h
  ⟨r2, live_sub hr2, hm2, ht2, by rw [ekeys_body, ekeys_body, shape_congr ekeys_erase hs], (shape_congr endsWild_erase hs).symm, hb2⟩

/-! ### the search is the reference choice over the live routes of the tree -/

/-- The tree lookup is the reference choice over the routes the node map still holds, without any guard:
the live routes that are not parameter-free. What the search returns is an accepting candidate that no accepting
candidate beats; the nodes that accept are those of the live routes that match. -/
theorem walk_live (sat : Nat → Bytes → Bool) (R : List Route) (hR : ∀ r ∈ R, patOK r.pat)
    (hD : ∀ r ∈ R, distinct (declNames r.pat) = true) (m : Bytes) (p : RPath) (hseg : p.segs ≠ []) :
    walkGen false false false sat (nodesOf (entriesOf R m)) p.trail [] (Ctx.fresh, []) p.segs =
      (refRoute sat ((live R).filter inTree) m p).map fun r =>
        (leafOf r, pushAll Ctx.fresh ((routeMatch sat r p).getD [])) := by
  have hL := entriesOf_ok R hR m
  have hcand : ∀ c ∈ cands sat ((live R).filter inTree) m p,
      Cand (entriesOf R m) p.trail [] p.segs (toEntry c) c.pat ∧
      (accAt sat (nodesOf (entriesOf R m)) p.trail [] (Ctx.fresh, []) c.pat p.segs).isSome = true := by
    intro c hc
    obtain ⟨hcl, hcm, hcrm⟩ := C01.lemma_mem_cands.mp hc
    obtain ⟨hcl, hct⟩ := List.mem_filter.mp hcl
    have hcmat := routeMatch_isSome_match sat c p hcrm
    exact ⟨cand_root (live_sub hcl) hcm hct hcmat, by rw [accAt_live sat R hR hD m p hcl hcm hct hcmat, Option.isSome_map]; exact hcrm⟩
  cases hw : walkGen false false false sat (nodesOf (entriesOf R m)) p.trail [] (Ctx.fresh, []) p.segs with
  | none =>
    rw [ref_none fun c hc hm hrm => ?_]
    · rfl
    · obtain ⟨hcc, hacc⟩ := hcand c (C01.lemma_mem_cands.mpr ⟨hc, hm, hrm⟩)
      have := walk_complete sat _ hL p.trail p.segs hseg [] (Ctx.fresh, []) _ _ hcc hacc
      rw [hw] at this
      cases this
  | some res =>
    obtain ⟨e, suf, hc, hacc, hmax⟩ := walk_prio sat (entriesOf R m) hL p.trail p.segs [] (Ctx.fresh, []) res hw
    obtain ⟨r0, hr0, rfl, rfl⟩ := cand_root_inv hc
    obtain ⟨r, hr, hrm, hrt, hs, b, hb, hres⟩ := accAt_route_live sat R hR hD m p r0 hr0 hc.mat res hacc
    rw [ref_of_max ((live_pairwise R).filter _)
      (C01.lemma_mem_cands.mpr ⟨List.mem_filter.mpr ⟨hr, hrt⟩, hrm, by rw [hb]; rfl⟩) fun c hcc => ?_]
    · rw [Option.map_some, hb, hres]; rfl
    · -- `c` accepts, so it does not beat what the search found, which has the shape of `r`
      obtain ⟨hcc', hacc'⟩ := hcand c hcc
      exact better_negtrans p.trail p.segs c.pat r0.pat r.pat hcc'.mat hc.mat
        (routeMatch_isSome_match sat r p (by rw [hb]; rfl)) (hmax _ _ hcc' hacc') (shapeEq_better _ _ hs)

theorem walk_sound_prio (sat : Nat → Bytes → Bool) (R : List Route) (hR : ∀ r ∈ R, patOK r.pat)
    (hD : ∀ r ∈ R, distinct (declNames r.pat) = true) (m : Bytes) (p : RPath) (res : Leaf × Ctx)
    (h : walkGen false false false sat (nodesOf (entriesOf R m)) p.trail [] (Ctx.fresh, []) p.segs = some res) :
    ∃ r ∈ R, r.method = m ∧ inTree r = true ∧ (∃ b, routeMatch sat r p = some b ∧ res = (leafOf r, pushAll Ctx.fresh b)) ∧
      ∀ r' ∈ R, r'.method = m → inTree r' = true → (routeMatch sat r' p).isSome = true →
        ((laterThan r' R).any fun r1 => r1.method = m && shapeEq r1.pat r'.pat) = false →
        better r'.pat r.pat = false := by
  have hseg : p.segs ≠ [] := fun e => by rw [e] at h; cases h
  rw [walk_live sat R hR hD m p hseg] at h
  obtain ⟨r, href, hres⟩ := Option.map_eq_some_iff.mp h
  obtain ⟨hrc, hmax⟩ := C01.lemma_ref_max href
  obtain ⟨hrl, hrm, hrmatch⟩ := C01.lemma_mem_cands.mp hrc
  obtain ⟨hrl, hrt⟩ := List.mem_filter.mp hrl
  obtain ⟨b, hb⟩ := Option.isSome_iff_exists.mp hrmatch
  refine ⟨r, live_sub hrl, hrm, hrt, ⟨b, hb, by rw [← hres, hb]; rfl⟩, fun r' hr' hrm' hrt' hmatch' hlast' => ?_⟩
  exact hmax r' (C01.lemma_mem_cands.mpr
    ⟨List.mem_filter.mpr ⟨mem_live_of_last hr' hrm' hlast', hrt'⟩, hrm', hmatch'⟩)

theorem walk_sound (sat : Nat → Bytes → Bool) (R : List Route) (hR : ∀ r ∈ R, patOK r.pat)
    (hD : ∀ r ∈ R, distinct (declNames r.pat) = true) (m : Bytes) (p : RPath) (res : Leaf × Ctx)
    (h : walkGen false false false sat (nodesOf (entriesOf R m)) p.trail [] (Ctx.fresh, []) p.segs = some res) :
    ∃ r ∈ R, r.method = m ∧ inTree r = true ∧ ∃ b, routeMatch sat r p = some b ∧ res = (leafOf r, pushAll Ctx.fresh b) :=
  let ⟨r, hr, hrm, hrt, hb, _⟩ := walk_sound_prio sat R hR hD m p res h
  ⟨r, hr, hrm, hrt, hb⟩

/-- The tree lookup is the reference choice unless the route the reference selects was replaced by a
later registration of its shape (`dReplaced1`, K01c). -/
theorem walk_ref (sat : Nat → Bytes → Bool) (R : List Route) (hR : ∀ r ∈ R, patOK r.pat)
    (hD : ∀ r ∈ R, distinct (declNames r.pat) = true) (m : Bytes) (p : RPath) (hseg : p.segs ≠ [])
    (hstat : staticHit R m p = false) (hOw : dReplaced1 sat R m p = false) :
    walkGen false false false sat (nodesOf (entriesOf R m)) p.trail [] (Ctx.fresh, []) p.segs =
      (refRoute sat R m p).map fun r => (leafOf r, pushAll Ctx.fresh ((routeMatch sat r p).getD [])) := by
  rw [walk_live sat R hR hD m p hseg, ← refRoute_live hOw]
  congr 1
  -- no parameter-free route matches: the candidates are in the tree
  exact ref_filter fun r hr hm hrm =>
    notStatic_inTree r (notStatic_of_noHit hstat (live_sub hr) hm (routeMatch_isSome_match sat r p hrm))

end Rivaas.RadixL
