import Rivaas.Lemmas.OpenAPISpec
/-
C07 — helper lemmas: the projected schemas and the operations of the shape `OpShape` satisfy the WF fragment
(the oracle's `wfSchema`, `wfOperation`).
-/
namespace Rivaas.OpenAPI
open List

theorem isDigit_iff (c : Char) : isDigit c = c.isDigit := by
  simp only [isDigit, Char.isDigit, Char.le_def]

theorem isNatText_itoa (n : Nat) : isNatText (itoa n) = true := by
  simp only [isNatText, itoa, Nat.toList_repr, Bool.and_eq_true, Bool.not_eq_eq_eq_not, Bool.not_true, all_eq_true]
  constructor
  · cases h : Nat.toDigits 10 n with
    | nil => exact absurd h Nat.toDigits_ne_nil
    | cons a as => rfl
  · intro c hc
    rw [isDigit_iff]
    exact Nat.isDigit_of_mem_toDigits (by decide) (by decide) hc

/-- the member names `attrCoreOK` tells apart are different strings: the one finite fact behind the lemmas on
    `attrCoreOK` below -/
theorem keys_ne :
    (∀ k ∈ [s "format", s "pattern", s "example", s "description"], k ≠ s "type") ∧ s "contentEncoding" ≠ s "type" ∧
    (∀ k ∈ [s "enum", s "examples", s "type"], k ≠ s "required") ∧ (∀ k ∈ [s "examples", s "type"], k ≠ s "enum") ∧
    s "examples" ≠ s "type" ∧
    (∀ k ∈ [s "maximum", s "minimum"] ++ [s "exclusiveMaximum", s "exclusiveMinimum"], k ∉ [s "maxLength", s "minLength"]) := by
  simp only [cons_append, nil_append, forall_mem_cons, not_mem_nil, false_implies, implies_true, ne_eq, s_inj, String.reduceEq, not_false_eq_true,
    and_self]
  simp only [mem_cons, not_mem_nil, s_inj, String.reduceEq, or_self, not_false_eq_true, and_self]

theorem kind_ok (k : Kind) (h : kindString k ≠ []) : kindString k ∈ typeNames ∧ kindString k ≠ s "null" := by
  cases k with
  | none => exact absurd rfl h
  | _ => simp only [kindString, typeNames, mem_cons, ne_eq, s_inj, String.reduceEq, true_or, or_true, not_false_eq_true, and_self]

section attrs
variable (v : Version)

theorem attrCoreOK_type_str (k : Kind) (h : kindString k ≠ []) : attrCoreOK v (s "type", .str (kindString k)) = true := by
  simp [attrCoreOK, (kind_ok k h).1]

theorem attrCoreOK_strKey (key : B) (x : B) (hm : key ∈ [s "format", s "pattern", s "example", s "description"]) :
    attrCoreOK v (key, .str x) = true := by
  simp [attrCoreOK, keys_ne.1 key hm, hm]

theorem attrCoreOK_required (xs : List B) (h1 : xs.isEmpty = false) (h2 : xs.Nodup) :
    attrCoreOK v (s "required", .strs xs) = true := by
  simp [attrCoreOK, h1, (nodupB_iff xs).2 h2]

theorem attrCoreOK_enum (xs : List B) (h1 : xs.isEmpty = false) : attrCoreOK v (s "enum", .strs xs) = true := by
  simp [attrCoreOK, keys_ne.2.2.1 (s "enum") (by simp), h1]

theorem attrCoreOK_len (key : B) (n : Nat) (hm : key ∈ [s "maxLength", s "minLength"]) :
    attrCoreOK v (key, .num (itoa n)) = true := by
  simp [attrCoreOK, hm, isNatText_itoa]

theorem attrCoreOK_bound (key : B) (x : B) (hm : key ∈ [s "maximum", s "minimum"]) : attrCoreOK v (key, .num x) = true := by
  simp [attrCoreOK, keys_ne.2.2.2.2.2 key (mem_append_left _ hm), hm]
end attrs

theorem attrCoreOK30_bool (key : B) (b : Bool) (hm : key ∈ [s "nullable", s "exclusiveMaximum", s "exclusiveMinimum"]) :
    attrCoreOK .v30 (key, .bool b) = true := by
  simpa [attrCoreOK] using hm

theorem all_optAttr (P : B × Sc → Bool) (k : String) (c : Bool) (x : Sc) (h : c = true → P (s k, x) = true) :
    (optAttr k c x).all P = true := by
  unfold optAttr
  split
  next hc => simp [h hc]
  · rfl

/-- `schema30` emits only members the 3.0 Schema Object admits, with admissible values -/
theorem head30r_ok (h : Head) (hr : h.required.Nodup) : (head30r h).all (attrCoreOK .v30) = true := by
  simp only [head30r, all_append, Bool.and_eq_true]
  -- one goal per member, in the (byte) order `head30r` writes them: enum, example, exclusiveMaximum, exclusiveMinimum,
  -- format, maxLength, maximum, minLength, minimum, nullable, pattern, required, type
  refine ⟨⟨⟨⟨⟨⟨⟨⟨⟨⟨⟨⟨?_, ?_⟩, ?_⟩, ?_⟩, ?_⟩, ?_⟩, ?_⟩, ?_⟩, ?_⟩, ?_⟩, ?_⟩, ?_⟩, ?_⟩
  · exact all_optAttr _ _ _ _ fun hc => attrCoreOK_enum _ _ (by simpa using hc)
  · exact all_optAttr _ _ _ _ fun _ => attrCoreOK_strKey _ (s "example") _ (by simp)
  · exact all_optAttr _ _ _ _ fun _ => attrCoreOK30_bool _ _ (by simp)
  · exact all_optAttr _ _ _ _ fun _ => attrCoreOK30_bool _ _ (by simp)
  · exact all_optAttr _ _ _ _ fun _ => attrCoreOK_strKey _ (s "format") _ (by simp)
  · cases h.maxLength <;> simp [attrCoreOK_len .v30 (s "maxLength")]
  · cases h.maximum <;> simp [attrCoreOK_bound .v30 (s "maximum")]
  · cases h.minLength <;> simp [attrCoreOK_len .v30 (s "minLength")]
  · cases h.minimum <;> simp [attrCoreOK_bound .v30 (s "minimum")]
  · exact all_optAttr _ _ _ _ fun _ => attrCoreOK30_bool _ _ (by simp)
  · exact all_optAttr _ _ _ _ fun _ => attrCoreOK_strKey _ (s "pattern") _ (by simp)
  · exact all_optAttr _ _ _ _ fun hc => attrCoreOK_required _ _ (by simpa using hc) hr
  · exact all_optAttr _ _ _ _ fun hc => attrCoreOK_type_str _ _ (by simpa using hc)

theorem attrCoreOK31_strs_examples (xs : List B) : attrCoreOK .v31 (s "examples", .strs xs) = true := by
  simp [attrCoreOK, keys_ne.2.2.1 (s "examples") (by simp), keys_ne.2.2.2.1 (s "examples") (by simp), keys_ne.2.2.2.2.1]

theorem attrCoreOK31_type_null (k : Kind) (h : kindString k ≠ []) :
    attrCoreOK .v31 (s "type", .strs [kindString k, s "null"]) = true := by
  obtain ⟨hk, hne⟩ := kind_ok k h
  simp [attrCoreOK, keys_ne.2.2.1 (s "type") (by simp), keys_ne.2.2.2.1 (s "type") (by simp), nodupB, hk, hne]

theorem attrCoreOK31_exclusive (key : B) (x : B) (hm : key ∈ [s "exclusiveMaximum", s "exclusiveMinimum"]) :
    attrCoreOK .v31 (key, .num x) = true := by
  simp [attrCoreOK, keys_ne.2.2.2.2.2 key (mem_append_right _ hm), hm]

theorem attrCoreOK31_contentEncoding (x : B) : attrCoreOK .v31 (s "contentEncoding", .str x) = true := by
  simp [attrCoreOK, keys_ne.2.1]

/-- `schema31` emits only members with admissible values -/
theorem head31r_ok (h : Head) (hr : h.required.Nodup) : (head31r h).all (attrCoreOK .v31) = true := by
  simp only [head31r, all_append, Bool.and_eq_true]
  -- as for `head30r`, with `examples` after `example`, numeric `exclusive…`, and `nullable` gone into `type`
  refine ⟨⟨⟨⟨⟨⟨⟨⟨⟨⟨⟨⟨?_, ?_⟩, ?_⟩, ?_⟩, ?_⟩, ?_⟩, ?_⟩, ?_⟩, ?_⟩, ?_⟩, ?_⟩, ?_⟩, ?_⟩
  · exact all_optAttr _ _ _ _ fun hc => attrCoreOK_enum _ _ (by simpa using hc)
  · exact all_optAttr _ _ _ _ fun _ => attrCoreOK_strKey _ (s "example") _ (by simp)
  · exact all_optAttr _ _ _ _ fun _ => attrCoreOK31_strs_examples _
  · rcases h.maximum with _ | ⟨x, _ | _⟩ <;> simp [attrCoreOK31_exclusive (s "exclusiveMaximum")]
  · rcases h.minimum with _ | ⟨x, _ | _⟩ <;> simp [attrCoreOK31_exclusive (s "exclusiveMinimum")]
  · exact all_optAttr _ _ _ _ fun _ => attrCoreOK_strKey _ (s "format") _ (by simp)
  · cases h.maxLength <;> simp [attrCoreOK_len .v31 (s "maxLength")]
  · rcases h.maximum with _ | ⟨x, _ | _⟩ <;> simp [attrCoreOK_bound .v31 (s "maximum")]
  · cases h.minLength <;> simp [attrCoreOK_len .v31 (s "minLength")]
  · rcases h.minimum with _ | ⟨x, _ | _⟩ <;> simp [attrCoreOK_bound .v31 (s "minimum")]
  · exact all_optAttr _ _ _ _ fun _ => attrCoreOK_strKey _ (s "pattern") _ (by simp)
  · exact all_optAttr _ _ _ _ fun hc => attrCoreOK_required _ _ (by simpa using hc) hr
  · by_cases hk : kindString h.kind = []
    · simp [hk]
    · by_cases hn : h.nullable = true
      · simp [hk, hn, attrCoreOK31_type_null h.kind hk]
      · simp [hk, hn, attrCoreOK_type_str .v31 h.kind hk]

theorem all_attrOK_of_core (v : Version) (l : Attrs) (h : l.all (attrCoreOK v) = true) : l.all (attrOK v) = true := by
  simp only [all_eq_true] at h ⊢
  intro a ha
  simp [attrOK, h a ha]

theorem dfltAttrs_ok (v : Version) (h : Head) : (dfltAttrs h).all (attrOK v) = true := by
  unfold dfltAttrs
  cases h.dflt <;> simp [attrOK]

theorem descAttrs_ok (v : Version) (h : Head) : (descAttrs h).all (attrOK v) = true :=
  all_attrOK_of_core _ _ (all_optAttr _ _ _ _ fun _ => attrCoreOK_strKey _ (s "description") _ (by simp))

theorem head30_ok (h : Head) (hr : h.required.Nodup) : (head30 h).all (attrOK .v30) = true := by
  simp only [head30, all_append, Bool.and_eq_true]
  exact ⟨⟨dfltAttrs_ok _ h, descAttrs_ok _ h⟩, all_attrOK_of_core _ _ (head30r_ok h hr)⟩

theorem head31_ok (h : Head) (hr : h.required.Nodup) : (head31 h).all (attrOK .v31) = true := by
  simp only [head31, all_append, Bool.and_eq_true]
  refine ⟨⟨⟨?_, dfltAttrs_ok _ h⟩, descAttrs_ok _ h⟩, all_attrOK_of_core _ _ (head31r_ok h hr)⟩
  exact all_attrOK_of_core _ _ (all_optAttr _ _ _ _ fun _ => attrCoreOK31_contentEncoding _)

/-! ## `wfSchema` of a projected schema, `wfOperation` of an operation of the shape -/

mutual
  theorem wfSchema_of_all (v : Version) : ∀ (t : Schema),
      Tree.All (fun a : Attrs => a.all (attrOK v) = true) (fun _ => True) t → wfSchema v t = true
    | .ref _, _ => rfl
    | .node h i p a, hall => by
      simp only [wfSchema, Bool.and_eq_true]
      exact ⟨⟨⟨hall.1, wfO_of_all v i hall.2.1⟩, wfP_of_all v p hall.2.2.1⟩, wfO_of_all v a hall.2.2.2⟩
  theorem wfO_of_all (v : Version) : ∀ (t : OTree Attrs),
      OTree.All (fun a : Attrs => a.all (attrOK v) = true) (fun _ => True) t → wfO v t = true
    | .none, _ => rfl
    | .some t, hall => wfSchema_of_all v t hall
  theorem wfP_of_all (v : Version) : ∀ (t : PTree Attrs),
      PTree.All (fun a : Attrs => a.all (attrOK v) = true) (fun _ => True) t → wfP v t = true
    | .nil, _ => rfl
    | .cons _ t rest, hall => by
      simp only [wfP, Bool.and_eq_true]
      exact ⟨wfSchema_of_all v t hall.1, wfP_of_all v rest hall.2⟩
end

theorem wfSchema_proj (v : Version) (ns : List B) (t : IR) (h : Good ns t) : wfSchema v (projSchema v t) = true := by
  apply wfSchema_of_all
  cases v
  · exact Tree.All.project (fun hd hnd => head30_ok hd hnd) t (Tree.All.mono (fun _ x => x) (fun _ _ => trivial) t h)
  · exact Tree.All.project (fun hd hnd => head31_ok hd hnd) t (Tree.All.mono (fun _ x => x) (fun _ _ => trivial) t h)

theorem specCodeOK_of_valid (c : B) (h : validResponseCode c = true) : specCodeOK c = true := by
  simp only [validResponseCode, Bool.or_eq_true, decide_eq_true_eq] at h
  simp only [specCodeOK, Bool.or_eq_true, decide_eq_true_eq]
  rcases h with h | h
  · exact Or.inl h
  · right
    split at h
    next a b d =>
      simp only [Bool.and_eq_true, Bool.or_eq_true, decide_eq_true_eq] at h
      simp only [length_cons, length_nil, head?_cons, drop_succ_cons, drop_zero, all_cons, all_nil, Bool.and_true,
        Bool.and_eq_true, Bool.or_eq_true, decide_eq_true_eq, cons.injEq, and_true, beq_iff_eq]
      refine ⟨⟨trivial, h.1⟩, ?_⟩
      rcases h.2 with hd | hx
      · left
        simpa only [isDigit, Bool.and_eq_true, decide_eq_true_eq] using hd
      · exact Or.inr hx
    · cases h

/-- the model's style table admits only what the oracle's transcription admits: the model's chain of `if`s picks the
    disjunct of the oracle's `||` -/
theorem specStyleOK_of_styleOK (loc style : B) (h : styleOK loc style = true) : specStyleOK loc style = true := by
  simp only [styleOK, Bool.or_eq_true, decide_eq_true_eq] at h
  simp only [specStyleOK, Bool.or_eq_true, Bool.and_eq_true, beq_iff_eq, List.isEmpty_iff]
  rcases h with h | h
  · exact Or.inl (Or.inl (Or.inl (Or.inl h)))
  by_cases h1 : loc = s "path"
  · rw [if_pos h1] at h; exact Or.inl (Or.inl (Or.inl (Or.inr ⟨h1, h⟩)))
  rw [if_neg h1] at h
  by_cases h2 : loc = s "query"
  · rw [if_pos h2] at h; exact Or.inl (Or.inl (Or.inr ⟨h2, h⟩))
  rw [if_neg h2] at h
  by_cases h3 : loc = s "header"
  · rw [if_pos h3] at h; exact Or.inl (Or.inr ⟨h3, of_decide_eq_true h⟩)
  rw [if_neg h3] at h
  by_cases h4 : loc = s "cookie"
  · rw [if_pos h4] at h; exact Or.inr ⟨h4, of_decide_eq_true h⟩
  · rw [if_neg h4] at h; cases h

theorem wfOperation_of_shape (v : Version) {route : B} {o : Operation Schema} (h : OpShape route o)
    (hs : ∀ x ∈ o.schemas, wfSchema v x = true) : wfOperation v o = true := by
  have hnd : ∀ l : List (B × B), nodupPairs l = true ↔ l.Nodup := by
    intro l
    induction l with
    | nil => simp [nodupPairs]
    | cons x xs ih => simp [nodupPairs, ih]
  simp only [wfOperation, Bool.and_eq_true, all_eq_true]
  refine ⟨⟨⟨⟨?params, ?distinct⟩, ?body⟩, ?respsNe⟩, ?resps⟩
  case params =>
    intro p hp
    obtain ⟨h1, h2, h3⟩ := h.params p hp
    simp only [wfParam, Bool.and_eq_true, Bool.or_eq_true, bne_iff_ne, ne_eq]
    refine ⟨⟨⟨⟨by simpa using h1, by simpa using h2⟩, ?_⟩, specStyleOK_of_styleOK _ _ (h.styles p hp)⟩, ?_⟩
    · by_cases hl : p.loc = s "path"
      · exact Or.inr (h3 hl)
      · exact Or.inl hl
    · exact hs _ (by simp only [Operation.schemas, mem_append, mem_map]; exact Or.inl (Or.inl ⟨p, hp, rfl⟩))
  case distinct => exact (hnd _).2 h.nodup
  case body =>
    cases hb : o.body with
    | none => rfl
    | some x =>
      exact hs x (by simp [Operation.schemas, hb])
  case respsNe =>
    simp only [Bool.not_eq_eq_eq_not, Bool.not_true, isEmpty_eq_false_iff]
    exact h.respsNe
  case resps =>
    intro r hr
    obtain ⟨h1, h2⟩ := h.resps r hr
    simp only [wfResp, Bool.and_eq_true]
    refine ⟨⟨⟨specCodeOK_of_valid _ h1, by simpa using h2⟩, ?_⟩, ?_⟩
    · cases hx : r.schema with
      | none => rfl
      | some x =>
        exact hs x (by simp only [Operation.schemas, mem_append, mem_filterMap]; exact Or.inr ⟨r, hr, hx⟩)
    · cases he : r.hasExample
      · rfl
      · cases hn : r.exampleNames
        · rfl
        · exact absurd ⟨he, by simp [hn]⟩ (h.exX r hr)


end Rivaas.OpenAPI
