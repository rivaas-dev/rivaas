import Rivaas.Model.ConfigEnv
import Rivaas.Lemmas.ConfigMerge
/-
C14 — lemmas about the nesting loop of the environment codec (`insertPath`) and `getPath`.
-/
namespace Rivaas.Config

theorem getPath_insertPath_self (m : Kvs) (p : List Bytes) (hp : p ≠ []) (v : CVal) :
    getPath (insertPath m p v) p = some v := by
  induction p generalizing m with
  | nil => exact absurd rfl hp
  | cons k ks ih =>
    cases ks with
    | nil => simp [insertPath, getPath, lookup_put_self]
    | cons k2 rest =>
      simp only [insertPath]
      split <;> simp only [getPath, lookup_put_self] <;> exact ih _ (by simp)

/-- `h1`, `h2`: an assignment at a prefix of `p` replaces the map enclosing `p` by a leaf, one at an extension of `p`
    replaces the leaf at `p` by a map -/
theorem getPath_insertPath_other (m : Kvs) (q p : List Bytes) (h1 : ¬ q <+: p) (h2 : ¬ p <+: q) (w : CVal) :
    getPath (insertPath m q w) p = getPath m p := by
  induction q generalizing m p with
  | nil => exact absurd List.nil_prefix h1
  | cons k ks ih =>
    cases p with
    | nil => exact absurd List.nil_prefix h2
    | cons k' ps =>
      by_cases hk : k' = k
      · subst hk
        have h1' : ¬ ks <+: ps := fun h => h1 (List.cons_prefix_cons.mpr ⟨rfl, h⟩)
        have h2' : ¬ ps <+: ks := fun h => h2 (List.cons_prefix_cons.mpr ⟨rfl, h⟩)
        cases ks with
        | nil => exact absurd List.nil_prefix h1'
        | cons k2 rest =>
          cases ps with
          | nil => exact absurd List.nil_prefix h2'
          | cons p2 prest =>
            simp only [insertPath]
            split
            · rename_i sub hl
              simp only [getPath, lookup_put_self, hl]
              exact ih sub (p2 :: prest) h1' h2'
            -- `m` has no map under `k`: `p` was not there, and is not in the fresh map either
            · rename_i hl
              simp only [getPath, lookup_put_self]
              rw [ih [] (p2 :: prest) h1' h2', getPath_nil_kvs]
      · have hput : ∀ x, lookup k' (put m k x) = lookup k' m := fun x => lookup_put_other m k k' x hk
        cases ks with
        | nil =>
          cases ps with
          | nil => simp [insertPath, getPath, hput]
          | cons p2 prest => simp [insertPath, getPath, hput]
        | cons k2 rest =>
          simp only [insertPath]
          cases ps with
          | nil => split <;> simp [getPath, hput]
          | cons p2 prest => split <;> simp [getPath, hput]

end Rivaas.Config
