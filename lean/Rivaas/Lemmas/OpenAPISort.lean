import Rivaas.Model.OpenAPIBuild
import Rivaas.Lemmas.ListCore
/-
C07 — helper lemmas: insertion sort by key gives the same list for every permutation of an
association list with distinct keys (the engine behind "map iteration order cannot change the output").
-/
namespace Rivaas.OpenAPI
open List

theorem bytesLe_iff : ∀ a b : B, bytesLe a b = true ↔ a.map Char.toNat ≤ b.map Char.toNat
  | [], _ => by simp [bytesLe]
  | _ :: _, [] => by simp [bytesLe]
  | a :: as, b :: bs => by
    rw [bytesLe, map_cons, map_cons, cons_le_cons_iff, ← bytesLe_iff as bs]
    rcases Nat.lt_trichotomy a.toNat b.toNat with h | h | h
    · simp [h]
    · simp [h]
    · simp [h, Nat.lt_asymm h, Nat.ne_of_gt h]

theorem bytesLe_total (a b : B) : bytesLe a b = true ∨ bytesLe b a = true := by
  rw [bytesLe_iff, bytesLe_iff]; exact List.le_total _ _

theorem bytesLe_trans (a b c : B) (h₁ : bytesLe a b = true) (h₂ : bytesLe b c = true) : bytesLe a c = true :=
  (bytesLe_iff a c).2 (List.le_trans ((bytesLe_iff a b).1 h₁) ((bytesLe_iff b c).1 h₂))

theorem bytesLe_antisymm (a b : B) (h₁ : bytesLe a b = true) (h₂ : bytesLe b a = true) : a = b :=
  (map_inj_right fun _ _ => Char.toNat_inj.1).1 (List.le_antisymm ((bytesLe_iff a b).1 h₁) ((bytesLe_iff b a).1 h₂))

/-! ## a generic insertion sort by a key with a total order -/

section
variable {α κ : Type} (key : α → κ) (le : κ → κ → Bool)

/-- insertion is core's `merge` with a one-element list -/
def sortBy : List α → List α
  | [] => []
  | x :: xs => merge [x] (sortBy xs) fun a b => le (key a) (key b)

theorem sortBy_perm : ∀ l : List α, sortBy key le l ~ l
  | [] => .refl _
  | x :: xs => (merge_perm_append _).trans ((sortBy_perm xs).cons x)

variable (htotal : ∀ a b : κ, le a b = true ∨ le b a = true)
variable (htrans : ∀ a b c : κ, le a b = true → le b c = true → le a c = true)

include htotal htrans in
theorem sortBy_sorted : ∀ l : List α, (sortBy key le l).Pairwise (fun a b => le (key a) (key b) = true)
  | [] => .nil
  | x :: xs =>
    pairwise_merge (le := fun a b => le (key a) (key b)) (fun _ _ _ => htrans _ _ _)
      (fun a b => Bool.or_eq_true .. ▸ htotal (key a) (key b)) [x] _
      (pairwise_singleton _ _) (sortBy_sorted xs)

variable (hanti : ∀ a b : κ, le a b = true → le b a = true → a = b)

include htotal htrans hanti in
theorem sortBy_perm_invariant {l₁ l₂ : List α} (hp : l₁ ~ l₂) (hk : (l₁.map key).Nodup) :
    sortBy key le l₁ = sortBy key le l₂ := by
  have hperm : sortBy key le l₁ ~ sortBy key le l₂ := (sortBy_perm key le l₁).trans (hp.trans (sortBy_perm key le l₂).symm)
  apply Perm.eq_of_pairwise (le := fun a b => le (key a) (key b) = true) ?_
    (sortBy_sorted key le htotal htrans l₁) (sortBy_sorted key le htotal htrans l₂) hperm
  intro a b ha hb h1 h2
  have hkey : key a = key b := hanti _ _ h1 h2
  have ha' : a ∈ l₁ := (sortBy_perm key le l₁).mem_iff.1 ha
  have hb' : b ∈ l₁ := hp.mem_iff.2 ((sortBy_perm key le l₂).mem_iff.1 hb)
  exact eq_of_key_eq (pairwise_map.1 hk) ha' hb' hkey
end

/-- an insertion loop of the model, given by its two equations, is that `merge` -/
theorem sortBy_of_insert {α κ : Type} (key : α → κ) (le : κ → κ → Bool) (ins : α → List α → List α)
    (sort : List α → List α) (hnil : ∀ x, ins x [] = [x])
    (hcons : ∀ x y ys, ins x (y :: ys) = if le (key x) (key y) then x :: y :: ys else y :: ins x ys)
    (hsort : ∀ x xs, sort (x :: xs) = ins x (sort xs)) (h0 : sort [] = []) (l : List α) : sort l = sortBy key le l := by
  induction l with
  | nil => exact h0
  | cons x xs ih =>
    rw [hsort, sortBy, ih]
    generalize sortBy key le xs = ys
    induction ys with
    | nil => rw [hnil, merge_right]
    | cons y ys ih2 => rw [hcons, cons_merge_cons, nil_merge, ih2]

theorem sortByKey_eq_sortBy {β : Type} (l : List (B × β)) : sortByKey l = sortBy (fun x : B × β => x.1) bytesLe l :=
  sortBy_of_insert _ _ insertKey _ (fun _ => rfl) (fun _ _ _ => rfl) (fun _ _ => rfl) rfl l

theorem sortByKey_perm {β : Type} (l : List (B × β)) : sortByKey l ~ l := by
  rw [sortByKey_eq_sortBy]; exact sortBy_perm _ _ l

theorem mem_sortByKey {β : Type} {l : List (B × β)} {x : B × β} : x ∈ sortByKey l ↔ x ∈ l := (sortByKey_perm l).mem_iff

/-- the map iteration order of `byPath` (`Builder.Build`): whichever order the entries come in, the sorted list is the same -/
theorem sortByKey_perm_invariant {β : Type} {l₁ l₂ : List (B × β)} (hp : l₁ ~ l₂) (hk : (l₁.map (·.1)).Nodup) :
    sortByKey l₁ = sortByKey l₂ := by
  rw [sortByKey_eq_sortBy, sortByKey_eq_sortBy]
  exact sortBy_perm_invariant _ _ bytesLe_total bytesLe_trans bytesLe_antisymm hp hk

theorem sortStatuses_eq_sortBy (l : List (Nat × B × Option Ty)) :
    sortStatuses l = sortBy (fun x : Nat × B × Option Ty => x.1) Nat.ble l :=
  sortBy_of_insert _ _ insertStatus _ (fun _ => rfl) (fun _ _ _ => by simp [insertStatus]) (fun _ _ => rfl) rfl l

/-- the map iteration order of `doc.ResponseTypes` (`Builder.buildOperation`) -/
theorem sortStatuses_perm_invariant {l₁ l₂ : List (Nat × B × Option Ty)} (hp : l₁ ~ l₂) (hk : (l₁.map (·.1)).Nodup) :
    sortStatuses l₁ = sortStatuses l₂ := by
  rw [sortStatuses_eq_sortBy, sortStatuses_eq_sortBy]
  exact sortBy_perm_invariant _ _ (by intro a b; simp; omega) (by intro a b c; simp; omega)
    (by intro a b; simp; omega) hp hk

theorem sortResps_eq_sortBy {σ : Type} (l : List (Resp σ)) : sortResps l = sortBy (fun r : Resp σ => r.code) bytesLe l :=
  sortBy_of_insert _ _ insertResp _ (fun _ => rfl) (fun _ _ _ => rfl) (fun _ _ => rfl) rfl l

theorem sortResps_perm {σ : Type} (l : List (Resp σ)) : sortResps l ~ l := by
  rw [sortResps_eq_sortBy]; exact sortBy_perm _ _ l

end Rivaas.OpenAPI
