import Rivaas.Model.ConfigSM
import Rivaas.Lemmas.ConfigMerge
/-
C14 — the invariant of the statement-level machine (`Model/ConfigSM.lean`) running `modelLoad`, and its
preservation by every step of every thread; then `coarse`, the atomic model run forwards over a list of events, which
connects `absOf` (the invariant's view of the recorded events) with `runSched`.
-/
namespace Rivaas.ConfigSM
open Rivaas.Config Rivaas.ConfigSkel

@[simp] theorem upd_same {α : Type} (f : Nat → α) (i : Nat) (a : α) : upd f i a i = a := by simp [upd]
theorem upd_other {α : Type} (f : Nat → α) (i j : Nat) (a : α) (h : j ≠ i) : upd f i a j = f j := by simp [upd, h]

/-- what loader `l` on input `inp` knows from the statements it has passed (locals only). The numbers are positions
    in `modelLoad`: `k + 1 ≤ l.pc` says that statement `k` has been passed -/
structure Local (schema : Bool) (nv : Nat) (inp : LoadInput) (l : LState) : Prop where
  pcle : l.done = none → l.pc ≤ 9
  src : l.done = none → 2 ≤ l.pc → ∃ maps, loadSources inp.srcs 0 [] = .ok maps ∧ l.cand = mergeAll maps
  sch : l.done = none → 3 ≤ l.pc → (schema && schemaRejects l.cand) = false
  val : l.done = none → 4 ≤ l.pc → firstRejecting l.cand nv = none
  dfT : l.done = none → 6 ≤ l.pc → l.deferred = true
  bnd : l.done = none → 7 ≤ l.pc → inp.bind ≠ some .reject
  res : ∀ r, l.done = some r → ∀ st, (load schema nv st inp).2 = r

/-- the loader is between `c.mu.Lock()` and its return -/
def holds (l : LState) : Prop := l.done = none ∧ 5 ≤ l.pc

/-- shared state against the linearised state while loader `l` holds the write lock: untouched up to `bind`
    (statement 7), the struct written before `swap` (8), both written before `retNil` (9) -/
structure Rel (schema : Bool) (nv : Nat) (inp : LoadInput) (l : LState) (conc abs : State) : Prop where
  early : l.pc ≤ 7 → conc = abs
  mid : l.pc = 8 → conc.values = abs.values ∧
    conc.bound = (match inp.bind with | some (.ok f) => f | _ => abs.bound)
  late : l.pc = 9 → conc = (load schema nv abs inp).1

structure Inv (schema : Bool) (nv : Nat) (inputs : List LoadInput) (st0 : State) (s : Sys) : Prop where
  loc : ∀ t inp, inputs[t]? = some inp → Local schema nv inp (s.ls t)
  own : ∀ t, s.writer = some t ↔ holds (s.ls t)
  idle : s.writer = none → s.conc = (absOf schema nv inputs st0 s.ops).1
  held : ∀ t inp, s.writer = some t → inputs[t]? = some inp →
    Rel schema nv inp (s.ls t) s.conc (absOf schema nv inputs st0 s.ops).1
  rd : ∀ r, (s.rphase r = 1 ∨ s.rphase r = 2) → r ∈ s.rlocks
  excl : s.writer ≠ none → s.rlocks = []
  seen : s.seen = (absOf schema nv inputs st0 s.ops).2

theorem inv_init (schema : Bool) (nv : Nat) (inputs : List LoadInput) (st0 : State) :
    Inv schema nv inputs st0 (Sys.init st0) where
  loc := fun t inp _ => ⟨fun _ => Nat.zero_le _, fun _ => nofun, fun _ => nofun, fun _ => nofun, fun _ => nofun,
    fun _ => nofun, nofun⟩
  own := by intro t; simp [Sys.init, holds, LState.init]
  idle := by intro _; simp [Sys.init, Sys.conc, absOf]
  held := by intro t inp h; simp [Sys.init] at h
  rd := by intro r h; simp [Sys.init] at h
  excl := by intro h; simp [Sys.init] at h
  seen := by simp [Sys.init, absOf]

variable {schema : Bool} {nv : Nat} {inputs : List LoadInput} {st0 : State}

theorem inv_reader {s : Sys} (h : Inv schema nv inputs st0 s) (r : Nat) :
    Inv schema nv inputs st0 (stepReader s r) := by
  have other {ph : Nat} {r' : Nat} (e : r' ≠ r) (hr' : upd s.rphase r ph r' = 1 ∨ upd s.rphase r ph r' = 2) :
      r' ∈ s.rlocks := h.rd r' (by rwa [upd_other _ _ _ _ e] at hr')
  unfold stepReader
  split
  · split
    · rename_i hw
      exact { h with
        excl := fun hx => absurd hw hx
        rd := fun r' hr' =>
          if e : r' = r then e ▸ List.mem_cons_self .. else List.mem_cons_of_mem _ (other e hr') }
    · exact h
  · rename_i hph
    have hmem : r ∈ s.rlocks := h.rd r (Or.inl hph)
    have hw : s.writer = none := by
      cases hw : s.writer with
      | none => rfl
      | some t => exact absurd (h.excl (hw ▸ nofun) ▸ hmem) nofun
    have hidle := h.idle hw
    exact { h with
      idle := fun _ => hidle
      held := fun t inp ht => absurd (hw ▸ ht) nofun
      rd := fun r' hr' => if e : r' = r then e ▸ hmem else other e hr'
      seen := by
        have hv : s.values = (absOf schema nv inputs st0 s.ops).1.values := congrArg State.values hidle
        simp [absOf, h.seen, hv] }
  · exact { h with
      excl := fun hx => by simp [h.excl hx]
      rd := fun r' hr' =>
        if e : r' = r then by subst e; simp at hr' else (List.mem_erase_of_ne e).mpr (other e hr') }
  · exact h

/-- the frame of a step of loader `t` that leaves the readers and every other loader's locals alone: the invariant
    carries over once the clauses that speak of `t` hold of the new state — `hloc`, `hown`, and `hidle` or `hheld`
    according to whether somebody holds the lock afterwards. `hw`: the lock stays where it is, or `t` takes or releases
    it; `hexcl`: it is held only with no reader inside; `hfr`: under another loader's lock the shared and the
    linearised state stay; `hseen`: no read is recorded -/
theorem inv_frame {s s' : Sys} (h : Inv schema nv inputs st0 s) (t : Nat) (inp : LoadInput)
    (hin : inputs[t]? = some inp)
    (hls : ∀ u, u ≠ t → s'.ls u = s.ls u)
    (hr : s'.rlocks = s.rlocks) (hp : s'.rphase = s.rphase) (hsn : s'.seen = s.seen)
    (hloc : Local schema nv inp (s'.ls t))
    (hown : s'.writer = some t ↔ holds (s'.ls t))
    (hw : s'.writer = s.writer ∨ (s.writer = none ∧ s'.writer = some t) ∨ (s.writer = some t ∧ s'.writer = none))
    (hexcl : s'.writer ≠ none → s.rlocks = [])
    (hfr : ∀ u, u ≠ t → s.writer = some u →
      s'.conc = s.conc ∧ (absOf schema nv inputs st0 s'.ops).1 = (absOf schema nv inputs st0 s.ops).1)
    (hidle : s'.writer = none → s'.conc = (absOf schema nv inputs st0 s'.ops).1)
    (hheld : s'.writer = some t → Rel schema nv inp (s'.ls t) s'.conc (absOf schema nv inputs st0 s'.ops).1)
    (hseen : (absOf schema nv inputs st0 s'.ops).2 = (absOf schema nv inputs st0 s.ops).2) :
    Inv schema nv inputs st0 s' := by
  have hwu : ∀ u, u ≠ t → (s'.writer = some u ↔ s.writer = some u) := by
    intro u e
    rcases hw with hw | ⟨h1, h2⟩ | ⟨h1, h2⟩
    · rw [hw]
    · rw [h1, h2]; exact ⟨fun hh => absurd (Option.some.inj hh).symm e, nofun⟩
    · rw [h1, h2]; exact ⟨nofun, fun hh => absurd (Option.some.inj hh).symm e⟩
  exact {
    loc := fun u inp' hu =>
      if e : u = t then by subst e; rw [hin] at hu; cases hu; exact hloc
      else hls u e ▸ h.loc u inp' hu
    own := fun u =>
      if e : u = t then e ▸ hown else hls u e ▸ (hwu u e).trans (h.own u)
    idle := hidle
    held := fun u inp' hu hiu => by
      by_cases e : u = t
      · subst e; rw [hin] at hiu; cases hiu; exact hheld hu
      · have hsu := (hwu u e).mp hu
        obtain ⟨hc, ha⟩ := hfr u e hsu
        rw [hls u e, hc, ha]; exact h.held u inp' hsu hiu
    rd := by rw [hr, hp]; exact h.rd
    excl := fun hx => hr ▸ hexcl hx
    seen := by rw [hsn, hseen]; exact h.seen }

theorem absOf_commit (ops : List Op) (t : Nat) (inp : LoadInput) (hin : inputs[t]? = some inp) :
    absOf schema nv inputs st0 (.commit t :: ops) =
      ((load schema nv (absOf schema nv inputs st0 ops).1 inp).1, (absOf schema nv inputs st0 ops).2) := by
  simp [absOf, hin]

section eqns
variable {prog : List Step} {inp : LoadInput} {s : Sys} {t : Nat}

theorem sl_done {r : Stage} (hd : (s.ls t).done = some r) : stepLoader prog schema nv inp s t = s := by
  simp [stepLoader, hd]

theorem sl_live (hd : (s.ls t).done = none) (st : Step) :
    prog[(s.ls t).pc]? = some st → stepLoader prog schema nv inp s t =
      match st with
      | .loadSources =>
        match loadSources inp.srcs 0 [] with
        | .error i => finish s t (s.ls t) (.source i)
        | .ok maps => next s t { s.ls t with cand := mergeAll maps }
      | .schema => if schema && schemaRejects (s.ls t).cand then finish s t (s.ls t) .schema else next s t (s.ls t)
      | .validators _ =>
        match firstRejecting (s.ls t).cand nv with
        | some i => finish s t (s.ls t) (.validator i)
        | none => next s t (s.ls t)
      | .lock => if s.writer = none ∧ s.rlocks = [] then next { s with writer := some t } t (s.ls t) else s
      | .deferUnlock => next s t { s.ls t with deferred := true }
      | .unlock => next { s with writer := if s.writer == some t then none else s.writer } t (s.ls t)
      | .bindAndValidate =>
        match inp.bind with
        | some .reject => finish s t (s.ls t) .binding
        | _ => next s t (s.ls t)
      | .bind =>
        match inp.bind with
        | some (.ok fresh) => next { s with bound := fresh } t (s.ls t)
        | _ => next s t (s.ls t)
      | .swap => next { s with values := (s.ls t).cand } t (s.ls t)
      | .retNil => finish s t (s.ls t) .ok
      | _ => next s t (s.ls t) := by
  intro hk
  simp only [stepLoader, hd, hk]
  cases st <;> rfl
end eqns

theorem inv_next_free {s : Sys} (h : Inv schema nv inputs st0 s) (t : Nat) (inp : LoadInput)
    (hin : inputs[t]? = some inp) (l' : LState) (_hd' : l'.done = none) (hpc : l'.pc + 1 ≤ 4)
    (hnh : ¬ holds (s.ls t))
    (hloc : Local schema nv inp { l' with pc := l'.pc + 1 }) :
    Inv schema nv inputs st0 (next s t l') := by
  have hwt : s.writer ≠ some t := fun e => hnh ((h.own t).mp e)
  refine inv_frame h t inp hin (fun u e => by simp [next, upd_other _ _ _ _ e]) rfl rfl rfl ?_ ?_ (Or.inl rfl)
    (fun hx => h.excl hx) (fun u _ _ => ⟨rfl, rfl⟩) h.idle (fun e => absurd e hwt) rfl
  · simpa [next] using hloc
  · simp only [next, upd_same]
    constructor
    · intro e; exact absurd e hwt
    · intro hh; have := hh.2; simp at this; omega

/-- a loader returns, and its return is the linearisation point of the call. `hidle`: without the lock it has
    not written, so the coarse `load` must leave the linearised state alone; `hheld`: with the lock, the shared state
    already is what the coarse `load` installs, and the deferred unlock (`hdf`) releases it -/
theorem inv_finish {s : Sys} (h : Inv schema nv inputs st0 s) (t : Nat) (inp : LoadInput)
    (hin : inputs[t]? = some inp) (r : Stage) (_hd : (s.ls t).done = none)
    (hres : ∀ st, (load schema nv st inp).2 = r)
    (hdf : holds (s.ls t) → (s.ls t).deferred = true)
    (hidle : ¬ holds (s.ls t) → (load schema nv (absOf schema nv inputs st0 s.ops).1 inp).1 = (absOf schema nv inputs st0 s.ops).1)
    (hheld : holds (s.ls t) → s.conc = (load schema nv (absOf schema nv inputs st0 s.ops).1 inp).1) :
    Inv schema nv inputs st0 (finish s t (s.ls t) r) := by
  have hloc : Local schema nv inp ((finish s t (s.ls t) r).ls t) := by
    simp only [finish, upd_same]
    exact ⟨nofun, nofun, nofun, nofun, nofun, nofun, fun _ hr => Option.some.inj hr ▸ hres⟩
  have hls : ∀ u, u ≠ t → (finish s t (s.ls t) r).ls u = s.ls u := fun u e => upd_other _ _ _ _ e
  have habs : absOf schema nv inputs st0 (finish s t (s.ls t) r).ops = _ := absOf_commit s.ops t inp hin
  have hnh' : ¬ holds ((finish s t (s.ls t) r).ls t) := fun hx => by simp [finish, holds] at hx
  by_cases hh : holds (s.ls t)
  · -- the lock holder returns: the deferred unlock runs
    have hw : s.writer = some t := (h.own t).mpr hh
    have hwn : (finish s t (s.ls t) r).writer = none := by simp [finish, hdf hh, hw]
    refine inv_frame h t inp hin hls rfl rfl rfl hloc ⟨fun e => absurd (hwn ▸ e) nofun, fun hx => absurd hx hnh'⟩
      (Or.inr (Or.inr ⟨hw, hwn⟩)) (fun hx => absurd hwn hx)
      (fun u e hu => by rw [hw] at hu; cases hu; exact absurd rfl e) ?_ (fun hx => absurd (hwn ▸ hx) nofun) ?_
    · intro _; rw [habs]; exact hheld hh
    · rw [habs]
  · -- nobody's lock is touched, and `load` leaves the linearised state alone
    have hwt : s.writer ≠ some t := fun e => hh ((h.own t).mp e)
    have hwe : (finish s t (s.ls t) r).writer = s.writer := by
      have : (s.writer == some t) = false := by simpa using hwt
      simp [finish, this]
    have habs1 : (absOf schema nv inputs st0 (finish s t (s.ls t) r).ops).1 = (absOf schema nv inputs st0 s.ops).1 := by
      rw [habs]; exact hidle hh
    refine inv_frame h t inp hin hls rfl rfl rfl hloc ⟨fun e => absurd (hwe ▸ e) hwt, fun hx => absurd hx hnh'⟩
      (Or.inl hwe) (fun hx => h.excl (hwe ▸ hx)) (fun u e hu => ⟨rfl, habs1⟩) ?_ (fun hx => absurd (hwe ▸ hx) hwt) ?_
    · intro hx; rw [habs1]; exact h.idle (hwe ▸ hx)
    · rw [habs]

theorem inv_next_held {s : Sys} (h : Inv schema nv inputs st0 s) (t : Nat) (inp : LoadInput)
    (hin : inputs[t]? = some inp) (hw : s.writer = some t) (v : Kvs) (b : List (Bytes × Bytes))
    (l' : LState) (hd' : l'.done = none) (hpc : 5 ≤ l'.pc + 1)
    (hloc : Local schema nv inp { l' with pc := l'.pc + 1 })
    (hrel : Rel schema nv inp { l' with pc := l'.pc + 1 } ⟨v, b⟩ (absOf schema nv inputs st0 s.ops).1) :
    Inv schema nv inputs st0 (next { s with values := v, bound := b } t l') := by
  refine inv_frame h t inp hin (fun u e => by simp [next, upd_other _ _ _ _ e]) rfl rfl rfl ?_ ?_ (Or.inl rfl)
    (fun hx => h.excl hx) (fun u e hu => by rw [hw] at hu; cases hu; exact absurd rfl e) ?_ ?_ rfl
  · simpa [next] using hloc
  · simp only [next, upd_same, holds]
    constructor
    · intro _; exact ⟨hd', hpc⟩
    · intro _; exact hw
  · intro hx; simp only [next] at hx; rw [hw] at hx; cases hx
  · intro _; simpa [next, Sys.conc] using hrel

/-- a loader at program point `n` passes a statement: the clause of the point it reaches is the obligation `hnew`
    (by the point it leaves), the clauses it had carry over; `newValues` is assigned at point 1 only, the `defer`
    registered at point 5 only. `generalizing := false`: the table depends on `n` alone; by default the `match` would take
    `hk`, `hpc`, `hc`, `hdf` along as further discriminants, and `n` could not be rewritten in it -/
theorem Local.next {inp : LoadInput} {l : LState} (hL : Local schema nv inp l) (hd : l.done = none) {n : Nat}
    (hk : l.pc = n) {c : Kvs} {df : Bool} (hpc : n < 9) (hc : 2 ≤ n → c = l.cand) (hdf : 6 ≤ n → df = l.deferred)
    (hnew : match (generalizing := false) n with
      | 1 => ∃ maps, loadSources inp.srcs 0 [] = .ok maps ∧ c = mergeAll maps
      | 2 => (schema && schemaRejects c) = false
      | 3 => firstRejecting c nv = none
      | 5 => df = true
      | 6 => inp.bind ≠ some .reject
      | _ => True) :
    Local schema nv inp ⟨l.pc + 1, c, df, l.done⟩ := by
  subst hk
  have old {a : Nat} (hx : a + 1 ≤ l.pc + 1) (e : ¬ l.pc = a) : a + 1 ≤ l.pc :=
    Nat.lt_of_le_of_ne (Nat.le_of_succ_le_succ hx) (Ne.symm e)
  exact {
    pcle := fun _ => hpc
    src := fun _ hx => if e : l.pc = 1 then by rw [e] at hnew; exact hnew else hc (old hx e) ▸ hL.src hd (old hx e)
    sch := fun _ hx => if e : l.pc = 2 then by rw [e] at hnew; exact hnew else
      hc (Nat.le_of_succ_le (old hx e)) ▸ hL.sch hd (old hx e)
    val := fun _ hx => if e : l.pc = 3 then by rw [e] at hnew; exact hnew else
      hc (Nat.le_trans (by decide) (old hx e)) ▸ hL.val hd (old hx e)
    dfT := fun _ hx => if e : l.pc = 5 then by rw [e] at hnew; exact hnew else hdf (old hx e) ▸ hL.dfT hd (old hx e)
    bnd := fun _ hx => if e : l.pc = 6 then by rw [e] at hnew; exact hnew else hL.bnd hd (old hx e)
    res := fun r hr => absurd (hd ▸ hr) nofun }

theorem Local.known {inp : LoadInput} {l : LState} (hL : Local schema nv inp l) (hd : l.done = none) {n : Nat}
    (hk : l.pc = n) (h2 : 2 ≤ n) :
    ∃ maps, loadSources inp.srcs 0 [] = .ok maps ∧ l.cand = mergeAll maps ∧
      (3 ≤ n → (schema && schemaRejects (mergeAll maps)) = false) ∧
      (4 ≤ n → firstRejecting (mergeAll maps) nv = none) ∧
      (6 ≤ n → l.deferred = true) ∧ (7 ≤ n → inp.bind ≠ some .reject) := by
  subst hk
  obtain ⟨maps, hm, hc⟩ := hL.src hd h2
  exact ⟨maps, hm, hc, fun h => hc ▸ hL.sch hd h, fun h => hc ▸ hL.val hd h, hL.dfT hd, hL.bnd hd⟩

theorem Rel.of_early {inp : LoadInput} {l : LState} {conc abs : State} (hpc : l.pc ≤ 7) (h : conc = abs) :
    Rel schema nv inp l conc abs :=
  ⟨fun _ => h, fun hx => by omega, fun hx => by omega⟩

theorem inv_finish_free {s : Sys} (h : Inv schema nv inputs st0 s) (t : Nat) (inp : LoadInput)
    (hin : inputs[t]? = some inp) {r : Stage} (hd : (s.ls t).done = none) (hnh : ¬ holds (s.ls t))
    (hl : ∀ st, load schema nv st inp = (st, r)) : Inv schema nv inputs st0 (finish s t (s.ls t) r) :=
  inv_finish h t inp hin r hd (fun st => by rw [hl]) (fun hh => absurd hh hnh) (fun _ => by rw [hl])
    (fun hh => absurd hh hnh)

theorem inv_loader {s : Sys} (h : Inv schema nv inputs st0 s) (t : Nat) (inp : LoadInput)
    (hin : inputs[t]? = some inp) :
    Inv schema nv inputs st0 (stepLoader modelLoad schema nv inp s t) := by
  have hL := h.loc t inp hin
  cases hd : (s.ls t).done with
  | some r => rw [sl_done hd]; exact h
  | none =>
    have hown := h.own t
    -- `k : (s.ls t).pc = n` turns every test on the program counter into one on numerals
    match k : (s.ls t).pc, hL.pcle hd with
    | 0, _ => -- argCheck
      rw [sl_live hd _ (by rw [k]; rfl)]
      exact inv_next_free h t inp hin _ hd (by simp [k]) (fun hh => absurd (k ▸ hh.2) (by decide))
        (hL.next hd k (by decide) (fun _ => rfl) (fun _ => rfl) trivial)
    | 1, _ => -- loadSources
      have hnh : ¬ holds (s.ls t) := fun hh => absurd (k ▸ hh.2) (by decide)
      rw [sl_live hd _ (by rw [k]; rfl)]
      cases hm : loadSources inp.srcs 0 [] with
      | error i => exact inv_finish_free h t inp hin hd hnh (load_source_fail hm)
      | ok maps =>
        exact inv_next_free h t inp hin _ hd (by simp [k]) hnh
          (hL.next hd k (by decide) nofun (fun _ => rfl) ⟨maps, hm, rfl⟩)
    | 2, _ => -- schema
      have hnh : ¬ holds (s.ls t) := fun hh => absurd (k ▸ hh.2) (by decide)
      obtain ⟨maps, hm, hc, -⟩ := hL.known hd k (by decide)
      rw [sl_live hd _ (by rw [k]; rfl)]
      dsimp only
      split
      · rename_i hrej
        exact inv_finish_free h t inp hin hd hnh (load_schema_fail hm (hc ▸ hrej))
      · rename_i hrej
        exact inv_next_free h t inp hin _ hd (by simp [k]) hnh
          (hL.next hd k (by decide) (fun _ => rfl) (fun _ => rfl) (Bool.eq_false_iff.mpr hrej))
    | 3, _ => -- validators
      have hnh : ¬ holds (s.ls t) := fun hh => absurd (k ▸ hh.2) (by decide)
      obtain ⟨maps, hm, hc, hs, -⟩ := hL.known hd k (by decide)
      rw [sl_live hd _ (by rw [k]; rfl)]
      cases hv : firstRejecting (s.ls t).cand nv with
      | some i => exact inv_finish_free h t inp hin hd hnh (load_validator_fail hm (hs (by decide)) (hc ▸ hv))
      | none =>
        exact inv_next_free h t inp hin _ hd (by simp [k]) hnh
          (hL.next hd k (by decide) (fun _ => rfl) (fun _ => rfl) hv)
    | 4, _ => -- lock
      rw [sl_live hd _ (by rw [k]; rfl)]
      dsimp only
      split
      · rename_i hfree
        refine inv_frame h t inp hin (fun u e => by simp [next, upd_other _ _ _ _ e]) rfl rfl rfl ?_ ?_
          (Or.inr (Or.inl ⟨hfree.1, rfl⟩)) (fun _ => hfree.2)
          (fun u e hu => by rw [hfree.1] at hu; cases hu) ?_ ?_ rfl
        · simp only [next, upd_same]
          exact hL.next hd k (by decide) (fun _ => rfl) (fun _ => rfl) trivial
        · simp only [next, upd_same, holds]
          exact ⟨fun _ => ⟨hd, by simp [k]⟩, fun _ => trivial⟩
        · intro hx; simp [next] at hx
        · intro _
          simp only [next, upd_same]
          exact Rel.of_early (by simp [k]) (h.idle hfree.1)
      · exact h
    | 5, _ => -- deferUnlock
      have hw := hown.mpr ⟨hd, by simp [k]⟩
      rw [sl_live hd _ (by rw [k]; rfl)]
      exact inv_next_held h t inp hin hw s.values s.bound _ hd (by simp [k])
        (hL.next hd k (by decide) (fun _ => rfl) nofun rfl)
        (Rel.of_early (by simp [k]) ((h.held t inp hw hin).early (by simp [k])))
    | 6, _ => -- bindAndValidate
      have hh : holds (s.ls t) := ⟨hd, by simp [k]⟩
      have hw := hown.mpr hh
      have hca := (h.held t inp hw hin).early (by simp [k])
      rw [sl_live hd _ (by rw [k]; rfl)]
      have hnext : inp.bind ≠ some .reject → Inv schema nv inputs st0 (next s t (s.ls t)) := fun hb =>
        inv_next_held h t inp hin hw s.values s.bound _ hd (by simp [k])
          (hL.next hd k (by decide) (fun _ => rfl) (fun _ => rfl) hb)
          (Rel.of_early (by simp [k]) hca)
      rcases hb : inp.bind with _ | f | _
      · exact hnext (by rw [hb]; nofun)
      · exact hnext (by rw [hb]; nofun)
      · obtain ⟨maps, hm, hc, hs, hv, hdf, -⟩ := hL.known hd k (by decide)
        have hl := load_binding_fail hm (hs (by decide)) (hv (by decide)) hb
        exact inv_finish h t inp hin _ hd (fun st => by rw [hl]) (fun _ => hdf (by decide))
          (fun hn => absurd hh hn) (fun _ => by rw [hl]; exact hca)
    | 7, _ => -- bind
      have hw := hown.mpr ⟨hd, by simp [k]⟩
      have hca : s.conc = (absOf schema nv inputs st0 s.ops).1 := (h.held t inp hw hin).early (by simp [k])
      rw [sl_live hd _ (by rw [k]; rfl)]
      have hloc : Local schema nv inp { s.ls t with pc := (s.ls t).pc + 1 } :=
        hL.next hd k (by decide) (fun _ => rfl) (fun _ => rfl) trivial
      have hrel (b : List (Bytes × Bytes))
          (hb : b = match inp.bind with | some (.ok f) => f | _ => s.bound) :
          Rel schema nv inp { s.ls t with pc := (s.ls t).pc + 1 } ⟨s.values, b⟩
            (absOf schema nv inputs st0 s.ops).1 :=
        ⟨fun hx => by simp [k] at hx, fun _ => hca ▸ ⟨rfl, hb⟩, fun hx => by simp [k] at hx⟩
      rcases hbb : inp.bind with _ | f | _
      · exact inv_next_held h t inp hin hw s.values s.bound _ hd (by simp [k]) hloc (hrel _ (by rw [hbb]))
      · exact inv_next_held h t inp hin hw s.values f _ hd (by simp [k]) hloc (hrel _ (by rw [hbb]))
      · exact absurd hbb (hL.bnd hd (by simp [k]))
    | 8, _ => -- swap
      have hw := hown.mpr ⟨hd, by simp [k]⟩
      obtain ⟨maps, hm, hc, hs, hv, -, hb⟩ := hL.known hd k (by decide)
      obtain ⟨_, hbd⟩ := (h.held t inp hw hin).mid k
      rw [sl_live hd _ (by rw [k]; rfl)]
      refine inv_next_held h t inp hin hw (s.ls t).cand s.bound _ hd (by simp [k])
        (hL.next hd k (by decide) (fun _ => rfl) (fun _ => rfl) trivial)
        ⟨fun hx => by simp [k] at hx, fun hx => by simp [k] at hx, fun _ => ?_⟩
      rw [load_ok hm (hs (by decide)) (hv (by decide)) (hb (by decide)), hc]
      have hbd' : s.bound = _ := hbd
      rw [hbd']
      rfl
    | 9, _ => -- retNil
      have hh : holds (s.ls t) := ⟨hd, by simp [k]⟩
      have hw := hown.mpr hh
      obtain ⟨maps, hm, hc, hs, hv, hdf, hb⟩ := hL.known hd k (by decide)
      rw [sl_live hd _ (by rw [k]; rfl)]
      have hl := load_ok hm (hs (by decide)) (hv (by decide)) (hb (by decide))
      exact inv_finish h t inp hin _ hd (fun st => by rw [hl]) (fun _ => hdf (by decide))
        (fun hn => absurd hh hn) (fun _ => (h.held t inp hw hin).late k)
    | n + 10, hle => omega

theorem inv_step {s : Sys} (h : Inv schema nv inputs st0 s) (a : Act) :
    Inv schema nv inputs st0 (step modelLoad schema nv inputs s a) := by
  cases a with
  | loader t =>
    simp only [step]
    cases hin : inputs[t]? with
    | none => exact h
    | some inp => exact inv_loader h t inp hin
  | reader r => exact inv_reader h r

theorem inv_run {s : Sys} (h : Inv schema nv inputs st0 s) (sched : List Act) :
    Inv schema nv inputs st0 (run modelLoad schema nv inputs s sched) :=
  List.foldlRecOn sched _ h fun _ h a _ => inv_step h a

/-! ### the coarse `runSched` on the linearisation -/

/-- `runSched`, forwards, returning the final state as well -/
def coarse (schema : Bool) (nv : Nat) (inputs : List LoadInput) : State → List Op → State × List (Nat × Kvs)
  | st, [] => (st, [])
  | st, .commit i :: rest =>
    match inputs[i]? with
    | some inp => coarse schema nv inputs (load schema nv st inp).1 rest
    | none => coarse schema nv inputs st rest
  | st, .read r :: rest =>
    let c := coarse schema nv inputs st rest
    (c.1, (r, st.values) :: c.2)

theorem runSched_coarse (st : State) (ops : List Op) (acc : List (Nat × Kvs)) :
    runSched schema nv inputs st ops acc = acc.reverse ++ (coarse schema nv inputs st ops).2 := by
  induction ops generalizing st acc with
  | nil => simp [runSched, coarse]
  | cons op rest ih =>
    cases op with
    | commit i =>
      simp only [runSched, coarse]
      cases inputs[i]? <;> simp [ih]
    | read r => simp [runSched, coarse, ih]

theorem coarse_inv (P : State → Prop) (ops : List Op)
    (hstep : ∀ s i inp, P s → Op.commit i ∈ ops → inputs[i]? = some inp → P (load schema nv s inp).1)
    (st : State) (hst : P st) :
    P (coarse schema nv inputs st ops).1 ∧
      ∀ rm ∈ (coarse schema nv inputs st ops).2, ∃ s, P s ∧ rm.2 = s.values := by
  induction ops generalizing st with
  | nil => exact ⟨hst, nofun⟩
  | cons op rest ih =>
    have ih' := ih fun s i inp hs hi => hstep s i inp hs (List.mem_cons_of_mem _ hi)
    cases op with
    | commit i =>
      simp only [coarse]
      cases hi : inputs[i]? with
      | none => exact ih' st hst
      | some inp => exact ih' _ (hstep st i inp hst (List.mem_cons_self ..) hi)
    | read r =>
      obtain ⟨h1, h2⟩ := ih' st hst
      exact ⟨h1, fun rm hrm => (List.mem_cons.mp hrm).elim (fun e => ⟨st, hst, e ▸ rfl⟩) (h2 rm)⟩

theorem coarse_reverse_append (older rest : List Op) :
    coarse schema nv inputs st0 (older.reverse ++ rest) =
      (let a := absOf schema nv inputs st0 older
       let c := coarse schema nv inputs a.1 rest
       (c.1, a.2.reverse ++ c.2)) := by
  induction older generalizing rest with
  | nil => rfl
  | cons op older ih =>
    rw [List.reverse_cons, List.append_assoc, ih]
    cases op with
    | commit i => simp only [List.singleton_append, coarse, absOf]; cases inputs[i]? <;> rfl
    | read r => simp [coarse, absOf]

theorem absOf_coarse (ops : List Op) :
    absOf schema nv inputs st0 ops =
      ((coarse schema nv inputs st0 ops.reverse).1, (coarse schema nv inputs st0 ops.reverse).2.reverse) := by
  have := coarse_reverse_append (schema := schema) (nv := nv) (inputs := inputs) (st0 := st0) ops []
  rw [List.append_nil] at this
  simp [this, coarse]

end Rivaas.ConfigSM
