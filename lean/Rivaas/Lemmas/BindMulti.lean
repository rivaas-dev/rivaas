import Rivaas.Model.Bind
import Rivaas.Spec.Bind
import Rivaas.Lemmas.BindVal
import Rivaas.Lemmas.BindPath
import Rivaas.Lemmas.BindItems
import Rivaas.Lemmas.BindExpect
/-
C04, several sources, the static part: the type a phase binds (`phaseFs`: the type itself, or without its default tags)
has the shape, zero values, grammar and - up to `stripItem` - items of the type; how places of the type relate across
tags (`lemma_sameplace_fs`, `lemma_cover_fs`); the oracle's tests `holds` and `matchesAdm`.
-/
namespace Rivaas.Bind
open Spec

/-! ### HasStructTag: the model's and the oracle's reading coincide -/

mutual
theorem lemma_hasTag_fld (tag : Tag) (h : FieldHdr) : ∀ t : Ty, hasTagFld tag h t = mentionsFld tag h t
  | .struct fs => by simp only [hasTagFld, mentionsFld, taggedUnder, explicitTag, lemma_hasTag_fs tag fs]
  | .ptr (.struct fs) => by simp only [hasTagFld, mentionsFld, taggedUnder, explicitTag, lemma_hasTag_fs tag fs]
  | .prim _ => rfl
  | .slice _ => rfl
  | .map _ => rfl
  | .ptr (.prim _) => rfl
  | .ptr (.ptr _) => rfl
  | .ptr (.slice _) => rfl
  | .ptr (.map _) => rfl
theorem lemma_hasTag_fs (tag : Tag) : ∀ fs : List Fld, hasTagFs tag fs = mentionsFs tag fs
  | [] => rfl
  | (h, t) :: rest => by simp only [hasTagFs, mentionsFs, lemma_hasTag_fld tag h t, lemma_hasTag_fs tag rest]
end

/-! ### the type a phase binds; the stripped type: same shape, same zero values, same grammar -/

def phaseFs (fs : List Fld) (ph : Phase) : List Fld := if ph.noDefaults then stripFs fs else fs

theorem lemma_strip_leafTy (t : Ty) (h : leafTy t = true) : stripTy t = t := by
  obtain ⟨p, isPtr, rfl | rfl | rfl⟩ := leafTy_cases h <;> cases isPtr <;> rfl

mutual
theorem lemma_zero_strip : ∀ t : Ty, zero (stripTy t) = zero t
  | .struct fs => by simp only [stripTy, zero, lemma_zeroFs_strip fs]
  | .ptr t => by simp [stripTy, zero]
  | .slice t => by simp [stripTy, zero]
  | .map t => by simp [stripTy, zero]
  | .prim p => by simp [stripTy]
theorem lemma_zeroFs_strip : ∀ fs : List Fld, zeroFs (stripFs fs) = zeroFs fs
  | [] => rfl
  | (h, t) :: rest => by simp only [stripFs, zeroFs, lemma_zero_strip t, lemma_zeroFs_strip rest]
end

mutual
theorem lemma_strip_wt' : ∀ (t : Ty) (v : Val), wt (stripTy t) v = wt t v
  | .struct fs, v => by
    cases v with
    | struct vs => exact lemma_strip_wts' fs vs
    | _ => rfl
  | .ptr t, v => by
    cases v with
    | ptr x => exact lemma_strip_wt' t x
    | _ => rfl
  | .slice t, v => rfl
  | .map t, v => rfl
  | .prim p, v => rfl
theorem lemma_strip_wts' : ∀ (fs : List Fld) (vs : List Val), wts (stripFs fs) vs = wts fs vs
  | [], vs => rfl
  | (h, t) :: rest, [] => rfl
  | (h, t) :: rest, v :: vs => by
    show (wt (stripTy t) v && wts (stripFs rest) vs) = (wt t v && wts rest vs)
    rw [lemma_strip_wt' t v, lemma_strip_wts' rest vs]
end

mutual
theorem lemma_strip_grammar' : ∀ t : Ty, inGrammar (stripTy t) = inGrammar t
  | .struct fs => lemma_strip_grammarFs' fs
  | .ptr (.struct fs) => lemma_strip_grammarFs' fs
  | .ptr (.prim _) => rfl
  | .ptr (.ptr _) => rfl
  | .ptr (.slice _) => rfl
  | .ptr (.map _) => rfl
  | .slice _ => rfl
  | .map _ => rfl
  | .prim _ => rfl
theorem lemma_strip_grammarFs' : ∀ fs : List Fld, inGrammarFs (stripFs fs) = inGrammarFs fs
  | [] => rfl
  | (h, t) :: rest => by
    show (inGrammar (stripTy t) && inGrammarFs (stripFs rest)) = (inGrammar t && inGrammarFs rest)
    rw [lemma_strip_grammar' t, lemma_strip_grammarFs' rest]
end

theorem lemma_phaseFs_wts (fs : List Fld) (ph : Phase) (vs : List Val) : wts (phaseFs fs ph) vs = wts fs vs := by
  unfold phaseFs
  cases ph.noDefaults
  · rfl
  · exact lemma_strip_wts' fs vs

theorem lemma_phaseFs_grammar (fs : List Fld) (ph : Phase) : inGrammarFs (phaseFs fs ph) = inGrammarFs fs := by
  unfold phaseFs
  cases ph.noDefaults
  · rfl
  · exact lemma_strip_grammarFs' fs


/-! ### the oracle's unfolding of the type without default tags -/

def stripItem : Item → Item
  | .leaf l => .leaf { l with dflt := [], ty := stripTy l.ty }
  | .node n => .node n
  | .frame f => .frame { f with ty := stripTy f.ty }

theorem lemma_strip_under (k : Nat) : stripItem ∘ Item.under k = Item.under k ∘ stripItem :=
  funext fun x => by cases x <;> rfl

theorem lemma_strip_below (k : Nat) (name p : Bytes) : stripItem ∘ Item.below k name p = Item.below k name p ∘ stripItem :=
  funext fun x => by cases x <;> rfl

theorem lemma_strip_notStruct (t : Ty) (hns : structFields? t = none) : structFields? (stripTy t) = none := by
  cases t with
  | struct fs => cases hns
  | ptr e =>
    cases e with
    | struct fs => cases hns
    | _ => rfl
  | _ => rfl

theorem lemma_items_strip_of (tag : Tag) (i : Nat) (h : FieldHdr) (t : Ty)
    (ihsub : ∀ sub, structFields? t = some sub → ∀ i, itemsFs tag i (stripFs sub) = (itemsFs tag i sub).map stripItem) :
    itemsFld tag i { h with dflt := [] } (stripTy t) = (itemsFld tag i h t).map stripItem := by
  cases hsf : structFields? t with
  | none =>
    rw [lemma_itemsFld_leaf tag i _ _ (lemma_strip_notStruct t hsf), lemma_itemsFld_leaf tag i h t hsf]
    simp only [leafItems, FieldHdr.tag]
    cases h.exported <;> cases tagNames (h.tags.getD tag.idx []) h.name (tag == Tag.form) <;> rfl
  | some sub =>
    have ih := ihsub sub hsf 0
    rcases structFields?_some hsf with rfl | rfl <;>
    · simp only [stripTy, itemsFld, FieldHdr.tag, ih]
      cases h.exported
      · rfl
      · cases h.anon
        · cases tagNames (h.tags.getD tag.idx []) h.name (tag == Tag.form) with
          | none => rfl
          | some pa =>
            simp only [Bool.not_true, Bool.false_eq_true, if_false, List.map_cons, List.map_map, lemma_strip_below, stripItem]
        · simp only [Bool.not_true, Bool.false_eq_true, if_false, if_true, List.map_map, lemma_strip_under]

theorem lemma_items_strip_fs (tag : Tag) :
    ∀ (fs : List Fld) (i : Nat), itemsFs tag i (stripFs fs) = (itemsFs tag i fs).map stripItem := by
  intro fs
  induction fs using fld_induction with
  | nil => exact fun _ => rfl
  | cons h t rest ihsub ih =>
    intro i
    simp only [stripFs, itemsFs, List.map_append, lemma_items_strip_of tag i h t ihsub, ih]

theorem lemma_items_strip_fld (tag : Tag) (i : Nat) (h : FieldHdr) :
    ∀ t : Ty, itemsFld tag i { h with dflt := [] } (stripTy t) = (itemsFld tag i h t).map stripItem :=
  fun t => lemma_items_strip_of tag i h t (fun sub _ => lemma_items_strip_fs tag sub)


/-! ### the places of a type, across tags -/

/-- how a leaf place `(p, t)` of the type under one tag shows among the items `its` of another tag: as a leaf at the
    same path, or inside (or as) a field that tag does not bind -/
def Cover (its : List Item) (p : List Nat) (t : Ty) : Prop :=
  (∃ l, Item.leaf l ∈ its ∧ l.path = p) ∨
  (∃ f r, Item.frame f ∈ its ∧ p = f.path ++ r ∧ ZeroLikeAt (zero f.ty) r t)

theorem lemma_cover_mono (its its' : List Item) (p : List Nat) (t : Ty) (hsub : ∀ x ∈ its, x ∈ its') (h : Cover its p t) :
    Cover its' p t := by
  rcases h with ⟨l, hl, h⟩ | ⟨f, r, hf, h⟩
  · exact Or.inl ⟨l, hsub _ hl, h⟩
  · exact Or.inr ⟨f, r, hsub _ hf, h⟩

theorem lemma_cover_under (k : Nat) (its : List Item) (p : List Nat) (t : Ty) (h : Cover its p t) :
    Cover (its.map (Item.under k)) (k :: p) t := by
  rcases h with ⟨l, hl, hp⟩ | ⟨f, r, hf, hp, hz⟩
  · exact Or.inl ⟨l.under k, List.mem_map.2 ⟨.leaf l, hl, rfl⟩, by simp [Leaf.under, hp]⟩
  · exact Or.inr ⟨{ f with path := k :: f.path }, r, List.mem_map.2 ⟨.frame f, hf, rfl⟩, by simp [hp], hz⟩

theorem lemma_cover_below (k : Nat) (name pk : Bytes) (its : List Item) (p : List Nat) (t : Ty) (h : Cover its p t) :
    Cover (its.map (Item.below k name pk)) (k :: p) t := by
  rcases h with ⟨l, hl, hp⟩ | ⟨f, r, hf, hp, hz⟩
  · exact Or.inl ⟨l.below k name pk, List.mem_map.2 ⟨.leaf l, hl, rfl⟩, by simp [Leaf.below, hp]⟩
  · exact Or.inr ⟨{ f with path := k :: f.path }, r, List.mem_map.2 ⟨.frame f, hf, rfl⟩, by simp [hp], hz⟩

theorem lemma_cover_leafItems (A B : Tag) (k : Nat) (h : FieldHdr) (t : Ty) (l : Leaf)
    (hl : Item.leaf l ∈ leafItems A k h t) : Cover (leafItems B k h t) l.path l.ty := by
  unfold leafItems at hl ⊢
  by_cases hex : h.exported = true
  · simp only [hex, Bool.not_true, Bool.false_eq_true, if_false] at hl ⊢
    cases hA : tagNames (h.tag A) h.name (A == .form) with
    | none => simp [hA] at hl
    | some pa =>
      obtain ⟨p, as⟩ := pa
      simp only [hA, List.mem_singleton, Item.leaf.injEq] at hl
      subst hl
      cases hB : tagNames (h.tag B) h.name (B == .form) with
      | none => exact Or.inr ⟨{ path := [k], ty := t }, [], by simp, by simp [leafAt], Or.inr (by simp [valAt, leafAt])⟩
      | some pb => exact Or.inl ⟨leafAt k h t pb.1 pb.2, by simp, rfl⟩
  · have hex' : h.exported = false := by simpa using hex
    simp [hex'] at hl

theorem lemma_cover_struct (A B : Tag) (k : Nat) (h : FieldHdr) (t : Ty) (sub : List Fld) (ht : structFields? t = some sub)
    (ihs : ∀ l : Leaf, Item.leaf l ∈ itemsFs A 0 sub → Cover (itemsFs B 0 sub) l.path l.ty) (l : Leaf)
    (hl : Item.leaf l ∈ itemsFld A k h t) : Cover (itemsFld B k h t) l.path l.ty := by
  rcases lemma_itemsFld_struct k h t sub ht with hf | hu | hn
  · rw [hf A] at hl
    cases List.mem_singleton.1 hl
  · rw [hu A] at hl
    rw [hu B]
    obtain ⟨l0, hx, rfl⟩ := lemma_leaf_mem_under k _ l hl
    exact lemma_cover_under k _ l0.path l0.ty (ihs l0 hx)
  · rw [hn A] at hl
    rw [hn B]
    unfold nestedItems at hl ⊢
    cases hA : tagNames (h.tag A) h.name (A == .form) with
    | none => rw [hA] at hl; cases List.mem_singleton.1 hl
    | some pa =>
      rw [hA] at hl
      rcases List.mem_cons.1 hl with hl | hl
      · cases hl
      · obtain ⟨l0, hx, rfl⟩ := lemma_leaf_mem_below k h.name pa.1 _ l hl
        cases hB : tagNames (h.tag B) h.name (B == .form) with
        | some pb =>
          exact lemma_cover_mono _ _ _ _ (fun _ => List.mem_cons_of_mem _)
            (lemma_cover_below k h.name pb.1 _ l0.path l0.ty (ihs l0 hx))
        | none =>
          -- `B` does not bind the field: the place lies inside a frame, and the frame's zero value has nothing there
          refine Or.inr ⟨{ path := [k], ty := t }, l0.path, List.mem_singleton.2 rfl, rfl, ?_⟩
          have hp := lemma_items_paths A sub (.leaf l0) hx (l0.path, l0.ty) rfl
          rcases structFields?_some ht with rfl | rfl
          · simpa [zero, Leaf.below] using hp.2
          · obtain ⟨a, r, hp⟩ := hp.1
            simp only at hp
            exact Or.inl (by rw [hp]; rfl)

theorem lemma_cover_fs (A B : Tag) :
    ∀ (fs : List Fld) (i : Nat) (l : Leaf), Item.leaf l ∈ itemsFs A i fs → Cover (itemsFs B i fs) l.path l.ty := by
  intro fs
  induction fs using fld_induction with
  | nil => intro i l hl; cases hl
  | cons h t rest ihsub ih =>
    intro i l hl
    simp only [itemsFs, List.mem_append] at hl ⊢
    rcases hl with hl | hl
    · refine lemma_cover_mono _ _ _ _ (fun _ => List.mem_append_left _) ?_
      cases hsf : structFields? t with
      | some sub => exact lemma_cover_struct A B i h t sub hsf (ihsub sub hsf 0) l hl
      | none =>
        rw [lemma_itemsFld_leaf A i h t hsf] at hl
        rw [lemma_itemsFld_leaf B i h t hsf]
        exact lemma_cover_leafItems A B i h t l hl
    · exact lemma_cover_mono _ _ _ _ (fun _ => List.mem_append_right _) (ih (i+1) l hl)


/-! ### a path determines the type of the place (leaves and frames), whatever the tag -/

theorem lemma_sameplace_fs (A B : Tag) (fs : List Fld) (i : Nat) (x y : Item) (p : List Nat) (t1 t2 : Ty)
    (hx : x ∈ itemsFs A i fs) (hy : y ∈ itemsFs B i fs) (hpx : x.pathTy = some (p, t1)) (hpy : y.pathTy = some (p, t2)) :
    t1 = t2 := by
  obtain ⟨j, q, h1, hq, e1⟩ := lemma_items_fieldAt A fs i x hx _ hpx
  obtain ⟨j', q', h2, hq', e2⟩ := lemma_items_fieldAt B fs i y hy _ hpy
  simp only at hq hq' e1 e2
  rw [hq] at hq'
  injection hq' with hj hqq
  rw [Nat.add_left_cancel hj, hqq, e2] at e1
  cases e1
  rfl

theorem lemma_sameplace_fld (A B : Tag) (k : Nat) (h : FieldHdr) :
    ∀ (t : Ty) (x y : Item) (p : List Nat) (t1 t2 : Ty), x ∈ itemsFld A k h t → y ∈ itemsFld B k h t →
      x.pathTy = some (p, t1) → y.pathTy = some (p, t2) → t1 = t2 :=
  fun t x y p t1 t2 hx hy => lemma_sameplace_fs A B [(h, t)] k x y p t1 t2 (by simp [itemsFs, hx]) (by simp [itemsFs, hy])

theorem lemma_samepath_fld (A B : Tag) (k : Nat) (h : FieldHdr) :
    ∀ (t : Ty) (l l' : Leaf), Item.leaf l ∈ itemsFld A k h t → Item.leaf l' ∈ itemsFld B k h t →
      l.path = l'.path → l.ty = l'.ty :=
  fun t l l' hl hl' hp => lemma_sameplace_fld A B k h t (.leaf l) (.leaf l') l.path l.ty l'.ty hl hl' rfl (by rw [hp]; rfl)


/-! ### values along a path, admissible values -/

mutual
theorem lemma_valAt_append : ∀ (v : Val) (q r : List Nat),
    valAt v (q ++ r) = (match valAt v q with
      | some x => valAt x r
      | none => none)
  | v, [], r => by cases v <;> rfl
  | .struct vs, i :: q, r => lemma_valAtFs_append vs i q r
  | .ptr w, i :: q, r => lemma_valAt_append w (i :: q) r
  | .int _, i :: q, r => rfl
  | .uint _, i :: q, r => rfl
  | .flt _, i :: q, r => rfl
  | .bool _, i :: q, r => rfl
  | .str _, i :: q, r => rfl
  | .time _, i :: q, r => rfl
  | .nil, i :: q, r => rfl
  | .list _, i :: q, r => rfl
  | .map _, i :: q, r => rfl
theorem lemma_valAtFs_append : ∀ (vs : List Val) (i : Nat) (q r : List Nat),
    valAtFs vs i (q ++ r) = (match valAtFs vs i q with
      | some x => valAt x r
      | none => none)
  | [], _, _, _ => rfl
  | x :: _, 0, q, r => lemma_valAt_append x q r
  | _ :: xs, i + 1, q, r => lemma_valAtFs_append xs i q r
end

theorem lemma_mapOf_norm (c : Val) : mapOf (some c) = mapOf (some (normLeaf c)) := by
  cases c with
  | map kvs => cases kvs <;> rfl
  | ptr y =>
    cases y with
    | map kvs => cases kvs <;> rfl
    | _ => rfl
  | _ => rfl

theorem lemma_matches_refl (ty : Ty) (cur : Option Val) : matchesAdm ty cur cur = true := by
  cases cur <;> simp [matchesAdm]

theorem lemma_matches_mapOf (ty : Ty) (cur a : Option Val) (h : matchesAdm ty cur a = true) : mapOf cur = mapOf a := by
  cases a with
  | some x =>
    cases cur with
    | none => simp [matchesAdm] at h
    | some c =>
      simp only [matchesAdm, beq_iff_eq] at h
      rw [lemma_mapOf_norm c, lemma_mapOf_norm x, h]
  | none =>
    cases cur with
    | none => rfl
    | some c =>
      simp only [matchesAdm, beq_iff_eq] at h
      rw [lemma_mapOf_norm c, h, ← lemma_mapOf_norm, lemma_mapOf_zero]
      rfl

theorem lemma_holds_matches (init v : Val) (l : Leaf) (e : Option Val) :
    holds init v l e = matchesAdm l.ty (valAt v l.path) (e.or (valAt init l.path)) := by
  unfold holds
  cases e <;> cases valAt v l.path <;> cases valAt init l.path <;> rfl

theorem lemma_matches_trans (ty : Ty) (c1 c0 a : Option Val) (h1 : matchesAdm ty c1 c0 = true) (h0 : matchesAdm ty c0 a = true) :
    matchesAdm ty c1 a = true := by
  -- each test is an equation between normal forms (an absent value on the right reading as the zero value) or `false`:
  -- case by case the two equations chain, or a hypothesis is `false = true`
  cases c1 <;> cases c0 <;> cases a <;> simp_all [matchesAdm]

end Rivaas.Bind
