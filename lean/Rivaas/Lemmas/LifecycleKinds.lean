import Rivaas.Spec.Lifecycle
/-
C09 — helper lemmas: event kinds, and how the functions of the oracle behave on a log that
is a concatenation of segments each of which contains events of a few known kinds only.
-/
namespace Rivaas.Lifecycle
open Spec

inductive Kind where
  | start | ready | reload | reqIn | reqFin | sig | shut | flush | stop | ret
  deriving DecidableEq, Repr

def kind : Ev → Kind
  | .startIn .. => .start | .startOut .. => .start
  | .ready .. => .ready
  | .reloadIn .. => .reload | .reloadOut .. => .reload
  | .reqIn .. => .reqIn
  | .reqFin .. => .reqFin
  | .sig => .sig
  | .shutIn .. => .shut | .shutOut .. => .shut
  | .flush => .flush
  | .stopIn .. => .stop | .stopOut .. => .stop
  | .ret => .ret

def kindsIn (ks : List Kind) (l : List Ev) : Prop := ∀ e ∈ l, kind e ∈ ks

theorem kindsIn_nil (ks : List Kind) : kindsIn ks [] := by intro e he; cases he

theorem kindsIn_cons {ks : List Kind} {e : Ev} {l : List Ev} (h1 : kind e ∈ ks) (h2 : kindsIn ks l) :
    kindsIn ks (e :: l) := by
  intro x hx
  rcases List.mem_cons.mp hx with rfl | hx
  · exact h1
  · exact h2 x hx

theorem kindsIn_append {ks : List Kind} {a b : List Ev} (h1 : kindsIn ks a) (h2 : kindsIn ks b) :
    kindsIn ks (a ++ b) := by
  intro x hx
  rcases List.mem_append.mp hx with hx | hx
  · exact h1 x hx
  · exact h2 x hx

theorem kindsIn_mono {ks ks' : List Kind} {l : List Ev} (h : kindsIn ks l) (hs : ∀ k ∈ ks, k ∈ ks') :
    kindsIn ks' l := fun e he => hs _ (h e he)

theorem kindsIn_take {ks : List Kind} {l : List Ev} (h : kindsIn ks l) (n : Nat) : kindsIn ks (l.take n) :=
  fun e he => h e (List.mem_of_mem_take he)

theorem kindsIn_drop {ks : List Kind} {l : List Ev} (h : kindsIn ks l) (n : Nat) : kindsIn ks (l.drop n) :=
  fun e he => h e (List.mem_of_mem_drop he)

/-! ### parts: a log as a list of (allowed kinds, segment) -/

abbrev Parts := List (List Kind × List Ev)

def Parts.log (ps : Parts) : List Ev := ps.flatMap (·.2)

def Parts.WK (ps : Parts) : Prop := ∀ p ∈ ps, kindsIn p.1 p.2

theorem Parts.WK_cons {p : List Kind × List Ev} {ps : Parts} (h : Parts.WK (p :: ps)) :
    kindsIn p.1 p.2 ∧ Parts.WK ps :=
  ⟨h p (List.mem_cons_self ..), fun q hq => h q (List.mem_cons_of_mem _ hq)⟩

@[simp] theorem Parts.log_nil : Parts.log [] = [] := rfl
@[simp] theorem Parts.log_cons (p : List Kind × List Ev) (ps : Parts) :
    Parts.log (p :: ps) = p.2 ++ Parts.log ps := by
  simp [Parts.log]

/-- the parts in which events of kind `k` may occur -/
def Parts.home (k : Kind) (ps : Parts) : Parts := ps.filter (fun p => decide (k ∈ p.1))

@[simp] theorem Parts.home_nil (k : Kind) : Parts.home k [] = [] := rfl
theorem Parts.home_cons (k : Kind) (p : List Kind × List Ev) (ps : Parts) :
    Parts.home k (p :: ps) = if k ∈ p.1 then p :: Parts.home k ps else Parts.home k ps := by
  simp only [Parts.home, List.filter_cons, decide_eq_true_eq]

theorem kindsIn.off {ks : List Kind} {l : List Ev} (hl : kindsIn ks l) {k : Kind} (hk : k ∉ ks) {P : Ev → Bool}
    (hP : ∀ e, (kind e == k || P e) = true) : ∀ e ∈ l, P e = true := by
  intro e he
  have hke : (kind e == k) = false := beq_false_of_ne fun hke => hk (hke ▸ hl e he)
  simpa [hke] using hP e

theorem Parts.filter_home (k : Kind) (ps : Parts) (h : ps.WK) :
    ps.log.filter (kind · == k) = (Parts.home k ps).log.filter (kind · == k) := by
  induction ps with
  | nil => rfl
  | cons p ps ih =>
    obtain ⟨hp, hps⟩ := Parts.WK_cons h
    rw [Parts.home_cons]
    by_cases hk : k ∈ p.1
    · simp only [hk, if_true, Parts.log_cons, List.filter_append, ih hps]
    · have : p.2.filter (kind · == k) = [] :=
        List.filter_eq_nil_iff.mpr fun e he => by simpa using fun hke : kind e = k => hk (hke ▸ hp e he)
      simp only [hk, if_false, Parts.log_cons, List.filter_append, ih hps, this, List.nil_append]

/-! a function that is trivial where `q` fails sees a list through `filter q` -/

theorem filterMap_filter_of_off {α β} {q : α → Bool} {g : α → Option β} (hg : ∀ a, (q a || (g a).isNone) = true)
    (l : List α) : (l.filter q).filterMap g = l.filterMap g := by
  rw [List.filterMap_filter]; congr 1; funext a
  cases hq : q a
  · exact (by simpa [hq] using hg a : g a = none).symm
  · rfl

theorem all_filter_of_off {α} {q P : α → Bool} (hP : ∀ a, (q a || P a) = true) (l : List α) :
    (l.filter q).all P = l.all P := by
  rw [List.all_filter]; congr 1; funext a
  cases hq : q a
  · simpa [hq] using hP a
  · rfl

theorem Parts.filterMap_home {α} (g : Ev → Option α) (k : Kind) (hg : ∀ e, (kind e == k || (g e).isNone) = true)
    (ps : Parts) (h : ps.WK) : ps.log.filterMap g = (Parts.home k ps).log.filterMap g := by
  rw [← filterMap_filter_of_off hg ps.log, Parts.filter_home k ps h, filterMap_filter_of_off hg]

theorem Parts.all_home (P : Ev → Bool) (k : Kind) (hP : ∀ e, (kind e == k || P e) = true)
    (ps : Parts) (h : ps.WK) : ps.log.all P = (Parts.home k ps).log.all P := by
  rw [← all_filter_of_off hP ps.log, Parts.filter_home k ps h, all_filter_of_off hP]

theorem Parts.any_home (P : Ev → Bool) (k : Kind) (hP : ∀ e, (kind e == k || !P e) = true)
    (ps : Parts) (h : ps.WK) : ps.log.any P = (Parts.home k ps).log.any P := by
  rw [List.any_eq_not_all_not, Parts.all_home _ k hP ps h, ← List.any_eq_not_all_not]

theorem Parts.count_home (x : Ev) (ps : Parts) (h : ps.WK) :
    ps.log.count x = (Parts.home (kind x) ps).log.count x := by
  rw [← List.count_filter (p := (kind · == kind x)) (l := ps.log) (beq_self_eq_true _), Parts.filter_home _ ps h]
  exact List.count_filter (p := (kind · == kind x)) (beq_self_eq_true _)

end Rivaas.Lifecycle
