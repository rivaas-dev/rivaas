import Rivaas.Lemmas.OpenAPIParams
import Rivaas.Lemmas.OpenAPIDoc
/-
C07 — helper lemmas: from the shape of the built operations to the oracle's `opPathParamsOK` on the projected
document: the oracle's reading of a path key (split at `/`) finds the `{name}` segments, and the shape survives
the projection.
-/
namespace Rivaas.OpenAPI
open List

/-! ## splitting a joined path -/

theorem mem_splitOn_no_sep (sep : Char) (x seg : B) (h : seg ∈ splitOn sep x) : sep ∉ seg :=
  not_mem_of_mem_splitOn (splitOn_eq sep x ▸ h)

theorem splitOn_joinWith (sep : Char) (l : List B) (hne : l ≠ []) (h : ∀ seg ∈ l, sep ∉ seg) :
    splitOn sep (joinWith [sep] l) = l := by
  rw [splitOn_eq, joinWith_eq, splitOn_intercalate _ h hne]

def specSeg (seg : B) : B :=
  match seg with
  | ':' :: name => ['{'] ++ name ++ ['}']
  | _ => seg

theorem specPathKey_eq (route : B) : specPathKey route = joinWith ['/'] ((splitOn '/' route).map specSeg) := rfl

theorem specSeg_no_slash (seg : B) (h : '/' ∉ seg) : '/' ∉ specSeg seg := by
  unfold specSeg
  split
  next name =>
    simp only [mem_cons, not_or] at h
    simp only [cons_append, mem_cons, mem_append, not_or]
    exact ⟨by decide, ⟨by simp, h.2⟩, by decide⟩
  · exact h

theorem splitOn_specPathKey (route : B) : splitOn '/' (specPathKey route) = (splitOn '/' route).map specSeg := by
  rw [specPathKey_eq]
  apply splitOn_joinWith
  · simp only [ne_eq, map_eq_nil_iff]; exact splitOn_ne_nil '/' route
  · intro seg hseg
    obtain ⟨seg0, h0, rfl⟩ := mem_map.1 hseg
    exact specSeg_no_slash seg0 (mem_splitOn_no_sep '/' route seg0 h0)

theorem brace_mem_key (route n : B) (hn : n ∈ specRouteParams route) :
    (splitOn '/' (specPathKey route)).contains (['{'] ++ n ++ ['}']) = true := by
  rw [splitOn_specPathKey]
  simp only [specRouteParams, mem_filterMap] at hn
  obtain ⟨seg, hseg, hsn⟩ := hn
  have : seg = ':' :: n := by
    split at hsn
    · simp only [Option.some.injEq] at hsn; subst hsn; rfl
    · cases hsn
  subst this
  simp only [contains_eq_mem, decide_eq_true_eq]
  exact mem_map.2 ⟨':' :: n, hseg, rfl⟩

/-! ## from the shape to the oracle -/

theorem OpShape.map {route : B} {o : Operation IR} (f : IR → Schema) (h : OpShape route o) : OpShape route (o.map f) := by
  have hp : pairsOf (o.map f).params = pairsOf o.params := by
    simp [pairsOf, Operation.map, Param.map, Function.comp_def]
  refine ⟨fun p hp' => ?_, hp ▸ h.nodup, hp ▸ h.route, fun e => ?_, fun r hr => ?_, fun p hp' => ?_, fun r hr => ?_⟩
  · obtain ⟨p₀, hp₀, rfl⟩ := mem_map.1 hp'
    exact h.params p₀ hp₀
  · have := (sortResps_perm (o.resps.map (Resp.map f))).length_eq
    rw [show sortResps (o.resps.map (Resp.map f)) = [] from e, length_map] at this
    exact h.respsNe (length_eq_zero_iff.1 this.symm)
  · obtain ⟨r₀, hr₀, rfl⟩ := mem_resps_map hr
    exact h.resps r₀ hr₀
  · obtain ⟨p₀, hp₀, rfl⟩ := mem_map.1 hp'
    exact h.styles p₀ hp₀
  · obtain ⟨r₀, hr₀, rfl⟩ := mem_resps_map hr
    exact h.exX r₀ hr₀

theorem opPathParamsOK_of_shape {σ} {route : B} {o : Operation σ} (h : OpShape route o) :
    opPathParamsOK (specPathKey route) o route = true := by
  simp only [opPathParamsOK, all_eq_true, Bool.and_eq_true, beq_iff_eq]
  intro n hn
  have hn' : n ∈ routeParamNames route := by rw [routeParamNames_eq_spec]; exact hn
  refine ⟨⟨brace_mem_key route n hn, ?_⟩, ?_⟩
  · -- the parameters with `in: path` and this name, counted among the (in, name) pairs, which are distinct
    have : countP (fun p => p.loc == s "path" && p.name == n) o.params = count (s "path", n) (pairsOf o.params) := by
      rw [pairsOf, count, countP_map]; rfl
    rw [← countP_eq_length_filter, this, h.nodup.count, if_pos (h.route n hn')]
  · intro p hp
    by_cases hc : p.loc = s "path" ∧ p.name = n
    · simp [hc.1, hc.2, (h.params p hp).2.2 hc.1]
    · simp only [Bool.or_eq_true, Bool.not_eq_eq_eq_not, Bool.not_true, Bool.and_eq_false_imp, beq_iff_eq]
      left
      intro h1
      simp only [beq_eq_false_iff_ne, ne_eq]
      exact fun h2 => hc ⟨h1, h2⟩

end Rivaas.OpenAPI
