import Rivaas.Spec.CompiledClass
import Rivaas.Lemmas.CompilerOrder
import Rivaas.Lemmas.CompilerRC
import Rivaas.Lemmas.RadixDispatch
/-
C11, stage 2: when the compiled dynamic matcher answers, it answered with the reference choice over the live routes
(outside `order` and the same-shape part of `overwrite`), hence like the tree engine.
-/
namespace Rivaas.CompilerL
open Rivaas.Route Rivaas.Radix Rivaas.Compiler Rivaas.Match Rivaas.MatchL Rivaas.RadixL Rivaas.C01

theorem scan_some (sat : Nat → Bytes → Bool) (m path : Bytes) : ∀ (l : List CRoute) (over : SMap) (cr : CRoute) (e : Extract),
    scan sat m path l over = some (cr, e) →
    cr ∈ l ∧ cr.method = m ∧ matchAndExtract sat cr path over = (true, e) := by
  intro l
  induction l with
  | nil => intro over cr e h; cases h
  | cons r rest ih =>
    intro over cr e h
    have tail : scan sat m path rest over = some (cr, e) →
        cr ∈ r :: rest ∧ cr.method = m ∧ matchAndExtract sat cr path over = (true, e) := fun h' =>
      let ⟨h1, h2, h3⟩ := ih over cr e h'
      ⟨List.mem_cons_of_mem _ h1, h2, h3⟩
    rw [scan] at h
    by_cases hm : r.method = m
    · rw [if_pos hm] at h
      cases hme : matchAndExtract sat r path over with
      | mk ok e' =>
        rw [hme] at h
        cases ok with
        | true => cases h; exact ⟨List.mem_cons_self .., hm, hme⟩
        | false =>
          -- the candidate that failed left the overflow map alone
          dsimp only at h
          rw [matchAndExtract_fail_over sat r path over e' hme] at h
          exact tail h
    · rw [if_neg hm] at h
      exact tail h

theorem matchDynamic_some (sat : Nat → Bytes → Bool) (rc : RC) (m path : Bytes) (cr : CRoute) (e : Extract)
    (h : rc.matchDynamic sat m path = some (cr, e)) :
    cr ∈ rc.dynamic ∧ cr.method = m ∧ matchAndExtract sat cr path [] = (true, e) := by
  unfold RC.matchDynamic at h
  split at h
  · split at h
    · obtain ⟨h1, h2, h3⟩ := scan_some sat m _ _ _ _ _ h
      exact ⟨(List.mem_filter.mp h1).1, h2, h3⟩
    · exact scan_some sat m _ _ _ _ _ h
  · exact scan_some sat m _ _ _ _ _ h

/-- the tree engine serves the reference choice over the live routes (`overwrite` is not excluded); each stage of the
compiled engine is compared with it through this -/
theorem serve_ref (sat : Nat → Bytes → Bool) (noRoute : Bool) (script : List Reg) (R : List Route)
    (hR : specRoutes script = some R) (hN : normal R = true) (hstd : ∀ g ∈ script, g.method ∈ stdMethods)
    (req : Req) (hp : req.path.head? = some '/') (lf : Leaf) (ctx : Ctx)
    (href : (refRoute sat (live R) req.method (cutAny req.path)).map (fun r =>
      (leafOf r, pushAll Ctx.fresh ((routeMatch sat r (cutAny req.path)).getD []))) = some (lf, ctx)) :
    serve sat (build noRoute script) req = served lf ctx req := by
  rw [lemma_serve_lookup, lemma_lookupM_live sat noRoute script R hR hN req.method req.path (fun g hg e => e ▸ hstd g hg) hp,
    href]

theorem compiled_routeMatch (sat : Nat → Bytes → Bool) (r : Route) (hn : NormalPat r.text r.pat)
    (hdecl : ∀ c ∈ r.cons, c.1 ∈ declNames r.pat)
    (hst : isStaticPat r.pat = false) (hwc : endsWild r.pat = false)
    (path : Bytes) (hp : path.head? = some '/') (e : Extract) (hme : matchAndExtract sat (C r) path [] = (true, e)) :
    compiledDyn r = true ∧ ∃ b, routeMatch sat r (cutAny path) = some b ∧ (⟨e.slots, e.over⟩ : Ctx) = pushAll Ctx.fresh b := by
  obtain ⟨b, hb, hcf, hctx⟩ := matchAndExtract_sound sat r hn (fun e0 => by rw [e0] at hst; cases hst) hwc hst path hp [] e hme
  have hkeys := matchPat_keys _ _ _ _ hb
  have hcons := consOK_of_first sat r.cons b (hkeys ▸ hdecl) (hkeys ▸ hn.dist) hcf
  refine ⟨?_, b, by rw [routeMatch, hb]; exact if_pos hcons, hctx⟩
  rw [endsWild] at hwc
  simpa [compiledDyn, hst] using hwc

/-- Stage 2 of the compiled engine: when the compiled dynamic matcher answers — whatever the order
of its candidate list, with or without the first-segment index — and the request is outside `order` and the
same-shape part of `overwrite`, it answers exactly like the tree engine. -/
theorem stage2_live (hash : Bytes → Nat) (sat : Nat → Bytes → Bool) (noRoute : Bool) (script : List Reg) (R : List Route)
    (hR : specRoutes script = some R) (hN : normal R = true)
    (hstd : ∀ g ∈ script, g.method ∈ stdMethods) (req : Req) (hp : req.path.head? = some '/')
    (hNm : dSameShape1 sat R req.method (cutAny req.path) = false)
    (hO : dOrder1 sat R req.method (cutAny req.path) = false)
    (cr : CRoute) (e : Extract)
    (hmd : (rcBuild hash script).matchDynamic sat req.method req.path = some (cr, e)) :
    servedDynamic cr e req = serve sat (build noRoute script) req := by
  have hNR := lemma_normalR R hN
  have hg : GoodR R := fun r hr => (hNR r hr).1
  obtain ⟨hcd, hcm, hme⟩ := matchDynamic_some sat _ _ _ _ _ hmd
  obtain ⟨hlr, hst, hwc⟩ := (rcBuild_inv hash script R hR hg).dyn cr hcd
  obtain ⟨r, hrR, rfl, hlive⟩ := hlr.live hg
  have hn := hg r hrR
  obtain ⟨hmeth, hpatt, hrid⟩ := C_meta r hn
  rw [hmeth] at hcm
  rw [C_isStatic r hn] at hst
  rw [C_hasWildcard r hn] at hwc
  obtain ⟨hcdyn, b, hrm, hctx⟩ := compiled_routeMatch sat r hn (hNR r hrR).2 hst hwc req.path hp e hme
  -- outside `order` every matching template is admissible
  have hadm : admissible sat R req.method (cutAny req.path) r = true := by
    have := Bool.eq_false_iff.mpr ((List.any_eq_false.mp hO) r hrR)
    simpa [hcm, hcdyn, hrm] using this
  have href := ref_of_admissible sat R r req.method (cutAny req.path) hlive hst hadm hNm
  -- both engines serve r with the bindings b
  rw [serve_ref sat noRoute script R hR hN hstd req hp (leafOf r) (pushAll Ctx.fresh b) (by rw [href, Option.map_some, hrm]; rfl)]
  simp only [servedDynamic, served, leafOf, hpatt, hrid]
  rw [hctx]
  rfl

/-- an instance of `stage2_live` with two redundant hypotheses: `hg` follows from `hN`, `hOw` is not used -/
theorem stage2_eq (hash : Bytes → Nat) (sat : Nat → Bytes → Bool) (noRoute : Bool) (script : List Reg) (R : List Route)
    (hR : specRoutes script = some R) (hN : normal R = true) (hg : GoodR R)
    (hstd : ∀ g ∈ script, g.method ∈ stdMethods) (req : Req) (hp : req.path.head? = some '/')
    (hNm : dSameShape1 sat R req.method (cutAny req.path) = false)
    (hOw : dReplaced1 sat R req.method (cutAny req.path) = false)
    (hO : dOrder1 sat R req.method (cutAny req.path) = false)
    (cr : CRoute) (e : Extract)
    (hmd : (rcBuild hash script).matchDynamic sat req.method req.path = some (cr, e)) :
    servedDynamic cr e req = serve sat (build noRoute script) req :=
  stage2_live hash sat noRoute script R hR hN hstd req hp hNm hO cr e hmd

end Rivaas.CompilerL
