import Rivaas.Lemmas.OpenAPIParams
import Rivaas.Lemmas.OpenAPIDoc
/-
C07 — helper lemmas: provenance. Every operation stored in the result of `Build` under (path key,
member) was built by `buildOperation` from the last operation handed in with that key and member
(`lastStored`; `buildGroup_lookup` for one path item, `build_item` for the result, with the group of
a key read off `groupByPath_lookup`), and that last operation is the one the oracle calls surviving
(`lastStored_survivor`). `build_prov_survivor` says the same of a single surviving operation; `build_members`:
the member of every operation handed in with a stored method is a key of its path item, overwritten or not.
-/
namespace Rivaas.OpenAPI
open List

def BuiltFrom (env : Env) (op : OpIn) (o : Operation IR) : Prop :=
  ∃ st so st' so', buildOperation env op st so = .ok (o, st', so')

theorem getLast?_filter_cons {α} (p : α → Bool) (a : α) (l : List α) :
    ((a :: l).filter p).getLast? = (l.filter p).getLast?.or (if p a then some a else none) := by
  rw [getLast?_filter, getLast?_filter, reverse_cons, find?_append, find?_singleton]

def lastStored (m : B) (grp : List OpIn) : Option OpIn := (grp.filter fun x => methodMember x.method = some m).getLast?

theorem lastStored_cons (m : B) (op : OpIn) (rest : List OpIn) :
    lastStored m (op :: rest) = (lastStored m rest).or (if methodMember op.method = some m then some op else none) := by
  simp only [lastStored, getLast?_filter_cons, decide_eq_true_eq]

theorem lastStored_some {m : B} {grp : List OpIn} {op : OpIn} (h : lastStored m grp = some op) :
    op ∈ grp ∧ methodMember op.method = some m := by
  have := mem_filter.1 (mem_of_getLast? h)
  exact ⟨this.1, of_decide_eq_true this.2⟩

theorem lastStored_ne_none {m : B} {grp : List OpIn} {op : OpIn} (hop : op ∈ grp) (hm : methodMember op.method = some m) :
    lastStored m grp ≠ none := by
  rw [lastStored, ne_eq, getLast?_eq_none_iff]
  exact ne_nil_of_mem (mem_filter.2 ⟨hop, decide_eq_true hm⟩)

theorem lookup_storeOp (op : OpIn) (o : Operation IR) (item : PathItem IR) (m : B) :
    (storeOp op o item).lookup m = if methodMember op.method = some m then some o else item.lookup m := by
  unfold storeOp
  cases methodMember op.method with
  | none => rfl
  | some m₀ => simp only [lookup_setAssoc, Option.some.injEq, eq_comm]

theorem storeOp_keys_nodup (op : OpIn) (o : Operation IR) {item : PathItem IR} (h : (item.map (·.1)).Nodup) :
    ((storeOp op o item).map (·.1)).Nodup := by
  unfold storeOp
  cases methodMember op.method with
  | none => exact h
  | some m₀ => exact setAssoc_keys_nodup m₀ o item h

theorem buildGroup_lookup (env : Env) (grp : List OpIn) : ∀ (item : PathItem IR) (st : Schemas) (so : List B)
    (item' : PathItem IR) (st' : Schemas) (so' : List B), buildGroup env grp item st so = .ok (item', st', so') →
    ((item.map (·.1)).Nodup → (item'.map (·.1)).Nodup) ∧
    ∀ m, match lastStored m grp with
      | some op => ∃ o, item'.lookup m = some o ∧ BuiltFrom env op o
      | none => item'.lookup m = item.lookup m := by
  induction grp with
  | nil =>
    intro item st so item' st' so' h
    simp only [buildGroup, Except.ok.injEq, Prod.mk.injEq] at h
    obtain ⟨rfl, rfl, rfl⟩ := h
    exact ⟨id, fun m => rfl⟩
  | cons op rest ih =>
    intro item st so item' st' so' h
    obtain ⟨o₁, st₁, so₁, hbo, h⟩ := buildGroup_cons_ok h
    obtain ⟨hnd, hrest⟩ := ih _ st₁ so₁ item' st' so' h
    refine ⟨fun hi => hnd (storeOp_keys_nodup op o₁ hi), fun m => ?_⟩
    · have hm := hrest m
      rw [lastStored_cons]
      cases hl : lastStored m rest with
      | some op' => rw [hl] at hm; exact hm
      | none =>
        -- no later operation is stored under `m`: this one is, or the entry is as it was
        rw [hl] at hm
        dsimp only at hm
        rw [lookup_storeOp] at hm
        rw [Option.none_or]
        by_cases hmm : methodMember op.method = some m
        · rw [if_pos hmm] at hm ⊢; exact ⟨o₁, hm, st, so, st₁, so₁, hbo⟩
        · rw [if_neg hmm] at hm ⊢; exact hm

theorem buildGroups_prov (env : Env) (groups : List (B × List OpIn)) : ∀ (st : Schemas) (so : List B)
    (paths : List (B × PathItem IR)) (st' : Schemas), buildGroups env groups st so = .ok (paths, st') →
    paths.map (·.1) = groups.map (·.1) ∧
    ∀ p item', (p, item') ∈ paths → ∃ grp, (p, grp) ∈ groups ∧
      ∃ st0 so0 st1 so1, buildGroup env grp [] st0 so0 = .ok (item', st1, so1) := by
  induction groups with
  | nil =>
    intro st so paths st' h
    simp only [buildGroups, Except.ok.injEq, Prod.mk.injEq] at h
    obtain ⟨rfl, rfl⟩ := h
    exact ⟨rfl, fun p item' hmem => nomatch hmem⟩
  | cons g rest ih =>
    obtain ⟨p₀, grp₀⟩ := g
    intro st so paths st' h
    obtain ⟨item, st₁, so₁, paths', hg, hrest, rfl⟩ := buildGroups_cons_ok h
    obtain ⟨k1, p1⟩ := ih st₁ so₁ paths' st' hrest
    refine ⟨by rw [map_cons, map_cons, k1], fun p item' hmem => ?_⟩
    rcases mem_cons.1 hmem with e | hmem
    · cases e; exact ⟨grp₀, mem_cons_self .., st, so, st₁, so₁, hg⟩
    · obtain ⟨grp, hg', hh⟩ := p1 p item' hmem
      exact ⟨grp, mem_cons_of_mem _ hg', hh⟩

/-! ## groupByPath -/

theorem lookup_cons_eq {β} (k : B) (v : β) (rest : List (B × β)) : ((k, v) :: rest).lookup k = some v :=
  lookup_cons_self

theorem groupByPath_lookup : ∀ (ops : List OpIn) (p : B),
    (groupByPath ops).lookup p =
      if (ops.filter fun o => convertPath o.path = p) = [] then none else some (ops.filter fun o => convertPath o.path = p)
  | [], p => rfl
  | op :: rest, p => by
    have ih := groupByPath_lookup rest
    -- either way the new operation is put in front of the group of its path
    have hstep : (groupByPath (op :: rest)).lookup p =
        if p = convertPath op.path then some (op :: rest.filter fun o => convertPath o.path = convertPath op.path)
        else (groupByPath rest).lookup p := by
      rw [groupByPath]
      rw [ih (convertPath op.path)]
      by_cases hF : (rest.filter fun o => convertPath o.path = convertPath op.path) = []
      · rw [if_pos hF, hF]; exact lookup_cons_ite ..
      · rw [if_neg hF]; exact lookup_setAssoc ..
    rw [hstep, filter_cons]
    by_cases hp : p = convertPath op.path
    · subst hp; simp
    · rw [if_neg hp, ih p]; simp [Ne.symm hp]

/-- the `byPath` map has each converted path once (it is a Go map) -/
theorem groupByPath_keys_nodup : ∀ ops : List OpIn, ((groupByPath ops).map (·.1)).Nodup
  | [] => by simp [groupByPath]
  | op :: rest => by
    simp only [groupByPath]
    split
    next grp hl =>
      rw [setAssoc_keys, if_pos (mem_map.2 ⟨(_, grp), mem_of_lookup_some _ _ _ hl, rfl⟩)]
      exact groupByPath_keys_nodup rest
    next hl =>
      rw [map_cons, nodup_cons]
      exact ⟨(lookup_eq_none_iff_not_mem _ _).1 hl, groupByPath_keys_nodup rest⟩


/-! ## provenance of the operations of `build` -/

theorem build_groups {env : Env} {ops : List OpIn} {paths : List (B × PathItem IR)} {comps : List (B × IR)}
    (h : build env ops = .ok (paths, comps)) :
    paths.map (·.1) ~ (groupByPath ops).map (·.1) ∧
    ∀ p item', (p, item') ∈ paths →
      ∃ st0 so0 st1 so1, buildGroup env (ops.filter fun x => convertPath x.path = p) [] st0 so0 = .ok (item', st1, so1) := by
  obtain ⟨st, hb, _⟩ := build_ok h
  obtain ⟨hkeys, hprov⟩ := buildGroups_prov env _ [] [] paths st hb
  refine ⟨by rw [hkeys]; exact (sortByKey_perm _).map _, ?_⟩
  intro p item' hmem
  obtain ⟨grp, hg, hbuilt⟩ := hprov p item' hmem
  have hl := lookup_of_mem_nodup _ p grp (groupByPath_keys_nodup ops) (mem_sortByKey.1 hg)
  rw [groupByPath_lookup] at hl
  split at hl
  · cases hl
  · cases hl; exact hbuilt

theorem build_keys {env : Env} {ops : List OpIn} {paths : List (B × PathItem IR)} {comps : List (B × IR)}
    (h : build env ops = .ok (paths, comps)) (p : B) : p ∈ paths.map (·.1) ↔ ∃ op ∈ ops, convertPath op.path = p := by
  rw [(build_groups h).1.mem_iff, ← Decidable.not_not (p := p ∈ _), ← lookup_eq_none_iff_not_mem, groupByPath_lookup]
  simp [filter_eq_nil_iff]

theorem build_item {env : Env} {ops : List OpIn} {paths : List (B × PathItem IR)} {comps : List (B × IR)}
    (h : build env ops = .ok (paths, comps)) {p : B} {item : PathItem IR} (hpi : (p, item) ∈ paths) :
    (item.map (·.1)).Nodup ∧
    ∀ m, match lastStored m (ops.filter fun x => convertPath x.path = p) with
      | some op => ∃ o, item.lookup m = some o ∧ BuiltFrom env op o
      | none => item.lookup m = none := by
  obtain ⟨st0, so0, st1, so1, hb⟩ := (build_groups h).2 p item hpi
  obtain ⟨hnd, hlk⟩ := buildGroup_lookup env _ [] st0 so0 item st1 so1 hb
  exact ⟨hnd nodup_nil, hlk⟩

theorem build_prov {env : Env} {ops : List OpIn} {paths : List (B × PathItem IR)} {comps : List (B × IR)}
    (h : build env ops = .ok (paths, comps)) {p : B} {item' : PathItem IR} (hpi : (p, item') ∈ paths) {m : B}
    {o : Operation IR} (hmo : (m, o) ∈ item') :
    ∃ op, lastStored m (ops.filter fun x => convertPath x.path = p) = some op ∧ BuiltFrom env op o := by
  obtain ⟨hnd, hlk⟩ := build_item h hpi
  have hprov := hlk m
  rw [lookup_of_mem_nodup _ m o hnd hmo] at hprov
  cases hl : lastStored m (ops.filter fun x => convertPath x.path = p) with
  | none => rw [hl] at hprov; cases hprov
  | some op =>
    rw [hl] at hprov
    obtain ⟨o', ho', hb⟩ := hprov
    cases ho'
    exact ⟨op, rfl, hb⟩

/-! ## completeness: every operation with a stored method has its member in the path item -/

theorem buildGroup_members (env : Env) : ∀ (grp : List OpIn) (item : PathItem IR) (st : Schemas) (so : List B)
    (item' : PathItem IR) (st' : Schemas) (so' : List B),
    buildGroup env grp item st so = .ok (item', st', so') →
    (∀ k ∈ item.map (·.1), k ∈ item'.map (·.1)) ∧
    ∀ op ∈ grp, ∀ m, methodMember op.method = some m → m ∈ item'.map (·.1) := by
  intro grp item st so item' st' so' h
  have key : ∀ m, lastStored m grp ≠ none ∨ m ∈ item.map (·.1) → m ∈ item'.map (·.1) := by
    intro m hm
    refine Decidable.byContradiction fun hn => ?_
    have hnone := (lookup_eq_none_iff_not_mem item' m).2 hn
    have hlk := (buildGroup_lookup env grp item st so item' st' so' h).2 m
    cases hl : lastStored m grp with
    | some op =>
      rw [hl] at hlk
      obtain ⟨o, ho, _⟩ := hlk
      rw [hnone] at ho
      cases ho
    | none =>
      rw [hl] at hlk
      exact hm.elim (fun h' => h' hl) ((lookup_eq_none_iff_not_mem item m).1 (hlk.symm.trans hnone))
  exact ⟨fun k hk => key k (Or.inr hk), fun op hop m hm => key m (Or.inl (lastStored_ne_none hop hm))⟩

/-- every operation handed to `build` whose method has a PathItem member is in the path item of its key — the
    operation may have been overwritten by a later one with the same member, but the member is there -/
theorem build_members (env : Env) (ops : List OpIn) (paths : List (B × PathItem IR)) (comps : List (B × IR))
    (h : build env ops = .ok (paths, comps)) (op : OpIn) (hop : op ∈ ops) (m : B)
    (hm : methodMember op.method = some m) (item' : PathItem IR) (hi : (convertPath op.path, item') ∈ paths) :
    m ∈ item'.map (·.1) := by
  obtain ⟨st0, so0, st1, so1, hb⟩ := (build_groups h).2 _ item' hi
  exact (buildGroup_members env _ [] st0 so0 item' st1 so1 hb).2 op (by simp [hop]) m hm

/-- an operation that survives (the oracle's notion) is the last one handed in with its key and member -/
theorem survives_last : ∀ (ops : List OpIn) (op0 : OpIn), op0 ∈ survives ops →
    (ops.filter fun x => specPathKey x.path == specPathKey op0.path && specMember x.method == specMember op0.method).getLast?
      = some op0
  | [], op0, h => nomatch h
  | op :: rest, op0, h => by
    rw [getLast?_filter_cons]
    rw [survives] at h
    split at h
    · rw [survives_last rest op0 h, Option.some_or]
    next hany =>
      rcases mem_cons.1 h with rfl | h
      · rw [filter_eq_nil_iff.2 fun x hx hq => hany (any_eq_true.2 ⟨x, hx, hq⟩)]
        simp
      · rw [survives_last rest op0 h, Option.some_or]

theorem survives_sub (ops : List OpIn) (op0 : OpIn) (h : op0 ∈ survives ops) : op0 ∈ ops :=
  (mem_filter.1 (mem_of_getLast? (survives_last ops op0 h))).1

theorem lastStored_survivor {ops : List OpIn} {op0 : OpIn} (hs : op0 ∈ survives ops)
    (hm : specMember op0.method ∈ storedMembers) :
    lastStored (specMember op0.method) (ops.filter fun x => convertPath x.path = specPathKey op0.path) = some op0 := by
  rw [lastStored, filter_filter, ← survives_last ops op0 hs]
  congr 1
  apply filter_congr
  intro x _
  rw [Bool.eq_iff_iff]
  simp only [Bool.and_eq_true, decide_eq_true_eq, beq_iff_eq, convertPath_eq_spec]
  rw [and_comm]
  refine and_congr_right fun _ => ⟨fun hx => (methodMember_some hx).1.symm, fun hx => ?_⟩
  rw [← hx]
  exact methodMember_of_spec (hx ▸ hm)

theorem build_prov_survivor (env : Env) (ops : List OpIn) (paths : List (B × PathItem IR)) (comps : List (B × IR))
    (h : build env ops = .ok (paths, comps)) (op0 : OpIn) (hs : op0 ∈ survives ops) (item' : PathItem IR)
    (hi : (specPathKey op0.path, item') ∈ paths) (o : Operation IR) (ho : (specMember op0.method, o) ∈ item') :
    BuiltFrom env op0 o := by
  obtain ⟨op, hlast, hb⟩ := build_prov h hi ho
  rw [lastStored_survivor hs (methodMember_some (lastStored_some hlast).2).2.1] at hlast
  cases hlast
  exact hb

end Rivaas.OpenAPI
