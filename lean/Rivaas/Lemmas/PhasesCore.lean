import Rivaas.Spec.Phases
/-
C12 — invariant of the shared state (`Core`) under every atomic operation, hence under every
schedule: where the two `Once` bodies are determines which of `pending` / `taken` / `table` hold the
accepted registrations; once `freezeOnce` is done the table holds all of them, with the constraints
their route objects carry: a lookup then answers what the oracle expects of the state its monitor mirrors
(`monOf`).
-/
namespace Rivaas.Phases

structure Inv (c : Core) : Prop where
  serving_frozen : c.serving = c.frozen
  frozen_iff : c.frozen = true ↔ c.fpc ≠ .idle
  warmed_iff : c.warmedUp = true ↔ c.wpc ≠ .idle
  cold : c.warmedUp = false → c.table = [] ∧ c.regd = [] ∧ c.taken = []
  warm_pending : c.warmedUp = true → c.pending = []
  taken_nil : c.wpc ≠ .drained → c.taken = []
  objs_iff : ∀ r, r ∈ c.objs ↔ (r ∈ c.pending ∨ r ∈ c.taken ∨ r ∈ c.regd)
  regd_iff : ∀ r, r ∈ c.regd ↔ ∃ b, (r, b) ∈ c.table
  table_flag : ∀ r b, (r, b) ∈ c.table → b = c.cons.contains r
  tail_done : (c.fpc = .tail ∨ c.fpc = .done) → c.wpc = .done
  in_warmup : c.fpc = .inWarmup → c.wpc ≠ .idle ∧ c.wpc ≠ .done

theorem lemma_inv_init : Inv Core.init := by
  constructor <;> simp [Core.init]

/-! ### `registerRoute` -/

/-- the table part of the invariant: ids in the table = `regd`, flags = `cons` -/
def TableOK (regd : List RouteId) (table : List (RouteId × Bool)) (cons : List RouteId) : Prop :=
  (∀ r, r ∈ regd ↔ ∃ b, (r, b) ∈ table) ∧ (∀ r b, (r, b) ∈ table → b = cons.contains r)

theorem lemma_table_put {regd cons : List RouteId} {table : List (RouteId × Bool)} (h : TableOK regd table cons)
    (r : RouteId) (regd' cons' : List RouteId) (hr : ∀ x, x ∈ regd' ↔ x = r ∨ x ∈ regd)
    (hc : ∀ x, x ≠ r → cons'.contains x = cons.contains x) :
    TableOK regd' (table.filter (fun e => e.1 != r) ++ [(r, cons'.contains r)]) cons' := by
  obtain ⟨h1, h2⟩ := h
  constructor
  · intro x
    simp only [hr, List.mem_append, List.mem_filter, List.mem_singleton, Prod.mk.injEq, bne_iff_ne, ne_eq]
    constructor
    · intro hx
      by_cases hxr : x = r
      · exact ⟨_, Or.inr ⟨hxr, rfl⟩⟩
      · obtain ⟨b, hb⟩ := (h1 x).1 (hx.resolve_left hxr)
        exact ⟨b, Or.inl ⟨hb, hxr⟩⟩
    · rintro ⟨b, ⟨hb, _⟩ | ⟨rfl, _⟩⟩
      · exact Or.inr ((h1 x).2 ⟨b, hb⟩)
      · exact Or.inl rfl
  · intro x b
    simp only [List.mem_append, List.mem_filter, List.mem_singleton, Prod.mk.injEq, bne_iff_ne, ne_eq]
    rintro (⟨hb, hne⟩ | ⟨rfl, rfl⟩)
    · rw [hc x hne]; exact h2 x b hb
    · rfl

theorem lemma_reg (c : Core) (r : RouteId) :
    ∃ rg tb, registerRoute c r = { c with regd := rg, table := tb } ∧ (∀ x, x ∈ rg ↔ x = r ∨ x ∈ c.regd) ∧
      (TableOK c.regd c.table c.cons → TableOK rg tb c.cons) := by
  unfold registerRoute
  split
  · rename_i h
    have : r ∈ c.regd := by simpa using h
    exact ⟨c.regd, c.table, rfl, fun x => ⟨Or.inr, fun hx => hx.elim (· ▸ this) id⟩, id⟩
  · exact ⟨_, _, rfl, fun _ => List.mem_cons,
      fun h => lemma_table_put h r _ _ (fun _ => List.mem_cons) (fun _ _ => rfl)⟩

theorem lemma_foldl_reg (l : List RouteId) (c : Core) :
    ∃ rg tb, l.foldl registerRoute c = { c with regd := rg, table := tb } ∧ (∀ x, x ∈ rg ↔ x ∈ l ∨ x ∈ c.regd) ∧
      (TableOK c.regd c.table c.cons → TableOK rg tb c.cons) := by
  induction l generalizing c with
  | nil => exact ⟨c.regd, c.table, rfl, fun x => by simp, id⟩
  | cons a t ih =>
    obtain ⟨rg0, tb0, e0, m0, t0⟩ := lemma_reg c a
    obtain ⟨rg, tb, e, m, t1⟩ := ih { c with regd := rg0, table := tb0 }
    exact ⟨rg, tb, by rw [List.foldl_cons, e0, e],
      fun x => by simp only [m x, m0 x, List.mem_cons, or_assoc, or_left_comm], fun h => t1 (t0 h)⟩

section
variable (c : Core) (r : RouteId) (l : List RouteId)

theorem lemma_reg_fpc : (registerRoute c r).fpc = c.fpc := by obtain ⟨_, _, e, _⟩ := lemma_reg c r; rw [e]
theorem lemma_reg_wpc : (registerRoute c r).wpc = c.wpc := by obtain ⟨_, _, e, _⟩ := lemma_reg c r; rw [e]

theorem lemma_foldl_fpc : (l.foldl registerRoute c).fpc = c.fpc := by obtain ⟨_, _, e, _⟩ := lemma_foldl_reg l c; rw [e]

end

/-! ### the two program positions

After an operation they depend on the two positions before it and on nothing else: a 25-state automaton,
on which questions about control are settled by evaluation. -/

def ctlStep : FPc × WPc → Op → FPc × WPc
  | (f, w), .enterFreeze => (if f = .idle then .flags else f, w)
  | (f, w), .freezeCallWarmup =>
    if f = .flags then
      (match w with
       | .done => (.tail, w)
       | .idle => (.inWarmup, .drained)
       | _ => (.inWarmup, w))
    else (f, w)
  | (f, w), .enterWarmup => (f, if w = .idle then .drained else w)
  | (f, w), .warmupStep =>
    (if f = .inWarmup ∧ w = .compiled then .tail else f,
     match w with
     | .drained => .registered
     | .registered => .compiled
     | .compiled => .done
     | _ => w)
  | (f, w), .freezeFinish => (if f = .tail then .done else f, w)
  | p, _ => p

theorem lemma_ctl_step (c : Core) (op : Op) :
    ((c.step op).fpc, (c.step op).wpc) = ctlStep (c.fpc, c.wpc) op := by
  cases op with
  | freezeCallWarmup =>
    simp only [Core.step, ctlStep]
    split
    · cases c.wpc <;> rfl
    · rfl
  | warmupStep => cases hw : c.wpc <;> simp [Core.step, ctlStep, hw, lemma_foldl_fpc]
  | _ => simp only [Core.step, ctlStep, drain, apply_ite Core.fpc, apply_ite Core.wpc, lemma_reg_fpc, lemma_reg_wpc, ite_self]

theorem lemma_step_fpc (c : Core) (op : Op) : (c.step op).fpc = (ctlStep (c.fpc, c.wpc) op).1 :=
  congrArg Prod.fst (lemma_ctl_step c op)

theorem lemma_step_wpc (c : Core) (op : Op) : (c.step op).wpc = (ctlStep (c.fpc, c.wpc) op).2 :=
  congrArg Prod.snd (lemma_ctl_step c op)

theorem lemma_ctl_fold (ops : List Op) (c : Core) :
    ((ops.foldl Core.step c).fpc, (ops.foldl Core.step c).wpc) = ops.foldl ctlStep (c.fpc, c.wpc) :=
  (List.foldl_hom (fun c : Core => (c.fpc, c.wpc)) fun c op => (lemma_ctl_step c op).symm).symm

theorem lemma_done_stable (c : Core) (op : Op) (h : c.fpc = .done) : (c.step op).fpc = .done := by
  rw [lemma_step_fpc, h]
  cases op <;> rfl

/-! ### every operation preserves the invariant -/

theorem lemma_inv_ctl (c : Core) (h : Inv c) (sv fr : Bool) (f : FPc) (w : WPc)
    (h1 : sv = fr) (h2 : fr = true ↔ f ≠ .idle) (h3 : c.warmedUp = true ↔ w ≠ .idle)
    (h4 : w ≠ .drained → c.taken = []) (h5 : (f = .tail ∨ f = .done) → w = .done)
    (h6 : f = .inWarmup → w ≠ .idle ∧ w ≠ .done) :
    Inv { c with serving := sv, frozen := fr, fpc := f, wpc := w } :=
  { serving_frozen := h1, frozen_iff := h2, warmed_iff := h3, cold := h.cold,
    warm_pending := h.warm_pending, taken_nil := h4, objs_iff := h.objs_iff, regd_iff := h.regd_iff,
    table_flag := h.table_flag, tail_done := h5, in_warmup := h6 }

theorem lemma_inv_fpc (c : Core) (h : Inv c) (f : FPc) (hc : c.fpc ≠ .idle) (hf : f ≠ .idle)
    (h5 : (f = .tail ∨ f = .done) → c.wpc = .done) (h6 : f = .inWarmup → c.wpc ≠ .idle ∧ c.wpc ≠ .done) :
    Inv { c with fpc := f } :=
  lemma_inv_ctl c h c.serving c.frozen f c.wpc h.serving_frozen
    ⟨fun _ => hf, fun _ => h.frozen_iff.2 hc⟩ h.warmed_iff h.taken_nil h5 h6

theorem lemma_inv_lists (c : Core) (h : Inv c) (objs' pending' cons' regd' named' : List RouteId)
    (table' : List (RouteId × Bool))
    (hcold : c.warmedUp = false → table' = [] ∧ regd' = [] ∧ c.taken = [])
    (hpend : c.warmedUp = true → pending' = [])
    (hobjs : ∀ x, x ∈ objs' ↔ (x ∈ pending' ∨ x ∈ c.taken ∨ x ∈ regd'))
    (hT : TableOK regd' table' cons') :
    Inv { c with objs := objs', pending := pending', cons := cons', regd := regd', named := named', table := table' } :=
  { serving_frozen := h.serving_frozen, frozen_iff := h.frozen_iff, warmed_iff := h.warmed_iff, cold := hcold
    warm_pending := hpend, taken_nil := h.taken_nil, objs_iff := hobjs, regd_iff := hT.1, table_flag := hT.2
    tail_done := h.tail_done, in_warmup := h.in_warmup }

theorem lemma_inv_drain (c : Core) (h : Inv c) (hw : c.wpc = .idle) (f : FPc)
    (hf : f = c.fpc ∨ (f = .inWarmup ∧ c.fpc = .flags)) : Inv { drain c with fpc := f } := by
  have hwu : c.warmedUp = false := by
    cases hwu : c.warmedUp with
    | false => rfl
    | true => exact absurd hw ((h.warmed_iff).1 hwu)
  obtain ⟨ht, hr, htk⟩ := h.cold hwu
  exact
    { serving_frozen := h.serving_frozen
      frozen_iff := by
        rcases hf with rfl | ⟨rfl, hfl⟩
        · exact h.frozen_iff
        · exact ⟨fun _ => by simp, fun _ => h.frozen_iff.2 (by simp [hfl])⟩
      warmed_iff := by simp [drain]
      cold := by simp [drain]
      warm_pending := by simp [drain]
      taken_nil := by simp [drain]
      objs_iff := by
        intro r
        have := h.objs_iff r
        simp only [htk, hr, List.not_mem_nil, or_false] at this
        simp [drain, this, hr]
      regd_iff := by intro r; simp [drain, hr, ht]
      table_flag := by intro r b; simp [drain, ht]
      tail_done := by
        intro hx
        rcases hf with rfl | ⟨rfl, _⟩
        · have := h.tail_done hx; simp [hw] at this
        · simp at hx
      in_warmup := by intro _; simp [drain] }

/-- `doWarmup` between `warmup.drained` and `warmup.registered`: the taken routes go into the trees -/
theorem lemma_inv_warm_register (c : Core) (h : Inv c) (hw : c.wpc = .drained) :
    Inv { c.taken.foldl registerRoute { c with taken := [] } with wpc := .registered } := by
  have hwu : c.warmedUp = true := h.warmed_iff.2 (by simp [hw])
  obtain ⟨rg, tb, e, hR, hT⟩ := lemma_foldl_reg c.taken { c with taken := [] }
  have hT := hT ⟨h.regd_iff, h.table_flag⟩
  rw [e]
  exact
    { serving_frozen := h.serving_frozen
      frozen_iff := h.frozen_iff
      warmed_iff := by simp [hwu]
      cold := fun hx => by rw [hwu] at hx; cases hx
      warm_pending := h.warm_pending
      taken_nil := fun _ => rfl
      objs_iff := fun r => by rw [h.objs_iff r, hR r, h.warm_pending hwu]; simp
      regd_iff := hT.1
      table_flag := hT.2
      tail_done := fun hx => by have := h.tail_done hx; simp [hw] at this
      in_warmup := fun _ => by simp }

theorem lemma_inv_step (c : Core) (op : Op) (h : Inv c) : Inv (c.step op) := by
  cases op with
  | enterFreeze =>
    simp only [Core.step]
    split
    · exact lemma_inv_ctl c h true true .flags c.wpc rfl (by simp) h.warmed_iff h.taken_nil (by simp) (by simp)
    · exact h
  | freezeCallWarmup =>
    simp only [Core.step]
    split
    · rename_i hf
      have hc : c.fpc ≠ .idle := by simp [hf]
      split
      · rename_i hw
        exact lemma_inv_fpc c h .tail hc (by simp) (fun _ => hw) (by simp)
      · rename_i hw
        exact lemma_inv_drain c h hw .inWarmup (Or.inr ⟨rfl, hf⟩)
      · rename_i hd hi
        exact lemma_inv_fpc c h .inWarmup hc (by simp) (by simp) (fun _ => ⟨hi, hd⟩)
    · exact h
  | enterWarmup =>
    simp only [Core.step]
    split
    · rename_i hw
      exact lemma_inv_drain c h hw c.fpc (Or.inl rfl)
    · exact h
  | warmupStep =>
    have hwi := h.warmed_iff
    simp only [Core.step]
    split
    · rename_i hw
      exact lemma_inv_warm_register c h hw
    · rename_i hw
      rw [hw] at hwi
      exact lemma_inv_ctl c h c.serving c.frozen c.fpc .compiled h.serving_frozen h.frozen_iff
        (by simpa using hwi) (fun _ => h.taken_nil (by simp [hw]))
        (fun hx => by have := h.tail_done hx; simp [hw] at this) (by simp)
    · rename_i hw
      rw [hw] at hwi
      have hfi := h.frozen_iff
      exact lemma_inv_ctl c h c.serving c.frozen (if c.fpc = .inWarmup then .tail else c.fpc) .done
        h.serving_frozen
        (by by_cases hi : c.fpc = .inWarmup
            · simpa [hi] using hfi
            · simpa [hi] using hfi)
        (by simpa using hwi) (fun _ => h.taken_nil (by simp [hw])) (fun _ => rfl)
        (by intro hx
            by_cases hi : c.fpc = .inWarmup
            · simp [hi] at hx
            · simp only [hi, if_false] at hx)
    · exact h
  | freezeFinish =>
    simp only [Core.step]
    split
    · rename_i hf
      exact lemma_inv_fpc c h .done (by simp [hf]) (by simp) (fun _ => h.tail_done (Or.inl hf)) (by simp)
    · exact h
  | register r =>
    simp only [Core.step]
    split
    · exact h
    · split
      · exact h
      · split
        · -- warm-up is over: registered immediately
          rename_i hwu
          obtain ⟨rg, tb, e, hR, hT⟩ := lemma_reg { c with objs := r :: c.objs } r
          rw [e]
          exact lemma_inv_lists c h _ _ _ _ _ _ (fun hx => by rw [hwu] at hx; cases hx) h.warm_pending
            (fun x => by simp only [List.mem_cons, h.objs_iff x, hR x, or_left_comm]) (hT ⟨h.regd_iff, h.table_flag⟩)
        · rename_i hwu
          exact lemma_inv_lists c h _ _ _ _ _ _ h.cold (fun hx => absurd hx hwu)
            (fun x => by
              simp only [List.mem_cons, List.mem_append, List.not_mem_nil, or_false, h.objs_iff x, or_assoc,
                or_left_comm])
            ⟨h.regd_iff, h.table_flag⟩
  | whereInt r =>
    simp only [Core.step]
    split
    · exact h
    · split
      · exact h
      · have hc : ∀ x, x ≠ r → (r :: c.cons).contains x = c.cons.contains x := by
          intro x hx
          have : (x == r) = false := by simpa using hx
          rw [List.contains_cons, this, Bool.false_or]
        split
        · -- registered already: the entry is written again, now with the constraint
          rename_i hreg
          have hreg' : r ∈ c.regd := by simpa using hreg
          have hmem : ∀ x, x ∈ r :: c.regd.filter (· != r) ↔ x = r ∨ x ∈ c.regd := by
            intro x
            by_cases hx : x = r
            · simp [hx]
            · simp [hx]
          have heq : registerRoute { c with cons := r :: c.cons, regd := c.regd.filter (· != r) } r =
              { c with cons := r :: c.cons, regd := r :: c.regd.filter (· != r),
                       table := c.table.filter (fun e => e.1 != r) ++ [(r, (r :: c.cons).contains r)] } := by
            simp [registerRoute]
          rw [heq]
          exact lemma_inv_lists c h _ _ _ _ _ _ (fun hx => by rw [(h.cold hx).2.1] at hreg'; cases hreg')
            h.warm_pending
            (fun x => by
              rw [h.objs_iff x, hmem x]
              exact ⟨fun hx => hx.imp_right (·.imp_right Or.inr),
                fun hx => hx.imp_right (·.imp_right (·.elim (· ▸ hreg') id))⟩)
            (lemma_table_put ⟨h.regd_iff, h.table_flag⟩ r _ _ hmem hc)
        · rename_i hreg
          have hreg' : r ∉ c.regd := by simpa using hreg
          exact lemma_inv_lists c h _ _ _ _ _ _ h.cold h.warm_pending h.objs_iff
            ⟨h.regd_iff, fun x b hb =>
              (h.table_flag x b hb).trans (hc x fun e => hreg' (e ▸ (h.regd_iff x).2 ⟨b, hb⟩)).symm⟩
  | setName r =>
    simp only [Core.step]
    split
    · exact h
    · split
      · exact h
      · exact lemma_inv_lists c h _ _ _ _ _ _ h.cold h.warm_pending h.objs_iff ⟨h.regd_iff, h.table_flag⟩

theorem lemma_inv_run (ops : List Op) (c : Core) (h : Inv c) : Inv (ops.foldl Core.step c) :=
  List.foldlRecOn ops Core.step h fun c h o _ => lemma_inv_step c o h

/-! ### what a lookup sees once `freezeOnce` is done: what the oracle expects of the state the monitor mirrors -/

/-- what the monitor knows is a function of the shared state -/
def monOf (c : Core) : Spec.Mon := { servingBegun := c.frozen, accepted := c.objs, cons := c.cons, names := c.named }

/-- a lookup answers for exactly the accepted registrations as soon as none of them waits in `pending` or `taken`:
    from `warmup.registered` on -/
theorem lemma_lookup_flushed (c : Core) (h : Inv c) (hp : c.pending = []) (htk : c.taken = []) (t : RouteId) (v : Bool) :
    lookup c t v = Spec.expected (monOf c) t v := by
  show lookup c t v = if c.objs.contains t && (!c.cons.contains t || v) then some t else none
  have hobj : t ∈ c.objs ↔ t ∈ c.regd := by
    have := h.objs_iff t
    simp [hp, htk] at this
    exact this
  unfold lookup
  cases hf : c.table.find? (fun e => e.1 == t) with
  | none =>
    have hno : t ∉ c.regd := by
      intro hr
      obtain ⟨b, hb⟩ := (h.regd_iff t).1 hr
      have := List.find?_eq_none.1 hf (t, b) hb
      simp at this
    have : c.objs.contains t = false := by
      simp only [List.contains_eq_mem, decide_eq_false_iff_not]
      exact fun hx => hno (hobj.1 hx)
    rw [this]
    rfl
  | some e =>
    obtain ⟨x, b⟩ := e
    have hmem : (x, b) ∈ c.table := List.mem_of_find?_eq_some hf
    have hx : x = t := by
      have := List.find?_some hf
      simpa using this
    subst hx
    have hb := h.table_flag x b hmem
    have hin : c.objs.contains x = true := by
      simp only [List.contains_eq_mem, decide_eq_true_eq]
      exact hobj.2 ((h.regd_iff x).2 ⟨b, hmem⟩)
    simp only [hin, Bool.true_and]
    rw [hb]
    cases c.cons.contains x <;> cases v <;> rfl

theorem lemma_lookup_done (c : Core) (h : Inv c) (hd : c.fpc = .done) (t : RouteId) (v : Bool) :
    lookup c t v = Spec.expected (monOf c) t v := by
  have hw : c.wpc = .done := h.tail_done (Or.inr hd)
  exact lemma_lookup_flushed c h (h.warm_pending (h.warmed_iff.2 (by simp [hw]))) (h.taken_nil (by simp [hw])) t v

end Rivaas.Phases
