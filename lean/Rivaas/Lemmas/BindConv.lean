import Rivaas.Model.Bind
import Rivaas.Spec.Bind
/-
C04: the model's conversion (`convPrim`, with the range checks of the repaired code) against the
oracle's reading of "converted value" (`Spec.denote`).
-/
namespace Rivaas.Bind

/-- the shipped float facts are consistent: a finite value whose float32 conversion is infinite
    lies above MaxFloat32 (checked by the driver on every table entry) -/
def FloatSane (P : Params) : Prop :=
  ∀ s b64 b32 above inf32, (P s).f = some (b64, b32, above, inf32) → inf32 = true → above = true

/-- **K04b, repaired code.** An integer conversion that succeeds yields exactly the parsed number,
    and that number fits the field's width. -/
theorem convert_no_truncation_int (P : Params) (cfg : Cfg) (w : Nat) (s : Bytes) (v : Val)
    (h : convPrim P cfg (.int w) s = some v) :
    ∃ i, (if cfg.baseAuto then (P s).i0 else (P s).i10) = some i ∧ v = .int i ∧ Spec.fitsInt w i := by
  unfold convPrim at h
  simp only at h
  split at h
  · rename_i i hi
    split at h
    · rename_i hr
      refine ⟨i, hi, by simpa using h.symm, ?_⟩
      simpa [inRangeInt, Spec.fitsInt] using hr
    · simp at h
  · simp at h

theorem convert_no_truncation_uint (P : Params) (cfg : Cfg) (w : Nat) (s : Bytes) (v : Val)
    (h : convPrim P cfg (.uint w) s = some v) :
    ∃ n, (if cfg.baseAuto then (P s).u0 else (P s).u10) = some n ∧ v = .uint n ∧ Spec.fitsUint w n := by
  unfold convPrim at h
  simp only at h
  split at h
  · rename_i n hn
    split at h
    · rename_i hr
      refine ⟨n, hn, by simpa using h.symm, ?_⟩
      simpa [inRangeUint, Spec.fitsUint] using hr
    · simp at h
  · simp at h

/-- a float32 conversion that succeeds is the float32 rounding of a value within ±MaxFloat32 — in
    particular a finite value never becomes an infinity -/
theorem convert_no_infinity (P : Params) (hP : FloatSane P) (cfg : Cfg) (s : Bytes) (v : Val)
    (h : convPrim P cfg .f32 s = some v) :
    ∃ b64 b32, (P s).f = some (b64, b32, false, false) ∧ v = .flt b32 := by
  unfold convPrim at h
  simp only at h
  split at h
  · rename_i b64 b32 above inf32 hf
    split at h
    · simp at h
    · rename_i ha
      have ha' : above = false := by simpa using ha
      have hi : inf32 = false := by
        cases hinf : inf32 with
        | false => rfl
        | true => have := hP s _ _ _ _ hf hinf; simp [ha'] at this
      exact ⟨b64, b32, by rw [hf, ha', hi], by simpa using h.symm⟩
  · simp at h

/-- Kind by kind, after unfolding both sides: model and oracle read the same answer of the parser (`P s`), and where the
    model tests a range (`inRangeInt`, `inRangeUint`, `above`) the oracle tests the same (`fitsInt`, `fitsUint`, `above`).
    `hP` is needed once: float32, a finite value (`above = false`) whose rounding is infinite - the model would store it,
    the oracle admits no value. -/
theorem conv_meets_denote (P : Params) (hP : FloatSane P) (cfg : Cfg) (p : Prim) (s : Bytes) :
    (∀ v, convPrim P cfg p s = some v → (Spec.denote P cfg p s).val = some v) ∧
    (convPrim P cfg p s = none → (Spec.denote P cfg p s).refusable = true) := by
  cases p with
  | str => simp [convPrim, Spec.denote, Spec.Den.of]
  | int w =>
    simp only [convPrim, Spec.denote, Spec.Den.of]
    cases (if cfg.baseAuto then (P s).i0 else (P s).i10) with
    | none => simp
    | some i =>
      have hd : inRangeInt w i = decide (Spec.fitsInt w i) := by
        by_cases h1 : -(2 ^ (bitsOf w - 1) : Int) ≤ i <;> by_cases h2 : i < (2 ^ (bitsOf w - 1) : Int) <;>
          simp [inRangeInt, Spec.fitsInt, h1, h2]
      by_cases hr : Spec.fitsInt w i <;> simp [hr, hd]
  | uint w =>
    simp only [convPrim, Spec.denote, Spec.Den.of]
    cases (if cfg.baseAuto then (P s).u0 else (P s).u10) with
    | none => simp
    | some n =>
      by_cases hr : Spec.fitsUint w n
      · have : inRangeUint w n = true := by simpa [inRangeUint, Spec.fitsUint] using hr
        simp [hr, this]
      · have : inRangeUint w n = false := by simpa [inRangeUint, Spec.fitsUint] using hr
        simp [hr, this]
  | f64 =>
    simp only [convPrim, Spec.denote, Spec.Den.of]
    cases hf : (P s).f with
    | none => simp
    | some x => obtain ⟨a, b, c, d⟩ := x; simp
  | f32 =>
    simp only [convPrim, Spec.denote, Spec.Den.of]
    cases hf : (P s).f with
    | none => simp
    | some x =>
      obtain ⟨a, b, above, inf32⟩ := x
      cases ha : above <;> cases hi : inf32
      · simp
      · have := hP s a b above inf32 hf hi; simp [ha] at this
      · simp
      · simp
  | bool =>
    have h : parseBool s = Spec.boolWord s := by
      simp only [parseBool, Spec.boolWord, trueWords, falseWords, List.contains_iff_mem]
    simp only [convPrim, Spec.denote, Spec.Den.of, h]
    cases Spec.boolWord s <;> simp
  | time =>
    simp only [convPrim, Spec.denote, Spec.Den.of]
    cases cfg.convs.lookup timeKey with
    | some c => simp only []; cases (P s).c.lookup c <;> simp
    | none => simp only []; cases (P s).t <;> simp
  | dur =>
    simp only [convPrim, Spec.denote, Spec.Den.of]
    cases (P s).d <;> simp
  | opq k =>
    simp only [convPrim, Spec.denote, Spec.Den.of]
    cases cfg.convs.lookup k with
    | some c => simp only []; cases (P s).c.lookup c <;> simp
    | none => simp only []; cases (P s).o.lookup k <;> simp

/-- a conversion `c` of some text agrees with what the oracle reads in it: the value `d` when it yields one, and it fails
    only where the oracle admits a refusal (`r`) -/
def Meets {β} (c d : Option β) (r : Bool) : Prop := (∀ v, c = some v → d = some v) ∧ (c = none → r = true)

theorem lemma_meets_denote (P : Params) (hP : FloatSane P) (cfg : Cfg) (p : Prim) (s : Bytes) :
    Meets (convPrim P cfg p s) (Spec.denote P cfg p s).val (Spec.denote P cfg p s).refusable :=
  conv_meets_denote P hP cfg p s

theorem Meets.map {β γ} {c d : Option β} {r : Bool} (h : Meets c d r) (W : β → γ) : Meets (c.map W) (d.map W) r := by
  cases c with
  | none => exact ⟨fun _ h => (by cases h), fun _ => h.2 rfl⟩
  | some x => rw [h.1 x rfl]; exact ⟨fun _ h => h, fun h => (by cases h)⟩

theorem lemma_meets_list {α β} (c d : α → Option β) (r : α → Bool) (h : ∀ a, Meets (c a) (d a) (r a)) :
    ∀ xs : List α, Meets (mapMOpt c xs) (Spec.allSome (xs.map d)) (xs.any r)
  | [] => ⟨fun _ h => h, fun h => by cases h⟩
  | x :: xs => by
    have ih := lemma_meets_list c d r h xs
    have hx := h x
    simp only [mapMOpt, List.map_cons, List.any_cons]
    cases hc : c x with
    | none => exact ⟨fun _ h => (by cases h), fun _ => by rw [hx.2 hc]; rfl⟩
    | some y =>
      rw [hx.1 y hc]
      cases hm : mapMOpt c xs with
      | none => exact ⟨fun _ h => (by cases h), fun _ => by rw [ih.2 hm, Bool.or_true]⟩
      | some ys =>
        exact ⟨fun _ h => (by cases h; simp only [Spec.allSome, ih.1 ys hm, Option.map_some]), fun h => by cases h⟩

end Rivaas.Bind
