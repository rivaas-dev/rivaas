import Rivaas.Lemmas.RadixBuild
/-
C01: per-method lookup of the built router against the reference choice, and the small facts the
dispatch theorems (Props/C01) and the compiled-engine theorems (Props/C11) share.
-/
namespace Rivaas.C01
open Rivaas.Route Rivaas.Radix Rivaas.Match Rivaas.MatchL Rivaas.RadixL

theorem lemma_normalR (R : List Route) (h : normal R = true) : NormalR R := by
  intro r hr
  simp only [normal, List.all_eq_true] at h
  have := h r hr
  simp only [normalRoute, Bool.and_eq_true, decide_eq_true_eq, List.all_eq_true] at this
  refine ⟨parsePattern_normal _ _ this.1, ?_⟩
  intro c hc
  have := this.2 c hc
  exact List.contains_iff_mem.mp this

theorem lemma_methods (script : List Reg) : ∀ (i : Nat) (R : List Route), specRoutesFrom i script = some R →
    ∀ r ∈ R, ∃ g ∈ script, r.method = g.method := by
  induction script with
  | nil =>
    intro i R h r hr
    simp only [specRoutesFrom, Option.some.injEq] at h
    subst h; simp at hr
  | cons g gs ih =>
    intro i R h r hr
    obtain ⟨p, rest, _, hrs, rfl⟩ := specRoutesFrom_cons i g gs R h
    rcases List.mem_cons.mp hr with rfl | hr
    · exact ⟨g, by simp, rfl⟩
    · obtain ⟨g', hg', hm⟩ := ih (i + 1) rest hrs r hr
      exact ⟨g', by simp [hg'], hm⟩

def lookupM (sat : Nat → Bytes → Bool) (r : Router) (m path : Bytes) : Option (Leaf × Ctx) :=
  (treeOf r m).bind fun t => okOf (getRoute sat t path Ctx.fresh)

theorem lemma_lookupM_live (sat : Nat → Bytes → Bool) (noRoute : Bool) (script : List Reg) (R : List Route)
    (hR : specRoutes script = some R) (hN : normal R = true) (m path : Bytes)
    (hstd : ∀ g ∈ script, g.method = m → m ∈ stdMethods) (hp : path.head? = some '/') :
    lookupM sat (build noRoute script) m path =
      (refRoute sat (live R) m (cutAny path)).map fun r =>
        (leafOf r, pushAll Ctx.fresh ((routeMatch sat r (cutAny path)).getD [])) := by
  unfold lookupM
  by_cases hm : m ∈ stdMethods
  · rw [treeOf_build noRoute script R hR m hm]
    by_cases hf : R.filter (·.method = m) = []
    · rw [if_pos hf, ref_none fun r hr hrm _ => ?_]
      · rfl
      · have : r ∈ R.filter (·.method = m) := List.mem_filter.mpr ⟨live_sub hr, by simp [hrm]⟩
        rw [hf] at this
        cases this
    · rw [if_neg hf]
      exact getRoute_live sat R (lemma_normalR R hN) m path hp
  · have ht : treeOf (build noRoute script) m = none := by simp [treeOf, hm]
    rw [ht, ref_none fun r hr hrm _ => ?_]
    · rfl
    · obtain ⟨g, hg, hgm⟩ := lemma_methods script 0 R hR r (live_sub hr)
      exact hm (hstd g hg (hgm.symm.trans hrm))

/-- the lookup in one method tree of the built router is the reference choice for that method, unless the route
the reference selects there was replaced (`dReplaced1`, K01c) -/
theorem lemma_lookupM (sat : Nat → Bytes → Bool) (noRoute : Bool) (script : List Reg) (R : List Route)
    (hR : specRoutes script = some R) (hN : normal R = true) (hstd : ∀ g ∈ script, g.method ∈ stdMethods)
    (m path : Bytes) (hp : path.head? = some '/')
    (hOw : dReplaced1 sat R m (cutAny path) = false) :
    lookupM sat (build noRoute script) m path =
      (refRoute sat R m (cutAny path)).map fun r =>
        (leafOf r, pushAll Ctx.fresh ((routeMatch sat r (cutAny path)).getD [])) := by
  rw [lemma_lookupM_live sat noRoute script R hR hN m path (fun g hg e => e ▸ hstd g hg) hp, refRoute_live hOw]

theorem lemma_serve_lookup (sat : Nat → Bytes → Bool) (r : Router) (req : Req) :
    serve sat r req =
      match lookupM sat r req.method req.path with
      | some (lf, ctx) => served lf ctx req
      | none => notFound sat r req := by
  unfold serve lookupM okOf
  cases treeOf r req.method with
  | none => rfl
  | some t =>
    simp only [Option.bind_some]
    cases hg : getRoute sat t req.path Ctx.fresh with
    | mk a b =>
      cases a with
      | none => rfl
      | some lf => rfl

theorem lemma_compiledStatic_sub (sat : Nat → Bytes → Bool) (R : List Route) (hR : NormalR R) (m path : Bytes)
    (hp : path.head? = some '/') (h : compiledStatic (treeFor R m) path = true) :
    (getRoute sat (treeFor R m) path Ctx.fresh).1.isSome = true := by
  have hNP : ∀ r ∈ R, NormalPat r.text r.pat := fun r hr => (hR r hr).1
  unfold compiledStatic at h
  rw [treeFor_char R hNP m] at h
  obtain ⟨lf, hs⟩ := Option.isSome_iff_exists.mp h
  obtain ⟨r, hr, _, hrt, htx, _⟩ := static_live hNP hs
  have hn := hNP r (live_sub hr)
  -- the text of a parameter-free route is not the root path
  have hroot : path ≠ ['/'] := by
    rw [← htx, hn.text]
    exact (render_ne r.pat (notInTree r hrt).2 hn.segs).1
  have := congrArg Option.isSome (getRoute_tree sat R hNP m path hp)
  rw [if_neg hroot, hs] at this
  simpa [okOf, getRoute] using this

/-- `RouteExists` for a standard method is a hit of the lookup in its tree: the compiled table of static routes it
also asks holds nothing the tree lookup does not find -/
theorem lemma_routeExists (sat : Nat → Bytes → Bool) (noRoute : Bool) (script : List Reg) (R : List Route)
    (hR : specRoutes script = some R) (hN : normal R = true) (m path : Bytes) (hm : m ∈ stdMethods)
    (hp : path.head? = some '/') :
    routeExists sat (build noRoute script) m path = (lookupM sat (build noRoute script) m path).isSome := by
  have hT := treeOf_build noRoute script R hR m hm
  unfold lookupM okOf
  rw [hT]
  rw [treeOf_eq _ _ hm] at hT
  unfold getT at hT
  unfold routeExists
  rw [hT]
  by_cases hf : R.filter (·.method = m) = []
  · simp [hf]
  · simp only [hf, if_false, Option.bind_some, Option.isSome_map]
    cases hg : (getRoute sat (treeFor R m) path Ctx.fresh).1.isSome with
    | true => rfl
    | false =>
      cases hc : compiledStatic (treeFor R m) path with
      | false => rfl
      | true =>
        have := lemma_compiledStatic_sub sat R (lemma_normalR R hN) m path hp hc
        rw [hg] at this; exact absurd this (by simp)

theorem lemma_allowed (sat : Nat → Bytes → Bool) (noRoute : Bool) (script : List Reg) (R : List Route)
    (hR : specRoutes script = some R) (hN : normal R = true) (path : Bytes) (hp : path.head? = some '/') :
    allowedMethods sat (build noRoute script) path = allowedSet sat (live R) (cutAny path) := by
  rw [lemma_allowedSet]
  unfold allowedMethods
  apply List.filter_congr
  intro m hm
  -- the probe of one method is `RouteExists`
  refine Eq.trans (b := routeExists sat (build noRoute script) m path) (by rw [treeOf_eq _ _ hm]; rfl) ?_
  rw [lemma_routeExists sat noRoute script R hR hN m path hm hp,
    lemma_lookupM_live sat noRoute script R hR hN m path (fun _ _ _ => hm) hp, Option.isSome_map]

/-! ### facts about the reference choice and about a route that ran, shared by the dispatch theorems -/

theorem lemma_bindings {R : List Route} (hN : normal R = true) {sat : Nat → Bytes → Bool} {r : Route} {p : RPath}
    (hr : r ∈ R) (h : (routeMatch sat r p).isSome = true) :
    ∃ b, routeMatch sat r p = some b ∧ distinct (b.map (·.1)) = true := by
  obtain ⟨b, hb⟩ := Option.isSome_iff_exists.mp h
  refine ⟨b, hb, ?_⟩
  rw [matchPat_keys _ _ _ _ (routeMatch_some hb).1]
  exact (lemma_normalR R hN r hr).1.dist

theorem lemma_lookups (b : List (Bytes × Bytes)) (hd : distinct (b.map (·.1)) = true) (ask : List Bytes) :
    (ask.map fun n => (n, (pushAll Ctx.fresh b).param n)) = lookupAsk b ask :=
  List.map_congr_left fun n _ => by rw [param_pushAll n b hd]

theorem lemma_notFound_ran (sat : Nat → Bytes → Bool) (r : Router) (req : Req) : (notFound sat r req).ran = none := by
  simp only [notFound]
  split
  · rfl
  · split <;> rfl

theorem lemma_ran_std (sat : Nat → Bytes → Bool) (r : Router) (req : Req) (rid : Nat)
    (h : (serve sat r req).ran = some rid) : req.method ∈ stdMethods := by
  apply Classical.byContradiction
  intro hm
  have hs : serve sat r req = notFound sat r req := by simp [serve, treeOf, hm]
  rw [hs, lemma_notFound_ran] at h
  cases h

theorem lemma_refMatch_ran {sat : Nat → Bytes → Bool} {noRoute : Bool} {L : List Route} {req : Req} {p : RPath} {rid : Nat}
    (h : (refMatch sat noRoute L req p).ran = some rid) :
    ∃ r b, refRoute sat L req.method p = some r ∧ r.rid = rid ∧ routeMatch sat r p = some b ∧
      (refMatch sat noRoute L req p).params = SMap.ofList b ∧
      (refMatch sat noRoute L req p).lookups = lookupAsk b req.ask := by
  unfold refMatch at h ⊢
  cases href : refRoute sat L req.method p with
  | none =>
    simp only [href] at h
    split at h
    · cases h
    · split at h <;> cases h
  | some r =>
    obtain ⟨b, hb⟩ := Option.isSome_iff_exists.mp (lemma_mem_cands.mp (lemma_ref_max href).1).2.2
    simp only [href, hb, Option.getD_some] at h ⊢
    exact ⟨r, b, rfl, Option.some.inj h, hb, rfl, rfl⟩

theorem lemma_mem_methodsOf (req : Req) (m : Bytes) (h : m = req.method ∨ m ∈ stdMethods) : m ∈ methodsOf req := by
  unfold methodsOf
  rcases h with h | h
  · simp [h]
  · simp [h]

end Rivaas.C01
