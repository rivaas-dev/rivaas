import Rivaas.Lemmas.OpenAPIPath
import Rivaas.Lemmas.OpenAPIBuild
/-
C07 — helper lemmas: the parameter list of an operation (request metadata with the (in, name)
de-duplication of K07g, then the route's remaining path parameters), and with it the shape `OpShape` of a
built operation (parameters, response codes and descriptions, styles, examples).
-/
namespace Rivaas.OpenAPI
open List

def pairsOf {σ} (ps : List (Param σ)) : List (B × B) := ps.map fun p => (p.loc, p.name)

/-- shape facts about one parameter that do not depend on its schema -/
def ParamOK {σ} (p : Param σ) : Prop := p.name ≠ [] ∧ p.loc ∈ locs ∧ (p.loc = s "path" → p.required = true)

def SpecOK (ps : ParamSpec) : Prop := ps.name ≠ [] ∧ ps.loc ∈ locs ∧ (ps.loc = s "path" → ps.required = true)

theorem paramOfSpec_shape (env : Env) (ps : ParamSpec) (st : Schemas) :
    (paramOfSpec env ps st).1.name = ps.name ∧ (paramOfSpec env ps st).1.loc = ps.loc ∧
      (paramOfSpec env ps st).1.required = ps.required := by
  simp [paramOfSpec]

theorem mdParams_shape (env : Env) (l : List ParamSpec) : ∀ (sk : List (B × B)) (sp : List B) (st : Schemas),
    (pairsOf (mdParams env l sk sp st).1).Nodup ∧
    (∀ x ∈ pairsOf (mdParams env l sk sp st).1, x ∉ sk) ∧
    (∀ p ∈ (mdParams env l sk sp st).1, ∃ ps ∈ l, p.name = ps.name ∧ p.loc = ps.loc ∧ p.required = ps.required) ∧
    (∀ n, n ∈ (mdParams env l sk sp st).2.1 ↔ n ∈ sp ∨ (s "path", n) ∈ pairsOf (mdParams env l sk sp st).1) := by
  induction l with
  | nil => intro sk sp st; simp [mdParams, pairsOf]
  | cons ps rest ih =>
    intro sk sp st
    rw [mdParams]
    split
    next hc =>
      obtain ⟨h1, h2, h3, h4⟩ := ih sk sp st
      exact ⟨h1, h2, fun p hp => (h3 p hp).imp fun q hq => ⟨mem_cons_of_mem _ hq.1, hq.2⟩, h4⟩
    next hc =>
      obtain ⟨h1, h2, h3, h4⟩ := ih ((ps.loc, ps.name) :: sk)
        (if ps.loc = s "path" then ps.name :: sp else sp) (paramOfSpec env ps st).2
      obtain ⟨e1, e2, e3⟩ := paramOfSpec_shape env ps st
      simp only [pairsOf, map_cons, e1, e2] at h1 h2 h4 ⊢
      refine ⟨nodup_cons.2 ⟨fun hm => h2 _ hm (mem_cons_self ..), h1⟩, fun x hx => ?_, fun p hp => ?_, fun n => ?_⟩
      · rcases mem_cons.1 hx with rfl | hx
        · simpa using hc
        · exact fun hm => h2 x hx (mem_cons_of_mem _ hm)
      · rcases mem_cons.1 hp with rfl | hp
        · exact ⟨ps, mem_cons_self .., e1, e2, e3⟩
        · exact (h3 p hp).imp fun q hq => ⟨mem_cons_of_mem _ hq.1, hq.2⟩
      · -- the path names seen: one more exactly when this parameter is a path parameter
        have hsp : n ∈ (if ps.loc = s "path" then ps.name :: sp else sp) ↔ n ∈ sp ∨ (s "path", n) = (ps.loc, ps.name) := by
          split <;> simp [*, eq_comm, or_comm]
        rw [h4 n, hsp, mem_cons, or_assoc]

/-! ## the ParamSpecs of a request struct -/

/-- `reflect` gives every struct field a non-empty name -/
def FieldsNamed (flat : List (FieldMeta × Ty)) : Prop := ∀ mt ∈ flat, mt.1.name ≠ []

theorem trimSpace_ne (x : B) (h : trimSpace x ≠ []) : trimSpace x ≠ [] := h

theorem tagSel_loc (sel : TagSel) : sel.loc ∈ locs ∧ (sel.loc = s "path" → sel = .path) := by
  -- each selector's location is a literal, and so are the members of `locs`: `s_inj` compares the literals
  cases sel <;> simp only [TagSel.loc, locs, mem_cons, s_inj, String.reduceEq, true_or, or_true, false_implies, implies_true,
    and_self, reduceCtorEq]

theorem paramOfField_ok {env : Env} {sel : TagSel} {mt : FieldMeta × Ty} {ps : ParamSpec} (hn : mt.1.name ≠ [])
    (h : paramOfField env sel mt = some ps) : SpecOK ps := by
  unfold paramOfField at h
  simp only [] at h
  by_cases he : (!mt.1.exported) = true
  · rw [if_pos he] at h; cases h
  rw [if_neg he] at h
  by_cases ht : sel.get mt.1 = [] ∨ sel.get mt.1 = s "-"
  · rw [if_pos ht] at h; cases h
  rw [if_neg ht, Option.some.injEq] at h
  subst h
  refine ⟨?_, (tagSel_loc sel).1, ?_⟩
  · dsimp only
    split
    · exact hn
    · assumption
  · intro hl
    show isParamRequired env mt.1 mt.2 sel = true
    simp [isParamRequired, (tagSel_loc sel).2 hl]

theorem extractParams_ok {env : Env} {flat : List (FieldMeta × Ty)} (hf : FieldsNamed flat) (sel : TagSel) :
    ∀ ps ∈ extractParamsFromTag env flat sel, SpecOK ps := by
  intro ps hps
  simp only [extractParamsFromTag, mem_filterMap] at hps
  obtain ⟨mt, hmt, h⟩ := hps
  exact paramOfField_ok (hf mt hmt) h

/-- field names in the environment are non-empty (a fact about `reflect`) -/
def EnvNamed (env : Env) : Prop :=
  ∀ e ∈ env, ∀ n p fs, e.2 = Def.struct n p fs → ∀ f ∈ fs, ∀ m t, f = Field.field m t → m.name ≠ []

theorem flatten_named (env : Env) (henv : EnvNamed env) :
    ∀ (visiting : List Nat) (fs : List Field), (∀ f ∈ fs, ∀ m t, f = Field.field m t → m.name ≠ []) →
      FieldsNamed (flatten env visiting fs) := by
  intro visiting fs
  induction visiting, fs using flatten.induct env with
  -- no field left
  | case1 visiting => intro _; rw [flatten]; intro mt hmt; simp at hmt
  -- a field of the struct itself
  | case2 visiting m t rest ih =>
    intro h
    rw [flatten]
    intro mt hmt
    simp only [mem_cons] at hmt
    rcases hmt with rfl | hmt
    · exact h _ (mem_cons_self ..) m t rfl
    · exact ih (fun f hf => h f (mem_cons_of_mem _ hf)) mt hmt
  -- an embedded struct: its fields (none if it is being walked already, K07j, or is not a struct), then the rest
  | case3 visiting id rest ih1 ih2 =>
    intro h
    rw [flatten]
    have hrest := ih2 (fun f hf => h f (mem_cons_of_mem _ hf))
    intro mt hmt
    simp only [mem_append] at hmt
    rcases hmt with hmt | hmt
    · split at hmt
      · simp at hmt
      next hv =>
        split at hmt
        next n p efs hl =>
          exact ih1 hv n p efs hl (fun f hf m t e => henv _ (mem_of_lookup_some _ _ _ hl) n p efs rfl f hf m t e) mt hmt
        next => simp at hmt
    · exact hrest mt hmt

theorem introspect_ok {env : Env} (henv : EnvNamed env) {t : Ty} {md : Meta} (h : introspect env t = some md) :
    ∀ ps ∈ md.params, SpecOK ps := by
  unfold introspect at h
  split at h
  next id heq =>
    split at h
    next n p fs hl =>
      simp only [Option.some.injEq] at h
      subst h
      have hf : FieldsNamed (flatten env [id] fs) :=
        flatten_named env henv [id] fs (fun f hf m t e => henv _ (mem_of_lookup_some _ _ _ hl) n p fs rfl f hf m t e)
      intro ps hps
      simp only [mem_append] at hps
      rcases hps with ((hps | hps) | hps) | hps <;> exact extractParams_ok hf _ ps hps
    next => cases h
  next => cases h


/-! ## the shape of a built operation -/

structure OpShape {σ} (route : B) (o : Operation σ) : Prop where
  params : ∀ p ∈ o.params, ParamOK p
  nodup : (pairsOf o.params).Nodup
  route : ∀ n ∈ routeParamNames route, (s "path", n) ∈ pairsOf o.params
  respsNe : o.resps ≠ []
  resps : ∀ r ∈ o.resps, validResponseCode r.code = true ∧ r.description ≠ []
  styles : ∀ p ∈ o.params, styleOK p.loc p.style = true
  /-- a media type never has both `example` and `examples` -/
  exX : ∀ r ∈ o.resps, ¬ (r.hasExample = true ∧ r.exampleNames ≠ [])

theorem pathParams_ok {path : B} (hv : validatePath path = true) : ∀ p ∈ extractPathParams path, ParamOK (σ := IR) p := by
  intro p hp
  simp only [extractPathParams, mem_map] at hp
  obtain ⟨n, hn, rfl⟩ := hp
  exact ⟨(validatePath_names hv).1 n hn, (tagSel_loc .path).1, fun _ => rfl⟩

theorem pairsOf_pathParams_filter (path : B) (q : B → Bool) :
    pairsOf ((extractPathParams path).filter fun p => q p.name) = ((routeParamNames path).filter q).map fun n => (s "path", n) := by
  simp [pairsOf, extractPathParams, filter_map, Function.comp_def]

theorem pairsOf_pathParams (path : B) :
    pairsOf (extractPathParams path) = (routeParamNames path).map fun n => (s "path", n) := by
  simp [pairsOf, extractPathParams, Function.comp_def]

theorem opParams_shape (env : Env) (md : Option Meta) (path : B) (st : Schemas) (hv : validatePath path = true)
    (hmd : ∀ m, md = some m → ∀ ps ∈ m.params, SpecOK ps) :
    (∀ p ∈ (opParams env md (extractPathParams path) st).1, ParamOK p) ∧
    (pairsOf (opParams env md (extractPathParams path) st).1).Nodup ∧
    (∀ n ∈ routeParamNames path, (s "path", n) ∈ pairsOf (opParams env md (extractPathParams path) st).1) := by
  obtain ⟨hne, hnd⟩ := validatePath_names hv
  have hinj : ∀ a b : B, a ≠ b → (s "path", a) ≠ (s "path", b) := fun a b h e => h (Prod.mk.inj e).2
  unfold opParams
  cases md with
  | none =>
    rw [pairsOf_pathParams]
    exact ⟨pathParams_ok hv, hnd.map _ hinj, fun n hn => mem_map.2 ⟨n, hn, rfl⟩⟩
  | some m =>
    obtain ⟨h1, _, h3, h4⟩ := mdParams_shape env m.params [] [] st
    have hrest := pairsOf_pathParams_filter path fun n => !(mdParams env m.params [] [] st).2.1.contains n
    simp only [pairsOf, map_append] at hrest h1 h4 ⊢
    rw [hrest]
    refine ⟨fun p hp => ?_, nodup_append.2 ⟨h1, (hnd.sublist filter_sublist).map _ hinj, ?_⟩, fun n hn => ?_⟩
    · rcases mem_append.1 hp with hp | hp
      · obtain ⟨ps, hps, e1, e2, e3⟩ := h3 p hp
        obtain ⟨o1, o2, o3⟩ := hmd m rfl ps hps
        exact ⟨e1 ▸ o1, e2 ▸ o2, by rw [e2, e3]; exact o3⟩
      · exact pathParams_ok hv p (mem_filter.1 hp).1
    · -- a route parameter is added only if the metadata did not declare it
      intro a ha b hb hab
      obtain ⟨n, hn, rfl⟩ := mem_map.1 hb
      exact absurd ((h4 n).2 (Or.inr (hab ▸ ha))) (by simpa using (mem_filter.1 hn).2)
    · by_cases hs : n ∈ (mdParams env m.params [] [] st).2.1
      · exact mem_append_left _ (((h4 n).1 hs).resolve_left not_mem_nil)
      · exact mem_append_right _ (mem_map.2 ⟨n, mem_filter.2 ⟨hn, by simpa using hs⟩, rfl⟩)

theorem genResps_shape (env : Env) (l : List (Nat × B × Option Ty)) : ∀ (st : Schemas) (rs : List (Resp IR)) (st' : Schemas),
    genResps env l st = .ok (rs, st') → ∀ r ∈ rs, validResponseCode r.code = true ∧ r.description ≠ [] := by
  induction l with
  | nil =>
    intro st rs st' h
    simp only [genResps, Except.ok.injEq, Prod.mk.injEq] at h
    simp [← h.1]
  | cons x rest ih =>
    obtain ⟨status, text, rt⟩ := x
    intro st rs st' h r hr
    obtain ⟨hc, rr, hrr, rfl⟩ := genResps_cons_ok h
    rcases mem_cons.1 hr with rfl | hr
    · dsimp only
      refine ⟨hc, ?_⟩
      split
      · decide +kernel
      · assumption
    · exact ih _ rr st' hrr r hr

theorem defaultResps_shape : ∀ r ∈ defaultResps, validResponseCode r.code = true ∧ r.description ≠ [] := by
  intro r hr
  simp only [defaultResps, mem_singleton] at hr
  subst hr
  exact ⟨by decide +kernel, by decide +kernel⟩

theorem buildOperation_shape (env : Env) (henv : EnvNamed env) (op : OpIn) (st : Schemas) (so : List B)
    (o : Operation IR) (st' : Schemas) (so' : List B) (hv : validatePath op.path = true)
    (h : buildOperation env op st so = .ok (o, st', so')) : OpShape op.path o := by
  obtain ⟨_, _, _, rr, hst, hrr, hp, _, hr⟩ := buildOperation_ok h
  have hmd : ∀ m, (if op.hasDoc then op.req.bind (introspect env) else none) = some m → ∀ ps ∈ m.params, SpecOK ps := by
    intro m hm
    split at hm
    · obtain ⟨t, _, ht⟩ := Option.bind_eq_some_iff.1 hm
      exact introspect_ok henv ht
    · cases hm
  obtain ⟨p1, p2, p3⟩ := opParams_shape env _ op.path st hv hmd
  rw [← hp] at p1 p2 p3 hst
  refine ⟨p1, p2, p3, ?_, fun r' hr' => ?_, hst, fun r' hr' => ?_⟩
  · rw [hr, attachEx, ne_eq, map_eq_nil_iff]
    split
    · exact cons_ne_nil _ _
    next hne => exact fun e => hne (e ▸ rfl)
  · obtain ⟨r, hr'', hc, hd, _⟩ := mem_attachEx (hr ▸ hr')
    rw [hc, hd]
    split at hr''
    · exact defaultResps_shape r hr''
    · exact genResps_shape env _ _ rr st' hrr r hr''
  · obtain ⟨_, _, _, _, hx⟩ := mem_attachEx (hr ▸ hr')
    exact hx

end Rivaas.OpenAPI
