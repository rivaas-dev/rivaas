import Rivaas.Lemmas.BindAll
import Rivaas.Lemmas.BindAllRef
import Rivaas.Lemmas.BindMulti
/-
C04 — `WithAllErrors` from several sources: bindMultiSource in collecting mode is a run over the oracle's phases
(`runPhasesAll`, `lemma_bindMultiAll_phases`). That the run meets the oracle is `Lemmas/BindMultiSound.lean`.
-/
namespace Rivaas.Bind
open Spec

def runPhasesAll (P : Params) (cfg : Cfg) (fs : List Fld) : List Phase → Val → OutAll
  | [], cur => .done cur []
  | ph :: rest, cur =>
    match bindAll P cfg ph.src.kind (.struct (phaseFs fs ph)) cur ph.src with
    | .done v es => (runPhasesAll P cfg fs rest v).prepend es
    | .panic => .panic

theorem lemma_runPhasesAll_append (P : Params) (cfg : Cfg) (fs : List Fld) : ∀ (a b : List Phase) (cur : Val),
    runPhasesAll P cfg fs (a ++ b) cur = match runPhasesAll P cfg fs a cur with
      | .done v es => (runPhasesAll P cfg fs b v).prepend es
      | .panic => .panic
  | [], b, cur => by simp [runPhasesAll, lemma_prepend_nil]
  | ph :: a, b, cur => by
    simp only [List.cons_append, runPhasesAll]
    cases bindAll P cfg ph.src.kind (.struct (phaseFs fs ph)) cur ph.src with
    | panic => rfl
    | done v es =>
      simp only
      rw [lemma_runPhasesAll_append P cfg fs a b v]
      cases runPhasesAll P cfg fs a v with
      | panic => rfl
      | done v' es' => exact lemma_prepend_prepend _ _ _

/-- One pass of `bindPassAll` is the run over the phases of the sources that mention a tag of `fs`. `f` is what the
    pass does to a source before binding it (nothing; `kvs := []` in the pass of the defaults), `mk s` the phase that
    stands for source `s`, `fs'` the fields the pass binds (`fs`; `stripFs fs` in the pass of the values). -/
theorem lemma_bindPassAll_phases (P : Params) (cfg : Cfg) (fs fs' : List Fld) (mk : Src → Phase)
    (hfs : ∀ s, phaseFs fs (mk s) = fs') :
    ∀ (srcs : List Src) (cur : Val) (f : Src → Src) (_ : ∀ s, (f s).kind = s.kind) (_ : ∀ s, (mk s).src = f s),
      bindPassAll P cfg fs (fun _ => .struct fs') (srcs.map f) cur =
        runPhasesAll P cfg fs ((srcs.filter (fun s => mentionsFs s.kind fs)).map mk) cur
  | [], cur, f, _, _ => rfl
  | s :: rest, cur, f, hf, hm => by
    simp only [List.map_cons, bindPassAll, hf, lemma_hasTag_fs, List.filter_cons]
    by_cases ht : mentionsFs s.kind fs = true
    · simp only [ht, if_true, List.map_cons, runPhasesAll, hfs, hm]
      simp only [hf]
      cases bindAll P cfg s.kind (.struct fs') cur (f s) with
      | done v es => simp only; rw [lemma_bindPassAll_phases P cfg fs fs' mk hfs rest v f hf hm]
      | panic => rfl
    · have ht' : mentionsFs s.kind fs = false := by simpa using ht
      simp only [ht', Bool.false_eq_true, if_false]
      exact lemma_bindPassAll_phases P cfg fs fs' mk hfs rest cur f hf hm

theorem lemma_bindMultiAll_phases (P : Params) (cfg : Cfg) (fs : List Fld) (init : Val) (srcs : List Src) :
    bindMultiAll P cfg fs init srcs =
      if srcs.isEmpty then .done init [.conv] else runPhasesAll P cfg fs (phasesOf fs srcs) init := by
  unfold bindMultiAll phasesOf
  by_cases he : srcs.isEmpty = true
  · simp [he]
  · simp only [he, Bool.false_eq_true, if_false]
    by_cases h1 : (srcs.length == 1) = true
    · simp only [h1, if_true]
      have := lemma_bindPassAll_phases P cfg fs fs (fun s => { src := s, defaultsOnly := false, noDefaults := false })
        (fun _ => by simp [phaseFs]) srcs init id (fun _ => rfl) (fun _ => rfl)
      simpa using this
    · simp only [h1, Bool.false_eq_true, if_false]
      have hA := lemma_bindPassAll_phases P cfg fs fs
        (fun s => { src := { s with kvs := [] }, defaultsOnly := true, noDefaults := false })
        (fun _ => by simp [phaseFs]) srcs init (fun s => { s with kvs := [] }) (fun _ => rfl) (fun _ => rfl)
      have hB := fun cur => lemma_bindPassAll_phases P cfg fs (stripFs fs)
        (fun s => { src := s, defaultsOnly := false, noDefaults := true })
        (fun _ => by simp [phaseFs]) srcs cur id (fun _ => rfl) (fun _ => rfl)
      rw [lemma_runPhasesAll_append, hA]
      cases runPhasesAll P cfg fs (List.map (fun s => ({ src := { s with kvs := [] }, defaultsOnly := true, noDefaults := false } : Phase))
          (List.filter (fun s => mentionsFs s.kind fs) srcs)) init with
      | done v es =>
        have := hB v
        simp only [List.map_id] at this
        simp only [this]
      | panic => rfl

end Rivaas.Bind
