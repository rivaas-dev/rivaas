import Rivaas.Lemmas.LifecycleHolds
/-
C09 — helper lemmas: the shutdown sequence does not depend on what the reload rounds did.
-/
namespace Rivaas.C09
open Rivaas.Lifecycle Rivaas.Lifecycle.Spec

/-- what of an observation the independence statements compare: all but the reload events of the log, the per-round results
    and `finHeld` -/
def nonReload (o : Obs) : List Ev × Res × Bool × Bool × List ReqRes :=
  (o.log.filter (fun e => !isReload e), o.res, o.finApp, o.finMet, o.reqs)

theorem lemma_stopHooks_len (i : Nat) (hs hs' : List HB) (h : hs'.length = hs.length) :
    stopHooks i hs' = stopHooks i hs := by
  induction hs generalizing i hs' with
  | nil => cases hs' with
    | nil => rfl
    | cons _ _ => simp at h
  | cons b rest ih => cases hs' with
    | nil => simp at h
    | cons b' rest' =>
      simp only [List.length_cons, Nat.add_right_cancel_iff] at h
      simp only [stopHooks, ih _ _ h]

theorem lemma_tail_indep (sc : Scenario) (rounds' : List Round) (stops' : List HB)
    (hlen : stops'.length = sc.stops.length) (fx : Fixes) (race sent : Bool) :
    shutdownTail fx { sc with rounds := rounds', stops := stops' } race sent = shutdownTail fx sc race sent := by
  unfold shutdownTail
  simp only [lemma_stopHooks_len 0 _ _ hlen]

/-- apart from the reload events, a run that reaches the shutdown sequence is determined by the shutdown sequence, the
    segments of start-up, and what the reload loop and the signal leave besides reload events -/
theorem lemma_nonReload_shutdownSeq (fx : Fixes) {sc sc' : Scenario} (race sent : Bool) {s s' : Segs} (rres rres' : List RRes)
    (ht : shutdownTail fx sc' race sent = shutdownTail fx sc race sent) (h1 : s'.starts = s.starts)
    (h2 : s'.readies = s.readies) (h3 : s'.reqIns = s.reqIns)
    (h4 : (s'.reloads ++ s'.sig).filter (fun e => !isReload e) = (s.reloads ++ s.sig).filter (fun e => !isReload e))
    (hp : kindsIn [.reload] s.post) (hp' : kindsIn [.reload] s'.post) :
    nonReload (shutdownSeq fx sc' race sent s' rres').obs = nonReload (shutdownSeq fx sc race sent s rres).obs := by
  simp only [List.filter_append] at h4
  simp only [nonReload, shutdownSeq, Run.obs, Segs.log, ht, h1, h2, h3, List.filter_append, List.append_assoc,
    filter_nonReload_of_kinds hp, filter_nonReload_of_kinds hp']
  rw [← List.append_assoc (List.filter _ s'.reloads), h4, List.append_assoc]

theorem lemma_loop_rest {fx : Fixes} {st : Loop} {r : Nat} (h : LoopInv fx st r) :
    (st.pre ++ sigIf (!st.cancelled)).filter (fun e => !isReload e) = [Ev.sig] := by
  rw [List.filter_append, h.rest]
  cases st.cancelled <;> rfl

end Rivaas.C09
