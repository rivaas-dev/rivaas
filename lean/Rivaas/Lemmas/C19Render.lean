import Rivaas.Model.Render
import Rivaas.Spec.Render
/-
Helper lemmas for C19 (rendering helpers of router/context.go): fast path of Stringf, the escaper of ASCIIJSON
(fuel adequacy, bit arithmetic of decodeRuneInJSON, lexing of the escaped text). The property theorems are in Props/C19.
-/
namespace Rivaas.C19
open Rivaas Rivaas.Render Rivaas.RenderSpec

/-! ## Stringf -/

theorem lemma_cutPctS (f pre post : Bytes) (h : Render.cutPctS f = some (pre, post)) :
    f = pre ++ '%' :: 's' :: post := by
  induction f generalizing pre with
  | nil => simp [Render.cutPctS] at h
  | cons c r ih =>
    cases r with
    | nil => simp [Render.cutPctS] at h
    | cons d r' =>
      simp only [Render.cutPctS] at h
      by_cases hc : (c == '%' && d == 's') = true
      · simp only [hc, if_true, Option.some.injEq, Prod.mk.injEq] at h
        obtain ⟨rfl, rfl⟩ := h
        simp at hc
        simp [hc.1, hc.2]
      · simp only [hc, if_false, Bool.false_eq_true] at h
        cases hr : Render.cutPctS (d :: r') with
        | none => simp [hr] at h
        | some ab =>
          obtain ⟨a, b⟩ := ab
          simp only [hr, Option.some.injEq, Prod.mk.injEq] at h
          obtain ⟨rfl, rfl⟩ := h
          have := ih a hr
          simp [this]

theorem lemma_countPct (s : Bytes) : Render.countPct s = s.count '%' := List.countP_eq_length_filter.symm

def toSpecArg : Render.Arg → RenderSpec.Arg
  | .str s => .str s
  | .other => .other

theorem lemma_sprintfRef_lit (pre rest : Bytes) (args : List RenderSpec.Arg) (h : '%' ∉ pre) :
    RenderSpec.sprintfRef (pre ++ rest) args = (RenderSpec.sprintfRef rest args).map (pre ++ ·) := by
  induction pre with
  | nil => simp
  | cons c p ih =>
    have hc : c ≠ '%' := (List.ne_of_not_mem_cons h).symm
    have hp : '%' ∉ p := List.not_mem_of_not_mem_cons h
    have : RenderSpec.sprintfRef (c :: (p ++ rest)) args = (RenderSpec.sprintfRef (p ++ rest) args).map (c :: ·) := by
      simp [RenderSpec.sprintfRef, hc]
    simp only [List.cons_append, this, ih hp, Option.map_map]
    congr

theorem lemma_sprintfRef_nopct (post : Bytes) (h : '%' ∉ post) : RenderSpec.sprintfRef post [] = some post := by
  have := lemma_sprintfRef_lit post [] [] h
  simpa [RenderSpec.sprintfRef] using this

theorem lemma_sprintfRef_pcts (post v : Bytes) (args : List RenderSpec.Arg) :
    RenderSpec.sprintfRef ('%' :: 's' :: post) (.str v :: args) = (RenderSpec.sprintfRef post args).map (v ++ ·) := by
  simp [RenderSpec.sprintfRef]

/-! ## the ASCII escaper: every byte written is below 128 -/

theorem lemma_hexDigit_lt (n : Nat) (h : n < 16) : hexDigit n < 128 := by
  unfold hexDigit; split <;> omega

theorem lemma_u4_ascii (n : Nat) : ∀ b ∈ u4 n, b < 128 := by
  intro b hb
  simp only [u4, List.mem_cons, List.not_mem_nil, or_false] at hb
  rcases hb with rfl | rfl | rfl | rfl | rfl | rfl
  · omega
  · omega
  all_goals exact lemma_hexDigit_lt _ (Nat.mod_lt _ (by omega))

theorem lemma_escRune_ascii (r : Nat) : ∀ b ∈ escRune r, b < 128 := by
  intro b hb
  unfold escRune at hb
  split at hb
  · exact lemma_u4_ascii _ b hb
  · rcases List.mem_append.1 hb with h | h <;> exact lemma_u4_ascii _ b h

theorem lemma_escapeF_ascii (f : Nat) (l : List Nat) : ∀ b ∈ escapeF f l, b < 128 := by
  induction f generalizing l with
  | zero => intro b hb; simp [escapeF] at hb
  | succ f ih =>
    cases l with
    | nil => intro b hb; simp [escapeF] at hb
    | cons b0 rest =>
      intro b hb
      simp only [escapeF, escapeStep] at hb
      split at hb
      · split at hb
        · rcases List.mem_append.1 hb with h | h
          · exact lemma_escRune_ascii _ b h
          · exact ih _ b h
        · rcases List.mem_append.1 hb with h | h
          · exact lemma_u4_ascii _ b h
          · exact ih _ b h
      · rcases List.mem_cons.1 hb with rfl | h
        · omega
        · exact ih _ b h

/-! ## the ASCII escaper: the escaped text lexes to the same UTF-16 units -/

theorem lemma_surrogate (r : Nat) (h1 : 0x10000 ≤ r) (h2 : r ≤ 0x10FFFF) :
    combine (hiSur r) (loSur r) = r ∧ 0xD800 ≤ hiSur r ∧ hiSur r ≤ 0xDBFF ∧ 0xDC00 ≤ loSur r ∧ loSur r ≤ 0xDFFF ∧
      utf16 r = [hiSur r, loSur r] := by
  unfold combine hiSur loSur utf16
  rw [Nat.and_two_pow_sub_one_eq_mod _ 10, Nat.shiftRight_eq_div_pow _ 10, if_neg (by omega)]
  refine ⟨by omega, by omega, by omega, by omega, by omega, rfl⟩

/-- a fuelled loop whose step consults its continuation on shorter inputs only gives the same result with any fuel
    that covers the input; so, with the input's length as fuel, the loop is its own continuation -/
theorem lemma_fuel_cons {β : Type} (F : Nat → List Nat → β) (S : (List Nat → β) → Nat → List Nat → β)
    (hnil : ∀ f g, F f [] = F g [])
    (hstep : ∀ f b rest, F (f + 1) (b :: rest) = S (F f) b rest)
    (hcongr : ∀ n1 n2 b rest, (∀ X, X.length ≤ rest.length → n1 X = n2 X) → S n1 b rest = S n2 b rest)
    (b : Nat) (rest : List Nat) :
    F (b :: rest).length (b :: rest) = S (fun l => F l.length l) b rest := by
  have fuel : ∀ f (l : List Nat) g, l.length ≤ f → l.length ≤ g → F f l = F g l := by
    intro f
    induction f with
    | zero =>
      intro l g hl _
      have : l = [] := List.length_eq_zero_iff.1 (by omega)
      subst this
      exact hnil 0 g
    | succ f ih =>
      intro l g hl hg
      cases l with
      | nil => exact hnil _ g
      | cons b rest =>
        cases g with
        | zero => simp at hg
        | succ g =>
          rw [hstep, hstep]
          apply hcongr
          intro X hX
          simp only [List.length_cons] at hl hg
          exact ih X g (by omega) (by omega)
  rw [List.length_cons, hstep]
  apply hcongr
  intro X hX
  exact fuel _ X _ hX (Nat.le_refl _)

theorem lemma_unitsStep_congr (n1 n2 : List Nat → Option (List Nat)) (b : Nat) (rest : List Nat)
    (h : ∀ X, X.length ≤ rest.length → n1 X = n2 X) : unitsStep n1 b rest = unitsStep n2 b rest := by
  unfold unitsStep
  split
  · split
    · split
      · rw [h _ (by simp only [List.length_cons]; omega)]
      · rfl
    · split
      · rw [h _ (by simp only [List.length_cons]; omega)]
      · rfl
    · rfl
  · split
    · rw [h _ (Nat.le_refl _)]
    · split
      · rw [h _ (by simp only [List.length_drop]; omega)]
      · rfl

theorem lemma_units_nil : units [] = some [] := rfl

theorem lemma_units_cons (b : Nat) (rest : List Nat) : units (b :: rest) = unitsStep units b rest :=
  lemma_fuel_cons unitsF unitsStep (fun f g => by cases f <;> cases g <;> rfl) (fun _ _ _ => rfl) lemma_unitsStep_congr b rest

theorem lemma_escapeStep_congr (n1 n2 : List Nat → List Nat) (b : Nat) (rest : List Nat)
    (h : ∀ X, X.length ≤ rest.length → n1 X = n2 X) : escapeStep n1 b rest = escapeStep n2 b rest := by
  unfold escapeStep
  split
  · dsimp only
    split
    · rw [h _ (by simp only [List.length_drop]; omega)]
    · rw [h _ (Nat.le_refl _)]
  · rw [h _ (Nat.le_refl _)]

theorem lemma_escape_nil : escape [] = [] := rfl

theorem lemma_escape_cons (b : Nat) (rest : List Nat) : escape (b :: rest) = escapeStep escape b rest :=
  lemma_fuel_cons escapeF escapeStep (fun f g => by cases f <;> cases g <;> rfl) (fun _ _ _ => rfl) lemma_escapeStep_congr b rest

theorem lemma_escape_ascii (b : Nat) (rest : List Nat) (h : b < 128) : escape (b :: rest) = b :: escape rest := by
  rw [lemma_escape_cons]; unfold escapeStep
  have : ¬ b ≥ 128 := by omega
  simp [this]

theorem lemma_hexVal_hexDigit (d : Nat) (h : d < 16) : hexVal (hexDigit d) = some d := by
  unfold hexVal hexDigit
  by_cases h10 : d < 10
  · simp only [h10, if_true]
    have : 48 ≤ 48 + d ∧ 48 + d ≤ 57 := by omega
    simp only [this, and_self, if_true]
    congr 1; omega
  · simp only [h10, if_false]
    have h1 : ¬ (48 ≤ 87 + d ∧ 87 + d ≤ 57) := by omega
    have h2 : 97 ≤ 87 + d ∧ 87 + d ≤ 102 := by omega
    simp only [h1, if_false, h2, and_self, if_true]
    congr 1; omega

/-- lead-byte masks of `decodeRuneInJSON`, as ranges -/
theorem lemma_masks : ∀ b0, b0 < 256 →
    ((b0 &&& 0xE0 == 0xC0) = decide (0xC0 ≤ b0 ∧ b0 ≤ 0xDF)) ∧
    ((b0 &&& 0xF0 == 0xE0) = decide (0xE0 ≤ b0 ∧ b0 ≤ 0xEF)) ∧
    ((b0 &&& 0xF8 == 0xF0) = decide (0xF0 ≤ b0 ∧ b0 ≤ 0xF7)) := by decide +kernel

theorem lemma_or6 (x y : Nat) (hy : y < 64) : (x <<< 6) ||| y = x * 64 + y := by
  rw [← Nat.shiftLeft_add_eq_or_of_lt (by simpa using hy), Nat.shiftLeft_eq]

theorem lemma_m3F (b : Nat) : b &&& 0x3F = b % 64 := Nat.and_two_pow_sub_one_eq_mod b 6

theorem lemma_dec2 (b0 b1 : Nat) : ((b0 &&& 0x1F) <<< 6) ||| (b1 &&& 0x3F) = (b0 % 32) * 64 + b1 % 64 := by
  rw [lemma_m3F, Nat.and_two_pow_sub_one_eq_mod _ 5, lemma_or6 _ _ (Nat.mod_lt _ (by omega))]

theorem lemma_dec3 (b0 b1 b2 : Nat) :
    ((b0 &&& 0x0F) <<< 12) ||| ((b1 &&& 0x3F) <<< 6) ||| (b2 &&& 0x3F) = (b0 % 16) * 4096 + (b1 % 64) * 64 + b2 % 64 := by
  rw [lemma_m3F, lemma_m3F, Nat.and_two_pow_sub_one_eq_mod _ 4]
  have e : (b0 % 16) <<< 12 = ((b0 % 16) <<< 6) <<< 6 := by rw [← Nat.shiftLeft_add]
  rw [e, ← Nat.shiftLeft_or_distrib, lemma_or6 _ _ (Nat.mod_lt _ (by omega)), lemma_or6 _ _ (Nat.mod_lt _ (by omega))]
  omega

theorem lemma_dec4 (b0 b1 b2 b3 : Nat) :
    ((b0 &&& 0x07) <<< 18) ||| ((b1 &&& 0x3F) <<< 12) ||| ((b2 &&& 0x3F) <<< 6) ||| (b3 &&& 0x3F) =
      (b0 % 8) * 262144 + (b1 % 64) * 4096 + (b2 % 64) * 64 + b3 % 64 := by
  rw [lemma_m3F, lemma_m3F, lemma_m3F, Nat.and_two_pow_sub_one_eq_mod _ 3]
  have e1 : (b0 % 8) <<< 18 = (((b0 % 8) <<< 6) <<< 6) <<< 6 := by rw [← Nat.shiftLeft_add, ← Nat.shiftLeft_add]
  have e2 : (b1 % 64) <<< 12 = ((b1 % 64) <<< 6) <<< 6 := by rw [← Nat.shiftLeft_add]
  rw [e1, e2, ← Nat.shiftLeft_or_distrib, ← Nat.shiftLeft_or_distrib, ← Nat.shiftLeft_or_distrib,
    lemma_or6 _ _ (Nat.mod_lt _ (by omega)), lemma_or6 _ _ (Nat.mod_lt _ (by omega)), lemma_or6 _ _ (Nat.mod_lt _ (by omega))]
  omega

theorem lemma_isCont (b : Nat) (h : isCont b = true) : 0x80 ≤ b ∧ b ≤ 0xBF := by
  simpa [isCont] using h

theorem lemma_cont_mod (b : Nat) (h : isCont b = true) : b % 64 = b - 0x80 := by
  have := lemma_isCont b h
  omega

theorem lemma_decode2 (b b1 : Nat) (r1 : List Nat) (hb : 0xC2 ≤ b ∧ b ≤ 0xDF) (h1 : isCont b1 = true) :
    decodeRune (b :: b1 :: r1) = ((b - 0xC0) * 64 + (b1 - 0x80), 2) ∧ (b - 0xC0) * 64 + (b1 - 0x80) ≤ 0x7FF := by
  refine ⟨?_, by have := lemma_isCont b1 h1; omega⟩
  have hm := lemma_masks b (by omega)
  have h128 : ¬ b < 128 := by omega
  have hm1 : (b &&& 0xE0 == 0xC0) = true := by rw [hm.1]; simp; omega
  simp only [decodeRune, h128, if_false, hm1, if_true]
  rw [lemma_dec2, lemma_cont_mod b1 h1, show b % 32 = b - 0xC0 by omega]

theorem lemma_decode3 (b b1 b2 : Nat) (r2 : List Nat) (hb : 0xE0 ≤ b ∧ b ≤ 0xEF) (h1 : isCont b1 = true)
    (h2 : isCont b2 = true) :
    decodeRune (b :: b1 :: b2 :: r2) = ((b - 0xE0) * 4096 + (b1 - 0x80) * 64 + (b2 - 0x80), 3) ∧
      (b - 0xE0) * 4096 + (b1 - 0x80) * 64 + (b2 - 0x80) ≤ 0xFFFF := by
  refine ⟨?_, by have := lemma_isCont b1 h1; have := lemma_isCont b2 h2; omega⟩
  have hm := lemma_masks b (by omega)
  have h128 : ¬ b < 128 := by omega
  have hm1 : (b &&& 0xE0 == 0xC0) = false := by rw [hm.1]; simp; omega
  have hm2 : (b &&& 0xF0 == 0xE0) = true := by rw [hm.2.1]; simp; omega
  simp only [decodeRune, h128, if_false, hm1, hm2, if_true, Bool.false_eq_true]
  rw [lemma_dec3, lemma_cont_mod b1 h1, lemma_cont_mod b2 h2, show b % 16 = b - 0xE0 by omega]

theorem lemma_decode4 (b b1 b2 b3 : Nat) (r3 : List Nat) (hb : 0xF0 ≤ b ∧ b ≤ 0xF4) (h1 : isCont b1 = true)
    (h2 : isCont b2 = true) (h3 : isCont b3 = true) :
    decodeRune (b :: b1 :: b2 :: b3 :: r3) =
      ((b - 0xF0) * 262144 + (b1 - 0x80) * 4096 + (b2 - 0x80) * 64 + (b3 - 0x80), 4) := by
  have hm := lemma_masks b (by omega)
  have h128 : ¬ b < 128 := by omega
  have hm1 : (b &&& 0xE0 == 0xC0) = false := by rw [hm.1]; simp; omega
  have hm2 : (b &&& 0xF0 == 0xE0) = false := by rw [hm.2.1]; simp; omega
  have hm3 : (b &&& 0xF8 == 0xF0) = true := by rw [hm.2.2]; simp; omega
  simp only [decodeRune, h128, if_false, hm1, hm2, hm3, if_true, Bool.false_eq_true]
  rw [lemma_dec4, lemma_cont_mod b1 h1, lemma_cont_mod b2 h2, lemma_cont_mod b3 h3, show b % 8 = b - 0xF0 by omega]

/-- on a well-formed multi-byte sequence (the oracle's `utf8Head`) the escaper's `decodeRune` finds the same scalar and
    length. By lead byte, two, three, four bytes: `utf8Head`'s own tests of the continuation bytes are the hypotheses of
    `lemma_decode2/3/4`, and its range tests give the bound on `r` -/
theorem lemma_decode_valid (b : Nat) (rest : List Nat) (r n : Nat) (h : utf8Head (b :: rest) = some (r, n)) :
    decodeRune (b :: rest) = (r, n) ∧ 2 ≤ n ∧ n ≤ rest.length + 1 ∧ r ≤ 0x10FFFF := by
  rcases rest with _ | ⟨b1, r1⟩
  · cases h
  simp only [utf8Head] at h
  by_cases hb2 : (0xC2 ≤ b && b ≤ 0xDF) = true
  · rw [if_pos hb2] at h
    simp only [Bool.and_eq_true, decide_eq_true_eq] at hb2
    by_cases hc : isCont b1 = true
    · rw [if_pos hc, Option.some.injEq, Prod.mk.injEq] at h
      obtain ⟨rfl, rfl⟩ := h
      obtain ⟨hd, hle⟩ := lemma_decode2 b b1 r1 hb2 hc
      exact ⟨hd, Nat.le_refl _, by simp, Nat.le_trans hle (by decide)⟩
    · rw [if_neg hc] at h; cases h
  rw [if_neg hb2] at h
  rcases r1 with _ | ⟨b2, r2⟩
  · cases h
  dsimp only at h
  by_cases hb3 : (0xE0 ≤ b && b ≤ 0xEF) = true
  · rw [if_pos hb3] at h
    simp only [Bool.and_eq_true, decide_eq_true_eq] at hb3
    split at h
    · rename_i hc
      rw [Option.some.injEq, Prod.mk.injEq] at h
      obtain ⟨rfl, rfl⟩ := h
      simp only [Bool.and_eq_true] at hc
      obtain ⟨hd, hle⟩ := lemma_decode3 b b1 b2 r2 hb3 hc.1.1.1 hc.1.1.2
      exact ⟨hd, by decide, by simp, Nat.le_trans hle (by decide)⟩
    · cases h
  rw [if_neg hb3] at h
  rcases r2 with _ | ⟨b3, r3⟩
  · cases h
  dsimp only at h
  by_cases hb4 : (0xF0 ≤ b && b ≤ 0xF4) = true
  · rw [if_pos hb4] at h
    simp only [Bool.and_eq_true, decide_eq_true_eq] at hb4
    split at h
    · rename_i hc
      rw [Option.some.injEq, Prod.mk.injEq] at h
      obtain ⟨rfl, rfl⟩ := h
      simp only [Bool.and_eq_true, decide_eq_true_eq] at hc
      exact ⟨lemma_decode4 b b1 b2 b3 r3 hb4 hc.1.1.1.1 hc.1.1.1.2 hc.1.1.2, by decide, by simp, hc.2⟩
    · cases h
  · rw [if_neg hb4] at h; cases h

theorem lemma_units_u4 (n : Nat) (Y : List Nat) (h : n < 65536) : units (u4 n ++ Y) = (units Y).map (n :: ·) := by
  simp only [u4, List.cons_append, List.nil_append]
  rw [lemma_units_cons]
  simp only [unitsStep, beq_self_eq_true, if_true]
  rw [lemma_hexVal_hexDigit _ (Nat.mod_lt _ (by omega)), lemma_hexVal_hexDigit _ (Nat.mod_lt _ (by omega)),
    lemma_hexVal_hexDigit _ (Nat.mod_lt _ (by omega)), lemma_hexVal_hexDigit _ (Nat.mod_lt _ (by omega))]
  dsimp only
  -- the four hex digits of `n`, recombined; the digit equations spare `omega` the search
  have e1 := Nat.mod_mul (x := n) (a := 16) (b := 16)
  have e2 := Nat.mod_mul (x := n) (a := 256) (b := 16)
  have e3 := Nat.mod_mul (x := n) (a := 4096) (b := 16)
  have e4 := Nat.mod_eq_of_lt h
  have : n / 4096 % 16 * 4096 + n / 256 % 16 * 256 + n / 16 % 16 * 16 + n % 16 = n := by omega
  rw [this]

theorem lemma_units_escRune (r : Nat) (Y : List Nat) (h : r ≤ 0x10FFFF) :
    units (escRune r ++ Y) = (units Y).map (utf16 r ++ ·) := by
  unfold escRune
  by_cases hb : r ≤ 0xFFFF
  · simp only [hb, if_true]
    rw [lemma_units_u4 r Y (by omega)]
    have : utf16 r = [r] := by unfold utf16; simp; omega
    rw [this]; rfl
  · simp only [hb, if_false]
    obtain ⟨_, h1, h2, h3, h4, h5⟩ := lemma_surrogate r (by omega) h
    rw [List.append_assoc, lemma_units_u4 _ _ (by omega), lemma_units_u4 _ _ (by omega), h5]
    cases units Y <;> rfl

theorem lemma_hexVal_ascii (c v : Nat) (h : hexVal c = some v) : c < 128 := by
  unfold hexVal at h
  split at h
  · omega
  · split at h
    · omega
    · split at h
      · omega
      · simp at h

theorem lemma_simpleEscape_ascii (c u : Nat) (h : simpleEscape c = some u) : c < 128 ∧ c ≠ 117 := by
  by_cases hm : c ∈ [34, 92, 47, 98, 102, 110, 114, 116]
  · simp only [List.mem_cons, List.not_mem_nil, or_false] at hm
    omega
  · simp only [List.mem_cons, List.not_mem_nil, or_false, not_or] at hm
    simp [simpleEscape, hm] at h

theorem lemma_units_simple (c u : Nat) (Y : List Nat) (hu : simpleEscape c = some u) :
    units (92 :: c :: Y) = (units Y).map (u :: ·) := by
  rw [lemma_units_cons]
  unfold unitsStep
  simp only [beq_self_eq_true, if_true]
  split
  · rename_i heq
    simp only [List.cons.injEq] at heq
    exact absurd heq.1 (lemma_simpleEscape_ascii c u hu).2
  · rename_i heq
    simp only [List.cons.injEq] at heq
    obtain ⟨rfl, rfl⟩ := heq
    simp only [hu]
  · rename_i heq; simp at heq

/-- on a text that lexes, escaping changes nothing for the lexer: ASCII is copied, and a well-formed UTF-8 sequence
    becomes the `\u` escapes of its UTF-16 units -/
theorem lemma_units_escape (l : List Nat) (h : (units l).isSome = true) : units (escape l) = units l := by
  induction hn : l.length using Nat.strongRecOn generalizing l with
  | _ n ih =>
    cases l with
    | nil => rfl
    | cons b rest =>
      have ih' : ∀ r : List Nat, r.length ≤ rest.length → (units r).isSome = true → units (escape r) = units r :=
        fun r hr hs => ih r.length (by simp at hn; omega) r hs rfl
      rw [lemma_units_cons] at h
      unfold unitsStep at h
      by_cases hb : (b == 92) = true
      · have hb' : b = 92 := by simpa using hb
        subst hb'
        simp only [beq_self_eq_true, if_true] at h
        split at h
        · -- \uXXXX
          rename_i h1 h2 h3 h4 r
          split at h
          · rename_i a b' c d e1 e2 e3 e4
            rw [lemma_escape_ascii _ _ (by omega), lemma_escape_ascii _ _ (by omega),
              lemma_escape_ascii _ _ (lemma_hexVal_ascii _ _ e1), lemma_escape_ascii _ _ (lemma_hexVal_ascii _ _ e2),
              lemma_escape_ascii _ _ (lemma_hexVal_ascii _ _ e3), lemma_escape_ascii _ _ (lemma_hexVal_ascii _ _ e4),
              lemma_units_cons, lemma_units_cons]
            simp only [unitsStep, beq_self_eq_true, if_true, e1, e2, e3, e4,
              ih' r (by simp only [List.length_cons]; omega) (by simpa using h)]
          · cases h
        · -- two-character escape
          rename_i c r hnot
          split at h
          · rename_i u hu
            rw [lemma_escape_ascii _ _ (by omega), lemma_escape_ascii _ _ (lemma_simpleEscape_ascii c u hu).1,
              lemma_units_simple c u _ hu, lemma_units_simple c u _ hu,
              ih' r (by simp only [List.length_cons]; omega) (by simpa using h)]
          · cases h
        · cases h
      · simp only [hb, if_false, Bool.false_eq_true] at h
        by_cases h128 : b < 128
        · simp only [h128, if_true] at h
          rw [lemma_escape_ascii _ _ h128, lemma_units_cons, lemma_units_cons]
          simp only [unitsStep, hb, if_false, Bool.false_eq_true, h128, if_true, ih' rest (Nat.le_refl _) (by simpa using h)]
        · simp only [h128, if_false] at h
          split at h
          · rename_i r n hu
            obtain ⟨hd, hn2, hnl, hr⟩ := lemma_decode_valid b rest r n hu
            have hge : b ≥ 128 := Nat.le_of_not_lt h128
            have hpos : n > 0 := by omega
            rw [lemma_escape_cons, lemma_units_cons]
            simp only [escapeStep, unitsStep, hge, hd, hpos, hb, h128, hu, if_true, if_false, Bool.false_eq_true]
            rw [lemma_units_escRune r _ hr, ih' _ (by simp only [List.length_drop]; omega) (by simpa using h)]
          · cases h

end Rivaas.C19
