import Rivaas.Spec.Compose
/-
Index-free characterisations of the script look-ups of `Spec/Compose.lean` (used by the soundness
proof of the composition model): "middleware attached before / after time `t`" is a `filterMap`
over `script.take t` / `script.drop (t+1)`; a creating op `t` with `g` creating ops before it is the
one `nthIdx` finds for the `g`-th object of the class.
-/
namespace Rivaas.Compose

def indexedFrom {α} (k : Nat) (l : List α) : List (Nat × α) := (l.zipIdx k).map fun (a, i) => (i, a)

theorem indexed_eq_from {α} (l : List α) : indexed l = indexedFrom 0 l := rfl

@[simp] theorem indexedFrom_nil {α} (k : Nat) : indexedFrom k ([] : List α) = [] := rfl

@[simp] theorem indexedFrom_cons {α} (k : Nat) (a : α) (l : List α) :
    indexedFrom k (a :: l) = (k, a) :: indexedFrom (k + 1) l := by
  simp [indexedFrom, List.zipIdx_cons]

variable (sel : Op → Option (List Hid))

/-- the list `xs` of `splitAt`, with positions counted from `k` -/
def stamped (k : Nat) (l : List Op) : List (Nat × List Hid) :=
  (indexedFrom k l).filterMap fun (i, op) => (sel op).map fun hs => (i, hs)

@[simp] theorem stamped_nil (k : Nat) : stamped sel k [] = [] := rfl

theorem stamped_cons (k : Nat) (a : Op) (l : List Op) :
    stamped sel k (a :: l) = ((sel a).map fun hs => (k, hs)).toList ++ stamped sel (k + 1) l := by
  simp only [stamped, indexedFrom_cons, List.filterMap_cons]
  cases sel a <;> simp

theorem stamped_append (k : Nat) (a b : List Op) :
    stamped sel k (a ++ b) = stamped sel k a ++ stamped sel (k + a.length) b := by
  simp only [stamped, indexedFrom, List.zipIdx_append, List.map_append, List.filterMap_append]

theorem stamped_bounds (k : Nat) (l : List Op) : ∀ p ∈ stamped sel k l, k ≤ p.1 ∧ p.1 < k + l.length := by
  intro p hp
  simp only [stamped, indexedFrom, List.mem_filterMap, List.mem_map] at hp
  obtain ⟨_, ⟨x, hx, rfl⟩, hq⟩ := hp
  cases hs : sel x.1 <;> simp [hs] at hq
  subst hq
  exact ⟨List.le_snd_of_mem_zipIdx hx, List.snd_lt_add_of_mem_zipIdx hx⟩

theorem stamped_snd (k : Nat) (l : List Op) : (stamped sel k l).map (·.2) = l.filterMap sel := by
  induction l generalizing k with
  | nil => rfl
  | cons a l ih => rw [stamped_cons, List.map_append, ih, List.filterMap_cons]; cases sel a <;> rfl

/-- The stamps are the positions in the script. Split the script at `t`: the stamps of `take t` are all below `t`, those
    of `drop t` are not; split it at `t + 1`: the stamps of `drop (t + 1)` are all above `t`, those of `take (t + 1)` are not. -/
theorem splitAt_eq (script : List Op) (t : Nat) :
    splitAt script sel t = (((script.take t).filterMap sel).flatten, ((script.drop (t + 1)).filterMap sel).flatten) := by
  have hb := stamped_bounds sel
  have h1 : ((stamped sel 0 script).filter (·.1 < t)).map (·.2) = (script.take t).filterMap sel := by
    conv => lhs; rw [← List.take_append_drop t script, stamped_append, List.filter_append]
    rw [List.filter_eq_self.mpr, List.filter_eq_nil_iff.mpr, List.append_nil, stamped_snd]
    · intro p hp; have := hb _ _ p hp; simp only [List.length_take, List.length_drop] at this; simp; omega
    · intro p hp; have := hb _ _ p hp; simp only [List.length_take] at this; simp; omega
  have h2 : ((stamped sel 0 script).filter (·.1 > t)).map (·.2) = (script.drop (t + 1)).filterMap sel := by
    conv => lhs; rw [← List.take_append_drop (t + 1) script, stamped_append, List.filter_append]
    rw [List.filter_eq_nil_iff.mpr, List.filter_eq_self.mpr, List.nil_append, stamped_snd]
    · intro p hp; have := hb _ _ p hp; simp only [List.length_take, List.length_drop] at this; simp; omega
    · intro p hp; have := hb _ _ p hp; simp only [List.length_take] at this; simp; omega
  show ((((stamped sel 0 script).filter (·.1 < t)).map (·.2)).flatten,
    (((stamped sel 0 script).filter (·.1 > t)).map (·.2)).flatten) = _
  rw [h1, h2]

/-! ### the `g`-th created object -/

variable (isC : Op → Bool)

theorem filter_indexedFrom_getElem (l : List Op) (k t : Nat) (h : t < l.length) (hc : isC l[t] = true) :
    ((indexedFrom k l).filter fun p => isC p.2)[((l.take t).filter isC).length]? = some (k + t, l[t]) := by
  induction l generalizing k t with
  | nil => simp at h
  | cons a l ih =>
    cases t with
    | zero =>
      simp only [List.take_zero, List.filter_nil, List.length_nil, indexedFrom_cons, List.getElem_cons_zero] at hc ⊢
      simp [hc]
    | succ t =>
      simp only [List.length_cons, Nat.add_lt_add_iff_right] at h
      simp only [List.getElem_cons_succ] at hc
      have := ih (k + 1) t h hc
      rw [show k + 1 + t = k + (t + 1) by omega] at this
      simp only [indexedFrom_cons, List.take_succ_cons, List.filter_cons, List.getElem_cons_succ]
      cases ha : isC a
      · simpa using this
      · simpa using this

theorem nthIdx_of_created (script : List Op) {t : Nat} {op : Op} (h : script[t]? = some op) (hc : isC op = true) :
    nthIdx script isC (cnt isC script t) = some t := by
  obtain ⟨hl, rfl⟩ := List.getElem?_eq_some_iff.mp h
  have := filter_indexedFrom_getElem isC script 0 t hl hc
  simp only [nthIdx, indexed_eq_from, cnt]
  rw [show ((indexedFrom 0 script).filter fun x => match x with | (_, op) => isC op) =
      (indexedFrom 0 script).filter fun p => isC p.2 from rfl, this]
  simp

theorem cnt_succ (script : List Op) (t : Nat) (h : t < script.length) :
    cnt isC script (t + 1) = cnt isC script t + (if isC script[t] then 1 else 0) := by
  simp only [cnt, List.take_add_one, List.getElem?_eq_getElem h, Option.toList_some, List.filter_append,
    List.length_append]
  cases hc : isC script[t] <;> simp [hc]

theorem cnt_mono (script : List Op) (a b : Nat) (h : a ≤ b) : cnt isC script a ≤ cnt isC script b :=
  ((List.take_sublist_take_left h).filter isC).length_le

theorem cnt_lt_of_created (script : List Op) {a b : Nat} {op : Op}
    (ha : script[a]? = some op) (hc : isC op = true) (hab : a < b) : cnt isC script a < cnt isC script b := by
  obtain ⟨hal, rfl⟩ := List.getElem?_eq_some_iff.mp ha
  have h1 := cnt_succ isC script a hal
  rw [hc, if_pos rfl] at h1
  have h2 := cnt_mono isC script (a + 1) b hab
  omega

end Rivaas.Compose
