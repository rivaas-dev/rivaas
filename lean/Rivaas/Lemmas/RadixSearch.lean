import Rivaas.Lemmas.RadixParams
/-
C01: the descent of `getRoute` with backtracking (`(*node).descend`: `walkGen` with its three as-shipped flags off)
seen as a search among the registered entries that pass through a node. Two inductions over the segments carry the
file and are what RadixTree uses: `walk_complete` (if the node of some candidate accepts, the search answers) and
`walk_prio` (what it answers is an accepting candidate that no accepting candidate beats segment-wise). `walk_some`
(soundness alone) and `walk_max` (the three as one equation) are corollaries that nothing later uses.
-/
namespace Rivaas.RadixL
open Rivaas.Route Rivaas.Radix Rivaas.Match

abbrev St := Ctx × List (Bytes × Bytes)

/-- what `(*node).accepts` answers at the node reached by following `suf` from `cur` over `segs` -/
def accAt (sat : Nat → Bytes → Bool) (ns : Nodes) (trail : Bool) (cur : Key) (st : St) (suf : Pat) (segs : List Bytes) : Option (Leaf × Ctx) :=
  acceptsGen false sat
    (if endsWild suf then (getK ns (cur ++ ekeys suf)).wild else (getK ns (cur ++ ekeys suf)).leaf)
    (pushAllT st (pushesFor ns trail cur suf segs))

def nextB (sat : Nat → Bytes → Bool) (ns : Nodes) (trail : Bool) (rest : List Bytes) (cur1 : Key) (st1 : St) : Option (Leaf × Ctx) :=
  if rest.isEmpty && !trail then acceptsGen false sat (getK ns cur1).leaf st1
  else walkGen false false false sat ns trail cur1 st1 rest

def altS (sat : Nat → Bytes → Bool) (ns : Nodes) (trail : Bool) (cur : Key) (st : St) (seg : Bytes) (rest : List Bytes) : Option (Leaf × Ctx) :=
  if hasK ns (cur ++ [ESeg.s seg]) then nextB sat ns trail rest (cur ++ [ESeg.s seg]) st else none

def altP (sat : Nat → Bytes → Bool) (ns : Nodes) (trail : Bool) (cur : Key) (st : St) (seg : Bytes) (rest : List Bytes) : Option (Leaf × Ctx) :=
  match (getK ns cur).pname with
  | some key => nextB sat ns trail rest (cur ++ [ESeg.p]) (pushT st key seg)
  | none => none

def altW (sat : Nat → Bytes → Bool) (ns : Nodes) (trail : Bool) (cur : Key) (st : St) (seg : Bytes) (rest : List Bytes) : Option (Leaf × Ctx) :=
  match (getK ns cur).wild with
  | some lf => acceptsGen false sat (some lf) (pushT st wildParam (restOfPath (seg :: rest) trail))
  | none => none

theorem walk_cons (sat : Nat → Bytes → Bool) (ns : Nodes) (trail : Bool) (cur : Key) (st : St) (seg : Bytes) (rest : List Bytes) :
    walkGen false false false sat ns trail cur st (seg :: rest) =
      (altS sat ns trail cur st seg rest).or ((altP sat ns trail cur st seg rest).or (altW sat ns trail cur st seg rest)) := by
  have h : walkGen false false false sat ns trail cur st (seg :: rest) =
      match altS sat ns trail cur st seg rest with
      | some r => some r
      | none =>
        match altP sat ns trail cur st seg rest with
        | some r => some r
        | none => altW sat ns trail cur st seg rest := by
    simp only [walkGen, altS, altP, altW, nextB, Bool.false_eq_true, if_false]
    rfl
  rw [h]
  cases altS sat ns trail cur st seg rest with
  | some r => rfl
  | none => cases altP sat ns trail cur st seg rest <;> rfl

/-- an entry of `L` passes through the node `cur` with the rest `suf` of its pattern, which matches `segs` -/
structure Cand (L : List Entry) (trail : Bool) (cur : Key) (segs : List Bytes) (e : Entry) (suf : Pat) : Prop where
  mem : e ∈ L
  str : strip e.pat cur = some suf
  mat : (matchPat trail suf segs).isSome = true

theorem accAt_lit (sat : Nat → Bytes → Bool) (ns : Nodes) (trail : Bool) (cur : Key) (st : St) (x : Bytes) (as : Pat) (rest : List Bytes) :
    accAt sat ns trail cur st (PSeg.lit x :: as) (x :: rest) = accAt sat ns trail (cur ++ [ESeg.s x]) st as rest := by
  unfold accAt
  rw [endsWild_cons _ _ (by simp), ekeys_cons rfl]
  simp only [pushesFor, List.append_assoc, List.singleton_append]

theorem accAt_par {ns : Nodes} {cur : Key} {key : Bytes} (hp : (getK ns cur).pname = some key) (sat : Nat → Bytes → Bool)
    (trail : Bool) (st : St) (n x : Bytes) (as : Pat) (rest : List Bytes) :
    accAt sat ns trail cur st (PSeg.par n :: as) (x :: rest) = accAt sat ns trail (cur ++ [ESeg.p]) (pushT st key x) as rest := by
  unfold accAt
  rw [endsWild_cons _ _ (by simp), ekeys_cons rfl]
  simp only [pushesFor, hp, Option.getD_some, pushAllT_cons, List.append_assoc, List.singleton_append]

theorem accAt_wild (sat : Nat → Bytes → Bool) (ns : Nodes) (trail : Bool) (cur : Key) (st : St) (x : Bytes) (rest : List Bytes) :
    accAt sat ns trail cur st [PSeg.wild] (x :: rest) =
      acceptsGen false sat (getK ns cur).wild (pushT st wildParam (restOfPath (x :: rest) trail)) := by
  unfold accAt
  simp [endsWild, ekeys, ekey, List.filterMap, pushesFor, pushAllT]

theorem accAt_nil (sat : Nat → Bytes → Bool) (ns : Nodes) (trail : Bool) (cur : Key) (st : St) :
    accAt sat ns trail cur st [] [] = acceptsGen false sat (getK ns cur).leaf st := by
  unfold accAt
  simp [endsWild, ekeys, pushesFor, pushAllT]

theorem matchPat_lit_cons (trail : Bool) (x : Bytes) (as : Pat) (rest : List Bytes) :
    matchPat trail (PSeg.lit x :: as) (x :: rest) = matchPat trail as rest := by
  rw [matchPat_lit, if_pos rfl]

theorem matchPat_par_cons_isSome (trail : Bool) (n x : Bytes) (as : Pat) (rest : List Bytes) :
    (matchPat trail (PSeg.par n :: as) (x :: rest)).isSome = (matchPat trail as rest).isSome := by
  rw [matchPat_par, Option.isSome_map]

def SoundOn (sat : Nat → Bytes → Bool) (L : List Entry) (trail : Bool) (rest : List Bytes) : Prop :=
  ∀ (cur : Key) (st : St) (res : Leaf × Ctx), walkGen false false false sat (nodesOf L) trail cur st rest = some res →
    ∃ e suf, Cand L trail cur rest e suf ∧ accAt sat (nodesOf L) trail cur st suf rest = some res

theorem altW_some {sat : Nat → Bytes → Bool} {L : List Entry} (hL : ∀ e ∈ L, e.ok) {trail : Bool} {rest : List Bytes}
    {cur : Key} {st : St} {seg : Bytes} {res : Leaf × Ctx}
    (h : altW sat (nodesOf L) trail cur st seg rest = some res) :
    ∃ e, Cand L trail cur (seg :: rest) e [PSeg.wild] ∧
      accAt sat (nodesOf L) trail cur st [PSeg.wild] (seg :: rest) = some res := by
  unfold altW at h
  cases hw : (getK (nodesOf L) cur).wild with
  | none => simp [hw] at h
  | some lf =>
    simp only [hw] at h
    obtain ⟨e, he, hew, rfl⟩ := slot_entry L hL cur true lf hw
    have hs := e.strip_end (hL e he)
    rw [hew] at hs
    refine ⟨e, ⟨he, hs, rfl⟩, ?_⟩
    rw [accAt_wild, hw]; exact h

theorem better_lit_lit (x : Bytes) (a b : Pat) : better (PSeg.lit x :: a) (PSeg.lit x :: b) = better a b := rfl

theorem better_par_par (n m : Bytes) (a b : Pat) : better (PSeg.par n :: a) (PSeg.par m :: b) = better a b := rfl

def MaxAcc (sat : Nat → Bytes → Bool) (L : List Entry) (trail : Bool) (cur : Key) (st : St) (segs : List Bytes) (suf : Pat) : Prop :=
  ∀ e' suf', Cand L trail cur segs e' suf' → (accAt sat (nodesOf L) trail cur st suf' segs).isSome = true → better suf' suf = false

def FindsOn (sat : Nat → Bytes → Bool) (L : List Entry) (trail : Bool) (rest : List Bytes) : Prop :=
  ∀ (cur : Key) (st : St) (e : Entry) (suf : Pat), Cand L trail cur rest e suf →
    (accAt sat (nodesOf L) trail cur st suf rest).isSome = true →
    (walkGen false false false sat (nodesOf L) trail cur st rest).isSome = true

theorem next_finds {sat : Nat → Bytes → Bool} {L : List Entry} {trail : Bool} {rest : List Bytes}
    (ih : rest ≠ [] → FindsOn sat L trail rest)
    {cur1 : Key} {st1 : St} {e : Entry} {as : Pat} (hc : Cand L trail cur1 rest e as)
    (hacc : (accAt sat (nodesOf L) trail cur1 st1 as rest).isSome = true) :
    (nextB sat (nodesOf L) trail rest cur1 st1).isSome = true := by
  cases rest with
  | nil =>
    obtain ⟨rfl, rfl⟩ := matchPat_nil_segs trail as hc.mat
    rw [accAt_nil] at hacc
    exact hacc
  | cons x xs => exact ih (by simp) cur1 st1 e as hc hacc

theorem altS_finds {sat : Nat → Bytes → Bool} {L : List Entry} (hL : ∀ e ∈ L, e.ok) {trail : Bool} {rest : List Bytes}
    (ih : rest ≠ [] → FindsOn sat L trail rest) {cur : Key} {st : St} {x : Bytes} {e : Entry} {as : Pat}
    (hc : Cand L trail cur (x :: rest) e (PSeg.lit x :: as))
    (hacc : (accAt sat (nodesOf L) trail cur st (PSeg.lit x :: as) (x :: rest)).isSome = true) :
    (altS sat (nodesOf L) trail cur st x rest).isSome = true := by
  have hm' : (matchPat trail as rest).isSome = true := by
    have := hc.mat; rw [matchPat_lit_cons] at this; exact this
  have hstr : strip e.pat (cur ++ [ESeg.s x]) = some as := strip_down hc.str rfl
  have hk : hasK (nodesOf L) (cur ++ [ESeg.s x]) = true := (nodesOf_path L hL hc.mem cur _ _ _ hc.str rfl).1
  simp only [altS, hk, if_true]
  apply next_finds ih ⟨hc.mem, hstr, hm'⟩
  rw [← accAt_lit]; exact hacc

theorem pname_of_cand {L : List Entry} (hL : ∀ e ∈ L, e.ok) {cur : Key} {e : Entry} {n : Bytes} {as : Pat}
    (hmem : e ∈ L) (hstr : strip e.pat cur = some (PSeg.par n :: as)) :
    ∃ key, (getK (nodesOf L) cur).pname = some key :=
  Option.isSome_iff_exists.mp ((nodesOf_path L hL hmem cur _ _ _ hstr rfl).2 n rfl)

theorem altP_finds {sat : Nat → Bytes → Bool} {L : List Entry} (hL : ∀ e ∈ L, e.ok) {trail : Bool} {rest : List Bytes}
    (ih : rest ≠ [] → FindsOn sat L trail rest) {cur : Key} {st : St} {x n : Bytes} {e : Entry} {as : Pat}
    (hc : Cand L trail cur (x :: rest) e (PSeg.par n :: as))
    (hacc : (accAt sat (nodesOf L) trail cur st (PSeg.par n :: as) (x :: rest)).isSome = true) :
    (altP sat (nodesOf L) trail cur st x rest).isSome = true := by
  have hm' : (matchPat trail as rest).isSome = true := by
    have := hc.mat; rw [matchPat_par_cons_isSome] at this; exact this
  have hstr : strip e.pat (cur ++ [ESeg.p]) = some as := strip_down hc.str rfl
  obtain ⟨key, hp⟩ := pname_of_cand hL hc.mem hc.str
  simp only [altP, hp]
  apply next_finds ih ⟨hc.mem, hstr, hm'⟩
  rw [← accAt_par hp _ _ _ n]; exact hacc

theorem some_or_isSome {α} (a : Option α) (b : Option α) (h : a.isSome = true) :
    (match a with | some r => some r | none => b).isSome = true := by
  cases a with
  | none => simp at h
  | some v => rfl

theorem walk_complete (sat : Nat → Bytes → Bool) (L : List Entry) (hL : ∀ e ∈ L, e.ok) (trail : Bool) (segs : List Bytes) (hne : segs ≠ []) :
    FindsOn sat L trail segs := by
  induction segs with
  | nil => exact absurd rfl hne
  | cons seg rest ih =>
    intro cur st e suf hc hacc
    rw [walk_cons, Option.isSome_or, Option.isSome_or]
    rcases MatchL.matchPat_cons_inv trail suf seg rest hc.mat with rfl | ⟨as, rfl, _⟩ | ⟨n, as, rfl, _⟩
    · have hW : (altW sat (nodesOf L) trail cur st seg rest).isSome = true := by
        rw [accAt_wild] at hacc
        cases hw : (getK (nodesOf L) cur).wild with
        | none => rw [hw] at hacc; simp [acceptsGen] at hacc
        | some lf => rw [hw] at hacc; simp only [altW, hw]; exact hacc
      rw [hW, Bool.or_true, Bool.or_true]
    · rw [altS_finds hL ih hc hacc, Bool.true_or]
    · rw [altP_finds hL ih hc hacc, Bool.true_or, Bool.or_true]

def PrioOn (sat : Nat → Bytes → Bool) (L : List Entry) (trail : Bool) (rest : List Bytes) : Prop :=
  ∀ (cur : Key) (st : St) (res : Leaf × Ctx), walkGen false false false sat (nodesOf L) trail cur st rest = some res →
    ∃ e suf, Cand L trail cur rest e suf ∧ accAt sat (nodesOf L) trail cur st suf rest = some res ∧
      MaxAcc sat L trail cur st rest suf

theorem next_prio {sat : Nat → Bytes → Bool} {L : List Entry} (hL : ∀ e ∈ L, e.ok) {trail : Bool} {rest : List Bytes}
    (ih : PrioOn sat L trail rest) {cur1 : Key} {st1 : St} {res : Leaf × Ctx}
    (h : nextB sat (nodesOf L) trail rest cur1 st1 = some res) :
    ∃ e suf, Cand L trail cur1 rest e suf ∧ accAt sat (nodesOf L) trail cur1 st1 suf rest = some res ∧
      MaxAcc sat L trail cur1 st1 rest suf := by
  cases rest with
  | cons x xs => exact ih cur1 st1 res h
  | nil =>
    cases trail with
    | true => exact ih cur1 st1 res h
    | false =>
      -- the leaf at the node comes from an entry that ends there; only the empty suffix matches no segments
      have h : acceptsGen false sat (getK (nodesOf L) cur1).leaf st1 = some res := h
      cases hlf : (getK (nodesOf L) cur1).leaf with
      | none => rw [hlf] at h; simp [acceptsGen] at h
      | some lf =>
        obtain ⟨e, he, hw, rfl⟩ := slot_entry L hL cur1 false lf hlf
        have hs := e.strip_end (hL e he)
        rw [hw] at hs
        refine ⟨e, [], ⟨he, hs, rfl⟩, by rw [accAt_nil]; exact h, ?_⟩
        intro e' suf' hc' _
        obtain ⟨rfl, _⟩ := matchPat_nil_segs false suf' hc'.mat
        rfl

theorem walk_prio (sat : Nat → Bytes → Bool) (L : List Entry) (hL : ∀ e ∈ L, e.ok) (trail : Bool) (segs : List Bytes) :
    PrioOn sat L trail segs := by
  induction segs with
  | nil => intro cur st res h; simp [walkGen] at h
  | cons seg rest ih =>
    intro cur st res h
    have hfinds : rest ≠ [] → FindsOn sat L trail rest := fun hr => walk_complete sat L hL trail rest hr
    rw [walk_cons] at h
    cases hS : altS sat (nodesOf L) trail cur st seg rest with
    | some r =>
      rw [hS, Option.some_or] at h
      cases h
      have hk : hasK (nodesOf L) (cur ++ [ESeg.s seg]) = true := by
        cases hh : hasK (nodesOf L) (cur ++ [ESeg.s seg]) with
        | true => rfl
        | false => simp [altS, hh] at hS
      simp only [altS, hk, if_true] at hS
      obtain ⟨e, suf1, hc, hacc, hmax⟩ := next_prio hL ih hS
      obtain ⟨a, hs, hek⟩ := strip_step hc.str
      have ha := ekey_static hek
      subst ha
      refine ⟨e, PSeg.lit seg :: suf1, ⟨hc.mem, hs, by rw [matchPat_lit_cons]; exact hc.mat⟩, by rw [accAt_lit]; exact hacc, ?_⟩
      intro e' suf' hc' hacc'
      rcases MatchL.matchPat_cons_inv trail suf' seg rest hc'.mat with rfl | ⟨as', rfl, hm'⟩ | ⟨n', as', rfl, hm'⟩
      · rfl
      · rw [better_lit_lit]
        apply hmax e' as' ⟨hc'.mem, strip_down hc'.str rfl, hm'⟩
        rw [← accAt_lit]; exact hacc'
      · rfl
    | none =>
      rw [hS, Option.none_or] at h
      have hnoS : ∀ e' as', Cand L trail cur (seg :: rest) e' (PSeg.lit seg :: as') →
          (accAt sat (nodesOf L) trail cur st (PSeg.lit seg :: as') (seg :: rest)).isSome = true → False := by
        intro e' as' hc' hacc'
        have := altS_finds hL hfinds hc' hacc'
        rw [hS] at this; simp at this
      cases hP : altP sat (nodesOf L) trail cur st seg rest with
      | some r =>
        rw [hP, Option.some_or] at h
        cases h
        cases hp : (getK (nodesOf L) cur).pname with
        | none => simp [altP, hp] at hP
        | some key =>
          simp only [altP, hp] at hP
          obtain ⟨e, suf1, hc, hacc, hmax⟩ := next_prio hL ih hP
          obtain ⟨a, hs, hek⟩ := strip_step hc.str
          obtain ⟨n, rfl⟩ := ekey_param hek
          refine ⟨e, PSeg.par n :: suf1, ⟨hc.mem, hs, by rw [matchPat_par_cons_isSome]; exact hc.mat⟩,
            by rw [accAt_par hp]; exact hacc, ?_⟩
          intro e' suf' hc' hacc'
          rcases MatchL.matchPat_cons_inv trail suf' seg rest hc'.mat with rfl | ⟨as', rfl, hm'⟩ | ⟨n', as', rfl, hm'⟩
          · rfl
          · exact absurd (hnoS e' as' hc' hacc') id
          · rw [better_par_par]
            apply hmax e' as' ⟨hc'.mem, strip_down hc'.str rfl, hm'⟩
            rw [← accAt_par hp _ _ _ n']; exact hacc'
      | none =>
        rw [hP, Option.none_or] at h
        obtain ⟨e, hc, hacc⟩ := altW_some hL h
        refine ⟨e, [PSeg.wild], hc, hacc, ?_⟩
        intro e' suf' hc' hacc'
        rcases MatchL.matchPat_cons_inv trail suf' seg rest hc'.mat with rfl | ⟨as', rfl, hm'⟩ | ⟨n', as', rfl, hm'⟩
        · rfl
        · exact absurd (hnoS e' as' hc' hacc') id
        · exfalso
          have := altP_finds hL hfinds hc' hacc'
          rw [hP] at this; simp at this

theorem walk_some (sat : Nat → Bytes → Bool) (L : List Entry) (hL : ∀ e ∈ L, e.ok) (trail : Bool) (segs : List Bytes) :
    SoundOn sat L trail segs := fun cur st res h =>
  let ⟨e, suf, hc, hacc, _⟩ := walk_prio sat L hL trail segs cur st res h
  ⟨e, suf, hc, hacc⟩

def CompleteOn (sat : Nat → Bytes → Bool) (L : List Entry) (trail : Bool) (rest : List Bytes) : Prop :=
  ∀ (cur : Key) (st : St) (e : Entry) (suf : Pat) (res : Leaf × Ctx), Cand L trail cur rest e suf →
    accAt sat (nodesOf L) trail cur st suf rest = some res → MaxAcc sat L trail cur st rest suf →
    walkGen false false false sat (nodesOf L) trail cur st rest = some res

theorem accAt_shape (sat : Nat → Bytes → Bool) (ns : Nodes) (trail : Bool) (cur : Key) (st : St) {a b : Pat}
    (h : shapeEq a b = true) (segs : List Bytes) : accAt sat ns trail cur st a segs = accAt sat ns trail cur st b segs := by
  unfold accAt
  rw [MatchL.shape_congr endsWild_erase h, MatchL.shape_congr ekeys_erase h, pushesFor_shape ns trail cur segs h]

theorem walk_max (sat : Nat → Bytes → Bool) (L : List Entry) (hL : ∀ e ∈ L, e.ok) (trail : Bool) (segs : List Bytes) (hne : segs ≠ []) :
    CompleteOn sat L trail segs := by
  intro cur st e suf res hc hacc hmax
  obtain ⟨res', hw⟩ := Option.isSome_iff_exists.mp (walk_complete sat L hL trail segs hne cur st e suf hc (by rw [hacc]; rfl))
  obtain ⟨e', suf', hc', hacc', hmax'⟩ := walk_prio sat L hL trail segs cur st res' hw
  -- the search found an unbeaten accepting `suf'`; neither of `suf`, `suf'` beats the other, so they have one
  -- shape and name one node
  have hs := MatchL.shapeEq_of_incomparable trail segs suf' suf hc'.mat hc.mat
    (hmax e' suf' hc' (by rw [hacc']; rfl)) (hmax' e suf hc (by rw [hacc]; rfl))
  rw [hw, ← hacc', accAt_shape sat _ trail cur st hs, hacc]

end Rivaas.RadixL
