import Rivaas.Spec.OpenAPI
import Rivaas.Lemmas.OpenAPIAssoc
/-
C07 — helper lemmas: the invariant of schema generation (`gen` / `genFields`): every `$ref` emitted
names a registered component or a struct still on the generation stack, registered names are
well formed, `required` lists have no duplicates; all over arbitrary (recursive) type environments.
-/
namespace Rivaas.OpenAPI

/-! ## a predicate on every node head and every reference of a schema tree -/

mutual
  def Tree.All {α} (P : α → Prop) (Q : B → Prop) : Tree α → Prop
    | .ref r => Q r
    | .node h i p a => P h ∧ OTree.All P Q i ∧ PTree.All P Q p ∧ OTree.All P Q a
  def OTree.All {α} (P : α → Prop) (Q : B → Prop) : OTree α → Prop
    | .none => True
    | .some t => Tree.All P Q t
  def PTree.All {α} (P : α → Prop) (Q : B → Prop) : PTree α → Prop
    | .nil => True
    | .cons _ t rest => Tree.All P Q t ∧ PTree.All P Q rest
end

mutual
  theorem Tree.All.mono {α} {P P' : α → Prop} {Q Q' : B → Prop} (hP : ∀ h, P h → P' h) (hQ : ∀ r, Q r → Q' r) :
      ∀ (t : Tree α), Tree.All P Q t → Tree.All P' Q' t
    | .ref r, h => hQ r h
    | .node _ i p a, h =>
      ⟨hP _ h.1, OTree.All.mono hP hQ i h.2.1, PTree.All.mono hP hQ p h.2.2.1, OTree.All.mono hP hQ a h.2.2.2⟩
  theorem OTree.All.mono {α} {P P' : α → Prop} {Q Q' : B → Prop} (hP : ∀ h, P h → P' h) (hQ : ∀ r, Q r → Q' r) :
      ∀ (t : OTree α), OTree.All P Q t → OTree.All P' Q' t
    | .none, _ => trivial
    | .some t, h => Tree.All.mono hP hQ t h
  theorem PTree.All.mono {α} {P P' : α → Prop} {Q Q' : B → Prop} (hP : ∀ h, P h → P' h) (hQ : ∀ r, Q r → Q' r) :
      ∀ (t : PTree α), PTree.All P Q t → PTree.All P' Q' t
    | .nil, _ => trivial
    | .cons _ t rest, h => ⟨Tree.All.mono hP hQ t h.1, PTree.All.mono hP hQ rest h.2⟩
end

mutual
  theorem Tree.All.refs {α} {P : α → Prop} {Q : B → Prop} :
      ∀ (t : Tree α), Tree.All P Q t → ∀ r ∈ Tree.refs t, Q r
    | .ref _, h => fun _ hr => List.mem_singleton.1 hr ▸ h
    | .node _ i p a, h => fun r hr =>
      (List.mem_append.1 hr).elim
        (fun hr => (List.mem_append.1 hr).elim (OTree.All.refs i h.2.1 r) (PTree.All.refs p h.2.2.1 r))
        (OTree.All.refs a h.2.2.2 r)
  theorem OTree.All.refs {α} {P : α → Prop} {Q : B → Prop} :
      ∀ (t : OTree α), OTree.All P Q t → ∀ r ∈ OTree.refs t, Q r
    | .none, _ => fun _ hr => nomatch hr
    | .some t, h => Tree.All.refs t h
  theorem PTree.All.refs {α} {P : α → Prop} {Q : B → Prop} :
      ∀ (t : PTree α), PTree.All P Q t → ∀ r ∈ PTree.refs t, Q r
    | .nil, _ => fun _ hr => nomatch hr
    | .cons _ t rest, h => fun r hr => (List.mem_append.1 hr).elim (Tree.All.refs t h.1 r) (PTree.All.refs rest h.2 r)
end

theorem Tree.All.modHead {α} {P : α → Prop} {Q : B → Prop} {f : α → α} (hf : ∀ h, P h → P (f h)) :
    ∀ (t : Tree α), Tree.All P Q t → Tree.All P Q (t.modHead f)
  | .ref _, h => h
  | .node _ _ _ _, h => ⟨hf _ h.1, h.2⟩

theorem PTree.All.set {α} {P : α → Prop} {Q : B → Prop} (k : B) (v : Tree α) (hv : Tree.All P Q v) :
    ∀ (p : PTree α), PTree.All P Q p → PTree.All P Q (PTree.set k v p)
  | .nil, _ => ⟨hv, trivial⟩
  | .cons k' v' rest, h => by
    rw [PTree.set]
    split
    · exact ⟨hv, h.2⟩
    · exact ⟨h.1, PTree.All.set k v hv rest h.2⟩

theorem PTree.All.insertSorted {α} {P : α → Prop} {Q : B → Prop} (k : B) (v : Tree α) (hv : Tree.All P Q v) :
    ∀ (p : PTree α), PTree.All P Q p → PTree.All P Q (PTree.insertSorted k v p)
  | .nil, _ => ⟨hv, trivial⟩
  | .cons k' v' rest, h => by
    rw [PTree.insertSorted]
    split
    · exact ⟨hv, h⟩
    · exact ⟨h.1, PTree.All.insertSorted k v hv rest h.2⟩

mutual
  theorem Tree.All.project {α β} {P : α → Prop} {P' : β → Prop} {Q : B → Prop} {f : α → β} (hf : ∀ h, P h → P' (f h)) :
      ∀ (t : Tree α), Tree.All P Q t → Tree.All P' Q (Tree.project f t)
    | .ref _, h => h
    | .node _ i p a, h =>
      ⟨hf _ h.1, OTree.All.project hf i h.2.1, PTree.All.project hf p h.2.2.1, OTree.All.project hf a h.2.2.2⟩
  theorem OTree.All.project {α β} {P : α → Prop} {P' : β → Prop} {Q : B → Prop} {f : α → β} (hf : ∀ h, P h → P' (f h)) :
      ∀ (t : OTree α), OTree.All P Q t → OTree.All P' Q (OTree.project f t)
    | .none, _ => trivial
    | .some t, h => Tree.All.project hf t h
  theorem PTree.All.project {α β} {P : α → Prop} {P' : β → Prop} {Q : B → Prop} {f : α → β} (hf : ∀ h, P h → P' (f h)) :
      ∀ (t : PTree α), PTree.All P Q t → PTree.All P' Q (PTree.project f t)
    | .nil, _ => trivial
    | .cons k t rest, h => PTree.All.insertSorted k _ (Tree.All.project hf t h.1) _ (PTree.All.project hf rest h.2)
end

/-! ## the generation invariant -/

/-- the component name a struct on the generation stack will be registered under -/
def structName (env : Env) (id : Nat) : Option B :=
  match env.lookup id with
  | some (.struct n p _) => if schemaName n p ≠ [] then some (schemaName n p) else none
  | _ => none

def seenNames (env : Env) (seen : List Nat) : List B := seen.filterMap (structName env)

def Schemas.keys (st : Schemas) : List B := st.map (·.1)

/-- the names a reference may use: registered components and structs still being generated -/
def names (env : Env) (seen : List Nat) (st : Schemas) : List B := Schemas.keys st ++ seenNames env seen

def InNames (ns : List B) (r : B) : Prop := ∃ k ∈ ns, r = refPrefix ++ k

/-- no duplicate in `required` at any node, every `$ref` within the given names -/
def Good (ns : List B) (t : IR) : Prop := Tree.All (fun h : Head => h.required.Nodup) (InNames ns) t
def GoodP (ns : List B) (p : PTree Head) : Prop := PTree.All (fun h : Head => h.required.Nodup) (InNames ns) p

theorem Good.mono {ns ns' : List B} (h : ∀ k ∈ ns, k ∈ ns') {t : IR} (g : Good ns t) : Good ns' t :=
  Tree.All.mono (fun _ x => x) (fun _ ⟨k, hk, e⟩ => ⟨k, h k hk, e⟩) t g

theorem GoodP.mono {ns ns' : List B} (h : ∀ k ∈ ns, k ∈ ns') {p : PTree Head} (g : GoodP ns p) : GoodP ns' p :=
  PTree.All.mono (fun _ x => x) (fun _ ⟨k, hk, e⟩ => ⟨k, h k hk, e⟩) p g

/-- the registry invariant: `sg.schemas` while the structs of `seen` are still being generated -/
def Inv (env : Env) (seen : List Nat) (st : Schemas) : Prop :=
  ∀ e ∈ st, nameOK e.1 = true ∧ Good (names env seen st) e.2

theorem hasKey_iff (st : Schemas) (k : B) : hasKey st k = true ↔ k ∈ Schemas.keys st := by
  simp only [hasKey, Schemas.keys, List.any_eq_true, List.mem_map, beq_iff_eq]

theorem good_leaf (ns : List B) (h : Head) (hr : h.required.Nodup) : Good ns (leaf h) := ⟨hr, trivial, trivial, trivial⟩

theorem good_object (ns : List B) : Good ns objectSchema := good_leaf ns _ List.nodup_nil
theorem good_time (ns : List B) : Good ns timeSchema := good_leaf ns _ List.nodup_nil
theorem good_bytes (ns : List B) : Good ns bytesSchema := good_leaf ns _ List.nodup_nil
theorem good_prim (ns : List B) (k : PKind) : Good ns (primSchema k) := by
  cases k <;> exact good_leaf ns _ List.nodup_nil

theorem good_ref (ns : List B) (k : B) (hk : k ∈ ns) : Good ns (refTo k) := ⟨k, hk, rfl⟩

theorem good_objNode {ns : List B} {req : List B} {props : PTree Head} (hr : req.Nodup) (hp : GoodP ns props) :
    Good ns (objNode req props) := ⟨hr, trivial, hp, trivial⟩

theorem Good.modHead {ns : List B} {f : Head → Head} (hf : ∀ h, (f h).required = h.required) {t : IR} (g : Good ns t) :
    Good ns (t.modHead f) :=
  Tree.All.modHead (fun h x => (hf h).symm ▸ x) t g

theorem good_setNullable {ns : List B} {t : IR} (g : Good ns t) : Good ns (setNullable t) :=
  g.modHead (f := fun h => { h with nullable := true }) fun _ => rfl

theorem good_arrayOf {ns : List B} {t : IR} (g : Good ns t) : Good ns (arrayOf t) := ⟨List.nodup_nil, g, trivial, trivial⟩

theorem good_mapOf {ns : List B} {t : IR} (g : Good ns t) : Good ns (mapOf t) := ⟨List.nodup_nil, trivial, trivial, g⟩

theorem applyPart_required (h : Head) (p : B) : (applyPart h p).required = h.required := by
  unfold applyPart
  cases classifyPart p <;> rfl

theorem foldl_applyPart_required (ps : List B) (h : Head) : (ps.foldl applyPart h).required = h.required := by
  induction ps generalizing h with
  | nil => rfl
  | cons p ps ih => simp only [List.foldl_cons, ih, applyPart_required]

theorem applyConstraintsHead_required (v : B) (h : Head) : (applyConstraintsHead v h).required = h.required := by
  unfold applyConstraintsHead
  by_cases hv : v = []
  · simp only [hv, if_true]
  · simp only [hv, if_false, foldl_applyPart_required]
    cases validateFormat v <;> by_cases hc : contains v (s "alphanum") = true <;> simp only [hc, if_true] <;> rfl

theorem good_applyConstraints {ns : List B} (v : B) {t : IR} (g : Good ns t) : Good ns (applyConstraints v t) :=
  g.modHead (applyConstraintsHead_required v)

theorem good_docTags {ns : List B} (m : FieldMeta) {t : IR} (g : Good ns t) : Good ns (docTags m t) :=
  g.modHead (f := docTagsHead m) fun _ => rfl

/-! ## component names (K07c) -/

/-- the class `sanitize` keeps (model) and the class the oracle demands are written out twice, identically -/
theorem lemma_nameByteOK_eq (c : Char) : nameByteOK c = nameCharOK c := rfl

theorem sanitize_ok (name : B) : (sanitize name).all nameCharOK = true := by
  simp only [sanitize, List.all_map, List.all_eq_true]
  intro c _
  simp only [Function.comp]
  by_cases h : nameByteOK c = true
  · simp [h, ← lemma_nameByteOK_eq]
  · have : nameByteOK '_' = true := by decide
    simp [h, ← lemma_nameByteOK_eq, this]

theorem lemma_sanitize_length (name : B) : (sanitize name).length = name.length := by simp [sanitize]

/-- `schemaName` is empty (anonymous struct: never registered) or matches `^[a-zA-Z0-9._-]+$` -/
theorem schemaName_wellformed (name pkgPath : B) :
    schemaName name pkgPath = [] ∨ nameOK (schemaName name pkgPath) = true := by
  unfold schemaName
  by_cases h0 : name = []
  · simp [h0]
  · right
    have hne : ∀ x : B, x ≠ [] → nameOK (sanitize x) = true := by
      intro x hx
      simp only [nameOK, Bool.and_eq_true, sanitize_ok, and_true]
      cases x with
      | nil => exact absurd rfl hx
      | cons c cs => simp [sanitize]
    simp only [h0, if_false]
    split
    · exact hne _ h0
    · split
      · exact hne _ h0
      · apply hne
        intro h
        have := congrArg List.length h
        simp [s] at this


/-! ## the invariant through `gen` / `genFields` -/

theorem names_mono_keys {env : Env} {seen : List Nat} {st st' : Schemas}
    (h : ∀ k ∈ Schemas.keys st, k ∈ Schemas.keys st') : ∀ k ∈ names env seen st, k ∈ names env seen st' := by
  intro k hk
  simp only [names, List.mem_append] at hk ⊢
  exact hk.imp_left (h k)

theorem keys_cons_sub (e : B × IR) (st : Schemas) : ∀ k ∈ Schemas.keys st, k ∈ Schemas.keys (e :: st) :=
  fun _ h => List.mem_cons_of_mem _ h

/-- what any stretch of generation that takes the registry from `st` to `st'` guarantees: nothing registered is lost, and
    the invariant holds of `st'` (it is assumed of `st` where a `Step` is proved: `Step.refl`, `gen_genFields_post`) -/
structure Step (env : Env) (seen : List Nat) (st st' : Schemas) : Prop where
  keys : ∀ k ∈ Schemas.keys st, k ∈ Schemas.keys st'
  inv : Inv env seen st'

section
variable {env : Env} {seen : List Nat} {st st₁ st₂ : Schemas}

theorem Step.refl (h : Inv env seen st) : Step env seen st st := ⟨fun _ h => h, h⟩

theorem Step.trans (h₁ : Step env seen st st₁) (h₂ : Step env seen st₁ st₂) : Step env seen st st₂ :=
  ⟨fun k hk => h₂.keys k (h₁.keys k hk), h₂.inv⟩

end

def GenPost (env : Env) (seen : List Nat) (st : Schemas) (r : IR × Schemas) : Prop :=
  Step env seen st r.2 ∧ Good (names env seen r.2) r.1

def FieldsPost (env : Env) (seen : List Nat) (st : Schemas) (r : PTree Head × List B × Schemas) : Prop :=
  Step env seen st r.2.2 ∧ GoodP (names env seen r.2.2) r.1 ∧ r.2.1.Nodup

theorem GenPost.map {env : Env} {seen : List Nat} {st : Schemas} {r : IR × Schemas} {f : IR → IR}
    (hf : ∀ {ns t}, Good ns t → Good ns (f t)) (h : GenPost env seen st r) : GenPost env seen st (f r.1, r.2) :=
  ⟨h.1, hf h.2⟩

/-! ### the generation stack: entering and leaving a struct -/

theorem structName_of_lookup {env : Env} {id : Nat} {name pkg : B} {fs : List Field}
    (h : env.lookup id = some (.struct name pkg fs)) :
    structName env id = if schemaName name pkg ≠ [] then some (schemaName name pkg) else none := by
  simp only [structName, h]

theorem mem_names_cons {env : Env} {id : Nat} {seen : List Nat} {st : Schemas} {k : B} :
    k ∈ names env (id :: seen) st ↔ structName env id = some k ∨ k ∈ names env seen st := by
  simp only [names, seenNames, List.filterMap_cons, List.mem_append]
  cases structName env id <;> simp [or_left_comm, eq_comm]

/-- the entries of `st` stay good under the names of a pair `seen'`, `st'` that has all of theirs; an `Inv` of that pair
    only when `st' = st` (`Inv.push`) or once the entries `st'` adds are shown good too (`Inv.cons`) -/
theorem Inv.mono {env : Env} {seen seen' : List Nat} {st st' : Schemas} (h : Inv env seen st)
    (hsub : ∀ k ∈ names env seen st, k ∈ names env seen' st') : ∀ e ∈ st, nameOK e.1 = true ∧ Good (names env seen' st') e.2 :=
  fun e he => ⟨(h e he).1, (h e he).2.mono hsub⟩

/-- registering a component: its name is well formed, and it and the components already there are good for the names
    available afterwards (the generation stack may shrink at the same time: the struct registered leaves it) -/
theorem Inv.cons {env : Env} {seen seen' : List Nat} {st : Schemas} {nm : B} {sch : IR} (h : Inv env seen st)
    (hok : nameOK nm = true) (hsub : ∀ k ∈ names env seen st, k ∈ names env seen' ((nm, sch) :: st))
    (hs : Good (names env seen' ((nm, sch) :: st)) sch) : Inv env seen' ((nm, sch) :: st) :=
  List.forall_mem_cons.2 ⟨⟨hok, hs⟩, h.mono hsub⟩

theorem Inv.push {env : Env} {id : Nat} {seen : List Nat} {st : Schemas} (h : Inv env seen st) :
    Inv env (id :: seen) st :=
  h.mono fun _ hk => mem_names_cons.2 (Or.inr hk)

theorem names_pop {env : Env} {id : Nat} {seen : List Nat} {st st' : Schemas}
    (hreg : ∀ nm, structName env id = some nm → nm ∈ Schemas.keys st')
    (hkeys : ∀ k ∈ Schemas.keys st, k ∈ Schemas.keys st') : ∀ k ∈ names env (id :: seen) st, k ∈ names env seen st' := by
  intro k hk
  rcases mem_names_cons.1 hk with h | h
  · exact List.mem_append_left _ (hreg k h)
  · exact names_mono_keys hkeys k h

/-! ## `gen` on a named type, by what the environment holds for it -/

section
variable {env : Env} {seen opn : List Nat} {id : Nat} {st : Schemas}

theorem gen_named_none (hl : env.lookup id = none) : gen env seen opn (.named id) st = (objectSchema, st) := by
  rw [gen]
  split
  · rfl
  next u heq => exact absurd (hl.symm.trans heq) (by simp)
  next n p fs heq => exact absurd (hl.symm.trans heq) (by simp)

theorem gen_named_alias {u : Ty} (hl : env.lookup id = some (.alias u)) :
    gen env seen opn (.named id) st =
      if isByteSlice u then (bytesSchema, st) else if id ∈ opn then (objectSchema, st)
      else if id ∈ seen then (objectSchema, st) else gen env seen (id :: opn) u st := by
  rw [gen]
  split
  next heq => exact absurd (hl.symm.trans heq) (by simp)
  next u' heq =>
    obtain rfl : u = u' := by simpa using hl.symm.trans heq
    simp only [dite_eq_ite]
  next n p fs heq => exact absurd (hl.symm.trans heq) (by simp)

theorem gen_named_struct {n p : B} {fs : List Field} (hl : env.lookup id = some (.struct n p fs)) :
    gen env seen opn (.named id) st =
      if id ∈ seen then (if schemaName n p ≠ [] then refTo (schemaName n p) else objectSchema, st)
      else if schemaName n p ≠ [] ∧ hasKey st (schemaName n p) then (refTo (schemaName n p), st)
      else
        let r := genFields env (id :: seen) [] false (flatten env [id] fs) .nil [] st
        if schemaName n p ≠ [] then (refTo (schemaName n p), (schemaName n p, objNode r.2.1 r.1) :: r.2.2)
        else (objNode r.2.1 r.1, r.2.2) := by
  rw [gen]
  split
  next heq => exact absurd (hl.symm.trans heq) (by simp)
  next u' heq => exact absurd (hl.symm.trans heq) (by simp)
  next n' p' fs' heq =>
    obtain ⟨rfl, rfl, rfl⟩ : n = n' ∧ p = p' ∧ fs = fs' := by simpa using hl.symm.trans heq
    simp only [dite_eq_ite]
end

theorem gen_genFields_post (env : Env) :
    (∀ (seen opn : List Nat) (t : Ty) (st : Schemas), Inv env seen st → GenPost env seen st (gen env seen opn t st)) ∧
    (∀ (seen opn : List Nat) (projected : Bool) (fs : List (FieldMeta × Ty)) (props : PTree Head) (req : List B)
      (st : Schemas), Inv env seen st → GoodP (names env seen st) props → req.Nodup →
      FieldsPost env seen st (genFields env seen opn projected fs props req st)) := by
  apply gen.mutual_induct env
    (motive1 := fun seen opn t st => Inv env seen st → GenPost env seen st (gen env seen opn t st))
    (motive2 := fun seen opn projected fs props req st => Inv env seen st → GoodP (names env seen st) props → req.Nodup →
      FieldsPost env seen st (genFields env seen opn projected fs props req st))
  -- prim
  · intro seen opn st k hinv
    rw [gen]; exact ⟨.refl hinv, good_prim _ k⟩
  -- time
  · intro seen opn st hinv
    rw [gen]; exact ⟨.refl hinv, good_time _⟩
  -- ptr
  · intro seen opn st e ih hinv
    rw [gen]; exact GenPost.map good_setNullable (ih hinv)
  -- slice of bytes
  · intro seen opn st e hb hinv
    rw [gen]; simp only [hb, if_true]; exact ⟨.refl hinv, good_bytes _⟩
  -- slice
  · intro seen opn st e hb ih hinv
    rw [gen]; simp only [hb]; exact GenPost.map good_arrayOf (ih hinv)
  -- array
  · intro seen opn st e ih hinv
    rw [gen]; exact GenPost.map good_arrayOf (ih hinv)
  -- map, key not a string
  · intro seen opn st b e hb hinv
    rw [gen]; simp only [hb, if_true]; exact ⟨.refl hinv, good_object _⟩
  -- map
  · intro seen opn st b e hb ih hinv
    rw [gen]; simp only [hb]; exact GenPost.map good_mapOf (ih hinv)
  -- named: not in the environment
  · intro seen opn st a hl hinv
    rw [gen_named_none hl]; exact ⟨.refl hinv, good_object _⟩
  -- named container: []byte
  · intro seen opn st a u hl hb hinv
    rw [gen_named_alias hl, if_pos hb]; exact ⟨.refl hinv, good_bytes _⟩
  -- named container: already open
  · intro seen opn st a u hl hb ho hinv
    rw [gen_named_alias hl, if_neg hb, if_pos ho]; exact ⟨.refl hinv, good_object _⟩
  -- named container: in `seen` (`gen` only ever pushes struct ids, so a run from the empty stack does not take the branch)
  · intro seen opn st a u hl hb ho hs hinv
    rw [gen_named_alias hl, if_neg hb, if_neg ho, if_pos hs]; exact ⟨.refl hinv, good_object _⟩
  -- named container: descend
  · intro seen opn st a u hl hb ho hs ih hinv
    rw [gen_named_alias hl, if_neg hb, if_neg ho, if_neg hs]; exact ih hinv
  -- struct on the stack
  · intro seen opn st a name pkg fs hl hs hinv
    rw [gen_named_struct hl, if_pos hs]
    by_cases hn : schemaName name pkg = []
    · simp only [hn, ne_eq, not_true_eq_false, if_false]; exact ⟨.refl hinv, good_object _⟩
    · rw [if_pos hn]
      refine ⟨.refl hinv, good_ref _ _ ?_⟩
      simp only [names, List.mem_append]
      right
      simp only [seenNames, List.mem_filterMap]
      exact ⟨a, hs, by rw [structName_of_lookup hl]; simp [hn]⟩
  -- struct already registered
  · intro seen opn st a name pkg fs hl hs nm hk hinv
    rw [gen_named_struct hl, if_neg hs, if_pos hk]
    refine ⟨.refl hinv, good_ref _ _ ?_⟩
    simp only [names, List.mem_append]
    exact Or.inl ((hasKey_iff _ _).1 hk.2)
  -- struct, generated and registered: its name moves from the stack to the registry
  · intro seen opn st a name pkg fs hl hs nm hk hn ih hinv
    rw [gen_named_struct hl, if_neg hs, if_neg hk, if_pos hn]
    obtain ⟨step, hprops, hreq⟩ := ih hinv.push trivial List.nodup_nil
    -- the new entry and the old ones were good with the struct on the stack; `?pop`: they stay so once it is registered
    refine ⟨⟨fun k hk' => keys_cons_sub _ _ k (step.keys k hk'),
        step.inv.cons ((schemaName_wellformed name pkg).resolve_left hn) ?pop ((good_objNode hreq hprops).mono ?pop)⟩,
      good_ref _ _ (List.mem_append_left _ (List.mem_cons_self ..))⟩
    refine names_pop (fun nm' h => ?_) (keys_cons_sub _ _)
    rw [structName_of_lookup hl, if_pos hn] at h
    obtain rfl := Option.some.inj h
    exact List.mem_cons_self ..
  -- anonymous struct, generated inline
  · intro seen opn st a name pkg fs hl hs nm hk hn ih hinv
    rw [gen_named_struct hl, if_neg hs, if_neg hk, if_neg hn]
    obtain ⟨step, hprops, hreq⟩ := ih hinv.push trivial List.nodup_nil
    refine ⟨⟨step.keys, step.inv.mono ?pop'⟩, (good_objNode hreq hprops).mono ?pop'⟩
    refine names_pop (fun nm' h => ?_) (fun _ h => h)
    rw [structName_of_lookup hl, if_neg hn] at h
    cases h
  -- genFields: no field left
  · intro seen opn projected props req st hinv hp hr
    rw [genFields]; exact ⟨.refl hinv, hp, hr⟩
  -- genFields: field skipped (unexported / not JSON-tagged in a projection)
  · intro seen opn projected props req st m t rest hc ih hinv hp hr
    rw [genFields, if_pos hc]; exact ih hinv hp hr
  -- genFields: json:"-"
  · intro seen opn projected props req st m t rest hc hj ih hinv hp hr
    rw [genFields, if_neg hc, if_pos hj]; exact ih hinv hp hr
  -- genFields: a field
  · intro seen opn projected props req st m t rest hc hj fieldName r fsch req' ih1 ih2 hinv hp hr
    rw [genFields, if_neg hc, if_neg hj]
    simp only [fieldName, r, fsch, req', dite_eq_ite] at ih1 ih2
    obtain ⟨s1, hg1⟩ := ih1 hinv
    have hr1 : (if (isFieldRequired env m t && !contains m.json (s "omitempty") && !req.contains (parseJSONName m.json m.name)) = true
        then req ++ [parseJSONName m.json m.name] else req).Nodup := by
      split
      next hcond => exact nodup_concat hr fun hm => by simp [hm] at hcond
      next => exact hr
    obtain ⟨s2, hg2, hr2⟩ :=
      ih2 s1.inv (PTree.All.set _ _ (good_applyConstraints _ (good_docTags m hg1)) _ (hp.mono (names_mono_keys s1.keys))) hr1
    exact ⟨s1.trans s2, hg2, hr2⟩

end Rivaas.OpenAPI
