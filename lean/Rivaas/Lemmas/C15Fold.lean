import Rivaas.Lemmas.C15Step
/-
C15: the middleware's Close (at the end of the exchange, or deferred after a handler panic) and the relation `EndRel`
it leaves, the operations after the restore, and the fold of the coupling invariant `Inv` over a whole handler
program (`lemma_fold`).
-/
namespace Rivaas.C15
open Rivaas.Http Rivaas.Compress

/-- how the middleware leaves its writer when the chain has returned, against the plain run just before
    finishRequest: the live maps agree on trailer keys, and either nothing is compressed and the base writer is
    the plain run's apart from a dead live map, or a compressing writer had its stream finished -/
def EndRel (sn : Sniff) (W : CW) (p : Base) : Prop :=
  Ag W p ∧ ((W.compress = false ∧ PassRel W.base p) ∨ (CmpCore sn W p ∧ W.closed = true))

/-- a writer that has seen nothing of a body does not end up compressing (the decision is for compression only when
    bytes were held back) -/
theorem lemma_close_state (sn : Sniff) (w : CW) (p : Base) (h : Live sn w p) :
    EndRel sn (w.close sn) p ∧ (NoBodyYet w → (w.close sn).compress = false) := by
  obtain ⟨hrel, ha⟩ := h
  rcases hrel with hu | hp | hcm
  · cases hu with
    | fresh thr enc ex L henc =>
      have e : (undW thr enc ex L 0 none []).close sn = { undW thr enc ex L 0 none [] with decided := true } := by
        simp [CW.close, CW.start, CW.restoreHeader, CW.restoreTrailers]
      rw [e]
      exact ⟨⟨ha, Or.inl ⟨rfl, lemma_pass_refl _⟩⟩, fun _ => rfl⟩
    | holding thr enc ex L S st X henc hnb hv =>
      obtain ⟨hok, hlive, hrel⟩ := lemma_start_und sn L S thr enc ex X X st
        (decide (X.length > 0) && decide (X.length ≥ thr)) hv hnb henc _ rfl
      rw [lemma_cw_close_und sn _ rfl _ rfl hok (hrel.elim (·.d) (·.1.d))]
      generalize (undW thr enc ex L st (some S) X).start sn _ _ = r at hlive hrel ⊢
      rcases hrel with hp | ⟨hc, hbuf⟩
      · rw [lemma_cw_close_pas sn _ hp.d hp.c]
        exact ⟨⟨hlive, Or.inl ⟨hp.c, hp.rel⟩⟩, fun _ => hp.c⟩
      · rw [lemma_cw_close_cmp sn _ hc.d hc.c hc.hw]
        refine ⟨⟨hlive, Or.inr ⟨{ hc with }, rfl⟩⟩, fun nb => ?_⟩
        rw [show X = [] from nb.2 rfl] at hbuf
        exact Bool.noConfusion hbuf
  · rw [lemma_cw_close_pas sn w hp.d hp.c]
    exact ⟨⟨ha, Or.inl ⟨hp.c, hp.rel⟩⟩, fun _ => hp.c⟩
  · rw [lemma_cw_close_cmp sn w hcm.1.d hcm.1.c hcm.1.hw]
    refine ⟨⟨ha, Or.inr ⟨{ hcm.1 with }, rfl⟩⟩, fun nb => ?_⟩
    have := hcm.1.c
    rw [nb.1] at this
    exact absurd this (by simp)

theorem lemma_ag_plainStep (sn : Sniff) (w : CW) (p : Base) (o : Op) (hp : PassRel w.base p) (h : Ag w p) :
    Ag { w with base := (plainStep sn w.base o).1 } (plainStep sn p o).1 := by
  intro κ hk
  simp only [lemma_plainStep_live]
  by_cases hw : p.wrote = false
  · rw [lemma_pass_eq_of_unwritten w.base p hp hw]
  · have hw' : p.wrote = true := by simpa using hw
    rw [lemma_plainStep_snap sn p o hw'] at hk
    exact lemma_opLive_congr o _ _ κ (h κ hk)

def isBodyOp : Op → Bool
  | .write _ => true
  | .copy _ => true
  | .flush => true
  | _ => false

/-- status codes the base writer accepts as a response status or as an informational response
    (net/http panics outside 100..999; 101 is a protocol switch, which goes through Hijack) -/
def OpValid : Op → Prop
  | .writeHeader c => validC c
  | _ => True

/-- the coupling invariant of the whole exchange; `seen` = a body operation has happened -/
def Inv (sn : Sniff) (seen : Bool) (w : CW) (p : Base) : Prop :=
  (Live sn w p ∧ (seen = false → NoBodyYet w)) ∨ (RestRel w p ∧ Ag w p)

theorem lemma_step (sn : Sniff) (seen : Bool) (w : CW) (p : Base) (o : Op) (hv : OpValid o)
    (hpn : o = Op.panic → seen = false) (h : Inv sn seen w p) :
    Inv sn (isBodyOp o || seen) (CW.step sn w o).1 (plainStep sn p o).1 ∧
      (CW.step sn w o).2 = (plainStep sn p o).2 := by
  rcases h with ⟨hl, hnb⟩ | ⟨hr, ha⟩
  · have hnr := lemma_live_restored sn w p hl
    unfold CW.step
    rw [if_neg (by rw [hnr]; exact Bool.false_ne_true)]
    -- `isBodyOp o || seen` computes once the operation is known
    cases o with
    | setH k vs => exact ⟨Or.inl ⟨lemma_live_setLive sn w p (.setH k vs) hl, hnb⟩, rfl⟩
    | delH k => exact ⟨Or.inl ⟨lemma_live_setLive sn w p (.delH k) hl, hnb⟩, rfl⟩
    | writeHeader c =>
      exact ⟨Or.inl ⟨lemma_live_writeHeader sn w p c hv hl, fun hs => lemma_writeHeader_noBodyYet w c (hnb hs)⟩, rfl⟩
    | write d =>
      obtain ⟨r1, r2⟩ := lemma_live_write sn w p d hl
      exact ⟨Or.inl ⟨r1, fun hs => Bool.noConfusion hs⟩, by simp only [plainStep, r2]⟩
    | flush => exact ⟨Or.inl ⟨lemma_live_flush sn w p hl, fun hs => Bool.noConfusion hs⟩, rfl⟩
    | copy cs =>
      obtain ⟨r1, r2⟩ := lemma_copyLoop_rel (Live sn) (CW.write sn) (Base.write sn)
        (fun s t d hst => lemma_live_write sn s t d hst) cs w p 0 hl
      exact ⟨Or.inl ⟨r1, fun hs => Bool.noConfusion hs⟩, by simp only [plainStep, r2]⟩
    | panic =>
      -- the deferred Close comes before any body operation: nothing is compressed
      obtain ⟨⟨hag, hst⟩, hq⟩ := lemma_close_state sn w p hl
      have hc := hq (hnb (hpn rfl))
      rcases hst with ⟨_, hrel⟩ | ⟨core, _⟩
      · generalize w.close sn = W at hag hc hrel
        exact ⟨Or.inr ⟨⟨rfl, hc, hrel⟩, hag⟩, rfl⟩
      · exact absurd core.c (by rw [hc]; exact Bool.false_ne_true)
  · obtain ⟨hres, hc, rel⟩ := hr
    unfold CW.step
    rw [if_pos hres]
    obtain ⟨r1, r2⟩ := lemma_pass_step sn w.base p o rel
    exact ⟨Or.inr ⟨⟨hres, hc, r1⟩, lemma_ag_plainStep sn w p o rel ha⟩, r2⟩

/-- no panic after a body operation (the complement of the class of open finding K15m, `panicMidstream`;
    `lemma_safe_of_not_midstream` in `Props/C15`) -/
def Safe : Bool → List Op → Prop
  | _, [] => True
  | seen, o :: os => (o = Op.panic → seen = false) ∧ Safe (isBodyOp o || seen) os

theorem lemma_fold (sn : Sniff) (ops : List Op) :
    ∀ (seen : Bool) (w : CW) (p : Base), (∀ o ∈ ops, OpValid o) → Safe seen ops → Inv sn seen w p →
      (∃ seen', Inv sn seen' (runOps (CW.step sn) w ops).1 (runOps (plainStep sn) p ops).1) ∧
      (runOps (CW.step sn) w ops).2 = (runOps (plainStep sn) p ops).2 := by
  induction ops with
  | nil => intro seen w p _ _ h; exact ⟨⟨seen, h⟩, rfl⟩
  | cons o os ih =>
    intro seen w p hv hs h
    obtain ⟨hs1, hs2⟩ := hs
    obtain ⟨r1, r2⟩ := lemma_step sn seen w p o (hv o (List.mem_cons_self ..)) hs1 h
    obtain ⟨i1, i2⟩ := ih _ _ _ (fun o' ho' => hv o' (List.mem_cons_of_mem _ ho')) hs2 r1
    simp only [runOps]
    exact ⟨i1, by rw [r2, i2]⟩

end Rivaas.C15
