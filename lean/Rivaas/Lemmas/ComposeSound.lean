import Rivaas.Lemmas.ComposeLookup
import Rivaas.Lemmas.ListCore
/-
The composition model described by the script, for the soundness proof against the level oracle
(`ComposeMount.lean`). Method: `W script t` is the model world after the first `t` ops; invariants
describe every object of `W script t` — the groups of each class, the version routers and version
groups — by look-ups into the *whole* script bounded by time `t` (so no stability-under-extension
lemmas are needed); then a declared route as the model records it is compared with the oracle's
`routeInfo`.
-/
namespace Rivaas.Compose

/-! ### prefix worlds -/

def W (script : List Op) (t : Nat) : World := build (script.take t)

theorem W_zero (script : List Op) : W script 0 = {} := by
  show build (script.take 0) = {}
  rw [List.take_zero]; rfl

theorem W_succ (script : List Op) (t : Nat) (h : t < script.length) :
    W script (t + 1) = apply (W script t) script[t] := by
  unfold W build
  rw [List.take_add_one, List.getElem?_eq_getElem h, Option.toList_some, List.foldl_append]
  rfl

theorem W_full (script : List Op) : W script script.length = build script := by
  unfold W; rw [List.take_length]

theorem modifyAt_eq_modify {α} (l : List α) (i : Nat) (f : α → α) : modifyAt l i f = l.modify i f := by
  induction l generalizing i with
  | nil => simp [modifyAt]
  | cons a r ih => cases i <;> simp [modifyAt, ih]

theorem modifyAt_id {α} (l : List α) (i : Nat) : modifyAt l i (fun x => x) = l :=
  (modifyAt_eq_modify ..).trans (List.modify_id ..)

theorem modifyAt_getElem?_cases {α} {l : List α} {i j : Nat} {f : α → α} {y : α}
    (h : (modifyAt l i f)[j]? = some y) : (i = j ∧ ∃ x, l[j]? = some x ∧ y = f x) ∨ (i ≠ j ∧ l[j]? = some y) := by
  rw [modifyAt_eq_modify, List.getElem?_modify] at h
  obtain ⟨x, hx, rfl⟩ := Option.map_eq_some_iff.mp h
  by_cases hij : i = j
  · exact .inl ⟨hij, x, hx, by rw [if_pos hij]⟩
  · exact .inr ⟨hij, by rw [if_neg hij]; exact hx⟩

theorem getElem?_concat_cases {α} {l : List α} {a x : α} {k : Nat} (h : (l ++ [a])[k]? = some x) :
    l[k]? = some x ∨ (k = l.length ∧ x = a) := by
  rcases Nat.lt_or_ge k l.length with hlt | hge
  · rw [List.getElem?_append_left hlt] at h; exact .inl h
  · rw [List.getElem?_append_right hge] at h
    cases hk : k - l.length with
    | zero => rw [hk] at h; cases h; exact .inr ⟨by omega, rfl⟩
    | succ n => rw [hk] at h; cases h

/-! ### middleware attached before time `t` -/

def usesB (script : List Op) (sel : Op → Option (List Hid)) (t : Nat) : List Hid :=
  ((script.take t).filterMap sel).flatten

theorem usesB_succ (script : List Op) (sel : Op → Option (List Hid)) (t : Nat) (h : t < script.length) :
    usesB script sel (t + 1) = usesB script sel t ++ (sel script[t]).getD [] := by
  simp only [usesB, List.take_add_one, List.getElem?_eq_getElem h, Option.toList_some, List.filterMap_append,
    List.flatten_append]
  cases hs : sel script[t] <;> simp [hs]

theorem usesB_zero (script : List Op) (sel : Op → Option (List Hid)) : usesB script sel 0 = [] := by
  simp [usesB]

theorem usesB_eq_nil (script : List Op) (sel : Op → Option (List Hid)) (t : Nat)
    (h : ∀ i op, i < t → script[i]? = some op → sel op = none) : usesB script sel t = [] := by
  have : (script.take t).filterMap sel = [] := by
    rw [List.filterMap_eq_nil_iff]
    intro a ha
    obtain ⟨i, hi, rfl⟩ := List.mem_take_iff_getElem.mp ha
    exact h i _ (by omega) (List.getElem?_eq_getElem (by omega))
  rw [usesB, this]
  rfl

theorem splitAt_fst (script : List Op) (sel : Op → Option (List Hid)) (t : Nat) :
    (splitAt script sel t).1 = usesB script sel t := by
  rw [splitAt_eq]; rfl

/-- `r.Use` / `app.Use` selector of `routerLevel` -/
def selUse (r : Nat) : Op → Option (List Hid) := fun op =>
  match op with
  | .use r' hs => if r' = r then some hs else none
  | .ause hs => if r = 0 then some hs else none
  | _ => none

theorem routerLevel_eq (script : List Op) (r t : Nat) : routerLevel script r t = splitAt script (selUse r) t := rfl

/-! ### group classes: model side -/

/-- a class of groups (`groups`, `agroups`, `avgroups`) on the model side: where its list sits in the world and which
    router a root group belongs to. `Law` says how `apply` acts on that list, `GInv` what the list then holds at every
    time; proved once for the three (`ginv`). -/
structure MClass where
  C : GClass
  get : World → List GroupSt
  rootOwner : World → Op → Nat

def MClass.make (M : MClass) (w : World) (op : Op) : Option GroupSt :=
  match M.C.root op with
  | some (pre, hs) => some { owner := M.rootOwner w op, pre := pre, mw := hs }
  | none =>
    match M.C.sub op with
    | some (p, seg, hs) => (M.get w)[p]?.map fun ps => { owner := ps.owner, pre := ps.pre ++ [seg], mw := ps.mw ++ hs }
    | none => none

def MClass.Law (M : MClass) (w : World) (op : Op) : Prop :=
    M.get (apply w op) =
      match M.make w op with
      | some x => M.get w ++ [x]
      | none =>
        match M.C.useOp op with
        | some (g, hs) => modifyAt (M.get w) g fun x => { x with mw := x.mw ++ hs }
        | none => M.get w

structure MClass.Ok (M : MClass) : Prop where
  law : ∀ (w : World) (op : Op), M.Law w op
  isC_iff : ∀ op, M.C.isC op = ((M.C.root op).isSome || (M.C.sub op).isSome)
  create_not_use : ∀ op, (M.C.isC op && (M.C.useOp op).isSome) = false
  init : M.get {} = []

def MClass.WF (M : MClass) (script : List Op) : Prop :=
  ∀ t op, script[t]? = some op →
    (∀ p seg hs, M.C.sub op = some (p, seg, hs) → p < cnt M.C.isC script t) ∧
    (∀ g hs, M.C.useOp op = some (g, hs) → g < cnt M.C.isC script t)

theorem useSel_eq (C : GClass) (g : Nat) (op : Op) :
    C.useSel g op = match C.useOp op with
      | some (g', hs) => if g' = g then some hs else none
      | none => none := rfl

theorem MClass.Ok.useSel_create {M : MClass} (hok : M.Ok) {op : Op} (hc : M.C.isC op = true) (g : Nat) :
    M.C.useSel g op = none := by
  have h := hok.create_not_use op
  rw [useSel_eq]
  cases hu : M.C.useOp op with
  | none => rfl
  | some x => rw [hc, hu] at h; cases h

theorem usesB_future_nil (M : MClass) (script : List Op) (hwf : M.WF script) (g t : Nat)
    (hg : cnt M.C.isC script t ≤ g) : usesB script (M.C.useSel g) t = [] := by
  refine usesB_eq_nil _ _ _ fun i op hi hop => ?_
  rw [useSel_eq]
  cases hu : M.C.useOp op with
  | none => rfl
  | some gh =>
    have := (hwf i op hop).2 gh.1 gh.2 hu
    have := cnt_mono M.C.isC script i t (Nat.le_of_lt hi)
    exact if_neg (by omega)

theorem MClass.Ok.isC_of_make {M : MClass} (hok : M.Ok) {w : World} {op : Op} {x : GroupSt}
    (h : M.make w op = some x) : M.C.isC op = true := by
  rw [hok.isC_iff]
  unfold MClass.make at h
  cases hr : M.C.root op with
  | some ph => rfl
  | none =>
    rw [hr] at h
    cases hsb : M.C.sub op with
    | some y => rfl
    | none => rw [hsb] at h; cases h

theorem MClass.Ok.make_isSome {M : MClass} (hok : M.Ok) {w : World} {op : Op} (hc : M.C.isC op = true)
    (hp : ∀ p seg hs, M.C.sub op = some (p, seg, hs) → p < (M.get w).length) : (M.make w op).isSome = true := by
  rw [hok.isC_iff] at hc
  unfold MClass.make
  cases hr : M.C.root op with
  | some ph => obtain ⟨pre, hs⟩ := ph; rfl
  | none =>
    rw [hr] at hc
    cases hsb : M.C.sub op with
    | none => rw [hsb] at hc; cases hc
    | some y =>
      obtain ⟨p, seg, hs⟩ := y
      simp only [List.getElem?_eq_getElem (hp p seg hs hsb)]
      rfl

/-- group `g` of the class at time `t` is what the `g`-th creating op made, with the middleware attached since -/
def GInv (M : MClass) (script : List Op) (t : Nat) : Prop :=
  (M.get (W script t)).length = cnt M.C.isC script t ∧
  ∀ g gs, (M.get (W script t))[g]? = some gs →
    ∃ i op gs0, script[i]? = some op ∧ i < t ∧ cnt M.C.isC script i = g ∧ M.make (W script i) op = some gs0 ∧
      gs = { gs0 with mw := gs0.mw ++ usesB script (M.C.useSel g) t }

theorem ginv (M : MClass) (hok : M.Ok) (script : List Op) (hwf : M.WF script) :
    ∀ t, t ≤ script.length → GInv M script t := by
  intro t
  -- along the script, by `Law`: op `t` creates a group (appended; nothing was attached to it yet), attaches middleware to
  -- one group (`modifyAt`), or leaves the list alone; `hold` is the step for a group that was there before
  induction t with
  | zero =>
    intro _
    rw [GInv, W_zero, hok.init]
    exact ⟨by simp [cnt], by intro g gs h; simp at h⟩
  | succ t ih =>
    intro ht
    have htl : t < script.length := ht
    obtain ⟨hlen, hdesc⟩ := ih (Nat.le_of_lt htl)
    have hget : script[t]? = some script[t] := List.getElem?_eq_getElem htl
    have hcnt := cnt_succ M.C.isC script t htl
    have hlaw : M.get (apply (W script t) script[t]) = _ := hok.law (W script t) script[t]
    rw [← W_succ script t htl] at hlaw
    -- a group there before keeps its description, extended by what the op attaches to it
    have hold : ∀ g gs gs', (M.get (W script t))[g]? = some gs →
        gs' = { gs with mw := gs.mw ++ (M.C.useSel g script[t]).getD [] } →
        ∃ i op gs0, script[i]? = some op ∧ i < t + 1 ∧ cnt M.C.isC script i = g ∧ M.make (W script i) op = some gs0 ∧
          gs' = { gs0 with mw := gs0.mw ++ usesB script (M.C.useSel g) (t + 1) } := by
      intro g gs gs' hg hgs'
      obtain ⟨i, op, gs0, h1, h2, h3, h4, rfl⟩ := hdesc g gs hg
      exact ⟨i, op, gs0, h1, by omega, h3, h4, by rw [hgs', usesB_succ _ _ _ htl]; simp⟩
    cases hm : M.make (W script t) script[t] with
    | some x =>
      have hc := hok.isC_of_make hm
      have huse := hok.useSel_create hc
      rw [hm] at hlaw
      simp only [] at hlaw
      refine ⟨by rw [hlaw, hcnt, hc]; simp [hlen], ?_⟩
      intro g gs hg
      rw [hlaw] at hg
      rcases getElem?_concat_cases hg with hg | ⟨rfl, rfl⟩
      · exact hold g gs gs hg (by simp [huse])
      · -- the new group: nothing was attached to it before it existed
        refine ⟨t, script[t], gs, hget, by omega, hlen.symm, hm, ?_⟩
        rw [usesB_succ _ _ _ htl, huse, hlen, usesB_future_nil M script hwf _ t (Nat.le_refl _)]
        simp
    | none =>
      have hc : M.C.isC script[t] = false := by
        cases hc : M.C.isC script[t] with
        | false => rfl
        | true =>
          have := hok.make_isSome (w := W script t) hc fun p seg hs hsb => by
            rw [hlen]; exact (hwf t _ hget).1 p seg hs hsb
          rw [hm] at this; cases this
      rw [hm] at hlaw
      simp only [] at hlaw
      cases hu : M.C.useOp script[t] with
      | some gh =>
        obtain ⟨g0, hs0⟩ := gh
        rw [hu] at hlaw
        simp only [] at hlaw
        refine ⟨by rw [hlaw, modifyAt_eq_modify, List.length_modify, hcnt, hc]; simp [hlen], ?_⟩
        intro g gs hg
        rw [hlaw] at hg
        rcases modifyAt_getElem?_cases hg with ⟨rfl, gs', hg', rfl⟩ | ⟨hgg, hg⟩
        · exact hold g0 gs' _ hg' (by simp [useSel_eq, hu])
        · exact hold g gs gs hg (by simp [useSel_eq, hu, hgg])
      | none =>
        rw [hu] at hlaw
        simp only [] at hlaw
        refine ⟨by rw [hlaw, hcnt, hc]; simp [hlen], ?_⟩
        intro g gs hg
        rw [hlaw] at hg
        exact hold g gs gs hg (by simp [useSel_eq, hu])

/-! ### append-only classes (version routers, router version groups) -/

structure AClass (α : Type) where
  isC : Op → Bool
  get : World → List α
  make : Op → Option α

def AClass.Law {α} (A : AClass α) (w : World) (op : Op) : Prop :=
  A.get (apply w op) = match A.make op with | some x => A.get w ++ [x] | none => A.get w

structure AClass.Ok {α} (A : AClass α) : Prop where
  law : ∀ w op, A.Law w op
  isC_iff : ∀ op, A.isC op = (A.make op).isSome
  init : A.get {} = []

theorem ainv {α} (A : AClass α) (hok : A.Ok) (script : List Op) :
    ∀ t, t ≤ script.length →
      (A.get (W script t)).length = cnt A.isC script t ∧
      ∀ k x, (A.get (W script t))[k]? = some x →
        ∃ i op, script[i]? = some op ∧ i < t ∧ cnt A.isC script i = k ∧ A.make op = some x := by
  intro t
  induction t with
  | zero =>
    intro _
    rw [W_zero, hok.init]
    exact ⟨by simp [cnt], by intro k x h; simp at h⟩
  | succ t ih =>
    intro ht
    have htl : t < script.length := ht
    obtain ⟨hlen, hdesc⟩ := ih (Nat.le_of_lt htl)
    have hget : script[t]? = some script[t] := List.getElem?_eq_getElem htl
    have hcnt := cnt_succ A.isC script t htl
    have hlaw : A.get (apply (W script t) script[t]) = _ := hok.law (W script t) script[t]
    rw [← W_succ script t htl] at hlaw
    have hc := hok.isC_iff script[t]
    cases hm : A.make script[t] with
    | none =>
      rw [hm] at hlaw hc
      simp only [] at hlaw
      refine ⟨by rw [hlaw, hcnt, hc]; simp [hlen], ?_⟩
      intro k x hk
      rw [hlaw] at hk
      obtain ⟨i, op, h1, h2, h3, h4⟩ := hdesc k x hk
      exact ⟨i, op, h1, by omega, h3, h4⟩
    | some y =>
      rw [hm] at hlaw hc
      simp only [] at hlaw
      refine ⟨by rw [hlaw, hcnt, hc]; simp [hlen], ?_⟩
      intro k x hk
      rw [hlaw] at hk
      rcases getElem?_concat_cases hk with hk | ⟨rfl, rfl⟩
      · obtain ⟨i, op, h1, h2, h3, h4⟩ := hdesc k x hk
        exact ⟨i, op, h1, by omega, h3, h4⟩
      · exact ⟨t, script[t], hget, by omega, hlen.symm, hm⟩

theorem created_of_get {α} (A : AClass α) (hok : A.Ok) (script : List Op) {t k : Nat} {x : α}
    (ht : t ≤ script.length) (h : (A.get (W script t))[k]? = some x) :
    ∃ i op, script[i]? = some op ∧ i < t ∧ nthIdx script A.isC k = some i ∧ A.make op = some x := by
  obtain ⟨i, op, h1, h2, h3, h4⟩ := (ainv A hok script t ht).2 k x h
  have hc : A.isC op = true := by rw [hok.isC_iff op, h4]; rfl
  exact ⟨i, op, h1, h2, h3 ▸ nthIdx_of_created A.isC script h1 hc, h4⟩

/-! ### what one op writes -/

/-- the route record a declaring op hands to `addRouteOn`, and on which router -/
def routeRecOf (w : World) : Op → Option (Nat × RouteRec)
  | .route (.router r) seg hs => some (r, { ver := none, path := [seg], hs := hs })
  | .route (.group g) seg hs =>
    (w.groups[g]?).map fun p => (p.owner, { ver := none, path := p.pre ++ [seg], hs := p.mw ++ hs })
  | .route (.vrouter v) seg hs =>
    (w.vrouters[v]?).map fun x => (x.1, { ver := some x.2, path := [seg], hs := hs })
  | .route (.vgroup vg) seg hs =>
    (w.vgroups[vg]?).bind fun p =>
      (w.vrouters[p.owner]?).map fun x => (x.1, { ver := some x.2, path := p.pre ++ [seg], hs := p.mw ++ hs })
  | .aroute .app seg b h a => some (0, { ver := none, path := [seg], hs := b ++ [h] ++ a })
  | .aroute (.agroup g) seg b h a =>
    (w.agroups[g]?).map fun p => (0, { ver := none, path := p.pre ++ [seg], hs := p.mw ++ (b ++ [h] ++ a) })
  | .aroute (.avgroup vg) seg b h a =>
    (w.avgroups[vg]?).bind fun p =>
      (w.vrouters[p.owner]?).map fun x =>
        (x.1, { ver := some x.2, path := p.pre ++ [seg], hs := p.mw ++ (b ++ [h] ++ a) })
  | _ => none

theorem apply_route (w : World) (o : Owner) (seg : Nat) (hs : List Hid) :
    apply w (.route o seg hs) = match routeRecOf w (.route o seg hs) with
      | some (r, rec) => w.addRouteOn r rec
      | none => w := by
  cases o with
  | router r => rfl
  | group g => simp only [apply, routeRecOf]; cases w.groups[g]? <;> rfl
  | vrouter v => simp only [apply, routeRecOf]; cases w.vrouters[v]? <;> rfl
  | vgroup vg =>
    simp only [apply, routeRecOf]
    cases w.vgroups[vg]? with
    | none => rfl
    | some p => simp only [Option.bind_some]; cases w.vrouters[p.owner]? <;> rfl

theorem apply_aroute (w : World) (o : AOwner) (seg : Nat) (b : List Hid) (h : Hid) (a : List Hid) :
    apply w (.aroute o seg b h a) = match routeRecOf w (.aroute o seg b h a) with
      | some (r, rec) => w.addRouteOn r rec
      | none => w := by
  cases o with
  | app => rfl
  | agroup g => simp only [apply, routeRecOf]; cases w.agroups[g]? <;> rfl
  | avgroup vg =>
    simp only [apply, routeRecOf]
    cases w.avgroups[vg]? with
    | none => rfl
    | some p => simp only [Option.bind_some]; cases w.vrouters[p.owner]? <;> rfl

/-- the seven ways an op declares a route: `routeRecOf`, case by case -/
inductive Decl (w : World) : Op → Nat → RouteRec → Prop
  | router (r seg hs) : Decl w (.route (.router r) seg hs) r { ver := none, path := [seg], hs := hs }
  | group (g seg hs p) : w.groups[g]? = some p →
      Decl w (.route (.group g) seg hs) p.owner { ver := none, path := p.pre ++ [seg], hs := p.mw ++ hs }
  | vrouter (v seg hs r ver) : w.vrouters[v]? = some (r, ver) →
      Decl w (.route (.vrouter v) seg hs) r { ver := some ver, path := [seg], hs := hs }
  | vgroup (vg seg hs p r ver) : w.vgroups[vg]? = some p → w.vrouters[p.owner]? = some (r, ver) →
      Decl w (.route (.vgroup vg) seg hs) r { ver := some ver, path := p.pre ++ [seg], hs := p.mw ++ hs }
  | app (seg b h a) : Decl w (.aroute .app seg b h a) 0 { ver := none, path := [seg], hs := b ++ [h] ++ a }
  | agroup (g seg b h a p) : w.agroups[g]? = some p →
      Decl w (.aroute (.agroup g) seg b h a) 0 { ver := none, path := p.pre ++ [seg], hs := p.mw ++ (b ++ [h] ++ a) }
  | avgroup (vg seg b h a p r ver) : w.avgroups[vg]? = some p → w.vrouters[p.owner]? = some (r, ver) →
      Decl w (.aroute (.avgroup vg) seg b h a) r
        { ver := some ver, path := p.pre ++ [seg], hs := p.mw ++ (b ++ [h] ++ a) }

theorem decl_of_routeRecOf {w : World} {op : Op} {r : Nat} {rec : RouteRec} (h : routeRecOf w op = some (r, rec)) :
    Decl w op r rec := by
  cases op with
  | route o seg hs =>
    cases o with
    | router r' => cases h; exact .router ..
    | group g =>
      simp only [routeRecOf, Option.map_eq_some_iff] at h
      obtain ⟨p, hp, h⟩ := h
      cases h; exact .group _ _ _ _ hp
    | vrouter v =>
      simp only [routeRecOf, Option.map_eq_some_iff] at h
      obtain ⟨x, hv, h⟩ := h
      cases h; exact .vrouter _ _ _ _ _ hv
    | vgroup vg =>
      simp only [routeRecOf, Option.bind_eq_some_iff, Option.map_eq_some_iff] at h
      obtain ⟨p, hp, x, hv, h⟩ := h
      cases h; exact .vgroup _ _ _ _ _ _ hp hv
  | aroute o seg b hh a =>
    cases o with
    | app => cases h; exact .app ..
    | agroup g =>
      simp only [routeRecOf, Option.map_eq_some_iff] at h
      obtain ⟨p, hp, h⟩ := h
      cases h; exact .agroup _ _ _ _ _ _ hp
    | avgroup vg =>
      simp only [routeRecOf, Option.bind_eq_some_iff, Option.map_eq_some_iff] at h
      obtain ⟨p, hp, x, hv, h⟩ := h
      cases h; exact .avgroup _ _ _ _ _ _ _ _ hp hv
  | _ => cases h

theorem foldl_addRouteOn {β} (l : List β) (g : β → RouteRec) (p : Nat) (w : World) :
    l.foldl (fun w b => w.addRouteOn p (g b)) w =
      { w with routers := modifyAt w.routers p fun x => l.foldl (fun x b => addRoute x (g b)) x } := by
  induction l generalizing w with
  | nil => simp [modifyAt_id]
  | cons a l ih =>
    rw [List.foldl_cons, ih]
    simp [World.addRouteOn, modifyAt_eq_modify, List.modify_modify_eq]
    rfl

/-- the ops that act on a router; every other op creates or extends a group or version object -/
def onRouters : Op → Bool
  | .newRouter | .use .. | .route .. | .mount .. | .warmup .. | .whereOp .. | .ause .. | .aroute .. => true
  | _ => false

theorem apply_same (w : World) (op : Op) (h : onRouters op = true) : ∃ rs, apply w op = { w with routers := rs } := by
  cases op with
  | newRouter | use | warmup | whereOp | ause => exact ⟨_, rfl⟩
  | mount p s seg inh extra =>
    show ∃ rs, mountOp w p s seg inh extra = _
    unfold mountOp
    split
    · exact ⟨_, foldl_addRouteOn ..⟩
    · exact ⟨_, rfl⟩
  | route o seg hs =>
    rw [apply_route]
    cases routeRecOf w (.route o seg hs) <;> exact ⟨_, rfl⟩
  | aroute o seg b hh a =>
    rw [apply_aroute]
    cases routeRecOf w (.aroute o seg b hh a) <;> exact ⟨_, rfl⟩
  | _ => cases h

theorem apply_subgroup (w : World) (g seg : Nat) (hs : List Hid) :
    apply w (.subgroup g seg hs) = { w with groups :=
      match (w.groups[g]?.map fun p => ({ owner := p.owner, pre := p.pre ++ [seg], mw := p.mw ++ hs } : GroupSt)) with
      | some x => w.groups ++ [x]
      | none => w.groups } := by
  simp only [apply]; cases w.groups[g]? <;> rfl

theorem apply_asubgroup (w : World) (g seg : Nat) (hs : List Hid) :
    apply w (.asubgroup g seg hs) = { w with agroups :=
      match (w.agroups[g]?.map fun p => ({ owner := p.owner, pre := p.pre ++ [seg], mw := p.mw ++ hs } : GroupSt)) with
      | some x => w.agroups ++ [x]
      | none => w.agroups } := by
  simp only [apply]; cases w.agroups[g]? <;> rfl

theorem apply_avsubgroup (w : World) (g seg : Nat) (hs : List Hid) :
    apply w (.avsubgroup g seg hs) = { w with avgroups :=
      match (w.avgroups[g]?.map fun p => ({ owner := p.owner, pre := p.pre ++ [seg], mw := p.mw ++ hs } : GroupSt)) with
      | some x => w.avgroups ++ [x]
      | none => w.avgroups } := by
  simp only [apply]; cases w.avgroups[g]? <;> rfl

theorem apply_routers (w : World) (op : Op) (h : onRouters op = false) : (apply w op).routers = w.routers := by
  cases op with
  | newRouter | use | route | mount | warmup | whereOp | ause | aroute => cases h
  | subgroup g seg hs => rw [apply_subgroup]
  | asubgroup g seg hs => rw [apply_asubgroup]
  | avsubgroup g seg hs => rw [apply_avsubgroup]
  | _ => rfl

/-! ### the instances -/

def groupM : MClass where
  C := groupC
  get := (·.groups)
  rootOwner := fun _ op => match op with | .group r _ _ => r | _ => 0

def agroupM : MClass where
  C := agroupC
  get := (·.agroups)
  rootOwner := fun _ _ => 0

def avgroupM : MClass where
  C := avgroupC
  get := (·.avgroups)
  rootOwner := fun w _ => w.vrouters.length

def vrouterA : AClass (Nat × Nat) where
  isC := isVRouterCreate
  get := (·.vrouters)
  make := fun op => match op with | .version r ver => some (r, ver) | .aversion ver => some (0, ver) | _ => none

def vgroupA : AClass GroupSt where
  isC := isVGroupCreate
  get := (·.vgroups)
  make := fun op => match op with | .vgroup v seg hs => some { owner := v, pre := [seg], mw := hs } | _ => none

theorem apply_laws (w : World) (op : Op) :
    groupM.Law w op ∧ agroupM.Law w op ∧ avgroupM.Law w op ∧ vrouterA.Law w op ∧ vgroupA.Law w op := by
  have hfr := apply_same w op
  -- a router op leaves the five lists alone; any other op appends to one of them or extends one entry, as its clause of
  -- `apply` says, and `make` / `useOp` of the other four classes answer `none`
  cases op with
  | newRouter | use | route | mount | warmup | whereOp | ause | aroute =>
    obtain ⟨rs, h⟩ := hfr rfl
    exact ⟨(congrArg World.groups h :), (congrArg World.agroups h :), (congrArg World.avgroups h :),
      (congrArg World.vrouters h :), (congrArg World.vgroups h :)⟩
  | subgroup g seg hs =>
    simp only [MClass.Law, AClass.Law, apply_subgroup]
    exact ⟨rfl, rfl, rfl, rfl, rfl⟩
  | asubgroup g seg hs =>
    simp only [MClass.Law, AClass.Law, apply_asubgroup]
    exact ⟨rfl, rfl, rfl, rfl, rfl⟩
  | avsubgroup g seg hs =>
    simp only [MClass.Law, AClass.Law, apply_avsubgroup]
    exact ⟨rfl, rfl, rfl, rfl, rfl⟩
  | _ => exact ⟨rfl, rfl, rfl, rfl, rfl⟩

theorem groupM_ok : groupM.Ok where
  law := fun w op => (apply_laws w op).1
  isC_iff := by intro op; cases op <;> rfl
  create_not_use := by intro op; cases op <;> rfl
  init := rfl

theorem agroupM_ok : agroupM.Ok where
  law := fun w op => (apply_laws w op).2.1
  isC_iff := by intro op; cases op <;> rfl
  create_not_use := by intro op; cases op <;> rfl
  init := rfl

theorem avgroupM_ok : avgroupM.Ok where
  law := fun w op => (apply_laws w op).2.2.1
  isC_iff := by intro op; cases op <;> rfl
  create_not_use := by intro op; cases op <;> rfl
  init := rfl

theorem vrouterA_ok : vrouterA.Ok where
  law := fun w op => (apply_laws w op).2.2.2.1
  isC_iff := by intro op; cases op <;> rfl
  init := rfl

theorem vgroupA_ok : vgroupA.Ok where
  law := fun w op => (apply_laws w op).2.2.2.2
  isC_iff := by intro op; cases op <;> rfl
  init := rfl

theorem vgroupA_make_inv {op : Op} {x : GroupSt} (h : vgroupA.make op = some x) :
    ∃ v seg hs, op = .vgroup v seg hs ∧ x = { owner := v, pre := [seg], mw := hs } := by
  cases op with
  | vgroup v seg hs => cases h; exact ⟨v, seg, hs, rfl, rfl⟩
  | _ => cases h

theorem vrouterA_make_inv {op : Op} {r ver : Nat} (h : vrouterA.make op = some (r, ver)) :
    op = .version r ver ∨ (op = .aversion ver ∧ r = 0) := by
  cases op with
  | version r' ver' => cases h; exact .inl rfl
  | aversion ver' => cases h; exact .inr ⟨rfl, rfl⟩
  | _ => cases h

theorem groupC_root_inv {op : Op} (h : (groupC.root op).isSome) : ∃ r seg hs, op = .group r seg hs := by
  cases op with
  | group r seg hs => exact ⟨r, seg, hs, rfl⟩
  | _ => cases h

theorem avgroupC_root_inv {op : Op} (h : (avgroupC.root op).isSome) : ∃ ver, op = .aversion ver := by
  cases op with
  | aversion ver => exact ⟨ver, rfl⟩
  | _ => cases h

/-! ### bridging the model's groups to the oracle's `genLevels` -/

/-- what the oracle's levels say about a model group: same prefix, and the model's middleware slice
    is exactly the `must` parts; plus where the root ancestor was created -/
theorem genLevels_of_model (M : MClass) (hok : M.Ok) (script : List Op) (hwf : M.WF script) :
    ∀ (g fuel t : Nat) (gs : GroupSt), g < fuel → t ≤ script.length → (M.get (W script t))[g]? = some gs →
      ∃ ri rop ls, genLevels M.C script fuel g t = some (ri, gs.pre, ls) ∧
        gs.mw = (ls.map (·.1)).flatten ∧
        script[ri]? = some rop ∧ (M.C.root rop).isSome ∧ gs.owner = M.rootOwner (W script ri) rop ∧ ri < t := by
  intro g
  -- `ginv` names the op that made group `g`. A root op: one level, its own middleware and what was attached since.
  -- A sub-group op: the parent `p < g` at the moment of creation (induction), then that same level for `g`;
  -- `genLevels` unfolds the same way
  induction g using Nat.strongRecOn with
  | _ g ih =>
    intro fuel t gs hfuel ht hg
    obtain ⟨fuel, rfl⟩ : ∃ f, fuel = f + 1 := ⟨fuel - 1, by omega⟩
    obtain ⟨_, hdesc⟩ := ginv M hok script hwf t ht
    obtain ⟨i, op, gs0, hop, hit, hcnt, hm, hgs⟩ := hdesc g gs hg
    have hil : i < script.length := (List.getElem?_eq_some_iff.mp hop).1
    have hnth : nthIdx script M.C.isC g = some i := hcnt ▸ nthIdx_of_created M.C.isC script hop (hok.isC_of_make hm)
    unfold MClass.make at hm
    simp only [genLevels, hnth, Option.bind_eq_bind, Option.bind_some, hop]
    cases hr : M.C.root op with
    | some ph =>
      obtain ⟨pre, hs⟩ := ph
      rw [hr] at hm
      cases hm
      refine ⟨i, op, [(hs ++ (splitAt script (M.C.useSel g) t).1, (splitAt script (M.C.useSel g) t).2)],
        ?_, ?_, hop, by rw [hr]; rfl, by rw [hgs], hit⟩
      · rw [hgs]; rfl
      · rw [hgs]; simp [splitAt_fst]
    | none =>
      rw [hr] at hm
      simp only [] at hm ⊢
      cases hsb : M.C.sub op with
      | none => rw [hsb] at hm; cases hm
      | some x =>
        obtain ⟨p, seg, hs⟩ := x
        rw [hsb] at hm
        simp only [] at hm ⊢
        obtain ⟨ps, hps, rfl⟩ := Option.map_eq_some_iff.mp hm
        have hpg : p < g := by
          have := (hwf i op hop).1 p seg hs hsb
          omega
        obtain ⟨ri, rop, ls, h1, h2, h3, h4, h5, h6⟩ := ih p hpg fuel i ps (by omega) (Nat.le_of_lt hil) hps
        rw [h1]
        simp only [Option.bind_some]
        refine ⟨ri, rop, ls ++ [(hs ++ (splitAt script (M.C.useSel g) t).1, (splitAt script (M.C.useSel g) t).2)],
          ?_, ?_, h3, h4, by rw [hgs]; exact h5, by omega⟩
        · rw [hgs]; rfl
        · rw [hgs]; simp [splitAt_fst, h2]

/-! ### routers -/

abbrev isMount := isMountOp

abbrev isNewRouter := isNewRouterOp

/-- the node `RegisterRoute` writes when it runs at time `treg` -/
def regRec (script : List Op) (r treg : Nat) (rec0 : RouteRec) : RouteRec :=
  { rec0 with hs := usesB script (selUse r) treg ++ rec0.hs }

/-- router `r` at time `t` in terms of the declaring ops alone: right for scripts without `Mount`. `RInvM`
    (`ComposeMount`), which speaks of whatever an op hands to a router, is the invariant the proofs carry. -/
structure RInvAt (script : List Op) (t r : Nat) (rs : RouterSt) : Prop where
  mw : rs.mw = usesB script (selUse r) t
  pend : ∀ rec ∈ rs.pending, ∃ i op, script[i]? = some op ∧ i < t ∧ routeRecOf (W script i) op = some (r, rec)
  tree : ∀ rec ∈ rs.tree, ∃ i op rec0 treg, script[i]? = some op ∧ i < t ∧ i ≤ treg ∧ treg ≤ t ∧
    routeRecOf (W script i) op = some (r, rec0) ∧ rec = regRec script r treg rec0
  pres : ∀ i op rec0, script[i]? = some op → i < t → routeRecOf (W script i) op = some (r, rec0) →
    r < (W script i).routers.length →
    rec0 ∈ rs.pending ∨ ∃ treg, i ≤ treg ∧ treg ≤ t ∧ regRec script r treg rec0 ∈ rs.tree
  warmed : rs.warmed = true → rs.pending = []
  objs : ∀ rec ∈ rs.objs, ∃ i op, script[i]? = some op ∧ i < t ∧ routeRecOf (W script i) op = some (r, rec)

def RInv (script : List Op) (t : Nat) : Prop :=
  (W script t).routers.length = 1 + cnt isNewRouter script t ∧
  ∀ r rs, (W script t).routers[r]? = some rs → RInvAt script t r rs

def WFR (script : List Op) : Prop :=
  ∀ t op, script[t]? = some op → ∀ r hs, selUse r op = some hs → r < 1 + cnt isNewRouter script t

theorem foldl_register (l : List RouteRec) (x : RouterSt) :
    l.foldl register x = { x with tree := x.tree ++ l.map fun rt => { rt with hs := x.mw ++ rt.hs } } := by
  induction l generalizing x with
  | nil => simp
  | cons a l ih => rw [List.foldl_cons, ih]; simp [register]

def NoMount (script : List Op) : Prop := ∀ op ∈ script, isMount op = false

theorem usesB_router_future_nil (script : List Op) (hwf : WFR script) (r t : Nat)
    (hr : 1 + cnt isNewRouter script t ≤ r) : usesB script (selUse r) t = [] := by
  refine usesB_eq_nil _ _ _ fun i op hi hop => ?_
  cases hu : selUse r op with
  | none => rfl
  | some hs =>
    have := hwf i op hop r hs hu
    have := cnt_mono isNewRouter script i t (Nat.le_of_lt hi)
    omega

/-! ### the matcher -/

theorem subseqRemainders_mem (may s c : List Hid) (h : s.Sublist may) : c ∈ subseqRemainders may (s ++ c) := by
  induction h with
  | slnil => simp [subseqRemainders]
  | cons a _ ih =>
    simp only [subseqRemainders, List.mem_append]
    exact Or.inl ih
  | cons_cons a _ ih =>
    simp only [subseqRemainders, List.cons_append, List.mem_append, if_true]
    exact Or.inr ih

theorem matchLevels_cons (must may s c : List Hid) (ls : List Level) (hs : s.Sublist may)
    (hc : matchLevels ls c = true) : matchLevels ((must, may) :: ls) (must ++ s ++ c) = true := by
  simp only [matchLevels, Bool.and_eq_true, List.any_eq_true]
  refine ⟨by simp [List.append_assoc], c, ?_, hc⟩
  have : (must ++ s ++ c).drop must.length = s ++ c := by simp [List.append_assoc]
  rw [this]
  exact subseqRemainders_mem may s c hs

theorem matchLevels_musts (ls : List Level) (hs : List Hid) :
    matchLevels (ls ++ [(hs, [])]) ((ls.map (·.1)).flatten ++ hs) = true := by
  induction ls with
  | nil =>
    have := matchLevels_cons hs [] [] [] [] (List.Sublist.refl _) (by simp [matchLevels])
    simpa using this
  | cons l ls ih =>
    obtain ⟨m, y⟩ := l
    have := matchLevels_cons m y [] _ _ (List.nil_sublist _) ih
    simpa [List.append_assoc] using this

/-! ### a declared route, model vs oracle -/

abbrev routeSeg := routeSegOf

/-- well-formed script: every reference points to an object that exists already, and no two
    routes are declared with the same path segment (the harness numbers them) -/
structure WF (script : List Op) : Prop where
  g : groupM.WF script
  ag : agroupM.WF script
  avg : avgroupM.WF script
  r : WFR script
  segs : ∀ (i j : Nat) (opi opj : Op) (sg : Nat), script[i]? = some opi → script[j]? = some opj →
    routeSeg opi = some sg → routeSeg opj = some sg → i = j
  own : ∀ (t : Nat) (op : Op), script[t]? = some op →
    match op with
    | .route (.group g) _ _ => g < cnt isGroupCreate script t
    | .route (.vrouter v) _ _ => v < cnt isVRouterCreate script t
    | .route (.vgroup vg) _ _ => vg < cnt isVGroupCreate script t
    | .aroute (.agroup g) _ _ _ _ => g < cnt isAGroupCreate script t
    | .aroute (.avgroup vg) _ _ _ _ => vg < cnt isAVGroupCreate script t
    | .vgroup v _ _ => v < cnt isVRouterCreate script t
    | _ => True

theorem routeRecOf_seg (w : World) (op : Op) (r : Nat) (rec : RouteRec) (h : routeRecOf w op = some (r, rec)) :
    ∃ sg, routeSeg op = some sg ∧ rec.path.getLast? = some sg := by
  cases decl_of_routeRecOf h with
  | router | vrouter | app => exact ⟨_, rfl, rfl⟩
  | group | vgroup | agroup | avgroup => exact ⟨_, rfl, List.getLast?_concat ..⟩

theorem vrouterOf_of_model (script : List Op) (t v r ver : Nat) (ht : t ≤ script.length)
    (h : (W script t).vrouters[v]? = some (r, ver)) : vrouterOf script v = some (r, ver) := by
  obtain ⟨i, op, h1, _, hnth, h4⟩ := created_of_get vrouterA vrouterA_ok script ht h
  have hnth : nthIdx script isVRouterCreate v = some i := hnth
  rcases vrouterA_make_inv h4 with rfl | ⟨rfl, rfl⟩
  · simp only [vrouterOf, hnth, Option.bind_eq_bind, Option.bind_some, h1]; rfl
  · simp only [vrouterOf, hnth, Option.bind_eq_bind, Option.bind_some, h1]; rfl

theorem routeInfo_of_model (script : List Op) (hwf : WF script) (i : Nat) (op : Op) (r : Nat) (rec0 : RouteRec)
    (hi : script[i]? = some op) (hrec : routeRecOf (W script i) op = some (r, rec0)) :
    ∃ gls hs, routeInfo script i = some (r, rec0.ver, rec0.path, gls, hs) ∧
      rec0.hs = (gls.map (·.1)).flatten ++ hs := by
  have hile : i ≤ script.length := Nat.le_of_lt (List.lt_of_getElem? hi)
  cases decl_of_routeRecOf hrec with
  | router r seg hs => exact ⟨[], hs, by simp only [routeInfo, hi], rfl⟩
  | group g seg hs p hp =>
    obtain ⟨ri, rop, ls, h1, h2, h3, h4, h5, _⟩ := genLevels_of_model groupM groupM_ok script hwf.g g (g + 1) i p (Nat.lt_succ_self g) hile hp
    obtain ⟨r', seg', hs', rfl⟩ := groupC_root_inv h4
    refine ⟨ls, hs, ?_, by rw [h2]⟩
    simp only [routeInfo, hi, show genLevels groupC script (g + 1) g i = some (ri, p.pre, ls) from h1,
      Option.bind_eq_bind, Option.bind_some, h3, h5]
    rfl
  | vrouter v seg hs r ver hv =>
    refine ⟨[], hs, ?_, rfl⟩
    simp only [routeInfo, hi, vrouterOf_of_model script i v r ver hile hv, Option.bind_eq_bind, Option.bind_some]
    rfl
  | vgroup vg seg hs p r ver hp hv =>
    obtain ⟨j, opj, g1, _, hnth, g4⟩ := created_of_get vgroupA vgroupA_ok script hile hp
    obtain ⟨v, gseg, ghs, rfl, rfl⟩ := vgroupA_make_inv g4
    refine ⟨[(ghs, [])], hs, ?_, by simp⟩
    simp only [routeInfo, hi, show nthIdx script isVGroupCreate vg = some j from hnth, Option.bind_eq_bind,
      Option.bind_some, g1, vrouterOf_of_model script i v r ver hile hv]
    rfl
  | app seg b hh a => exact ⟨[], b ++ [hh] ++ a, by simp only [routeInfo, hi], rfl⟩
  | agroup g seg b hh a p hp =>
    obtain ⟨ri, rop, ls, h1, h2, _⟩ := genLevels_of_model agroupM agroupM_ok script hwf.ag g (g + 1) i p (Nat.lt_succ_self g) hile hp
    refine ⟨ls, b ++ [hh] ++ a, ?_, by rw [h2]⟩
    simp only [routeInfo, hi, show genLevels agroupC script (g + 1) g i = some (ri, p.pre, ls) from h1,
      Option.bind_eq_bind, Option.bind_some]
    rfl
  | avgroup vg seg b hh a p r ver hp hv =>
    obtain ⟨ri, rop, ls, h1, h2, h3, h4, h5, _⟩ :=
      genLevels_of_model avgroupM avgroupM_ok script hwf.avg vg (vg + 1) i p (Nat.lt_succ_self vg) hile hp
    obtain ⟨ver', rfl⟩ := avgroupC_root_inv h4
    -- the version router `app.Version` created at `ri` is entry `p.owner`
    obtain ⟨j, opj, g1, _, hnth, g4⟩ := created_of_get vrouterA vrouterA_ok script hile hv
    have hlenri := (ainv vrouterA vrouterA_ok script ri (Nat.le_of_lt (List.lt_of_getElem? h3))).1
    have hown : cnt isVRouterCreate script ri = p.owner := hlenri.symm.trans h5.symm
    have hnth' := nthIdx_of_created isVRouterCreate script h3 rfl
    rw [hown, show nthIdx script isVRouterCreate p.owner = some j from hnth] at hnth'
    cases hnth'
    rw [h3] at g1
    cases g1
    cases g4
    refine ⟨ls, b ++ [hh] ++ a, ?_, by rw [h2]⟩
    simp only [routeInfo, hi, show genLevels avgroupC script (vg + 1) vg i = some (ri, p.pre, ls) from h1,
      Option.bind_eq_bind, Option.bind_some, h3]
    rfl

/-! ### between declaration and registration; the oracle read back into the model -/

theorem sublist_flatten {α} {a b : List (List α)} (h : a.Sublist b) : a.flatten.Sublist b.flatten := by
  induction h with
  | slnil => exact List.Sublist.refl _
  | cons x _ ih => exact ih.trans (by simp)
  | cons_cons x _ ih => simpa using (List.Sublist.refl x).append ih

/-- middleware attached between the declaration `i` and the registration `treg` is a sub-list of
    what the oracle calls `may` -/
theorem usesB_split (script : List Op) (sel : Op → Option (List Hid)) (i treg : Nat) (op : Op)
    (hi : script[i]? = some op) (hsel : sel op = none) (hle : i ≤ treg) :
    ∃ mid, usesB script sel treg = usesB script sel i ++ mid ∧
      mid.Sublist (((script.drop (i + 1)).filterMap sel).flatten) := by
  obtain ⟨hil, hopi⟩ := List.getElem?_eq_some_iff.mp hi
  rcases Nat.eq_or_lt_of_le hle with rfl | hlt
  · exact ⟨[], by simp, List.nil_sublist _⟩
  · obtain ⟨k, rfl⟩ : ∃ k, treg = (i + 1) + k := ⟨treg - (i + 1), by omega⟩
    refine ⟨(((script.drop (i + 1)).take k).filterMap sel).flatten, ?_, ?_⟩
    · simp only [usesB, List.take_add, List.filterMap_append, List.flatten_append]
      have h1 : (List.take 1 (List.drop i script)).filterMap sel = [] := by
        rw [List.drop_eq_getElem_cons hil, List.take_succ_cons, List.take_zero]
        simp [hopi, hsel]
      rw [h1]; simp
    · exact sublist_flatten ((List.take_sublist k (script.drop (i + 1))).filterMap sel)

theorem routeRecOf_exists (script : List Op) (hwf : WF script) (i : Nat) (op : Op)
    (hi : script[i]? = some op) (hseg : (routeSeg op).isSome) :
    (routeRecOf (W script i) op).isSome = true := by
  have hile : i ≤ script.length := Nat.le_of_lt (List.lt_of_getElem? hi)
  have hown := hwf.own i op hi
  have hlenv : (W script i).vrouters.length = cnt isVRouterCreate script i := (ainv vrouterA vrouterA_ok script i hile).1
  cases op with
  | route o seg hs =>
    cases o with
    | router r => rfl
    | group g =>
      have hg : g < (W script i).groups.length :=
        Nat.lt_of_lt_of_eq hown (ginv groupM groupM_ok script hwf.g i hile).1.symm
      simp only [routeRecOf, List.getElem?_eq_getElem hg]; rfl
    | vrouter v =>
      have hv : v < (W script i).vrouters.length := Nat.lt_of_lt_of_eq hown hlenv.symm
      simp only [routeRecOf, List.getElem?_eq_getElem hv]; rfl
    | vgroup vg =>
      have hvg : vg < (W script i).vgroups.length :=
        Nat.lt_of_lt_of_eq hown (ainv vgroupA vgroupA_ok script i hile).1.symm
      -- the version router the group was declared on exists since then
      obtain ⟨j, opj, g1, g2, _, g4⟩ := created_of_get vgroupA vgroupA_ok script hile (List.getElem?_eq_getElem hvg)
      obtain ⟨v, gseg, ghs, rfl, g5⟩ := vgroupA_make_inv g4
      have hownj : v < cnt isVRouterCreate script j := hwf.own j _ g1
      have hmono := cnt_mono isVRouterCreate script j i (Nat.le_of_lt g2)
      have hv : (W script i).vgroups[vg].owner < (W script i).vrouters.length := by
        rw [g5, hlenv]; exact Nat.lt_of_lt_of_le hownj hmono
      simp only [routeRecOf, List.getElem?_eq_getElem hvg, Option.bind_some, List.getElem?_eq_getElem hv]; rfl
  | aroute o seg b hh a =>
    cases o with
    | app => rfl
    | agroup g =>
      have hg : g < (W script i).agroups.length :=
        Nat.lt_of_lt_of_eq hown (ginv agroupM agroupM_ok script hwf.ag i hile).1.symm
      simp only [routeRecOf, List.getElem?_eq_getElem hg]; rfl
    | avgroup vg =>
      have hvg : vg < (W script i).avgroups.length :=
        Nat.lt_of_lt_of_eq hown (ginv avgroupM avgroupM_ok script hwf.avg i hile).1.symm
      -- the root `app.Version` call at `ri < i` also created version router number `owner`
      obtain ⟨ri, rop, ls, _, _, h3, h4, h5, h6⟩ :=
        genLevels_of_model avgroupM avgroupM_ok script hwf.avg vg (vg + 1) i _ (Nat.lt_succ_self vg) hile
          (List.getElem?_eq_getElem hvg)
      obtain ⟨ver, rfl⟩ := avgroupC_root_inv h4
      have hlenri : (W script ri).vrouters.length = cnt isVRouterCreate script ri :=
        (ainv vrouterA vrouterA_ok script ri (Nat.le_of_lt (List.lt_of_getElem? h3))).1
      have hlt := cnt_lt_of_created isVRouterCreate script h3 rfl h6
      have hv : (W script i).avgroups[vg].owner < (W script i).vrouters.length := by
        rw [h5, hlenv]; exact Nat.lt_of_le_of_lt (Nat.le_of_eq hlenri) hlt
      simp only [routeRecOf, List.getElem?_eq_getElem hvg, Option.bind_some, List.getElem?_eq_getElem hv]; rfl
  | _ => cases hseg

theorem model_of_routeInfo (script : List Op) (hwf : WF script) {i rr : Nat} {ver : Option Nat} {path0 : Path}
    {gls : List Level} {hs : List Hid} (hri : routeInfo script i = some (rr, ver, path0, gls, hs)) :
    ∃ op rec0, script[i]? = some op ∧ routeRecOf (W script i) op = some (rr, rec0) ∧ rec0.ver = ver ∧
      rec0.path = path0 := by
  cases hop : script[i]? with
  | none => rw [routeInfo, hop] at hri; cases hri
  | some op =>
    have hseg : (routeSeg op).isSome = true := by
      rw [routeInfo, hop] at hri
      cases op with
      | route | aroute => rfl
      | _ => cases hri
    obtain ⟨⟨r', rec0⟩, hrec⟩ := Option.isSome_iff_exists.mp (routeRecOf_exists script hwf i op hop hseg)
    obtain ⟨gls', hs', hinfo, _⟩ := routeInfo_of_model script hwf i op r' rec0 hop hrec
    rw [hri] at hinfo
    cases hinfo
    exact ⟨op, rec0, rfl, hrec, rfl, rfl⟩

/-! ### the Boolean well-formedness check implies `WF` -/

theorem classRefsOK_spec (C : GClass) (script : List Op) (t : Nat) (op : Op) (h : classRefsOK C script t op = true) :
    (∀ p seg hs, C.sub op = some (p, seg, hs) → p < cnt C.isC script t) ∧
    (∀ g hs, C.useOp op = some (g, hs) → g < cnt C.isC script t) := by
  simp only [classRefsOK, Bool.and_eq_true] at h
  constructor
  · intro p seg hs hsb
    have := h.1
    rw [hsb] at this
    simpa using this
  · intro g hs hu
    have := h.2
    rw [hu] at this
    simpa using this

theorem wfB_refs {script : List Op} (h : wfB script = true) {t : Nat} {op : Op} (ht : script[t]? = some op) :
    classRefsOK groupC script t op = true ∧ classRefsOK agroupC script t op = true ∧
    classRefsOK avgroupC script t op = true ∧ ownRefsOK script t op = true ∧ routerRefsOK script t op = true := by
  simp only [wfB, Bool.and_eq_true, List.all_eq_true, List.mem_range] at h
  have := h.1 t (List.lt_of_getElem? ht)
  rw [ht] at this
  simpa only [opRefsOK, Bool.and_eq_true, and_assoc] using this

/-- a segment (as `seg` reads it off an op) names its op -/
def SegNames (seg : Op → Option Nat) (script : List Op) : Prop :=
  ∀ (i j : Nat) (opi opj : Op) (sg : Nat), script[i]? = some opi → script[j]? = some opj →
    seg opi = some sg → seg opj = some sg → i = j

theorem wfB_segs {script : List Op} (h : wfB script = true) : SegNames routeSegOf script ∧ SegNames mountSegOf script := by
  simp only [wfB, Bool.and_eq_true, List.all_eq_true, List.mem_range] at h
  constructor
  · intro i j opi opj sg hi hj si sj
    have := h.2 i (List.lt_of_getElem? hi) j (List.lt_of_getElem? hj)
    rw [hi, hj] at this
    simpa [si, sj] using this
  · intro i j opi opj sg hi hj si sj
    have := h.2 i (List.lt_of_getElem? hi) j (List.lt_of_getElem? hj)
    rw [hi, hj] at this
    simpa [si, sj] using this

theorem wf_of_wfB (script : List Op) (h : wfB script = true) : WF script where
  g := fun _ _ ht => classRefsOK_spec _ _ _ _ (wfB_refs h ht).1
  ag := fun _ _ ht => classRefsOK_spec _ _ _ _ (wfB_refs h ht).2.1
  avg := fun _ _ ht => classRefsOK_spec _ _ _ _ (wfB_refs h ht).2.2.1
  r := by
    intro t op ht r hs hsel
    have h4 := (wfB_refs h ht).2.2.2.2
    cases op with
    | use r' hs' =>
      have : r' = r := by
        by_cases hr : r' = r
        · exact hr
        · simp only [selUse, hr, if_false] at hsel; cases hsel
      exact this ▸ of_decide_eq_true h4
    | ause hs' =>
      have : r = 0 := by
        by_cases hr : r = 0
        · exact hr
        · simp only [selUse, hr, if_false] at hsel; cases hsel
      rw [this]; omega
    | _ => cases hsel
  segs := (wfB_segs h).1
  own := by
    intro t op ht
    have h4 := (wfB_refs h ht).2.2.2.1
    cases op with
    | route o seg hs =>
      cases o with
      | router r => trivial
      | _ => exact of_decide_eq_true h4
    | aroute o seg b hh a =>
      cases o with
      | app => trivial
      | _ => exact of_decide_eq_true h4
    | vgroup v seg hs => exact of_decide_eq_true h4
    | _ => trivial

theorem noMount_of_noMountB (script : List Op) (h : noMountB script = true) : NoMount script := by
  intro op hop
  simp only [noMountB, List.all_eq_true] at h
  simpa using h op hop

end Rivaas.Compose
