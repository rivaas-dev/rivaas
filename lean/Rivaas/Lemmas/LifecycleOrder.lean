import Rivaas.Lemmas.LifecycleKinds
/-
C09 — helper lemmas: the ordering functions of the oracle (`precedes`, `guardedBy`,
`afterRet`, `noInterleave`, `eachOnce`, `nodupNat`) on concatenations. The `precedes` facts of a whole log hang on
one device: a phase rank of the kinds (`rk`), a Boolean `ordered` on the kinds of the consecutive parts, and
`Parts.pairwise_R` (the log of ordered parts is pairwise in rank order), off which `precedes_of_R` reads each of them.
-/
namespace Rivaas.Lifecycle
open Spec

theorem kind_tests (e : Ev) :
    isStart e = (kind e == .start) ∧ isReady e = (kind e == .ready) ∧ isReload e = (kind e == .reload) ∧
    isReqFin e = (kind e == .reqFin) ∧ isSig e = (kind e == .sig) ∧ isShut e = (kind e == .shut) ∧
    isFlush e = (kind e == .flush) ∧ isStop e = (kind e == .stop) ∧ isRet e = (kind e == .ret) := by
  cases e <;> exact ⟨rfl, rfl, rfl, rfl, rfl, rfl, rfl, rfl, rfl⟩

theorem isStart_kind (e : Ev) : isStart e = true → kind e = .start := fun h => eq_of_beq ((kind_tests e).1 ▸ h)
theorem isReady_kind (e : Ev) : isReady e = true → kind e = .ready := fun h => eq_of_beq ((kind_tests e).2.1 ▸ h)
theorem isReload_kind (e : Ev) : isReload e = true → kind e = .reload :=
  fun h => eq_of_beq ((kind_tests e).2.2.1 ▸ h)
theorem isReqFin_kind (e : Ev) : isReqFin e = true → kind e = .reqFin :=
  fun h => eq_of_beq ((kind_tests e).2.2.2.1 ▸ h)
theorem isSig_kind (e : Ev) : isSig e = true → kind e = .sig := fun h => eq_of_beq ((kind_tests e).2.2.2.2.1 ▸ h)
theorem isShut_kind (e : Ev) : isShut e = true → kind e = .shut :=
  fun h => eq_of_beq ((kind_tests e).2.2.2.2.2.1 ▸ h)
theorem isFlush_kind (e : Ev) : isFlush e = true → kind e = .flush :=
  fun h => eq_of_beq ((kind_tests e).2.2.2.2.2.2.1 ▸ h)
theorem isStop_kind (e : Ev) : isStop e = true → kind e = .stop :=
  fun h => eq_of_beq ((kind_tests e).2.2.2.2.2.2.2.1 ▸ h)
theorem isRet_kind (e : Ev) : isRet e = true → kind e = .ret :=
  fun h => eq_of_beq ((kind_tests e).2.2.2.2.2.2.2.2 ▸ h)

theorem kind_isReload (e : Ev) : kind e = .reload → isReload e = true :=
  fun h => (kind_tests e).2.2.1.trans (beq_iff_eq.mpr h)
theorem kind_isSig (e : Ev) : kind e = .sig → isSig e = true :=
  fun h => (kind_tests e).2.2.2.2.1.trans (beq_iff_eq.mpr h)

theorem precedes_iff (p q : Ev → Bool) (L : List Ev) :
    precedes p q L = true ↔ L.Pairwise (fun a b => ¬ (q a = true ∧ p b = true)) := by
  induction L with
  | nil => simp [precedes]
  | cons e es ih =>
    simp only [precedes, Bool.and_eq_true, Bool.or_eq_true, Bool.not_eq_true', List.all_eq_true,
      List.pairwise_cons, ih]
    constructor
    · rintro ⟨h1, h2⟩
      refine ⟨?_, h2⟩
      intro b hb ⟨hq, hp⟩
      rcases h1 with h1 | h1
      · simp [hq] at h1
      · have := h1 b hb; simp [hp] at this
    · rintro ⟨h1, h2⟩
      refine ⟨?_, h2⟩
      by_cases hq : q e = true
      · right
        intro b hb
        by_cases hp : p b = true
        · exact absurd ⟨hq, hp⟩ (h1 b hb)
        · simpa using hp
      · left; simpa using hq

/-- phase rank of a kind: 0 = may occur anywhere -/
def rk : Kind → Nat
  | .shut => 1 | .reqFin => 1 | .flush => 2 | .stop => 3 | .ret => 4 | _ => 0

def rkOk (k1 k2 : Kind) : Bool := rk k1 ≤ rk k2 || rk k2 == 0
def crossOk (ks1 ks2 : List Kind) : Bool := ks1.all fun k1 => ks2.all fun k2 => rkOk k1 k2

/-- kinds lists of consecutive segments respect the phase order -/
def ordered : List (List Kind) → Bool
  | [] => true
  | ks :: rest => crossOk ks ks && rest.all (crossOk ks) && ordered rest

def R (a b : Ev) : Prop := rkOk (kind a) (kind b) = true

theorem crossOk_R {ks1 ks2 : List Kind} (h : crossOk ks1 ks2 = true) {l1 l2 : List Ev}
    (h1 : kindsIn ks1 l1) (h2 : kindsIn ks2 l2) : ∀ a ∈ l1, ∀ b ∈ l2, R a b := by
  intro a ha b hb
  simp only [crossOk, List.all_eq_true] at h
  exact h _ (h1 a ha) _ (h2 b hb)

theorem Parts.pairwise_R (ps : Parts) (h : ps.WK) (ho : ordered (ps.map (·.1)) = true) :
    ps.log.Pairwise R := by
  induction ps with
  | nil => exact List.Pairwise.nil
  | cons p ps ih =>
    obtain ⟨hp, hps⟩ := Parts.WK_cons h
    simp only [List.map_cons, ordered, Bool.and_eq_true, List.all_eq_true, List.mem_map,
      forall_exists_index, and_imp, forall_apply_eq_imp_iff₂] at ho
    obtain ⟨⟨h1, h2⟩, h3⟩ := ho
    rw [Parts.log_cons, List.pairwise_append]
    refine ⟨List.pairwise_of_forall_mem_list (crossOk_R h1 hp hp), ih hps h3, ?_⟩
    intro a ha b hb
    obtain ⟨q, hq, hbq⟩ := List.mem_flatMap.mp hb
    exact crossOk_R (h2 q hq) hp (hps q hq) a ha b hbq

theorem precedes_of_R (p q : Ev → Bool) (kp kq : Kind) (hp : ∀ e, p e = true → kind e = kp)
    (hq : ∀ e, q e = true → kind e = kq) (hr : rk kp < rk kq ∧ rk kp ≠ 0) {L : List Ev}
    (hL : L.Pairwise R) : precedes p q L = true := by
  rw [precedes_iff]
  refine hL.imp ?_
  intro a b hab ⟨hqa, hpb⟩
  have ha := hq a hqa
  have hb := hp b hpb
  simp only [R, rkOk, ha, hb, Bool.or_eq_true, decide_eq_true_eq, beq_iff_eq] at hab
  omega

theorem afterRet_append_of_noRet {a : List Ev} (b : List Ev) (h : a.any isRet = false) :
    afterRet (a ++ b) = afterRet b := by
  induction a with
  | nil => rfl
  | cons e es ih =>
    obtain ⟨he, hes⟩ := Bool.or_eq_false_iff.mp (List.any_cons ▸ h)
    simp only [List.cons_append, afterRet, he, Bool.false_eq_true, if_false]
    exact ih hes

theorem afterRet_ret_cons (b : List Ev) : afterRet (Ev.ret :: b) = b := by
  simp [afterRet, isRet]

theorem guardedBy_append_left {g p : Ev → Bool} {a : List Ev} (b : List Ev) (hg : a.any g = true)
    (hp : a.any p = false) : guardedBy g p (a ++ b) = true := by
  induction a with
  | nil => cases hg
  | cons e es ih =>
    obtain ⟨hpe, hpes⟩ := Bool.or_eq_false_iff.mp (List.any_cons ▸ hp)
    simp only [List.cons_append, guardedBy, hpe, Bool.not_false, Bool.true_and]
    cases hge : g e
    · rw [List.any_cons, hge] at hg
      exact ih hg hpes
    · rfl

/-! ### noInterleave: a nondecreasing list of round ids never re-enters a round -/

theorem all_ne_dropWhile_eq_of_sorted (r : Nat) (l : List Nat) (hs : l.Pairwise (· ≤ ·)) (hr : ∀ x ∈ l, r ≤ x) :
    (l.dropWhile (· == r)).all (· != r) = true := by
  induction l with
  | nil => rfl
  | cons x xs ih =>
    rw [List.pairwise_cons] at hs
    by_cases hx : x = r
    · subst hx
      simp only [List.dropWhile_cons, beq_self_eq_true, if_true]
      exact ih hs.2 (fun y hy => hr y (List.mem_cons_of_mem _ hy))
    · have hlt : r < x := by
        have := hr x (List.mem_cons_self ..); omega
      have hne : (x == r) = false := by simpa using hx
      simp only [List.dropWhile_cons, hne, Bool.false_eq_true, if_false, List.all_cons, Bool.and_eq_true,
        bne_iff_ne, ne_eq, List.all_eq_true]
      refine ⟨hx, ?_⟩
      intro y hy
      have := hs.1 y hy
      omega

theorem noInterleave_of_sorted (l : List Nat) (hs : l.Pairwise (· ≤ ·)) : noInterleave l = true := by
  induction l with
  | nil => rfl
  | cons r rest ih =>
    rw [List.pairwise_cons] at hs
    simp only [noInterleave, Bool.and_eq_true]
    exact ⟨all_ne_dropWhile_eq_of_sorted r rest hs.2 hs.1, ih hs.2⟩

theorem count_seqUp (n lo : Nat) (b : Bool) (i : Nat) :
    (seqUp n lo).count (b, i) = if lo ≤ i ∧ i < lo + n then 1 else 0 := by
  induction n generalizing lo with
  | zero => simp [seqUp]
  | succ n ih =>
    simp only [seqUp, List.count_cons, ih (lo + 1), beq_iff_eq, Prod.mk.injEq]
    by_cases h1 : lo = i
    · subst h1
      have h2 : ¬ (lo + 1 ≤ lo ∧ lo < lo + 1 + n) := by omega
      have h3 : (lo ≤ lo ∧ lo < lo + (n + 1)) := by omega
      cases b <;> simp [h2, h3]
    · have : (lo + 1 ≤ i ∧ i < lo + 1 + n) ↔ (lo ≤ i ∧ i < lo + (n + 1)) := by omega
      simp [h1, this]

theorem eachOnce_seqUp (n : Nat) : eachOnce (seqUp n 0) n = true := by
  simp only [eachOnce, List.all_eq_true, List.mem_range, Bool.and_eq_true, beq_iff_eq]
  intro i hi
  simp [count_seqUp, hi]

theorem nodupNat_iff (l : List Nat) : nodupNat l = true ↔ l.Nodup := by
  induction l with
  | nil => simp [nodupNat]
  | cons x xs ih => simp [nodupNat, ih]

end Rivaas.Lifecycle
