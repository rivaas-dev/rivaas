import Rivaas.Model.BindAll
import Rivaas.Lemmas.BindPath
import Rivaas.Lemmas.BindFlatten
import Rivaas.Lemmas.BindRef
import Rivaas.Lemmas.BindAll
/-
C04 — `WithAllErrors`: the collecting loop over cached index paths equals the *structural* collecting binder
`refFsAll` (field by field, embedded structs in place), as `lemma_loop_eq_ref` says for the plain loop. Declaration by
declaration this is `lemma_lift` / `lemma_lift_nil` of `BindPath.lean` and then `BindRef.lean` once more, with the same proofs, for
`OutAll` in place of `Outcome`: a step may skip with errors, which `OutAll.prepend` carries along. The last
lemma, `lemma_refFld_collect`, ties the two structural binders.
-/
namespace Rivaas.Bind

variable (P : Params) (cfg : Cfg) (nest : NestAll) (tag : Tag)

theorem lemma_prepend_prepend (a b : List Err) (o : OutAll) : (o.prepend b).prepend a = o.prepend (a ++ b) := by
  cases o <;> simp [OutAll.prepend]

theorem lemma_loopAll_append (sty : List Fld) (g : Getter) (d : Nat) :
    ∀ (l1 l2 : List FieldInfo) (e : Val),
      loopAllWith P cfg nest sty (l1 ++ l2) e g d =
        match loopAllWith P cfg nest sty l1 e g d with
        | .done e' es => (loopAllWith P cfg nest sty l2 e' g d).prepend es
        | .panic => .panic
  | [], l2, e => by simp [loopAllWith, lemma_prepend_nil]
  | f :: l1, l2, e => by
    simp only [List.cons_append, loopAllWith]
    -- the errors collected so far go in front of what the rest of the loop returns, on either side
    have front : ∀ (e1 : Val) (es : List Err),
        (loopAllWith P cfg nest sty (l1 ++ l2) e1 g d).prepend es =
          match (loopAllWith P cfg nest sty l1 e1 g d).prepend es with
          | .done e' es' => (loopAllWith P cfg nest sty l2 e' g d).prepend es'
          | .panic => .panic := by
      intro e1 es
      rw [lemma_loopAll_append sty g d l1 l2 e1]
      cases loopAllWith P cfg nest sty l1 e1 g d with
      | panic => rfl
      | done v es' => exact lemma_prepend_prepend _ _ _
    split
    · rfl
    · by_cases hw : (!wants g f) = true
      · rw [if_pos hw, if_pos hw]
        exact lemma_loopAll_append sty g d l1 l2 e
      · rw [if_neg hw, if_neg hw]
        split
        · split
          · exact front _ _
          · exact front _ _
          · rfl
        · rfl

theorem lemma_actionAll_index (g : Getter) (d : Nat) (f : FieldInfo) (idx : List Nat) (cur : Val) :
    fieldActionAll P cfg nest g d { f with index := idx } cur = fieldActionAll P cfg nest g d f cur := by
  unfold fieldActionAll; rfl

theorem lemma_actionAll_pj (g : Getter) (d j : Nat) (f : FieldInfo) (cur : Val) :
    fieldActionAll P cfg nest g d (pj j f) cur = fieldActionAll P cfg nest g d f cur :=
  lemma_actionAll_index P cfg nest g d f (j :: f.index) cur

def liftOutAll (vs : List Val) (j : Nat) (wrap : Val → Val) : OutAll → OutAll
  | .done y es => .done (.struct (vs.set j (wrap y))) es
  | .panic => .panic

theorem lemma_liftOutAll_prepend (vs : List Val) (j : Nat) (wrap : Val → Val) (es : List Err) (o : OutAll) :
    liftOutAll vs j wrap (o.prepend es) = (liftOutAll vs j wrap o).prepend es := by
  cases o <;> rfl

theorem lemma_liftOutAll_set (vs : List Val) (j : Nat) (x : Val) (wrap : Val → Val) (o : OutAll) :
    liftOutAll (vs.set j x) j wrap o = liftOutAll vs j wrap o := by
  cases o <;> simp [liftOutAll, List.set_set]

/-- The loop over the promoted fields of the struct embedded at position `j` - by value (`wrap = id`) or behind an
    allocated pointer (`wrap = .ptr`) - acts on that struct alone. -/
theorem lemma_liftAll_wrap (sty sub : List Fld) (j : Nat) (wrap : Val → Val) (g : Getter) (d : Nat)
    (T : Through sty sub j wrap) :
    ∀ (L : List FieldInfo) (vs cs : List Val), (∀ f ∈ L, f.index ≠ []) → vs[j]? = some (wrap (.struct cs)) →
      loopAllWith P cfg nest sty (L.map (pj j)) (.struct vs) g d =
        liftOutAll vs j wrap (loopAllWith P cfg nest sub L (.struct cs) g d)
  | [], vs, cs, _, hv => by
    simp only [List.map_nil, loopAllWith, liftOutAll]
    rw [lemma_set_self vs j _ hv]
  | f :: L, vs, cs, hL, hv => by
    have hL' : ∀ f ∈ L, f.index ≠ [] := fun f hf => hL f (List.mem_cons_of_mem _ hf)
    have ih := lemma_liftAll_wrap sty sub j wrap g d T L
    obtain ⟨a, r, hidx⟩ := List.exists_cons_of_ne_nil (hL f List.mem_cons_self)
    have hpi : (pj j f).index = j :: a :: r := by rw [← hidx]; rfl
    simp only [List.map_cons, loopAllWith, hpi, lemma_wants_pj, lemma_actionAll_pj, hidx, (T vs cs a r hv).1]
    split
    · rfl
    · by_cases hwf : wants g f = true
      · simp only [hwf, Bool.not_true, Bool.false_eq_true, if_false]
        obtain ⟨cs1, hu1, hcs1, hv1⟩ := lemma_through_upd T vs cs a r id hv
        rw [hu1, hcs1, (T _ cs1 a r hv1).1]
        split
        · cases fieldActionAll P cfg nest g d f _ with
          | store nv es =>
            simp only []
            obtain ⟨cs2, hu2, hcs2, hv2⟩ := lemma_through_upd T _ cs1 a r (fun _ => nv) hv1
            rw [hu2, hcs2, ih _ cs2 hL' hv2, lemma_liftOutAll_prepend, lemma_liftOutAll_set, lemma_liftOutAll_set]
          | skip es =>
            simp only []
            rw [ih _ cs1 hL' hv1, lemma_liftOutAll_prepend, lemma_liftOutAll_set]
          | panic => rfl
        · rfl
      · simp only [hwf, Bool.not_false, if_true]
        exact ih vs cs hL' hv

theorem lemma_liftAll_struct (sty : List Fld) (j : Nat) (h : FieldHdr) (sub : List Fld) (g : Getter) (d : Nat)
    (hs : sty[j]? = some (h, .struct sub)) :
    ∀ (L : List FieldInfo) (vs cs : List Val), (∀ f ∈ L, f.index ≠ []) → vs[j]? = some (.struct cs) →
      loopAllWith P cfg nest sty (L.map (pj j)) (.struct vs) g d =
        liftOutAll vs j id (loopAllWith P cfg nest sub L (.struct cs) g d) :=
  lemma_liftAll_wrap P cfg nest sty sub j id g d (lemma_through (t := .struct sub) rfl hs)

/-- The struct embedded behind a nil pointer: nothing happens until the first promoted field that receives a value
    (bindFieldsWithDepth allocates the pointers on a field's index path only then); from there on the loop behaves
    as if the pointer had been allocated beforehand. -/
theorem lemma_liftAll_nil (sty : List Fld) (j : Nat) (h : FieldHdr) (sub : List Fld) (g : Getter) (d : Nat)
    (hs : sty[j]? = some (h, .ptr (.struct sub))) :
    ∀ (L : List FieldInfo) (vs : List Val),
      (∀ f ∈ L, f.index ≠ [] ∧ reach (zero (.struct sub)) f.index ≠ .bad) → vs[j]? = some .nil →
      loopAllWith P cfg nest sty (L.map (pj j)) (.struct vs) g d =
        if L.any (wants g) then
          loopAllWith P cfg nest sty (L.map (pj j)) (.struct (vs.set j (.ptr (zero (.struct sub))))) g d
        else .done (.struct vs) []
  | [], vs, _, hv => by simp [loopAllWith]
  | f :: L, vs, hL, hv => by
    obtain ⟨hq, hbad⟩ := hL f List.mem_cons_self
    have ih := lemma_liftAll_nil sty j h sub g d hs L vs (fun f hf => hL f (List.mem_cons_of_mem _ hf)) hv
    obtain ⟨a, r, hidx⟩ := List.exists_cons_of_ne_nil hq
    have hpi : (pj j f).index = j :: a :: r := by rw [← hidx]; rfl
    have hv0 : (vs.set j (Val.ptr (zero (.struct sub))))[j]? = some (.ptr (zero (.struct sub))) := lemma_get_set vs j _ _ hv
    rw [hidx] at hbad
    -- `hbad` discharges the side condition of the loop's equation on the allocated side
    simp only [List.map_cons, loopAllWith, hpi, lemma_wants_pj, lemma_reach_nil vs j a r hv,
      lemma_reach_ptr _ j a r _ hv0, List.any_cons]
    by_cases hwf : wants g f = true
    · -- the field receives a value: both sides allocate the same struct
      simp only [hwf, Bool.true_or, if_true, Bool.not_true, Bool.false_eq_true, if_false]
      rw [lemma_updAt_nil sty vs j a r h (.struct sub) id hs hv,
        lemma_updAt_ptr sty _ j a r h (.struct sub) _ id hs hv0, List.set_set]
    · simp only [hwf, Bool.false_or, Bool.not_false, if_true, ih]

/-! ### the structural collecting binder -/

/-- the loop body on a field that is not an embedded struct, acting on the field's value: the new value and the
    errors of the field (`none`: panic) -/
def refLeafAll (g : Getter) (d : Nat) (h : FieldHdr) (t : Ty) (v : Val) : Option (Val × List Err) :=
  match mkInfo P tag [] h t with
  | none => some (v, [])
  | some f =>
    if !wants g f then some (v, [])
    else match fieldActionAll P cfg nest g d f v with
      | .store nv es => some (nv, es)
      | .skip es => some (v, es)
      | .panic => none

mutual
def refFldAll (g : Getter) (d : Nat) (h : FieldHdr) : Ty → Val → Option (Val × List Err)
  | .struct sub, v =>
    if !h.exported then some (v, [])
    else if h.anon then
      match v with
      | .struct cs => match refFsAll g d sub cs with
        | some (cs', es) => some (.struct cs', es)
        | none => none
      | _ => none
    else refLeafAll P cfg nest tag g d h (.struct sub) v
  | .ptr (.struct sub), v =>
    if !h.exported then some (v, [])
    else if h.anon then
      match v with
      | .ptr (.struct cs) => match refFsAll g d sub cs with
        | some (cs', es) => some (.ptr (.struct cs'), es)
        | none => none
      | .nil =>
        if (flatten P tag sub).any (wants g) then
          match refFsAll g d sub (zeroFs sub) with
          | some (cs', es) => some (.ptr (.struct cs'), es)
          | none => none
        else some (.nil, [])
      | _ => none
    else refLeafAll P cfg nest tag g d h (.ptr (.struct sub)) v
  | t, v => if !h.exported then some (v, []) else refLeafAll P cfg nest tag g d h t v
def refFsAll (g : Getter) (d : Nat) : List Fld → List Val → Option (List Val × List Err)
  | [], _ => some ([], [])
  | (h, t) :: fs, v :: vs =>
    match refFldAll g d h t v with
    | none => none
    | some (v', es) => match refFsAll g d fs vs with
      | none => none
      | some (vs', es') => some (v' :: vs', es ++ es')
  | _ :: _, [] => none
end

def embLiftAll (wrap : Val → Val) : Option (List Val × List Err) → Option (Val × List Err)
  | some (cs', es) => some (wrap (.struct cs'), es)
  | none => none

theorem lemma_refFldAll_held (g : Getter) (d : Nat) (h : FieldHdr) {t : Ty} {sub : List Fld}
    (hsf : structFields? t = some sub) (cs : List Val) (hex : h.exported = true) (han : h.anon = true) :
    refFldAll P cfg nest tag g d h t (rewrap t (.struct cs)) = embLiftAll (rewrap t) (refFsAll P cfg nest tag g d sub cs) := by
  rcases structFields?_some hsf with rfl | rfl <;>
  · unfold refFldAll
    rw [hex, han]
    dsimp only [rewrap]
    cases refFsAll P cfg nest tag g d sub cs <;> rfl

theorem lemma_refFldAll_nil (g : Getter) (d : Nat) (h : FieldHdr) (sub : List Fld)
    (hex : h.exported = true) (han : h.anon = true) :
    refFldAll P cfg nest tag g d h (.ptr (.struct sub)) .nil =
      if (flatten P tag sub).any (wants g) then embLiftAll .ptr (refFsAll P cfg nest tag g d sub (zeroFs sub))
      else some (.nil, []) := by
  unfold refFldAll
  rw [hex, han]
  dsimp only
  cases refFsAll P cfg nest tag g d sub (zeroFs sub) <;> rfl

def refOutAll (pre : List Val) : Option (List Val × List Err) → OutAll
  | some (ws, es) => .done (.struct (pre ++ ws)) es
  | none => .panic

def fldOutAll (vs : List Val) (i : Nat) : Option (Val × List Err) → OutAll
  | some (v', es) => .done (.struct (vs.set i v')) es
  | none => .panic

theorem lemma_lift_refOutAll (vs : List Val) (i : Nat) (wrap : Val → Val) (r : Option (List Val × List Err)) :
    liftOutAll vs i wrap (refOutAll [] r) = fldOutAll vs i (embLiftAll wrap r) := by
  cases r <;> rfl

theorem lemma_loopAll_leaf (sty : List Fld) (g : Getter) (d i : Nat) (h : FieldHdr) (t : Ty) (vs : List Val) (v : Val)
    (hs : sty[i]? = some (h, t)) (hv : vs[i]? = some v) :
    loopAllWith P cfg nest sty ((mkInfo P tag [i] h t).toList) (.struct vs) g d =
      fldOutAll vs i (refLeafAll P cfg nest tag g d h t v) := by
  rw [lemma_mkInfo_idx P tag [i] h t]
  unfold refLeafAll
  cases hm : mkInfo P tag [] h t with
  | none => simp [loopAllWith, fldOutAll, lemma_set_self vs i v hv]
  | some f =>
    simp only [Option.map_some, Option.toList_some, loopAllWith, lemma_reach_one, hv]
    have hw : wants g { f with index := [i] } = wants g f := rfl
    rw [hw]
    by_cases hwf : wants g f = true
    · simp only [hwf, Bool.not_true, Bool.false_eq_true, if_false]
      rw [lemma_updAt_one sty vs i h t v id hs hv]
      simp only [id, lemma_set_self vs i v hv, lemma_reach_one, hv]
      rw [lemma_actionAll_index P cfg nest g d f [i] v]
      cases fieldActionAll P cfg nest g d f v with
      | store nv es => simp [lemma_updAt_one sty vs i h t v _ hs hv, fldOutAll, OutAll.prepend]
      | skip es => simp [fldOutAll, OutAll.prepend, lemma_set_self vs i v hv]
      | panic => simp [fldOutAll]
    · have hwf' : wants g f = false := by simpa using hwf
      simp [hwf', fldOutAll, lemma_set_self vs i v hv]

theorem refFldAll_own (g : Getter) (d : Nat) (h : FieldHdr) (t : Ty) (v : Val)
    (hl : h.exported = false ∨ h.anon = false ∨ structFields? t = none) :
    refFldAll P cfg nest tag g d h t v =
      if !h.exported then some (v, []) else refLeafAll P cfg nest tag g d h t v := by
  have key : h.exported = true → h.anon = true → structFields? t = none := fun hex han => by simpa [hex, han] using hl
  cases t with
  | struct fs =>
    unfold refFldAll
    cases hex : h.exported <;> cases han : h.anon <;> first | rfl | cases key hex han
  | ptr e =>
    cases e with
    | struct fs =>
      unfold refFldAll
      cases hex : h.exported <;> cases han : h.anon <;> first | rfl | cases key hex han
    | _ => rfl
  | _ => rfl

theorem lemma_loopAll_fld_of (g : Getter) (d : Nat) (t : Ty) (sty : List Fld) (h : FieldHdr) (i : Nat) (vs : List Val)
    (v : Val)
    (ihsub : ∀ sub, structFields? t = some sub → ∀ cs, wts sub cs = true →
      loopAllWith P cfg nest sub (flatten P tag sub) (.struct cs) g d = refOutAll [] (refFsAll P cfg nest tag g d sub cs))
    (hs : sty[i]? = some (h, t)) (hv : vs[i]? = some v) (hw : wt t v = true) :
    loopAllWith P cfg nest sty (flattenFld P tag [] i h t) (.struct vs) g d =
      fldOutAll vs i (refFldAll P cfg nest tag g d h t v) := by
  rcases fld_kind h t with ⟨sub, hsf, hex, han⟩ | hl
  · rw [flattenFld_embedded P tag [] i h t sub hsf hex han, List.nil_append, lemma_flatten_embedded P tag i sub]
    -- the loop below a struct that is there: held by value, or behind a pointer that is, or has just been, allocated
    have there : ∀ (ws cs : List Val), wts sub cs = true → ws[i]? = some (rewrap t (.struct cs)) →
        loopAllWith P cfg nest sty ((flatten P tag sub).map (pj i)) (.struct ws) g d =
          fldOutAll ws i (embLiftAll (rewrap t) (refFsAll P cfg nest tag g d sub cs)) := by
      intro ws cs hwc hws
      rw [lemma_liftAll_wrap P cfg nest sty sub i _ g d (lemma_through hsf hs) _ ws cs
        (fun f hf => (lemma_flatten_valid P tag sub cs hwc f hf).1) hws, ihsub sub hsf cs hwc, lemma_lift_refOutAll]
    cases structVal_of_wt hsf hw with
    | held cs hwc => rw [lemma_refFldAll_held P cfg nest tag g d h hsf cs hex han, there vs cs hwc hv]
    | nil ht =>
      subst ht
      have hwz := lemma_wts_zero sub
      rw [lemma_refFldAll_nil P cfg nest tag g d h sub hex han,
        lemma_liftAll_nil P cfg nest sty i h sub g d hs (flatten P tag sub) vs
          (fun f hf => by rw [lemma_zero_struct]; exact lemma_flatten_valid P tag sub _ hwz f hf) hv]
      cases hany : (flatten P tag sub).any (wants g) with
      | true =>
        rw [if_pos rfl, if_pos rfl, there _ (zeroFs sub) hwz (by rw [lemma_get_set vs i _ _ hv, lemma_zero_struct]; rfl)]
        rcases refFsAll P cfg nest tag g d sub (zeroFs sub) with _ | ⟨cs', es⟩
        · rfl
        · simp only [embLiftAll, fldOutAll, List.set_set, rewrap]
      | false =>
        rw [if_neg Bool.false_ne_true, if_neg Bool.false_ne_true]
        simp only [fldOutAll, lemma_set_self vs i _ hv]
  · rw [flattenFld_own P tag [] i h t hl, refFldAll_own P cfg nest tag g d h t v hl]
    cases hex : h.exported with
    | true => exact lemma_loopAll_leaf P cfg nest tag sty g d i h t vs v hs hv
    | false => simp only [Bool.not_false, if_true, loopAllWith, fldOutAll, lemma_set_self vs i v hv]

theorem lemma_loopAll_fs (g : Getter) (d : Nat) :
    ∀ (fs spre : List Fld) (pre vs : List Val), spre.length = pre.length → wts fs vs = true →
      loopAllWith P cfg nest (spre ++ fs) (flattenFs P tag [] pre.length fs) (.struct (pre ++ vs)) g d =
        refOutAll pre (refFsAll P cfg nest tag g d fs vs) := by
  intro fs
  induction fs using fld_induction with
  | nil =>
    intro spre pre vs _ hw
    cases vs with
    | nil => rfl
    | cons _ _ => cases hw
  | cons h t rest ihsub ih =>
    intro spre pre vs hlen hw
    cases vs with
    | nil => cases hw
    | cons v vrest =>
      obtain ⟨hwv, hwr⟩ : wt t v = true ∧ wts rest vrest = true := by simpa only [wts, Bool.and_eq_true] using hw
      simp only [flattenFs, refFsAll]
      rw [lemma_loopAll_append, lemma_loopAll_fld_of P cfg nest tag g d t _ h _ _ v
        (fun sub hsf cs hwc => ihsub sub hsf [] [] cs rfl hwc) (by simp [← hlen]) (by simp) hwv]
      cases hr : refFldAll P cfg nest tag g d h t v with
      | none => rfl
      | some r =>
        obtain ⟨v', es⟩ := r
        have := ih (spre ++ [(h, t)]) (pre ++ [v']) vrest (by simp [hlen]) hwr
        simp only [List.append_assoc, List.singleton_append, List.length_append, List.length_singleton] at this
        simp only [fldOutAll, List.set_append_right _ _ (Nat.le_refl _), Nat.sub_self, List.set_cons_zero, this]
        rcases refFsAll P cfg nest tag g d rest vrest with _ | ⟨ws, es'⟩
        · rfl
        · simp only [refOutAll, OutAll.prepend, List.append_assoc, List.singleton_append]

theorem lemma_loopAll_eq_ref (g : Getter) (d : Nat) (sty : List Fld) (vs : List Val) (hw : wts sty vs = true) :
    loopAllWith P cfg nest sty (flatten P tag sty) (.struct vs) g d =
      refOutAll [] (refFsAll P cfg nest tag g d sty vs) :=
  lemma_loopAll_fs P cfg nest tag g d sty [] [] vs rfl hw

theorem lemma_loopAll_fld (g : Getter) (d : Nat) :
    ∀ (t : Ty) (sty : List Fld) (h : FieldHdr) (i : Nat) (vs : List Val) (v : Val),
      sty[i]? = some (h, t) → vs[i]? = some v → wt t v = true →
      loopAllWith P cfg nest sty (flattenFld P tag [] i h t) (.struct vs) g d =
        fldOutAll vs i (refFldAll P cfg nest tag g d h t v) :=
  fun t sty h i vs v => lemma_loopAll_fld_of P cfg nest tag g d t sty h i vs v
    (fun sub _ cs hwc => lemma_loopAll_eq_ref P cfg nest tag g d sub cs hwc)

/-- what the plain structural binder stores in a field, the collecting one stores without an error: the two loops agree
    (`lemma_agree_loop`) on the struct that has this field alone -/
theorem lemma_refFld_collect (nestP : Nest) (hn : ∀ a b c d, Agree (nestP a b c d) (nest a b c d))
    (g : Getter) (d : Nat) (h : FieldHdr) (t : Ty) (v v' : Val) (hw : wt t v = true)
    (hr : refFld P cfg nestP tag g d h t v = .inl v') : refFldAll P cfg nest tag g d h t v = some (v', []) := by
  have ha := lemma_agree_loop P cfg nestP nest hn [(h, t)] (flattenFld P tag [] 0 h t) (.struct [v]) g d
  rw [lemma_loop_fld P cfg nestP tag g d t [(h, t)] h 0 [v] v rfl rfl hw,
    lemma_loopAll_fld P cfg nest tag g d t [(h, t)] h 0 [v] v rfl rfl hw, hr] at ha
  cases hra : refFldAll P cfg nest tag g d h t v with
  | none => rw [hra] at ha; cases ha
  | some r =>
    rw [hra] at ha
    obtain ⟨w, es⟩ := r
    cases (ha : OutAll.done (.struct [w]) es = .done (.struct [v']) [])
    rfl

end Rivaas.Bind
