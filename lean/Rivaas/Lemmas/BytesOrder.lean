import Rivaas.Model.Presence
/-
Order facts about `leB` (Go's `<=` on strings, byte-wise) and the canonical sorted forms built
on it: `sortPaths` is a sorting function that depends only on the multiset of its input
(DESIGN.md, appendix sketch Z), `dedupAdj ∘ sortPaths` only on the set.
-/
namespace Rivaas.Presence

theorem leB_cons (x y : Char) (xs ys : Bytes) :
    leB (x :: xs) (y :: ys) = true ↔ x.toNat < y.toNat ∨ (x = y ∧ leB xs ys = true) := by
  rw [leB]
  split
  · next h => exact ⟨fun _ => .inl h, fun _ => rfl⟩
  · next h =>
    split
    · next h' => exact ⟨nofun, fun h2 => h2.elim (fun h3 => absurd h3 h) fun h3 => absurd (h3.1 ▸ h') (Nat.lt_irrefl _)⟩
    · next h' =>
      have : x = y := Char.toNat_inj.mp (Nat.le_antisymm (Nat.le_of_not_lt h') (Nat.le_of_not_lt h))
      exact ⟨fun h2 => .inr ⟨this, h2⟩, fun h2 => h2.elim (fun h3 => absurd h3 h) (·.2)⟩

theorem leB_iff (a b : Bytes) : leB a b = true ↔ a ≤ b := by
  induction a generalizing b with
  | nil => exact ⟨fun _ => List.nil_le b, fun _ => rfl⟩
  | cons x xs ih =>
    cases b with
    | nil => exact ⟨nofun, fun h => absurd h (by simp)⟩
    | cons y ys => rw [leB_cons, ih, List.cons_le_cons_iff]; rfl

theorem leB_refl (a : Bytes) : leB a a = true := (leB_iff a a).mpr (List.le_refl a)

theorem leB_total (a b : Bytes) : (leB a b || leB b a) = true := by
  rw [Bool.or_eq_true, leB_iff, leB_iff]; exact List.le_total a b

theorem leB_trans (a b c : Bytes) (h1 : leB a b = true) (h2 : leB b c = true) : leB a c = true :=
  (leB_iff a c).mpr (List.le_trans ((leB_iff a b).mp h1) ((leB_iff b c).mp h2))

theorem leB_antisymm (a b : Bytes) (h1 : leB a b = true) (h2 : leB b a = true) : a = b :=
  List.le_antisymm ((leB_iff a b).mp h1) ((leB_iff b a).mp h2)

theorem mem_sortPaths {l : List Path} {p : Path} : p ∈ sortPaths l ↔ p ∈ l :=
  (List.mergeSort_perm l leB).mem_iff

theorem sortPaths_sorted (l : List Path) : (sortPaths l).Pairwise (fun a b => leB a b = true) :=
  List.pairwise_mergeSort (le := leB) leB_trans leB_total l

theorem sortPaths_length (l : List Path) : (sortPaths l).length = l.length :=
  (List.mergeSort_perm l leB).length_eq

theorem perm_sorted_eq {l₁ l₂ : List Path} (hp : l₁.Perm l₂) (h₁ : l₁.Pairwise (fun a b => leB a b = true))
    (h₂ : l₂.Pairwise (fun a b => leB a b = true)) : l₁ = l₂ :=
  hp.eq_of_pairwise (le := fun a b => leB a b = true) (fun a b _ _ => leB_antisymm a b) h₁ h₂

/-- the sort depends only on the multiset of its input: map iteration order cannot show -/
theorem sortPaths_perm {l₁ l₂ : List Path} (h : l₁.Perm l₂) : sortPaths l₁ = sortPaths l₂ :=
  perm_sorted_eq ((List.mergeSort_perm l₁ _).trans (h.trans (List.mergeSort_perm l₂ _).symm))
    (sortPaths_sorted l₁) (sortPaths_sorted l₂)

def ltB (a b : Bytes) : Prop := leB a b = true ∧ a ≠ b

theorem mem_dedupAdj {l : List Path} {p : Path} : p ∈ dedupAdj l ↔ p ∈ l := by
  induction l using dedupAdj.induct with
  | case1 => rfl
  | case2 => rfl
  | case3 a rest ih =>
    -- the head is dropped: it is also the head of the tail
    rw [dedupAdj, if_pos rfl, ih, List.mem_cons (a := p) (b := a) (l := a :: rest), List.mem_cons]
    exact ⟨.inr, fun h => h.elim .inl id⟩
  | case4 a b rest hab ih => rw [dedupAdj, if_neg hab, List.mem_cons, ih, List.mem_cons (l := b :: rest)]

theorem dedupAdj_strict {l : List Path} (h : l.Pairwise (fun a b => leB a b = true)) :
    (dedupAdj l).Pairwise ltB := by
  induction l using dedupAdj.induct with
  | case1 => exact .nil
  | case2 p => exact List.pairwise_singleton _ _
  | case3 a rest ih => rw [dedupAdj, if_pos rfl]; exact ih (List.pairwise_cons.mp h).2
  | case4 a b rest hab ih =>
    rw [dedupAdj, if_neg hab]
    obtain ⟨ha, hrest⟩ := List.pairwise_cons.mp h
    refine List.pairwise_cons.mpr ⟨fun x hx => ⟨ha x (mem_dedupAdj.mp hx), ?_⟩, ih hrest⟩
    rintro rfl
    -- b ≤ a (as a ∈ b :: rest and the tail is sorted) and a ≤ b, so a = b
    have hba : leB b a = true := by
      rcases List.mem_cons.mp (mem_dedupAdj.mp hx) with h1 | h1
      · rw [h1]; exact leB_refl _
      · exact (List.pairwise_cons.mp hrest).1 a h1
    exact hab (leB_antisymm a b (ha b List.mem_cons_self) hba)

theorem strict_ext {l₁ l₂ : List Path} (h₁ : l₁.Pairwise ltB) (h₂ : l₂.Pairwise ltB)
    (h : ∀ p, p ∈ l₁ ↔ p ∈ l₂) : l₁ = l₂ := by
  have hp : l₁.Perm l₂ := (List.perm_ext_iff_of_nodup (h₁.imp (·.2)) (h₂.imp (·.2))).mpr h
  exact perm_sorted_eq hp (h₁.imp (·.1)) (h₂.imp (·.1))

theorem canon_ext {l₁ l₂ : List Path} (h : ∀ p, p ∈ l₁ ↔ p ∈ l₂) :
    dedupAdj (sortPaths l₁) = dedupAdj (sortPaths l₂) := by
  apply strict_ext (dedupAdj_strict (sortPaths_sorted _)) (dedupAdj_strict (sortPaths_sorted _))
  intro p
  simp only [mem_dedupAdj, mem_sortPaths, h]

theorem mem_canon {l : List Path} {p : Path} : p ∈ dedupAdj (sortPaths l) ↔ p ∈ l := by
  simp only [mem_dedupAdj, mem_sortPaths]

end Rivaas.Presence
