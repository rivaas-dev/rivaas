import Rivaas.Model.Bind
import Rivaas.Spec.Bind
import Rivaas.Lemmas.BindFlatten
/-
C04: structure of the oracle's unfolding (`Spec.itemsFs`): membership; how `holds` / `expect` move between a struct and the
value of one of its fields (`lemma_transfer`); the place of an item is where `fieldAt` leads (`lemma_items_fieldAt`), which
gives non-empty paths, one type per place, and what the place holds in a zero value (`lemma_zero_fieldAt`).
-/
namespace Rivaas.Bind
open Spec

/-- the leaf as the getter `g` addresses it: keys behind the getter's prefix -/
def keyed (g : Getter) (l : Leaf) : Leaf :=
  { l with keys := l.keys.map (g.pre ++ ·), nested := l.nested || g.nested }

theorem lemma_mapOf_zero : ∀ t : Ty, mapOf (some (zero t)) = []
  | .prim p => by cases p <;> rfl
  | .ptr _ | .slice _ | .map _ => rfl
  | .struct _ => by simp [zero, mapOf]

theorem lemma_valAtFs : ∀ (vs : List Val) (k : Nat) (q : List Nat),
    valAtFs vs k q = match vs[k]? with
      | some x => valAt x q
      | none => none
  | [], k, q => by simp [valAtFs]
  | x :: xs, 0, q => by simp [valAtFs]
  | x :: xs, k + 1, q => by simp [valAtFs, lemma_valAtFs xs k q]

theorem lemma_valAt_ptr (v : Val) (a : Nat) (r : List Nat) : valAt (.ptr v) (a :: r) = valAt v (a :: r) := by
  simp [valAt]

theorem lemma_valAt_nil (a : Nat) (r : List Nat) : valAt .nil (a :: r) = none := by
  simp [valAt]

theorem lemma_valAt_cons (vs : List Val) (k : Nat) (q : List Nat) (v : Val) (h : vs[k]? = some v) :
    valAt (.struct vs) (k :: q) = valAt v q := by
  simp [valAt, lemma_valAtFs, h]

theorem lemma_valAt_one (vs : List Val) (k : Nat) (v : Val) (h : vs[k]? = some v) :
    valAt (.struct vs) [k] = some v := by
  rw [lemma_valAt_cons vs k [] v h]; simp [valAt]

theorem lemma_transfer_expect (P : Params) (cfg : Cfg) (s : Src) (l : Leaf) (k : Nat) (ns : List Bytes)
    (Init init : Val)
    (hinit : valAt Init (k :: l.path) = valAt init l.path ∨
      (valAt Init (k :: l.path) = none ∧ (valAt init l.path = none ∨ valAt init l.path = some (zero l.ty)))) :
    expect P cfg s Init { l with path := k :: l.path, names := ns } = expect P cfg s init l := by
  unfold expect
  have hm : mapOf (valAt Init (k :: l.path)) = mapOf (valAt init l.path) := by
    rcases hinit with h | ⟨h1, h2 | h2⟩
    · rw [h]
    · rw [h1, h2]
    · rw [h1, h2, lemma_mapOf_zero]; rfl
  simp only [hm]
  rfl

/-- A leaf `l` (path `q`, non-empty) of a sub-value, seen from an enclosing value
    whose results / initial values at `k :: q` are those of the sub-value at `q` — or, for the
    initial value, nothing at all where the sub-value is a freshly allocated zero value. -/
theorem lemma_transfer (P : Params) (cfg : Cfg) (s : Src) (l : Leaf) (k : Nat) (ns : List Bytes)
    (Init Res init res : Val)
    (hres : valAt Res (k :: l.path) = valAt res l.path)
    (hinit : valAt Init (k :: l.path) = valAt init l.path ∨
      (valAt Init (k :: l.path) = none ∧ (valAt init l.path = none ∨ valAt init l.path = some (zero l.ty)))) :
    expect P cfg s Init { l with path := k :: l.path, names := ns } = expect P cfg s init l ∧
    ∀ e, holds init res l e = true → holds Init Res { l with path := k :: l.path, names := ns } e = true := by
  refine ⟨lemma_transfer_expect P cfg s l k ns Init init hinit, ?_⟩
  · intro e he
    unfold holds at he ⊢
    simp only [hres]
    rcases hinit with h | ⟨h1, h2 | h2⟩
    · simp only [h]; exact he
    · simp only [h1]; simp only [h2] at he; exact he
    · simp only [h1]
      simp only [h2] at he
      cases e with
      | some x => exact he
      | none =>
        cases hc : valAt res l.path with
        | none => simp [hc] at he
        | some c => simpa [hc] using he

theorem lemma_transfer_frame (f : Frame) (k : Nat) (Init Res init res : Val)
    (hres : valAt Res (k :: f.path) = valAt res f.path)
    (hinit : valAt Init (k :: f.path) = valAt init f.path ∨
      (valAt Init (k :: f.path) = none ∧ (valAt init f.path = none ∨ valAt init f.path = some (zero f.ty))))
    (h : holdsFrame init res f = true) : holdsFrame Init Res { f with path := k :: f.path } = true := by
  unfold holdsFrame at h ⊢
  simp only [hres]
  rcases hinit with hi | ⟨h1, h2 | h2⟩
  · simp only [hi]; exact h
  · simp only [h1]; simp only [h2] at h; exact h
  · simp only [h1]
    simp only [h2] at h
    cases hc : valAt res f.path with
    | none => simp [hc] at h
    | some c => simpa [hc] using h

/-- the place holds nothing, or the zero value of its own type (as every place of a zero struct does: `lemma_zero_fieldAt`) -/
def ZeroLikeAt (v : Val) (path : List Nat) (ty : Ty) : Prop := valAt v path = none ∨ valAt v path = some (zero ty)

def ZeroLike (v : Val) (l : Leaf) : Prop := ZeroLikeAt v l.path l.ty

/-- where an item keeps a value, and of which type (leaves and frames) -/
def Spec.Item.pathTy : Item → Option (List Nat × Ty)
  | .leaf l => some (l.path, l.ty)
  | .frame f => some (f.path, f.ty)
  | .node _ => none

theorem lemma_pathTy_under (k : Nat) (x : Item) :
    (x.under k).pathTy = x.pathTy.map (fun pt => (k :: pt.1, pt.2)) := by
  cases x <;> rfl

theorem lemma_pathTy_below (k : Nat) (name p : Bytes) (x : Item) :
    (x.below k name p).pathTy = x.pathTy.map (fun pt => (k :: pt.1, pt.2)) := by
  cases x <;> rfl

/-! ### the items of one field, by the kind of field -/

def leafAt (k : Nat) (h : FieldHdr) (t : Ty) (p : Bytes) (as : List Bytes) : Leaf :=
  { path := [k], names := [h.name], keys := p :: as, ty := t, dflt := h.dflt, nested := false }

def leafItems (tag : Tag) (k : Nat) (h : FieldHdr) (t : Ty) : List Item :=
  if !h.exported then [.frame { path := [k], ty := t }]
  else match tagNames (h.tag tag) h.name (tag == .form) with
    | none => [.frame { path := [k], ty := t }]
    | some (p, as) => [.leaf (leafAt k h t p as)]

def nestedItems (tag : Tag) (k : Nat) (h : FieldHdr) (t : Ty) (nfs : List Fld) : List Item :=
  match tagNames (h.tag tag) h.name (tag == .form) with
  | none => [.frame { path := [k], ty := t }]
  | some (p, _) => .node { names := [h.name], depth := 1 } :: (itemsFs tag 0 nfs).map (Item.below k h.name p)

theorem lemma_itemsFld_nested (tag : Tag) (k : Nat) (h : FieldHdr) (t : Ty) (sub : List Fld) (hs : structFields? t = some sub)
    (hex : h.exported = true) (han : h.anon = false) : itemsFld tag k h t = nestedItems tag k h t sub := by
  rcases structFields?_some hs with rfl | rfl <;>
  · simp only [itemsFld, nestedItems, hex, han, Bool.not_true, Bool.false_eq_true, if_false]
    cases tagNames (h.tag tag) h.name (tag == .form) <;> rfl

theorem lemma_itemsFld_embedded (tag : Tag) (k : Nat) (h : FieldHdr) (t : Ty) (sub : List Fld) (hs : structFields? t = some sub)
    (hex : h.exported = true) (han : h.anon = true) : itemsFld tag k h t = (itemsFs tag 0 sub).map (Item.under k) := by
  rcases structFields?_some hs with rfl | rfl <;> simp [itemsFld, hex, han]

theorem lemma_itemsFld_unexported (tag : Tag) (k : Nat) (h : FieldHdr) (t : Ty) (hex : h.exported = false) :
    itemsFld tag k h t = [.frame { path := [k], ty := t }] := by
  cases t with
  | ptr e => cases e <;> simp [itemsFld, hex]
  | _ => simp [itemsFld, hex]

theorem lemma_itemsFld_leaf (tag : Tag) (k : Nat) (h : FieldHdr) (t : Ty) (hs : structFields? t = none) :
    itemsFld tag k h t = leafItems tag k h t := by
  cases t with
  | struct fs => cases hs
  | ptr e => cases e <;> first | rfl | cases hs
  | _ => rfl

/-- a struct field, by value or behind a pointer, is left alone, embedded or nested - under every tag alike -/
theorem lemma_itemsFld_struct (k : Nat) (h : FieldHdr) (t : Ty) (sub : List Fld) (ht : structFields? t = some sub) :
    (∀ tag, itemsFld tag k h t = [.frame { path := [k], ty := t }]) ∨
    (∀ tag, itemsFld tag k h t = (itemsFs tag 0 sub).map (Item.under k)) ∨
    (∀ tag, itemsFld tag k h t = nestedItems tag k h t sub) := by
  cases hex : h.exported with
  | false => exact Or.inl fun tag => lemma_itemsFld_unexported tag k h t hex
  | true =>
    cases han : h.anon with
    | true => exact Or.inr (Or.inl fun tag => lemma_itemsFld_embedded tag k h t sub ht hex han)
    | false => exact Or.inr (Or.inr fun tag => lemma_itemsFld_nested tag k h t sub ht hex han)

/-! ### the items of a struct seen from the enclosing struct -/

theorem lemma_leaf_mem_under (k : Nat) (its : List Item) (l : Leaf) (h : Item.leaf l ∈ its.map (Item.under k)) :
    ∃ l0, Item.leaf l0 ∈ its ∧ l = l0.under k := by
  obtain ⟨x, hx, hxl⟩ := List.mem_map.1 h
  cases x <;> cases hxl
  exact ⟨_, hx, rfl⟩

theorem lemma_node_mem_under (k : Nat) (its : List Item) (n : Node) (h : Item.node n ∈ its.map (Item.under k)) :
    Item.node n ∈ its := by
  obtain ⟨x, hx, hxl⟩ := List.mem_map.1 h
  cases x <;> cases hxl
  exact hx

theorem lemma_leaf_mem_below (k : Nat) (name p : Bytes) (its : List Item) (l : Leaf)
    (h : Item.leaf l ∈ its.map (Item.below k name p)) : ∃ l0, Item.leaf l0 ∈ its ∧ l = l0.below k name p := by
  obtain ⟨x, hx, hxl⟩ := List.mem_map.1 h
  cases x <;> cases hxl
  exact ⟨_, hx, rfl⟩

theorem lemma_node_mem_below (k : Nat) (name p : Bytes) (its : List Item) (n : Node)
    (h : Item.node n ∈ its.map (Item.below k name p)) :
    ∃ n0, Item.node n0 ∈ its ∧ n = { names := name :: n0.names, depth := n0.depth + 1 } := by
  obtain ⟨x, hx, hxl⟩ := List.mem_map.1 h
  cases x <;> cases hxl
  exact ⟨_, hx, rfl⟩

theorem lemma_frame_mem_under (k : Nat) (its : List Item) (f : Frame) (h : Item.frame f ∈ its.map (Item.under k)) :
    ∃ f0, Item.frame f0 ∈ its ∧ f = { f0 with path := k :: f0.path } := by
  obtain ⟨x, hx, hxl⟩ := List.mem_map.1 h
  cases x <;> cases hxl
  exact ⟨_, hx, rfl⟩

theorem lemma_frame_mem_below (k : Nat) (name p : Bytes) (its : List Item) (f : Frame)
    (h : Item.frame f ∈ its.map (Item.below k name p)) : ∃ f0, Item.frame f0 ∈ its ∧ f = { f0 with path := k :: f0.path } := by
  obtain ⟨x, hx, hxl⟩ := List.mem_map.1 h
  cases x <;> cases hxl
  exact ⟨_, hx, rfl⟩

/-! ### leaves, nodes and frames of a struct type are its items of that kind -/

theorem lemma_mem_leavesOf (tag : Tag) (fs : List Fld) (l : Leaf) :
    l ∈ leavesOf tag fs ↔ Item.leaf l ∈ itemsFs tag 0 fs := by
  simp only [leavesOf, items, List.mem_filterMap]
  constructor
  · rintro ⟨x, hx, hxl⟩
    cases x <;> cases hxl
    exact hx
  · exact fun h => ⟨_, h, rfl⟩

theorem lemma_mem_nodesOf (tag : Tag) (fs : List Fld) (n : Node) :
    n ∈ nodesOf tag fs ↔ Item.node n ∈ itemsFs tag 0 fs := by
  simp only [nodesOf, items, List.mem_filterMap]
  constructor
  · rintro ⟨x, hx, hxl⟩
    cases x <;> cases hxl
    exact hx
  · exact fun h => ⟨_, h, rfl⟩

theorem lemma_mem_framesOf (tag : Tag) (fs : List Fld) (f : Frame) :
    f ∈ framesOf tag fs ↔ Item.frame f ∈ itemsFs tag 0 fs := by
  simp only [framesOf, items, List.mem_filterMap]
  constructor
  · rintro ⟨x, hx, hxl⟩
    cases x <;> cases hxl
    exact hx
  · exact fun h => ⟨_, h, rfl⟩

/-! ### the place of an item is a place of the type; in a zero value it holds nothing, or the zero value of its type -/

theorem zeroFs_eq_map : ∀ fs : List Fld, zeroFs fs = fs.map fun f => zero f.2
  | [] => by rw [zeroFs]; rfl
  | (h, t) :: fs => by rw [zeroFs, zeroFs_eq_map fs]; rfl

theorem lemma_zeroFs_get : ∀ (fs : List Fld) (j : Nat) (h : FieldHdr) (t : Ty),
    fs[j]? = some (h, t) → (zeroFs fs)[j]? = some (zero t) := fun fs j h t hf => by
  rw [zeroFs_eq_map, List.getElem?_map, hf]; rfl

theorem lemma_itemsFld_mem (tag : Tag) (k : Nat) (h : FieldHdr) (t : Ty) (x : Item) (hx : x ∈ itemsFld tag k h t) :
    x = .frame { path := [k], ty := t } ∨ (structFields? t = none ∧ ∃ p as, x = .leaf (leafAt k h t p as)) ∨
    x = .node { names := [h.name], depth := 1 } ∨
    ∃ sub, structFields? t = some sub ∧ ∃ y ∈ itemsFs tag 0 sub, x = y.under k ∨ ∃ p, x = y.below k h.name p := by
  cases hs : structFields? t with
  | none =>
    rw [lemma_itemsFld_leaf tag k h t hs] at hx
    unfold leafItems at hx
    split at hx
    · exact Or.inl (List.mem_singleton.1 hx)
    · split at hx
      · exact Or.inl (List.mem_singleton.1 hx)
      · exact Or.inr (Or.inl ⟨rfl, _, _, List.mem_singleton.1 hx⟩)
  | some sub =>
    rcases lemma_itemsFld_struct k h t sub hs with hf | hu | hn
    · rw [hf tag] at hx
      exact Or.inl (List.mem_singleton.1 hx)
    · rw [hu tag] at hx
      obtain ⟨y, hy, rfl⟩ := List.mem_map.1 hx
      exact Or.inr (Or.inr (Or.inr ⟨sub, rfl, y, hy, Or.inl rfl⟩))
    · rw [hn tag] at hx
      unfold nestedItems at hx
      split at hx
      · exact Or.inl (List.mem_singleton.1 hx)
      · rcases List.mem_cons.1 hx with rfl | hx
        · exact Or.inr (Or.inr (Or.inl rfl))
        · obtain ⟨y, hy, rfl⟩ := List.mem_map.1 hx
          exact Or.inr (Or.inr (Or.inr ⟨sub, rfl, y, hy, Or.inr ⟨_, rfl⟩⟩))

theorem lemma_itemsFld_pathTy (tag : Tag) (k : Nat) (h : FieldHdr) (t : Ty) (x : Item) (pt : List Nat × Ty)
    (hx : x ∈ itemsFld tag k h t) (hpt : x.pathTy = some pt) :
    pt = ([k], t) ∨ ∃ sub, structFields? t = some sub ∧
      ∃ y ∈ itemsFs tag 0 sub, ∃ pt0, y.pathTy = some pt0 ∧ pt = (k :: pt0.1, pt0.2) := by
  rcases lemma_itemsFld_mem tag k h t x hx with rfl | ⟨_, _, _, rfl⟩ | rfl | ⟨sub, hs, y, hy, hxy⟩
  · cases hpt; exact Or.inl rfl
  · cases hpt; exact Or.inl rfl
  · cases hpt
  · have hp : x.pathTy = y.pathTy.map (fun pt => (k :: pt.1, pt.2)) := by
      rcases hxy with rfl | ⟨p, rfl⟩
      · exact lemma_pathTy_under k y
      · exact lemma_pathTy_below k _ _ y
    rw [hp] at hpt
    obtain ⟨pt0, hyp, rfl⟩ := Option.map_eq_some_iff.1 hpt
    exact Or.inr ⟨sub, hs, y, hy, pt0, hyp, rfl⟩

theorem lemma_fieldAt_succ (f : Fld) (fs : List Fld) (k : Nat) (q : List Nat) :
    fieldAt (f :: fs) ((k + 1) :: q) = fieldAt fs (k :: q) := by
  cases q <;> simp [fieldAt]

theorem lemma_items_fieldAt (tag : Tag) : ∀ (fs : List Fld) (i : Nat) (x : Item), x ∈ itemsFs tag i fs → ∀ pt, x.pathTy = some pt →
    ∃ j q h, pt.1 = (i + j) :: q ∧ fieldAt fs (j :: q) = some (h, pt.2) := by
  intro fs
  induction fs using fld_induction with
  | nil => intro i x hx; cases hx
  | cons h t rest ihsub ih =>
    intro i x hx pt hpt
    simp only [itemsFs, List.mem_append] at hx
    rcases hx with hx | hx
    · rcases lemma_itemsFld_pathTy tag i h t x pt hx hpt with rfl | ⟨sub, hs, y, hy, pt0, hyp, rfl⟩
      · exact ⟨0, [], h, rfl, rfl⟩
      · obtain ⟨j, q, h', hq, hty⟩ := ihsub sub hs 0 y hy pt0 hyp
        rw [Nat.zero_add] at hq
        refine ⟨0, pt0.1, h', rfl, ?_⟩
        rw [lemma_fieldAt_cons (List.getElem?_cons_zero) hs (by rw [hq]; exact List.cons_ne_nil _ _), hq]
        exact hty
    · obtain ⟨j, q, h', hq, hty⟩ := ih (i+1) x hx pt hpt
      exact ⟨j + 1, q, h', by rw [hq]; congr 1; omega, by rw [lemma_fieldAt_succ]; exact hty⟩

theorem lemma_zero_fieldAt : ∀ (q : List Nat) (fs : List Fld) (h : FieldHdr) (t : Ty), fieldAt fs q = some (h, t) →
    ZeroLikeAt (.struct (zeroFs fs)) q t
  | [], _, _, _, hq => by cases hq
  | [i], fs, h, t, hq => Or.inr (lemma_valAt_one _ i _ (lemma_zeroFs_get fs i h t hq))
  | i :: j :: rest, fs, h, t, hq => by
    simp only [fieldAt] at hq
    cases hf : fs[i]? with
    | none => simp [hf] at hq
    | some ht' =>
      cases hsf : structFields? ht'.2 with
      | none => simp [hf, hsf] at hq
      | some sub =>
        simp only [hf, hsf] at hq
        unfold ZeroLikeAt
        rw [lemma_valAt_cons _ i _ _ (lemma_zeroFs_get fs i ht'.1 ht'.2 hf)]
        rcases structFields?_some hsf with ht | ht <;> rw [ht]
        · simp only [zero]
          exact lemma_zero_fieldAt (j :: rest) sub h t hq
        · exact Or.inl (lemma_valAt_nil j rest)

theorem lemma_items_paths (tag : Tag) (sub : List Fld) (x : Item) (hx : x ∈ itemsFs tag 0 sub) (pt : List Nat × Ty)
    (hpt : x.pathTy = some pt) :
    (∃ a r, pt.1 = a :: r) ∧ ZeroLikeAt (.struct (zeroFs sub)) pt.1 pt.2 := by
  obtain ⟨j, q, h, hq, hf⟩ := lemma_items_fieldAt tag sub 0 x hx pt hpt
  rw [Nat.zero_add] at hq
  exact ⟨⟨j, q, hq⟩, hq ▸ lemma_zero_fieldAt _ sub h pt.2 hf⟩

end Rivaas.Bind
