import Rivaas.Lemmas.C15Rel
/-
C15: every handler operation before a restore preserves the coupling `Live`
(a phase relation and the trailer agreement) and returns to the handler what the plain writer
returns (`lemma_live_setLive`, `lemma_live_writeHeader`, `lemma_live_write`, `lemma_live_flush`); `NoBodyYet`, which
WriteHeader keeps, is what `C15Fold` needs to know of a writer when a handler panic comes before any body operation.
-/
namespace Rivaas.C15
open Rivaas.Http Rivaas.Compress

/-- the writer is installed (no restore yet) and coupled to the plain run -/
def Live (sn : Sniff) (w : CW) (p : Base) : Prop :=
  (UndRel sn w p ∨ PasRel w p ∨ CmpRel sn w p) ∧ Ag w p

/-- nothing of a body has been seen yet -/
def NoBodyYet (w : CW) : Prop := w.compress = false ∧ (w.decided = false → w.buffer = [])

theorem lemma_live_restored (sn : Sniff) (w : CW) (p : Base) (h : Live sn w p) : w.restored = false := by
  rcases h.1 with hu | hp | hcm
  · cases hu <;> rfl
  · exact hp.nr
  · exact hcm.1.nr

theorem lemma_ag_congr (w w' : CW) (p p' : Base) (h : Ag w p) (h1 : w'.base.live = w.base.live)
    (h2 : p'.live = p.live) (h3 : p'.snap = p.snap) : Ag w' p' := by
  intro κ hk
  rw [h1, h2]; rw [h3] at hk; exact h κ hk

theorem lemma_live_setLive (sn : Sniff) (w : CW) (p : Base) (o : Op) (h : Live sn w p) :
    Live sn { w with base := { w.base with live := opLive o w.base.live } } { p with live := opLive o p.live } := by
  obtain ⟨hrel, ha⟩ := h
  refine ⟨?_, fun κ hk => lemma_opLive_congr o _ _ κ (ha κ hk)⟩
  rcases hrel with hu | hp | hcm
  · cases hu with
    | fresh thr enc ex L henc => exact Or.inl (.fresh thr enc ex _ henc)
    | holding thr enc ex L S st X henc hnb hv => exact Or.inl (.holding thr enc ex _ S st X henc hnb hv)
  · obtain ⟨hd, hc, nr, hs, pw, r1, _⟩ := hp
    refine Or.inr (Or.inl ⟨hd, hc, nr, hs, pw, ?_⟩)
    simp only
    rw [r1]
    exact lemma_pass_of_wrote { p with live := opLive o p.live } _ pw
  · exact Or.inr (Or.inr ⟨{ hcm.1 with }, hcm.2⟩)

/-- WriteHeader leaves the held-back bytes alone and decides, if at all, against compression -/
theorem lemma_writeHeader_noBodyYet (w : CW) (c : Nat) (h : NoBodyYet w) : NoBodyYet (w.writeHeader c) := by
  unfold NoBodyYet CW.writeHeader
  simp only [apply_ite CW.compress, apply_ite CW.decided, apply_ite CW.buffer, h.1, ite_self, true_and]
  intro hd
  apply h.2
  cases hw : w.decided
  · rfl
  · simp only [hw, ite_self] at hd
    exact Bool.noConfusion hd

theorem lemma_live_writeHeader (sn : Sniff) (w : CW) (p : Base) (c : Nat) (hc : validC c) (h : Live sn w p) :
    Live sn (w.writeHeader c) (p.writeHeader c) := by
  obtain ⟨hrel, ha⟩ := h
  -- once a status is recorded or the header block is out, WriteHeader is ignored on both sides
  have idem : (w.headersSent = true ∨ w.status ≠ 0) → p.wrote = true → Live sn (w.writeHeader c) (p.writeHeader c) := by
    intro h1 h2
    rw [lemma_cw_writeHeader_idem w c h1, lemma_writeHeader_wrote p h2]
    exact ⟨hrel, ha⟩
  rcases hrel with hu | hp | hcm
  · cases hu with
    | holding thr enc ex L S st X henc hnb hv => exact idem (Or.inr (lemma_validCode_ne_zero st hv)) rfl
    | fresh thr enc ex L henc =>
      refine ⟨?_, fun κ _ => by rw [lemma_cw_writeHeader_live, lemma_writeHeader_live]⟩
      have hv : validCode c = true := hc.1
      by_cases hi : informational c = true
      · -- an informational response goes out at once and is not the response status
        have e1 : (undW thr enc ex L 0 none []).writeHeader c = undW thr enc ex L 0 none [] := by
          simp [CW.writeHeader, hi, Base.writeHeader, hv]
        have e2 : ({ live := L } : Base).writeHeader c = { live := L } := by
          simp [Base.writeHeader, hi, hv]
        rw [e1, e2]
        exact Or.inl (.fresh thr enc ex L henc)
      · have hi' : informational c = false := by simpa using hi
        have h200 := lemma_final_ge_200 c hc hi'
        have e2 : ({ live := L } : Base).writeHeader c = held sn L c L [] := by
          simp [Base.writeHeader, hi', hv, lemma_held_nil]
        rw [e2]
        by_cases hsk : (shouldSkipStatus c || shouldSkipContentType (hfirst L kCT) ex) = true
        · -- a response that is never compressed is committed at once
          have e1 : (undW thr enc ex L 0 none []).writeHeader c =
              { base := held sn L c L [], thr := thr, enc := enc, exclCT := ex, status := c, decided := true,
                headersSent := true } := by
            simp [CW.writeHeader, hi', hsk, Base.writeHeader, hv, lemma_held_nil]
          rw [e1]
          exact Or.inr (Or.inl ⟨rfl, rfl, rfl, rfl, rfl, lemma_pass_refl _⟩)
        · have hsk' : (shouldSkipStatus c || shouldSkipContentType (hfirst L kCT) ex) = false := by
            simpa using hsk
          have e1 : (undW thr enc ex L 0 none []).writeHeader c = undW thr enc ex L c (some L) [] := by
            simp [CW.writeHeader, hi', hsk']
          rw [e1]
          exact Or.inl (.holding thr enc ex L L c [] henc (lemma_noBody_of c h200 (Bool.or_eq_false_iff.mp hsk').1) hv)
  · exact idem (Or.inl hp.hs) hp.pw
  · exact idem (Or.inl hcm.1.hs) hcm.1.pw

theorem lemma_cmp_write (sn : Sniff) (w : CW) (p : Base) (d : Bytes) (h : CmpRel sn w p) :
    CmpRel sn { w with evs := w.evs ++ [some d] } (p.write sn d).1 ∧ (p.write sn d).2 = ⟨d.length, .ok⟩ := by
  obtain ⟨core, stab⟩ := h
  obtain ⟨hout, hbody, hstatus, htype⟩ := lemma_base_write_effects sn p d core.pw core.nb
  obtain ⟨hwrote, hsnap⟩ := lemma_write_snap_wrote sn p d core.pw
  obtain ⟨hT, hstab⟩ := htype stab
  exact ⟨⟨{ core with
      bst := by rw [hstatus]; exact core.bst
      pw := hwrote
      nb := by rw [hstatus]; exact core.nb
      pp := by rw [lemma_write_panicked]; exact core.pp
      pl := by simp only [lemma_plainOf_snoc_some, core.pl, hbody]
      snapEq := by rw [hsnap, hT]; exact core.snapEq }, by rw [hsnap]; exact hstab⟩, hout⟩

/-- Flush while compressing (also right after the decision, when stability is not yet known) -/
theorem lemma_cmpcore_flush (sn : Sniff) (w : CW) (p : Base) (core : CmpCore sn w p) :
    CmpRel sn { w with evs := w.evs ++ [none], base := w.base.flush sn } (p.flush sn) := by
  rw [lemma_flush_eq sn p core.pw, lemma_flush_eq sn w.base core.bw]
  exact ⟨{ core with
      bct := lemma_cmp_pendType sn w.base p.snap _ w.enc core.encne core.snapEq core.bct
      pl := by simp only [lemma_plainOf_snoc_none, core.pl]
      snapEq := core.snapEq }, fun hns => Bool.noConfusion hns⟩

theorem lemma_und_write1 (sn : Sniff) (thr : Nat) (enc : Bytes) (ex : List Bytes) (L S : Hdrs) (st : Nat) (X d : Bytes)
    (hnb : noBody st = false) (hv : validCode st = true) (henc : enc ≠ []) :
    Live sn ((undW thr enc ex L st (some S) X).write sn d).1 ((held sn L st S X).write sn d).1 ∧
      ((undW thr enc ex L st (some S) X).write sn d).2 = ((held sn L st S X).write sn d).2 := by
  rw [lemma_held_write sn L st S X d hnb, lemma_cw_write_und sn thr enc ex L st (some S) X d (lemma_validCode_ne_zero st hv) _ rfl]
  by_cases hh : X.length + d.length < (undW thr enc ex L st (some S) X).holdBack
  · rw [if_pos hh]
    exact ⟨⟨Or.inl (.holding thr enc ex L S st (X ++ d) henc hnb hv), fun _ _ => rfl⟩, rfl⟩
  · rw [if_neg hh]
    obtain ⟨hok, hlive, hrel⟩ := lemma_start_und sn L S thr enc ex X (X ++ d) st true hv hnb henc _ rfl
    rw [hok]
    refine ⟨⟨?_, hlive⟩, rfl⟩
    rcases hrel with hp' | ⟨hc, _⟩
    · exact Or.inr (Or.inl hp')
    · refine Or.inr (Or.inr ⟨hc, fun hs => ?_⟩)
      -- what was held back fixes the sniffed type: without a Content-Type at least 512 bytes were awaited
      by_cases hct : hhas S kCT = true
      · exact Or.inl hct
      · have := lemma_holdBack_ge (undW thr enc ex L st (some S) X) S rfl (by simpa using hct)
        rw [lemma_held_unsent sn _ _ _ _ hs, List.length_append]
        exact Or.inr (by omega)

theorem lemma_live_write (sn : Sniff) (w : CW) (p : Base) (d : Bytes) (h : Live sn w p) :
    Live sn (w.write sn d).1 (p.write sn d).1 ∧ (w.write sn d).2 = (p.write sn d).2 := by
  obtain ⟨hrel, ha⟩ := lemma_live_writeHeader sn w p 200 lemma_validC_200 h
  have hst := lemma_cw_writeHeader_200_status w
  rw [lemma_cw_write_norm, lemma_base_write_norm]
  generalize w.writeHeader 200 = w' at hrel hst ha ⊢
  generalize p.writeHeader 200 = p' at hrel ha ⊢
  rcases hrel with hu | hp | hcm
  · cases hu with
    | fresh thr enc ex L henc => exact absurd hst (by simp)
    | holding thr enc ex L S st X henc hnb hv => exact lemma_und_write1 sn thr enc ex L S st X d hnb hv henc
  · obtain ⟨r1, r2⟩ := lemma_pass_write sn w'.base p' d hp.rel
    obtain ⟨s1, s2⟩ := lemma_write_snap_wrote sn p' d hp.pw
    rw [lemma_cw_write_pas sn w' d hp.d hp.c hp.hs]
    exact ⟨⟨Or.inr (Or.inl ⟨hp.d, hp.c, hp.nr, hp.hs, s1, r1⟩),
      lemma_ag_congr w' _ p' _ ha (lemma_write_live sn w'.base d) (lemma_write_live sn p' d) s2⟩, r2⟩
  · obtain ⟨r, o⟩ := lemma_cmp_write sn w' p' d hcm
    rw [lemma_cw_write_cmp sn w' d hcm.1.d hcm.1.c hcm.1.hs, o]
    exact ⟨⟨Or.inr (Or.inr r), lemma_ag_congr w' _ p' _ ha rfl (lemma_write_live sn p' d)
      (lemma_write_snap_wrote sn p' d hcm.1.pw).2⟩, rfl⟩

theorem lemma_dec_flush (sn : Sniff) (w : CW) (p : Base) (h : PasRel w p ∨ CmpCore sn w p) (ha : Ag w p) :
    Live sn (w.flush sn) (p.flush sn) := by
  have hag : p.wrote = true → Ag { w with base := w.base.flush sn } (p.flush sn) := fun pw =>
    lemma_ag_congr w _ p _ ha (lemma_flush_live sn w.base) (lemma_flush_live sn p) (by rw [lemma_flush_eq sn p pw])
  rcases h with hp | hc
  · rw [lemma_cw_flush_pas sn w hp.d hp.c hp.hs]
    exact ⟨Or.inr (Or.inl ⟨hp.d, hp.c, hp.nr, hp.hs, by rw [lemma_flush_eq sn p hp.pw]; exact hp.pw,
      lemma_pass_flush sn _ p hp.rel⟩), hag hp.pw⟩
  · rw [lemma_cw_flush_cmp sn w hc.d hc.c hc.hw hc.hs]
    exact ⟨Or.inr (Or.inr (lemma_cmpcore_flush sn w p hc)), hag hc.pw⟩

theorem lemma_live_flush (sn : Sniff) (w : CW) (p : Base) (h : Live sn w p) :
    Live sn (w.flush sn) (p.flush sn) := by
  obtain ⟨hrel, ha⟩ := lemma_live_writeHeader sn w p 200 lemma_validC_200 h
  have hst := lemma_cw_writeHeader_200_status w
  rw [lemma_cw_flush_norm, lemma_base_flush_norm]
  generalize w.writeHeader 200 = w' at hrel hst ha ⊢
  generalize p.writeHeader 200 = p' at hrel ha ⊢
  rcases hrel with hu | hp | hcm
  · cases hu with
    | fresh thr enc ex L henc => exact absurd hst (by simp)
    | holding thr enc ex L S st X henc hnb hv =>
      obtain ⟨_, hlive, hrel⟩ := lemma_start_und sn L S thr enc ex X X st (decide (X.length ≥ thr)) hv hnb henc _ rfl
      have hdec := hrel.imp_right And.left
      rw [lemma_cw_flush_und sn thr enc ex L st (some S) X (lemma_validCode_ne_zero st hv) _ rfl (hdec.elim (·.d) (·.d)) (hdec.elim (·.hs) (·.hs))]
      exact lemma_dec_flush sn _ _ hdec hlive
  · exact lemma_dec_flush sn w' p' (Or.inl hp) ha
  · exact lemma_dec_flush sn w' p' (Or.inr hcm.1) ha

end Rivaas.C15
