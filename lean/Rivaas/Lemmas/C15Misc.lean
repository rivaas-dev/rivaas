import Rivaas.Spec.Compress
import Rivaas.Lemmas.C15Final
/-
C15: what holds of every program. Each Write honours io.Writer on the plain writer and on the middleware's, in
every state, also through io.Copy's loop (`lemma_contract` over `lemma_plainStep_out`, `lemma_cwStep_out`); the
plain writer never panics on acceptable status codes (`lemma_plain_no_panic`); the encoding the middleware's writer was
set up with never changes (`lemma_finalCW_enc`).
-/
namespace Rivaas.C15
open Rivaas.Http Rivaas.Compress Rivaas.CompressSpec

theorem lemma_finalCW_enc (sn : Sniff) (cfg : Cfg) (enc : Bytes) (h0 : Hdrs) (ops : List Op) :
    (finalCW sn cfg enc h0 ops).1.enc = enc := by
  unfold finalCW
  simp only
  split
  · rw [lemma_runOps_enc]
  · rw [lemma_close_enc, lemma_runOps_enc]

/-- a model result as the harness reports it (fully observed) -/
def toObs (o : WOut) : OutObs := ⟨1, o.n, o.err⟩

theorem lemma_outOK (len : Nat) (o : WOut) :
    outOK len (toObs o) = true ↔ (o.err = .ok ∧ o.n = len) ∨ (o.err ≠ .ok ∧ o.n ≤ len) := by
  -- the fields of `toObs o` are reduced first: the instance inside `decide (_ ≤ len)` mentions them too, and `simp`
  -- turns the `decide` into the proposition only when the two agree
  dsimp only [outOK, toObs]
  simp

theorem lemma_base_write_out (sn : Sniff) (b : Base) (d : Bytes) :
    outOK d.length (toObs (b.write sn d).2) = true := by
  rw [lemma_outOK]
  cases b with
  | mk live wrote status snap sent ctype pend body panicked =>
    by_cases hd : d = []
    · subst hd
      by_cases hw : wrote = true <;> simp [Base.write, hw]
    · have hd' : d.isEmpty = false := by simpa using hd
      by_cases hw : wrote = true
      · by_cases hn : noBody status = true <;> simp [Base.write, hw, hd', hn]
      · simp [Base.write, Base.writeHeader, hw, hd', validCode, informational, noBody]

theorem lemma_copyLoop_out {σ : Type} (f : σ → Bytes → σ × WOut)
    (hf : ∀ s d, outOK d.length (toObs (f s d).2) = true) :
    ∀ (cs : List Bytes) (s : σ) (acc : Nat),
      outOK ((cs.map List.length).sum + acc) (toObs (copyLoop f s cs acc).2) = true := by
  intro cs
  induction cs with
  | nil => intro s acc; simp [copyLoop, outOK, toObs]
  | cons c cs ih =>
    intro s acc
    unfold copyLoop
    by_cases hc : c.isEmpty = true
    · have : c = [] := by simpa using hc
      subst this
      simpa using ih s acc
    · have hc' : c.isEmpty = false := by simpa using hc
      simp only [hc', Bool.false_eq_true, if_false, List.map_cons, List.sum_cons]
      rcases (lemma_outOK _ _).mp (hf s c) with ⟨h1, h2⟩ | ⟨h1, h2⟩
      · simp only [h1, h2, Nat.lt_irrefl, if_false, bne_self_eq_false, Bool.false_eq_true]
        rw [Nat.add_comm c.length, Nat.add_assoc, Nat.add_comm c.length]
        exact ih _ _
      · have c2 : ((f s c).2.err != Err.ok) = true := by simpa using h1
        simp only [Nat.not_lt.mpr h2, if_false, c2, if_true]
        exact (lemma_outOK _ _).mpr (Or.inr ⟨h1, by simp only; omega⟩)

/-- what an operation hands back, as `writeContract` wants it: a Write or io.Copy one result within the io.Writer
    contract for its length, any other operation nothing -/
def OutOK (o : Op) (r : Option WOut) : Prop :=
  match o with
  | .write d => ∃ x, r = some x ∧ outOK d.length (toObs x) = true
  | .copy cs => ∃ x, r = some x ∧ outOK (cs.map List.length).sum (toObs x) = true
  | _ => r = none

theorem lemma_contract {σ : Type} (step : σ → Op → σ × Option WOut) (h : ∀ s o, OutOK o (step s o).2)
    (ops : List Op) : ∀ s, writeContract (writeLens ops) ((runOps step s ops).2.map toObs) = true := by
  induction ops with
  | nil => intro s; rfl
  | cons o os ih =>
    intro s
    have ho := h s o
    simp only [runOps]
    cases o with
    | write d | copy cs =>
      obtain ⟨x, hx, hok⟩ := ho
      rw [hx]
      simp only [writeLens, List.singleton_append, List.map_cons, writeContract, Bool.and_eq_true]
      exact ⟨hok, ih _⟩
    | _ => rw [ho]; exact ih _

theorem lemma_plainStep_out (sn : Sniff) (b : Base) (o : Op) : OutOK o (plainStep sn b o).2 := by
  cases o with
  | write d => exact ⟨_, rfl, lemma_base_write_out sn b d⟩
  | copy cs => exact ⟨_, rfl, lemma_copyLoop_out (Base.write sn) (lemma_base_write_out sn) cs b 0⟩
  | _ => rfl

theorem lemma_cw_write_out (sn : Sniff) (w : CW) (d : Bytes) : outOK d.length (toObs (w.write sn d).2) = true := by
  rw [lemma_outOK]
  unfold CW.write
  simp only
  split
  · split
    · exact Or.inl ⟨rfl, rfl⟩
    · exact (lemma_outOK _ _).mp (lemma_base_write_out sn _ d)
  · split
    · exact Or.inl ⟨rfl, rfl⟩
    · split
      · next h => exact Or.inr ⟨by simpa using h, Nat.zero_le _⟩
      · exact Or.inl ⟨rfl, rfl⟩

theorem lemma_cwStep_out (sn : Sniff) (w : CW) (o : Op) : OutOK o (CW.step sn w o).2 := by
  unfold CW.step
  split
  · exact lemma_plainStep_out sn w.base o
  · cases o with
    | write d => exact ⟨_, rfl, lemma_cw_write_out sn w d⟩
    | copy cs => exact ⟨_, rfl, lemma_copyLoop_out (CW.write sn) (lemma_cw_write_out sn) cs w 0⟩
    | _ => rfl

theorem lemma_plain_no_panic (sn : Sniff) (h0 : Hdrs) (ops : List Op) (hv : ∀ o ∈ ops, OpValid o) :
    (runPlain sn h0 ops).1.panicked = false := by
  have step : ∀ (b : Base) (o : Op), OpValid o → (plainStep sn b o).1.panicked = b.panicked := by
    intro b o ho
    cases o with
    | writeHeader c => exact lemma_writeHeader_panicked b c ho.1
    | write d => exact lemma_write_panicked sn b d
    | flush => exact lemma_flush_panicked sn b
    | copy cs =>
      exact lemma_copyLoop_inv (·.panicked = b.panicked) _ (fun s d h => by rw [lemma_write_panicked, h]) cs b 0 rfl
    | _ => rfl
  unfold runPlain Base.finish
  simp only
  rw [lemma_flush_panicked]
  exact lemma_runOps_inv (plainStep sn) (·.panicked = false) OpValid (fun b o ho h => by rw [step b o ho, h]) ops _ hv rfl

end Rivaas.C15
