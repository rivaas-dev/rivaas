import Rivaas.Model.Bind
import Rivaas.Spec.Bind
import Rivaas.Lemmas.ListCore
/-
C04 helper lemmas: the getters of the model (`Has` / `Get` / `GetAll` of the five sources and of
the prefix getter) agree with the oracle's reading of the source (`present`) on every key that is
not ambiguous for the field.
-/
namespace Rivaas.Bind
open Spec

theorem assoc_eq_lookup {β} (k : Bytes) (l : List (Bytes × β)) : assoc k l = l.lookup k := by
  induction l with
  | nil => rfl
  | cons a r ih =>
    obtain ⟨k', v⟩ := a
    rw [assoc, ih, List.lookup_cons, BEq.comm]
    cases k == k' <;> rfl

theorem lemma_assoc_mem {β} (k : Bytes) (l : List (Bytes × β)) (v : β) (h : assoc k l = some v) : (k, v) ∈ l :=
  List.mem_of_lookup_some l k v (assoc_eq_lookup k l ▸ h)

theorem lemma_assoc_none {β} (k : Bytes) (l : List (Bytes × β)) (h : assoc k l = none) : ∀ e ∈ l, e.1 ≠ k :=
  fun e he => Ne.symm (bne_iff_ne.1 (List.lookup_eq_none_iff.1 (assoc_eq_lookup k l ▸ h) e he))

theorem lemma_filter_assoc_none {β} (k : Bytes) (l : List (Bytes × β)) (h : assoc k l = none) :
    l.filter (fun e => e.1 == k) = [] := by
  simp only [List.filter_eq_nil_iff, beq_iff_eq]
  exact lemma_assoc_none k l h

theorem lemma_srcOK_nonempty (s : Src) (hs : srcOK s = true) (k : Bytes) (vs : List Bytes)
    (h : assoc k s.kvs = some vs) : vs ≠ [] := by
  have hm := lemma_assoc_mem k s.kvs vs h
  simp only [srcOK, Bool.and_eq_true, List.all_eq_true] at hs
  have := hs.1 (k, vs) hm
  intro e
  simp [e] at this

/-- below a nested struct, some key of a query/form source extends the full key with a dot -/
def dotAmb (s : Src) (nested : Bool) (full : Bytes) : Bool :=
  isQF s.kind && nested && s.kvs.any (fun e => hasPrefix e.1 (full ++ B "."))

def bracketOnly (s : Src) (full : Bytes) : Bool :=
  isQF s.kind && (assoc full s.kvs).isNone && (assoc (full ++ B "[]") s.kvs).isSome

theorem ambiguousKey_eq (s : Src) (nested : Bool) (k : Bytes) :
    ambiguousKey s nested k = (bracketOnly s k || dotAmb s nested k) := by
  unfold ambiguousKey bracketOnly dotAmb isQF
  cases s.kind <;> rfl

theorem lemma_present_qf (s : Src) (full : Bytes) (hqf : isQF s.kind = true) :
    present s full = (match assoc full s.kvs with
      | some (v :: vs) => some (v :: vs)
      | some [] => some ((assoc (full ++ B "[]") s.kvs).getD [])
      | none => assoc (full ++ B "[]") s.kvs) := by
  unfold present
  cases hk : s.kind with
  | query | form =>
    cases assoc full s.kvs with
    | none => rfl
    | some l => cases l <;> rfl
  | _ => simp [isQF, hk] at hqf

theorem lemma_filter_assoc (l : List (Bytes × List Bytes)) (k : Bytes) (vs : List Bytes) (h : assoc k l = some vs) :
    ∃ r, l.filter (fun e => e.1 == k) = (k, vs) :: r := by
  obtain ⟨l₁, l₂, rfl, h₁⟩ := List.lookup_eq_some_iff.1 (assoc_eq_lookup k l ▸ h)
  rw [List.filter_append, List.filter_eq_nil_iff.2 fun p hp hpk => bne_iff_ne.1 (h₁ p hp) (eq_of_beq hpk).symm]
  exact ⟨l₂.filter fun e => e.1 == k, by simp⟩

theorem lemma_hdr_find : ∀ (l : List (Bytes × List Bytes)) (full : Bytes),
    (∀ e ∈ l, e.2 ≠ [] ∧ canonHeader e.1 = e.1) →
    (l.find? (fun e => canonHeader e.1 == canonHeader full && !e.2.isEmpty)).map (·.2) = assoc (canonHeader full) l
  | [], full, _ => by simp [assoc]
  | (k, v) :: l, full, h => by
    have hk := h (k, v) (by simp)
    have hl : ∀ e ∈ l, e.2 ≠ [] ∧ canonHeader e.1 = e.1 := fun e he => h e (by simp [he])
    simp only [List.find?_cons, assoc, hk.2]
    have hv : v.isEmpty = false := by
      cases v with
      | nil => exact absurd rfl hk.1
      | cons _ _ => rfl
    by_cases hc : k = canonHeader full
    · simp [hc, hv]
    · have : (k == canonHeader full) = false := by simpa using hc
      simp only [this, Bool.false_and]
      exact lemma_hdr_find l full hl

/-- `Has`, `GetAll` and `Get` of the five sources are three views of what the oracle reads under the key -/
theorem lemma_base_present (s : Src) (hs : srcOK s = true) (full : Bytes) :
    baseHas s full = (present s full).isSome ∧ baseGetAll s full = (present s full).getD [] ∧
    (bracketOnly s full = false → ∀ vs, present s full = some vs → baseGet s full = vs.headD []) := by
  cases hk : s.kind with
  | query | form =>
    have hqf : isQF s.kind = true := by simp [isQF, hk]
    rw [lemma_present_qf s full hqf]
    simp only [baseHas, baseGetAll, baseGet, bracketOnly, hk, isQF, beq_self_eq_true, Bool.true_or, Bool.or_true, Bool.true_and]
    cases ha : assoc full s.kvs with
    | none => cases assoc (full ++ B "[]") s.kvs <;> simp
    | some l =>
      cases l with
      | nil => exact absurd rfl (lemma_srcOK_nonempty s hs _ _ ha)
      | cons v r => simp
  | path =>
    simp only [baseHas, baseGetAll, baseGet, present, hk, true_and]
    intro _ vs h
    rw [h]; cases vs <;> rfl
  | header =>
    simp only [baseHas, baseGetAll, baseGet, present, hk, hdrEntry]
    have hall : ∀ e ∈ s.kvs, e.2 ≠ [] ∧ canonHeader e.1 = e.1 := by
      intro e he
      simp only [srcOK, hk, Bool.and_eq_true, List.all_eq_true] at hs
      refine ⟨?_, by simpa using hs.2 e he⟩
      have := hs.1 e he
      intro h0
      simp [h0] at this
    rw [← lemma_hdr_find s.kvs full hall]
    cases List.find? (fun e => canonHeader e.1 == canonHeader full && !e.2.isEmpty) s.kvs <;> simp
  | cookie =>
    simp only [baseHas, baseGetAll, baseGet, present, hk]
    cases ha : assoc full s.kvs with
    | none => simp [lemma_filter_assoc_none _ _ ha]
    | some l =>
      obtain ⟨r, hr⟩ := lemma_filter_assoc s.kvs full l ha
      rw [hr]
      cases l with
      | nil => exact absurd rfl (lemma_srcOK_nonempty s hs _ _ ha)
      | cons v t => simp

theorem lemma_get_present (s : Src) (hs : srcOK s = true) (full : Bytes) (vs : List Bytes)
    (hp : present s full = some vs) (hb : bracketOnly s full = false) :
    baseGet s full = vs.headD [] := (lemma_base_present s hs full).2.2 hb vs hp

theorem lemma_getAll_present (s : Src) (hs : srcOK s = true) (full : Bytes) :
    baseGetAll s full = (present s full).getD [] := (lemma_base_present s hs full).2.1

/-- the scan of `prefixGetter.Has` finds nothing that `Has` on the full key does not find, unless a dotted key extends it -/
theorem lemma_has_present (g : Getter) (hs : srcOK g.src = true) (k : Bytes)
    (hamb : dotAmb g.src g.nested (g.pre ++ k) = false) : g.has k = (present g.src (g.pre ++ k)).isSome := by
  rw [← (lemma_base_present g.src hs (g.pre ++ k)).1]
  simp only [Getter.has]
  generalize g.src = s, g.nested = nested, g.pre ++ k = full at hamb ⊢
  cases hscan : (nested && isQF s.kind && s.kvs.any (fun e => e.1 == full || hasPrefix e.1 (full ++ B "."))) with
  | false => rw [Bool.or_false]
  | true =>
    rw [Bool.or_true]
    simp only [Bool.and_eq_true, List.any_eq_true, Bool.or_eq_true, beq_iff_eq] at hscan
    obtain ⟨⟨hn, hq⟩, e, he, h | h⟩ := hscan
    · have : (assoc full s.kvs).isSome = true := by
        cases ha : assoc full s.kvs with
        | some _ => rfl
        | none => exact absurd h (lemma_assoc_none _ _ ha e he)
      unfold baseHas
      cases hk : s.kind <;> simp [isQF, hk] at hq <;> simp [this]
    · simp only [dotAmb, hq, hn, Bool.true_and, List.any_eq_false] at hamb
      exact absurd h (hamb e he)

theorem lemma_lookup_find (g : Getter) (f : FieldInfo) :
    lookupField g f = match (f.tagName :: f.aliases).find? (fun a => g.has a) with
      | some a => (a, g.get a, true)
      | none => (f.tagName, g.get f.tagName, false) := by
  unfold lookupField
  rw [List.find?_cons]
  cases g.has f.tagName with
  | true => rfl
  | false => cases f.aliases.find? (fun a => g.has a) <;> rfl

theorem lemma_find_present (g : Getter) : ∀ (ns : List Bytes),
    (∀ k ∈ ns, g.has k = (present g.src (g.pre ++ k)).isSome) →
    match firstPresent g.src (ns.map (g.pre ++ ·)) with
    | some vs => ∃ key, key ∈ ns ∧ present g.src (g.pre ++ key) = some vs ∧ ns.find? (fun a => g.has a) = some key
    | none => ns.find? (fun a => g.has a) = none
  | [], _ => rfl
  | a :: r, h => by
    have ha := h a (List.mem_cons_self ..)
    have ih := lemma_find_present g r (fun k hk => h k (List.mem_cons_of_mem _ hk))
    simp only [List.map_cons, firstPresent, List.find?_cons, ha]
    cases hpa : present g.src (g.pre ++ a) with
    | some vs => exact ⟨a, List.mem_cons_self .., hpa, rfl⟩
    | none =>
      simp only [Option.isSome_none]
      cases hfp : firstPresent g.src (r.map (g.pre ++ ·)) with
      | some vs =>
        rw [hfp] at ih
        obtain ⟨key, hkey, hpk, hf⟩ := ih
        exact ⟨key, List.mem_cons_of_mem _ hkey, hpk, hf⟩
      | none => rw [hfp] at ih; exact ih

/-- what the oracle reads for the keys of a leaf, in terms of the getter: the first key that is
    present decides -/
theorem lemma_lookup (g : Getter) (hs : srcOK g.src = true) (f : FieldInfo)
    (hdot : ∀ k ∈ f.tagName :: f.aliases, dotAmb g.src g.nested (g.pre ++ k) = false) :
    match firstPresent g.src ((f.tagName :: f.aliases).map (g.pre ++ ·)) with
    | some vs => ∃ key, key ∈ f.tagName :: f.aliases ∧ present g.src (g.pre ++ key) = some vs ∧
        lookupField g f = (key, g.get key, true)
    | none => (lookupField g f).2.2 = false := by
  have := lemma_find_present g (f.tagName :: f.aliases) fun k hk => lemma_has_present g hs k (hdot k hk)
  rw [lemma_lookup_find]
  cases hfp : firstPresent g.src ((f.tagName :: f.aliases).map (g.pre ++ ·)) with
  | some vs =>
    rw [hfp] at this
    obtain ⟨key, hkey, hpk, hf⟩ := this
    exact ⟨key, hkey, hpk, by rw [hf]⟩
  | none => rw [hfp] at this; rw [this]

theorem lemma_lookup_absent (g : Getter) (f : FieldInfo) (h : (lookupField g f).2.2 = false) :
    (lookupField g f).1 = f.tagName := by
  rw [lemma_lookup_find] at h ⊢
  generalize (f.tagName :: f.aliases).find? (fun a => g.has a) = o at h ⊢
  cases o with
  | some a => cases h
  | none => rfl

/-- what the loop reads under the names of a field is what the oracle reads under its keys -/
theorem lemma_reads (g : Getter) (hs : srcOK g.src = true) (f : FieldInfo)
    (hdot : ∀ k ∈ f.tagName :: f.aliases, dotAmb g.src g.nested (g.pre ++ k) = false) :
    (lookupField g f).2.2 = (firstPresent g.src ((f.tagName :: f.aliases).map (g.pre ++ ·))).isSome ∧
    g.getAll (lookupField g f).1 = (firstPresent g.src ((f.tagName :: f.aliases).map (g.pre ++ ·))).getD [] ∧
    ((∀ k ∈ f.tagName :: f.aliases, bracketOnly g.src (g.pre ++ k) = false) → ∀ vs,
      firstPresent g.src ((f.tagName :: f.aliases).map (g.pre ++ ·)) = some vs → (lookupField g f).2.1 = vs.headD []) := by
  have hlook := lemma_lookup g hs f hdot
  cases hfp : firstPresent g.src ((f.tagName :: f.aliases).map (g.pre ++ ·)) with
  | some vs =>
    rw [hfp] at hlook
    obtain ⟨key, hkey, hpres, hlf⟩ := hlook
    rw [hlf]
    refine ⟨rfl, ?_, fun hbr ws hws => ?_⟩
    · simp only [Getter.getAll, lemma_getAll_present g.src hs, hpres, Option.getD_some]
    · cases hws
      exact lemma_get_present g.src hs (g.pre ++ key) vs hpres (hbr key hkey)
  | none =>
    rw [hfp] at hlook
    refine ⟨hlook, ?_, fun _ _ h => by cases h⟩
    have hpn : present g.src (g.pre ++ f.tagName) = none := by
      simp only [List.map_cons, firstPresent] at hfp
      cases hp : present g.src (g.pre ++ f.tagName) with
      | none => rfl
      | some vs => rw [hp] at hfp; cases hfp
    simp only [lemma_lookup_absent g f hlook, Getter.getAll, lemma_getAll_present g.src hs, hpn, Option.getD_none]

end Rivaas.Bind
