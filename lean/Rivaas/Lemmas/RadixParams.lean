import Rivaas.Lemmas.SMapL
import Rivaas.Lemmas.RadixWalk
/-
C01, parameter storage: the 8 inline slots plus overflow map refine the ordered list of captures.
`Param`, `AllParams` and `validateConstraints` on the context the descent builds agree with plain
lookups in the binding list, when the names are distinct.
-/
namespace Rivaas.RadixL
open Rivaas.Route Rivaas.Radix Rivaas.Match

theorem get_setAll (j : Bytes) (m : SMap) (l : List (Bytes × Bytes)) :
    SMap.get j (SMap.setAll m l) = (l.reverse.lookup j <|> SMap.get j m) := by
  induction l generalizing m with
  | nil => rfl
  | cons a rest ih =>
    obtain ⟨k, v⟩ := a
    have : SMap.setAll m ((k, v) :: rest) = SMap.setAll (SMap.set k v m) rest := by simp [SMap.setAll]
    rw [this, ih, SMap.get_set, List.reverse_cons, List.lookup_append, List.lookup_singleton]
    cases rest.reverse.lookup j <;> by_cases hj : j = k <;> simp [hj]

theorem setAll_sorted (m : SMap) (l : List (Bytes × Bytes)) (hm : m.Sorted) : (SMap.setAll m l).Sorted :=
  List.foldlRecOn l _ hm fun _ hb _ _ => SMap.set_sorted _ _ _ hb

theorem ofList_sorted (l : List (Bytes × Bytes)) : (SMap.ofList l).Sorted :=
  setAll_sorted [] l (by simp [SMap.Sorted])

theorem setAll_ofList (m : SMap) (l : List (Bytes × Bytes)) (hm : m.Sorted) :
    SMap.setAll m (SMap.ofList l) = SMap.setAll m l := by
  apply SMap.ext _ _ (setAll_sorted _ _ hm) (setAll_sorted _ _ hm)
  intro k
  rw [get_setAll, get_setAll, List.lookup_reverse _ (ofList_sorted l).nodup, ← SMap.get_eq_lookup, SMap.ofList, get_setAll]
  simp [SMap.get]

/-! ### the context after a sequence of parameter writes -/

theorem pushAllT_cons (st : Ctx × List (Bytes × Bytes)) (k v : Bytes) (ps : List (Bytes × Bytes)) :
    pushAllT st ((k, v) :: ps) = pushAllT (pushT st k v) ps := rfl

theorem pushAllT_gen (s : List (Bytes × Bytes)) (hs : s.length ≤ 8) (o : SMap) (ov ps : List (Bytes × Bytes)) :
    pushAllT (⟨s, o⟩, ov) ps = (⟨(s ++ ps).take 8, o⟩, ov ++ (s ++ ps).drop 8) := by
  induction ps generalizing s ov with
  | nil => simp [pushAllT, List.take_of_length_le hs, List.drop_of_length_le hs]
  | cons a rest ih =>
    rw [pushAllT_cons]
    unfold pushT
    by_cases hl : s.length < 8
    · rw [if_pos hl, ih _ (by rw [List.length_append]; exact hl), List.append_assoc]
      rfl
    · have h8 : s.length = 8 := Nat.le_antisymm hs (Nat.le_of_not_lt hl)
      rw [if_neg hl, ih s hs, List.take_left' h8, List.take_left' h8, List.drop_left' h8, List.drop_left' h8,
        List.append_assoc]
      rfl

theorem pushAllT_fresh (ps : List (Bytes × Bytes)) : pushAllT (Ctx.fresh, []) ps = (⟨ps.take 8, []⟩, ps.drop 8) :=
  pushAllT_gen [] (Nat.zero_le 8) [] [] ps

theorem pushAll_pushAllT (c : Ctx) (ov ps : List (Bytes × Bytes)) :
    pushAll ⟨c.slots, SMap.setAll c.over ov⟩ ps =
      ⟨(pushAllT (c, ov) ps).1.slots, SMap.setAll c.over (pushAllT (c, ov) ps).2⟩ := by
  induction ps generalizing c ov with
  | nil => rfl
  | cons a rest ih =>
    show pushAll ((⟨c.slots, SMap.setAll c.over ov⟩ : Ctx).push a.1 a.2) rest = _
    rw [pushAllT_cons]
    unfold Ctx.push pushT
    by_cases hl : c.slots.length < inlineSlots
    · simp only [hl, if_true]
      exact ih { c with slots := c.slots ++ [(a.1, a.2)] } ov
    · simp only [hl, if_false]
      rw [← ih c (ov ++ [(a.1, a.2)])]
      simp [SMap.setAll, List.foldl_append]

theorem pushAll_fresh (b : List (Bytes × Bytes)) :
    pushAll Ctx.fresh b = ⟨b.take 8, SMap.ofList (b.drop 8)⟩ := by
  have h := pushAll_pushAllT Ctx.fresh [] b
  rw [pushAllT_fresh] at h
  simpa [Ctx.fresh, SMap.ofList, SMap.setAll] using h

/-- `AllParams` is the map of all writes in order -/
theorem all_pushAll (b : List (Bytes × Bytes)) : (pushAll Ctx.fresh b).all = SMap.ofList b := by
  rw [pushAll_fresh]
  unfold Ctx.all
  simp only
  rw [setAll_ofList _ _ (ofList_sorted _)]
  unfold SMap.ofList SMap.setAll
  rw [← List.foldl_append, List.take_append_drop]

theorem slotGet_eq (n : Bytes) (l : List (Bytes × Bytes)) : slotGet n l = bindGet n l := by
  induction l with
  | nil => rfl
  | cons a rest ih =>
    obtain ⟨k, v⟩ := a
    simp only [slotGet, bindGet, ih]

theorem bindGet_eq_lookup (n : Bytes) (l : List (Bytes × Bytes)) : bindGet n l = l.lookup n := by
  induction l with
  | nil => rfl
  | cons a rest ih => obtain ⟨k, v⟩ := a; simp only [bindGet, ih, List.lookup_cons_ite, eq_comm]

theorem distinct_iff (l : List Bytes) : distinct l = true ↔ l.Nodup := by
  induction l with
  | nil => simp [distinct]
  | cons a rest ih => simp [distinct, ih]

theorem bindGet_append (n : Bytes) (a b : List (Bytes × Bytes)) :
    bindGet n (a ++ b) = (bindGet n a <|> bindGet n b) := by
  simp only [bindGet_eq_lookup, List.lookup_append]
  cases a.lookup n <;> rfl

theorem bindGet_mem (b : List (Bytes × Bytes)) (hd : distinct (b.map (·.1)) = true) (n v : Bytes)
    (h : (n, v) ∈ b) : bindGet n b = some v :=
  bindGet_eq_lookup n b ▸ List.lookup_of_mem_nodup _ _ _ ((distinct_iff _).1 hd) h

theorem get_ofList (n : Bytes) (b : List (Bytes × Bytes)) (hd : distinct (b.map (·.1)) = true) :
    SMap.get n (SMap.ofList b) = bindGet n b := by
  rw [SMap.ofList, get_setAll, List.lookup_reverse _ ((distinct_iff _).1 hd), bindGet_eq_lookup]
  simp [SMap.get]

theorem distinct_drop (l : List Bytes) (i : Nat) (h : distinct l = true) : distinct (l.drop i) = true :=
  (distinct_iff _).2 (((distinct_iff _).1 h).sublist (List.drop_sublist i l))

/-- the lookup a constraint or `Param` performs on the context built from distinct writes: the slots, then `Params` -/
theorem ctx_lookup (n : Bytes) (b : List (Bytes × Bytes)) (hd : distinct (b.map (·.1)) = true) :
    bindGet n b = (slotGet n (pushAll Ctx.fresh b).slots <|> SMap.get n (pushAll Ctx.fresh b).over) := by
  rw [pushAll_fresh, slotGet_eq, get_ofList n _ (by simpa [List.map_drop] using distinct_drop _ 8 hd), ← bindGet_append,
    List.take_append_drop]

theorem param_pushAll (n : Bytes) (b : List (Bytes × Bytes)) (hd : distinct (b.map (·.1)) = true) :
    (pushAll Ctx.fresh b).param n = (bindGet n b).getD [] := by
  rw [ctx_lookup n b hd, Ctx.param]
  cases slotGet n (pushAll Ctx.fresh b).slots <;> rfl

theorem validate_pushAll (sat : Nat → Bytes → Bool) (cons : List (Bytes × Nat)) (b : List (Bytes × Bytes))
    (hd : distinct (b.map (·.1)) = true) :
    validate sat cons (pushAll Ctx.fresh b) = consOK sat cons b := by
  unfold validate consOK
  by_cases he : cons.isEmpty = true
  · simp only [he, if_true]
    cases cons with
    | nil => rfl
    | cons a rest => simp at he
  · simp only [he, Bool.false_eq_true, if_false]
    by_cases hbr : cons.length ≤ 3 ∨ (pushAll Ctx.fresh b).slots.length ≤ 4
    · simp only [hbr, if_true]
      apply List.all_congr rfl
      intro a
      obtain ⟨n, cid⟩ := a
      simp only
      rw [ctx_lookup n b hd]
      cases slotGet n (pushAll Ctx.fresh b).slots <;> rfl
    · simp only [hbr, if_false]
      apply List.all_congr rfl
      intro a
      obtain ⟨n, cid⟩ := a
      simp only
      rw [all_pushAll, get_ofList n b hd]
      rfl

theorem joinSlash_eq (l : List Bytes) : Radix.joinSlash l = Match.joinSlash l := by
  induction l with
  | nil => rfl
  | cons a rest ih =>
    cases rest with
    | nil => rfl
    | cons b bs => simp only [Radix.joinSlash, Match.joinSlash, ih]

/-! ### the captured values are positional, the names are the matched route's own (`bindParamNames`) -/

theorem renameSlots_zip (names : List Bytes) (ps : List (Bytes × Bytes)) (h : names.length = ps.length) :
    renameSlots names ps = names.zip (ps.map (·.2)) := by
  induction names generalizing ps with
  | nil =>
    cases ps with
    | nil => rfl
    | cons a rest => simp at h
  | cons n ns ih =>
    cases ps with
    | nil => simp at h
    | cons a rest =>
      obtain ⟨k, v⟩ := a
      simp only [List.length_cons, Nat.add_right_cancel_iff] at h
      simp [renameSlots, ih rest h]

/-- after `bindParamNames` the context is the one obtained by writing the captured values under the leaf's own
names -/
theorem bound_fresh (lf : Leaf) (ps : List (Bytes × Bytes)) (h : lf.names.length = ps.length) :
    boundCtx false lf (pushAllT (Ctx.fresh, []) ps) = pushAll Ctx.fresh (lf.names.zip (ps.map (·.2))) := by
  rw [pushAllT_fresh, pushAll_fresh]
  simp only [boundCtx, Bool.false_eq_true, if_false, bindNames]
  have h8 : (lf.names.take 8).length = (ps.take 8).length := by simp [h]
  rw [renameSlots_zip _ _ h8]
  simp only [List.zip, List.take_zipWith, List.drop_zipWith, List.map_take, List.map_drop, SMap.ofList]

theorem pushesFor_vals (ns : Nodes) (trail : Bool) (segs : List Bytes) :
    ∀ (cur : Key) (suf : Pat) (b : List (Bytes × Bytes)), matchPat trail suf segs = some b →
      (pushesFor ns trail cur suf segs).map (·.2) = b.map (·.2) := by
  induction segs with
  | nil =>
    intro cur suf b hm
    obtain ⟨rfl, rfl⟩ := matchPat_nil_segs trail suf (by rw [hm]; rfl)
    cases hm
    rfl
  | cons x rest ih =>
    intro cur suf b hm
    rcases MatchL.matchPat_cons_some hm with ⟨rfl, rfl⟩ | ⟨t, rfl, ht⟩ | ⟨n, t, b', rfl, ht, rfl⟩
    · simp only [pushesFor, restOfPath, joinSlash_eq]
      rfl
    · exact ih _ t b ht
    · simp only [pushesFor, List.map_cons, ih _ t b' ht]

theorem zip_fst_snd {α β} (b : List (α × β)) : (b.map (·.1)).zip (b.map (·.2)) = b :=
  (List.zip_of_prod rfl rfl).symm

end Rivaas.RadixL
