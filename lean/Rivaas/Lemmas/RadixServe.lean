import Rivaas.Lemmas.RadixText
/-
C01 assembled above the tree walk: `getRoute` (root, `staticPaths`, descent) on the tree the model builds
from a list of routes is the reference choice over the live routes (`getRoute_live`).
-/
namespace Rivaas.RadixL
open Rivaas.Route Rivaas.Radix Rivaas.Match Rivaas.MatchL

/-! ### the method tree the model builds from a list of routes -/

def addRouteOf (t : Tree) (r : Route) : Tree := addRouteGen false t r.text r.rid r.cons

def treeFor (R : List Route) (m : Bytes) : Tree := (R.filter (·.method = m)).foldl addRouteOf Tree.empty

def staticsOf (R : List Route) (m : Bytes) : List (Bytes × Leaf) :=
  (R.filter fun r => r.method = m && !inTree r).foldl (fun l r => setStatic r.text (leafOf r) l) []

def NormalR (R : List Route) : Prop :=
  ∀ r ∈ R, NormalPat r.text r.pat ∧ ∀ c ∈ r.cons, c.1 ∈ declNames r.pat

theorem treeFor_gen (R : List Route) (hR : ∀ r ∈ R, NormalPat r.text r.pat) (m : Bytes) (t : Tree) :
    (R.filter (·.method = m)).foldl addRouteOf t =
      ⟨(entriesOf R m).foldl addEntry t.nodes,
       (R.filter fun r => r.method = m && !inTree r).foldl (fun l r => setStatic r.text (leafOf r) l) t.statics⟩ := by
  induction R generalizing t with
  | nil => rfl
  | cons r rest ih =>
    have hrest : ∀ x ∈ rest, NormalPat x.text x.pat := fun x hx => hR x (List.mem_cons_of_mem _ hx)
    by_cases hm : r.method = m
    · have hstep : ((r :: rest).filter (·.method = m)).foldl addRouteOf t =
          (rest.filter (·.method = m)).foldl addRouteOf (addRouteOf t r) := by
        simp [hm]
      rw [hstep, ih hrest]
      unfold addRouteOf
      rw [addRoute_normal t r (hR r (List.mem_cons_self ..))]
      by_cases hin : inTree r = true
      · simp [hin, entriesOf, hm]
      · have hin' : inTree r = false := by simpa using hin
        simp [hin', entriesOf, hm]
    · simp [entriesOf, hm, ih hrest]

theorem treeFor_char (R : List Route) (hR : ∀ r ∈ R, NormalPat r.text r.pat) (m : Bytes) :
    treeFor R m = ⟨nodesOf (entriesOf R m), staticsOf R m⟩ := by
  unfold treeFor nodesOf staticsOf
  rw [treeFor_gen R hR m Tree.empty]
  rfl

theorem getStatic_setStatic (p k : Bytes) (lf : Leaf) (l : List (Bytes × Leaf)) :
    getStatic p (setStatic k lf l) = if k = p then some lf else getStatic p l := by
  induction l with
  | nil => rfl
  | cons a rest ih =>
    obtain ⟨k', v'⟩ := a
    simp only [setStatic]
    by_cases hk : k' = k
    · subst hk
      simp only [if_true, getStatic]
      by_cases hp : k' = p <;> simp [hp]
    · simp only [hk, if_false, getStatic, ih]
      by_cases hp : k' = p
      · subst hp
        have : ¬ k = k' := fun e => hk e.symm
        simp [this]
      · simp [hp]

theorem getStatic_fold (p : Bytes) (L : List Route) (l0 : List (Bytes × Leaf)) :
    getStatic p (L.foldl (fun l r => setStatic r.text (leafOf r) l) l0) =
      (lastSome (fun r : Route => if r.text = p then some (leafOf r) else none) L <|> getStatic p l0) := by
  induction L generalizing l0 with
  | nil => rfl
  | cons r rest ih =>
    simp only [List.foldl_cons, ih, getStatic_setStatic, lastSome]
    cases lastSome (fun r : Route => if r.text = p then some (leafOf r) else none) rest <;>
      by_cases hp : r.text = p <;> simp [hp]

theorem better_static_left (a b : Pat) (hb : isStaticPat b = true) : better a b = false := by
  obtain ⟨lits, rfl⟩ := static_lits hb
  clear hb
  induction a generalizing lits with
  | nil => rfl
  | cons x xs ih =>
    cases lits with
    | nil => rfl
    | cons l ls =>
      simp only [List.map_cons, better]
      by_cases hk : kind x = kind (PSeg.lit l)
      · rw [if_pos hk]; exact ih ls
      · rw [if_neg hk, decide_eq_false_iff_not]
        cases x <;> simp [kind]

/-! ### request paths -/

theorem cutAny_root : cutAny ['/'] = ⟨[], false⟩ := rfl

theorem split_single (rest : Bytes) (h : splitOnSlash rest = [[]]) : rest = [] := by
  have := join_split rest
  rw [h] at this
  simpa [Match.joinSlash] using this.symm

theorem parsePath_eq (path : Bytes) (h1 : path ≠ ['/']) (h2 : path ≠ []) :
    parsePath path = ((cutAny path).segs, (cutAny path).trail) := by
  unfold parsePath cutAny
  rw [if_neg (not_or.mpr ⟨h1, h2⟩)]
  simp only [splitSlash_eq]
  -- the same test on the same pieces; whether the path starts with `/`, and how the test goes, both sides follow
  split <;> split <;> rename_i h <;> simp only [h, if_true, if_false]

theorem cutAny_slashed (rest : Bytes) (hr : rest ≠ []) :
    cutAny ('/' :: rest) = if (splitOnSlash rest).getLast? = some [] then ⟨(splitOnSlash rest).dropLast, true⟩
                           else ⟨splitOnSlash rest, false⟩ := by
  unfold cutAny
  have : ¬ ('/' :: rest = ['/'] ∨ '/' :: rest = []) := by simp [hr]
  simp only [this, if_false]

theorem cutAny_segs_ne (path : Bytes) (hs : path.head? = some '/') (h1 : path ≠ ['/']) : (cutAny path).segs ≠ [] := by
  cases path with
  | nil => simp at hs
  | cons c rest =>
    simp only [List.head?_cons, Option.some.injEq] at hs
    subst hs
    have hr : rest ≠ [] := by intro e; subst e; exact h1 rfl
    rw [cutAny_slashed rest hr]
    by_cases hl : (splitOnSlash rest).getLast? = some []
    · simp only [hl, if_true]
      intro he
      have hne := split_ne_nil rest
      have : splitOnSlash rest = [[]] := by
        have h3 := List.dropLast_concat_getLast hne
        rw [List.getLast?_eq_some_getLast hne] at hl
        injection hl with hl
        rw [he, hl] at h3
        simpa using h3.symm
      exact hr (split_single rest this)
    · simp only [hl, if_false]
      exact split_ne_nil rest

theorem static_text_iff (r : Route) (hn : NormalPat r.text r.pat) (hs : isStaticPat r.pat = true) (hne : r.pat ≠ [])
    (path : Bytes) (hp : path.head? = some '/') :
    r.text = path ↔ (matchPat (cutAny path).trail r.pat (cutAny path).segs).isSome = true := by
  -- the pattern is a non-empty list of non-empty literals without `/`; its text joins them
  obtain ⟨lits, hpat⟩ := static_lits hs
  have hmap : r.pat.map renderSeg = lits := by
    rw [hpat, List.map_map]
    exact List.map_id' _
  have hlne : lits ≠ [] := by intro e; rw [e] at hpat; exact hne hpat
  have hlok : ∀ t ∈ lits, t ≠ [] ∧ '/' ∉ t := by rw [← hmap]; exact texts_ok r.pat hn.segs
  rw [hn.text, render, hmap, hpat, matchPat_lits]
  cases path with
  | nil => simp at hp
  | cons c rest =>
    simp only [List.head?_cons, Option.some.injEq] at hp
    subst hp
    by_cases hroot : rest = []
    · subst hroot
      have hj : Match.joinSlash lits ≠ [] := join_ne_nil lits hlne fun t ht => (hlok t ht).1
      rw [cutAny_root]
      simp only [List.cons.injEq, true_and]
      exact ⟨fun h => absurd h hj, fun h => absurd h.symm hlne⟩
    · rw [cutAny_slashed rest hroot]
      simp only [List.cons.injEq, true_and]
      constructor
      · intro h
        have hsp : splitOnSlash rest = lits := by
          rw [← h]; exact split_join lits hlne (fun t ht => (hlok t ht).2)
        have hlast : ¬ (splitOnSlash rest).getLast? = some [] := by
          rw [hsp]
          intro hl
          exact (hlok [] (List.mem_of_getLast? hl)).1 rfl
        rw [if_neg hlast]
        exact ⟨rfl, hsp⟩
      · intro h
        by_cases hl : (splitOnSlash rest).getLast? = some []
        · rw [if_pos hl] at h
          exact absurd h.1 (by simp)
        · rw [if_neg hl] at h
          rw [← h.2, join_split]

/-! ### `getRoute` against the reference choice -/

theorem ekeys_nil_of_ok (bp : Pat) (h : bp.all litOK = true) (hk : ekeys bp = []) : bp = [] := by
  have := strip_ekeys bp [] h
  rw [hk, List.append_nil, strip_nil_key] at this
  exact Option.some.inj this

/-- only the root pattern ends at the root node as a plain leaf -/
theorem pat_nil_of_key (pat : Pat) (h : patOK pat) (hk : ekeys (bodyOf pat) = []) (hw : endsWild pat = false) : pat = [] := by
  have := pat_split pat
  rw [ekeys_nil_of_ok _ h hk, hw] at this
  simpa using this

theorem declNames_static (pat : Pat) (h : isStaticPat pat = true) : declNames pat = [] := by
  obtain ⟨lits, rfl⟩ := static_lits h
  clear h
  induction lits with
  | nil => rfl
  | cons l ls ih => rw [List.map_cons, declNames_cons _ _ (by simp)]; exact ih

theorem normal_static_cons (r : Route) (hc : ∀ c ∈ r.cons, c.1 ∈ declNames r.pat) (hs : isStaticPat r.pat = true) :
    r.cons = [] := by
  rw [declNames_static _ hs] at hc
  cases hcons : r.cons with
  | nil => rfl
  | cons c cs => exact absurd (hc c (by rw [hcons]; simp)) (by simp)

theorem routeMatch_static (sat : Nat → Bytes → Bool) (r : Route) (hc : ∀ c ∈ r.cons, c.1 ∈ declNames r.pat)
    (hs : isStaticPat r.pat = true) (p : RPath) (hm : (matchPat p.trail r.pat p.segs).isSome = true) :
    routeMatch sat r p = some [] := by
  cases hb : matchPat p.trail r.pat p.segs with
  | none => rw [hb] at hm; simp at hm
  | some b =>
    have hk := matchPat_keys _ _ _ _ hb
    rw [declNames_static _ hs] at hk
    have hbn : b = [] := by simpa using hk
    subst hbn
    simp [routeMatch, hb, normal_static_cons r hc hs, consOK]

theorem notInTree (r : Route) (h : inTree r = false) : isStaticPat r.pat = true ∧ r.pat ≠ [] := by
  simp only [inTree, Bool.or_eq_false_iff, Bool.not_eq_false', List.isEmpty_eq_false_iff] at h
  exact h

theorem okOf_match (w : Option (Leaf × Ctx)) (ctx : Ctx) :
    okOf (match w with
      | some (lf, c) => (some lf, c)
      | none => (none, ctx)) = w := by
  cases w with
  | none => rfl
  | some v => obtain ⟨lf, c⟩ := v; rfl

/-- `staticPaths[path]` of the tree built from `R`: the last parameter-free route of the method with that text -/
theorem getStatic_staticsOf (R : List Route) (m path : Bytes) :
    getStatic path (staticsOf R m) =
      lastSome (fun r : Route => if (decide (r.method = m) && !inTree r && decide (r.text = path)) = true then some (leafOf r) else none) R := by
  rw [staticsOf, getStatic_fold, lastSome_filter,
    show ∀ o : Option Leaf, (o <|> getStatic path []) = o from fun o => by cases o <;> rfl]
  apply lastSome_congr_mem
  intro r _
  by_cases h1 : (decide (r.method = m) && !inTree r) = true <;> by_cases h2 : r.text = path <;> simp [h1, h2]

theorem static_none {R : List Route} {m path : Bytes} (h : getStatic path (staticsOf R m) = none)
    {r : Route} (hr : r ∈ R) (hm : r.method = m) (ht : inTree r = false) : r.text ≠ path := by
  rw [getStatic_staticsOf] at h
  intro htx
  have := lastSome_eq_none _ _ h r hr
  simp [hm, ht, htx] at this

/-- a parameter-free route of the vocabulary is found in `staticPaths` under the path exactly when it matches it -/
theorem static_route_iff (r : Route) (hn : NormalPat r.text r.pat) (path : Bytes) (hp : path.head? = some '/')
    (hroot : path ≠ ['/']) :
    (inTree r = false ∧ r.text = path) ↔
      (isStaticPat r.pat = true ∧ (matchPat (cutAny path).trail r.pat (cutAny path).segs).isSome = true) := by
  constructor
  · rintro ⟨ht, htx⟩
    obtain ⟨hss, hsne⟩ := notInTree r ht
    exact ⟨hss, (static_text_iff r hn hss hsne path hp).mp htx⟩
  · rintro ⟨hss, hmatch⟩
    have hrne : r.pat ≠ [] := by
      intro e; rw [e] at hmatch
      cases hcs : (cutAny path).segs with
      | nil => exact cutAny_segs_ne path hp hroot hcs
      | cons x xs => rw [hcs] at hmatch; simp [matchPat] at hmatch
    exact ⟨by simp [inTree, hss, hrne], (static_text_iff r hn hss hrne path hp).mpr hmatch⟩

/-- `staticPaths[path]` holds the leaf of a live route: a later route of its method and shape has its pattern, hence its
text, and would have taken the entry -/
theorem static_live {R : List Route} (hNP : ∀ r ∈ R, NormalPat r.text r.pat) {m path : Bytes} {lf : Leaf}
    (h : getStatic path (staticsOf R m) = some lf) :
    ∃ r ∈ live R, r.method = m ∧ inTree r = false ∧ r.text = path ∧ lf = leafOf r := by
  rw [getStatic_staticsOf] at h
  obtain ⟨R1, r, R2, rfl, hfr, h2⟩ := lastSome_split _ _ lf h
  split at hfr
  · rename_i hc
    simp only [Bool.and_eq_true, decide_eq_true_eq, Bool.not_eq_true'] at hc
    refine ⟨r, mem_live_iff.mpr ⟨R1, R2, rfl, List.any_eq_false.mpr fun x hx hrep => ?_⟩, hc.1.1, hc.1.2, hc.2,
      (Option.some.inj hfr).symm⟩
    simp only [replaces, Bool.and_eq_true, decide_eq_true_eq] at hrep
    have hxt : x.text = path := by
      rw [(hNP x (by simp [hx])).text, shapeEq_static (notInTree r hc.1.2).1 hrep.2, ← (hNP r (by simp)).text, hc.2]
    have := h2 x hx
    rw [if_pos (by simp [hrep.1.trans hc.1.1, (inTree_shape hrep.2).trans hc.1.2, hxt])] at this
    cases this
  · cases hfr

theorem ref_live_static (sat : Nat → Bytes → Bool) {R : List Route} {m : Bytes} {p : RPath} {r : Route} (hr : r ∈ live R)
    (hm : r.method = m) (hc : ∀ c ∈ r.cons, c.1 ∈ declNames r.pat) (hs : isStaticPat r.pat = true)
    (hmatch : (matchPat p.trail r.pat p.segs).isSome = true) :
    (refRoute sat (live R) m p).map (fun r => (leafOf r, pushAll Ctx.fresh ((routeMatch sat r p).getD []))) =
      some (leafOf r, Ctx.fresh) := by
  have hsrm := routeMatch_static sat r hc hs p hmatch
  rw [ref_of_max (live_pairwise R) (C01.lemma_mem_cands.mpr ⟨hr, hm, by rw [hsrm]; rfl⟩) fun c _ => better_static_left _ _ hs]
  simp only [Option.map_some, hsrm]
  rfl

theorem getRoute_tree (sat : Nat → Bytes → Bool) (R : List Route) (hNP : ∀ r ∈ R, NormalPat r.text r.pat) (m path : Bytes)
    (hp : path.head? = some '/') :
    okOf (getRouteGen false false false sat (treeFor R m) path Ctx.fresh) =
      if path = ['/'] then (getK (nodesOf (entriesOf R m)) []).leaf.map (·, Ctx.fresh)
      else match getStatic path (staticsOf R m) with
        | some lf => some (lf, Ctx.fresh)
        | none => walkGen false false false sat (nodesOf (entriesOf R m)) (cutAny path).trail [] (Ctx.fresh, [])
            (cutAny path).segs := by
  rw [treeFor_char R hNP m]
  by_cases hroot : path = ['/']
  · subst hroot
    rfl
  · have hpne : path ≠ [] := by intro e; rw [e] at hp; simp at hp
    have hnr : ¬ (path = ['/'] ∨ path = []) := by intro h; rcases h with h | h <;> contradiction
    rw [if_neg hroot]
    simp only [getRouteGen, hnr, if_false, parsePath_eq path hroot hpne]
    cases getStatic path (staticsOf R m) with
    | some lf => rfl
    | none => exact okOf_match _ _

theorem getRoute_live (sat : Nat → Bytes → Bool) (R : List Route) (hR : NormalR R) (m : Bytes) (path : Bytes)
    (hp : path.head? = some '/') :
    okOf (getRouteGen false false false sat (treeFor R m) path Ctx.fresh) =
      (refRoute sat (live R) m (cutAny path)).map fun r =>
        (leafOf r, pushAll Ctx.fresh ((routeMatch sat r (cutAny path)).getD [])) := by
  have hNP : ∀ r ∈ R, NormalPat r.text r.pat := fun r hr => (hR r hr).1
  have hOK : ∀ r ∈ R, patOK r.pat := fun r hr => normal_patOK _ _ (hNP r hr)
  have hD : ∀ r ∈ R, distinct (declNames r.pat) = true := fun r hr => (hNP r hr).dist
  rw [getRoute_tree sat R hNP m path hp]
  by_cases hroot : path = ['/']
  · -- the root path: only root patterns match it, and the root node holds the leaf of the live one
    subst hroot
    rw [if_pos rfl, cutAny_root]
    cases hl : (getK (nodesOf (entriesOf R m)) []).leaf with
    | some lf =>
      obtain ⟨r, hr, hrm, _, rfl, hk, hw⟩ := node_live R hOK m [] false lf hl
      have hpe := pat_nil_of_key r.pat (hOK r (live_sub hr)) hk.symm hw.symm
      exact (ref_live_static sat hr hrm (hR r (live_sub hr)).2 (by rw [hpe]; rfl) (by rw [hpe]; rfl)).symm
    | none =>
      rw [ref_none fun r hr hm hrm => ?_]
      · rfl
      · have hpe := (matchPat_nil_segs _ _ (routeMatch_isSome_match sat r _ hrm)).1
        have := slot_live R hOK m hr hm (by simp [inTree, hpe])
        rw [hpe] at this
        exact absurd (this.symm.trans hl) (by simp)
  · -- any other path: `staticPaths` holds the parameter-free routes that match, the descent finds the others
    rw [if_neg hroot]
    cases hs : getStatic path (staticsOf R m) with
    | some lf =>
      obtain ⟨r, hr, hrm, hrt, htx, rfl⟩ := static_live hNP hs
      obtain ⟨hss, hmatch⟩ := (static_route_iff r (hNP r (live_sub hr)) path hp hroot).mp ⟨hrt, htx⟩
      exact (ref_live_static sat hr hrm (hR r (live_sub hr)).2 hss hmatch).symm
    | none =>
      rw [walk_live sat R hOK hD m (cutAny path) (cutAny_segs_ne path hp hroot), ref_filter fun r hr hm hrm => ?_]
      -- a parameter-free route that matches would have been found in `staticPaths`
      cases hrt : inTree r with
      | true => rfl
      | false =>
        exact absurd ((static_route_iff r (hNP r (live_sub hr)) path hp hroot).mpr
          ⟨(notInTree r hrt).1, routeMatch_isSome_match sat r _ hrm⟩).2 (static_none hs (live_sub hr) hm hrt)

end Rivaas.RadixL
