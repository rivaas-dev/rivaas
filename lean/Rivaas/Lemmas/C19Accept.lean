import Rivaas.Model.Accept
import Rivaas.Spec.Accept
import Rivaas.Lemmas.ListCore
/-
Helper lemmas for C19 (content negotiation, router/accept.go): first the integer q-value parser against the grammar's
`qvalue` (`lemma_parseQuality`); then the character-level parser against the token-level oracle (`lemma_parseAccept`),
the matchers against the oracle's specificity, the arg-max loops (`BestInv`), the way from the model's "first most
specific spec" to the oracle's `qmin` / `qmax`, `answer` as one equation (`lemma_answer_eq`) and, from these, the
oracle's relation read on the offers (`Admits`, `lemma_admits`). The property theorems are in Props/C19;
Props/C06 takes `lemma_answer_no_ranges` and `lemma_admits` for the `c.Accepts` call of `selectFormatter`.
-/
namespace Rivaas.C19
open Rivaas Rivaas.Accept

theorem lemma_isDigit_eq (c : Char) : Accept.isDigit c = AcceptSpec.isDigitC c := by
  simp [Accept.isDigit, AcceptSpec.isDigitC]

theorem lemma_digitVal (c : Char) : Accept.digitVal c = c.toNat - 48 := by simp [Accept.digitVal]

theorem lemma_qDigits (ds : Bytes) (hl : ds.length ≤ 3) :
    qDigits ds 100 0 = if ds.all AcceptSpec.isDigitC then some (AcceptSpec.frac3 ds) else none := by
  rcases ds with _ | ⟨a, _ | ⟨b, _ | ⟨c, _ | ⟨d, r⟩⟩⟩⟩
  · rfl
  -- one, two, three digits: both sides unfold to the same tests on the digits and the same sum
  iterate 3
    simp only [qDigits, lemma_isDigit_eq, lemma_digitVal, AcceptSpec.frac3, List.all_cons, List.all_nil, Bool.and_true,
      Bool.and_eq_true, ite_and, Nat.zero_add, Nat.reduceDiv, Nat.mul_one]
  -- four or more: excluded by `hl`
  simp only [List.length_cons] at hl
  omega

theorem lemma_parseQuality_point (c : Char) (ds : Bytes) :
    parseQuality (c :: '.' :: ds) =
      if ds = [] ∨ ds.length > 3 then none
      else if c = '1' then (if ds.all (· == '0') then some 1000 else none)
      else if c = '0' then qDigits ds 100 0 else none := by
  by_cases h : ds = [] ∨ ds.length > 3
  · rcases h with rfl | h
    · simp [parseQuality]
    · have : 5 < ds.length + 1 + 1 := by omega
      simp [parseQuality, h, this]
  · have h3 : ¬ 5 < ds.length + 1 + 1 := by omega
    have h4 : ¬ ds.length + 1 + 1 < 3 := by cases ds <;> simp at h ⊢
    have h5 : ds.take 3 = ds := List.take_of_length_le (by omega)
    simp [parseQuality, h, h3, h4, h5]

/-- The integer q-value parser agrees with the RFC 9110 `qvalue` grammar on
    every string, except that it rejects the two forms with a bare trailing point (`0.`, `1.`), which
    the grammar admits and which the code hands to the `ParseFloat` fallback. -/
theorem lemma_parseQuality (s : Bytes) :
    Accept.parseQuality s = (if s = ['0', '.'] ∨ s = ['1', '.'] then none else AcceptSpec.qvalue s) := by
  match s with
  | [] => rfl
  | c :: r =>
    by_cases hc : c = '0' ∨ c = '1'
    · match r with
      | [] => rcases hc with rfl | rfl <;> rfl
      | d :: ds =>
        by_cases hd : d = '.'
        · subst hd
          rw [lemma_parseQuality_point]
          by_cases hne : ds = []
          · subst hne; rcases hc with rfl | rfl <;> rfl
          · by_cases hl : ds.length ≤ 3
            · rcases hc with rfl | rfl <;> simp [AcceptSpec.qvalue, hne, hl, Nat.not_lt.2 hl, lemma_qDigits]
            · rcases hc with rfl | rfl <;> simp [AcceptSpec.qvalue, hne, hl, Nat.lt_of_not_le hl]
        · rcases hc with rfl | rfl <;> simp [parseQuality, AcceptSpec.qvalue, hd]
    · have h0 : c ≠ '0' := fun e => hc (Or.inl e)
      have h1 : c ≠ '1' := fun e => hc (Or.inr e)
      simp [parseQuality, AcceptSpec.qvalue, h0, h1]

/-! ### the model's and the oracle's character classes and trimmers coincide -/

theorem lemma_isWS_eq : Accept.isWS = AcceptSpec.isOWS := rfl
theorem lemma_trimWS_eq (s : Bytes) : Accept.trimWS s = AcceptSpec.strip s := rfl
theorem lemma_trimSpace_eq (s : Bytes) : Accept.trimSpace s = AcceptSpec.trimSpace s := rfl
theorem lemma_lowerC_eq : Accept.lowerC = AcceptSpec.lowerC := rfl
theorem lemma_lower_eq (s : Bytes) : Accept.lower s = AcceptSpec.lower s := rfl
theorem lemma_table_eq : Accept.mimeTable = AcceptSpec.shortNames := rfl

/-! ### splitting -/

theorem lemma_splitOn (sep : Char) (s : Bytes) : AcceptSpec.splitOn sep s = s.splitOn sep := by
  induction s with
  | nil => rfl
  | cons c r ih =>
    simp only [AcceptSpec.splitOn, List.splitOn_cons_eq_if_modifyHead, ih]
    cases h : r.splitOn sep with
    | nil => exact absurd h (List.splitOn_ne_nil _ _)
    | cons _ _ => rfl

def nonEmpty (x : Bytes) : Bool := !x.isEmpty

theorem lemma_scanSegs (sep : Char) (s cur : Bytes) :
    scanSegs sep s cur = (List.splitOnPPrepend (· == sep) s cur).filter nonEmpty := by
  induction s generalizing cur with
  | nil => cases cur <;> simp [scanSegs, nonEmpty, List.filter_cons]
  | cons c r ih =>
    rw [scanSegs, List.splitOnPPrepend_cons_eq_if]
    split
    · rw [ih]; cases cur <;> simp [nonEmpty, List.filter_cons]
    · exact ih _

theorem lemma_nonEmpty_of_strip (p : Bytes) (h : (AcceptSpec.strip p).isEmpty = false) : nonEmpty p = true := by
  cases p with
  | nil => cases h
  | cons _ _ => rfl

theorem lemma_scanSegs_nil (sep : Char) (s : Bytes) :
    scanSegs sep s [] = (AcceptSpec.splitOn sep s).filter nonEmpty := by
  rw [lemma_scanSegs, lemma_splitOn]; rfl

theorem lemma_cutFirst (sep : Char) (s : Bytes) :
    match cutFirst sep s with
    | none => sep ∉ s
    | some (a, b) => s = a ++ sep :: b ∧ sep ∉ a := by
  induction s with
  | nil => exact List.not_mem_nil
  | cons c r ih =>
    rw [cutFirst]
    by_cases hc : (c == sep) = true
    · rw [if_pos hc, eq_of_beq hc]; exact ⟨rfl, List.not_mem_nil⟩
    · have hne : sep ≠ c := fun e => hc (e ▸ beq_self_eq_true _)
      rw [if_neg hc]
      split at ih
      · next hr => rw [hr]; exact List.not_mem_cons_of_ne_of_not_mem hne ih
      · next a b hr => rw [hr]; exact ⟨by rw [ih.1]; rfl, List.not_mem_cons_of_ne_of_not_mem hne ih.2⟩

theorem lemma_cutFirst_some (sep : Char) (s a b : Bytes) (h : cutFirst sep s = some (a, b)) : s = a ++ sep :: b := by
  have := lemma_cutFirst sep s
  rw [h] at this
  exact this.1

theorem lemma_splitOn_cut (sep : Char) (s : Bytes) :
    AcceptSpec.splitOn sep s = match cutFirst sep s with
      | none => [s]
      | some (a, b) => a :: AcceptSpec.splitOn sep b := by
  have h := lemma_cutFirst sep s
  simp only [lemma_splitOn]
  split at h
  · exact List.splitOn_eq_singleton h
  · next a b _ => exact h.1 ▸ List.splitOn_append_cons_self_of_not_mem h.2 b

theorem lemma_splitOn_two (sep : Char) (s a b : Bytes) (h : AcceptSpec.splitOn sep s = [a, b]) :
    cutFirst sep s = some (a, b) ∧ s = a ++ sep :: b := by
  rw [lemma_splitOn_cut] at h
  split at h
  · cases h
  · next a' b' hc =>
    rw [List.cons.injEq, lemma_splitOn] at h
    obtain ⟨rfl, h2⟩ := h
    -- the rest splits into one piece: it is that piece
    have := List.intercalate_splitOn (xs := b') sep
    rw [h2, List.intercalate_singleton] at this
    exact this ▸ ⟨hc, lemma_cutFirst_some sep s a' b' hc⟩

theorem lemma_splitEq (s : Bytes) : AcceptSpec.splitEq s = cutFirst '=' s := by
  induction s with
  | nil => rfl
  | cons c r ih =>
    simp only [AcceptSpec.splitEq, cutFirst, ih]
    split
    · rfl
    · cases cutFirst '=' r with
      | none => rfl
      | some ab => obtain ⟨a, b⟩ := ab; rfl


/-! ### trimming -/

theorem lemma_trimR_cons (c : Char) (r : Bytes) :
    trimR (c :: r) = if (trimR r).isEmpty && isWS c then [] else c :: trimR r := by
  unfold trimR
  simp only [List.reverse_cons, List.dropWhile_append]
  by_cases h : (List.dropWhile isWS r.reverse).isEmpty = true
  · have h' : List.dropWhile isWS r.reverse = [] := by simpa using h
    simp only [if_true, h', List.reverse_nil, List.isEmpty_nil, Bool.true_and]
    by_cases hc : isWS c = true
    · simp [hc]
    · simp [hc]
  · simp [h]

theorem lemma_trimR_noWS (v : Bytes) (h : ∀ c ∈ v, isWS c = false) : trimR v = v := by
  induction v with
  | nil => rfl
  | cons c r ih =>
    rw [lemma_trimR_cons, ih (fun x hx => h x (by simp [hx]))]
    simp [h c (by simp)]

theorem lemma_trimR_idem (v : Bytes) : trimR (trimR v) = trimR v := by
  induction v with
  | nil => rfl
  | cons c r ih =>
    rw [lemma_trimR_cons]
    by_cases hc : ((trimR r).isEmpty && isWS c) = true
    · simp only [hc, if_true]; rfl
    · simp only [hc, if_false, Bool.false_eq_true]
      rw [lemma_trimR_cons, ih]
      simp only [hc, if_false, Bool.false_eq_true]

theorem lemma_trimR_head (c : Char) (r : Bytes) (hc : isWS c = false) : trimR (c :: r) = c :: trimR r := by
  rw [lemma_trimR_cons]; simp [hc]

theorem lemma_trimL_head (c : Char) (r : Bytes) (hc : isWS c = false) : trimL (c :: r) = c :: r := by
  simp [trimL, hc]

theorem lemma_strip_shape (e : Bytes) (h : (AcceptSpec.strip e).isEmpty = false) :
    ∃ c r, AcceptSpec.strip e = c :: r ∧ isWS c = false ∧ AcceptSpec.strip (AcceptSpec.strip e) = AcceptSpec.strip e := by
  simp only [← lemma_trimWS_eq, trimWS] at h ⊢
  cases hl : trimL e with
  | nil => simp [hl, trimR] at h
  | cons c r =>
    have hne : List.dropWhile isWS e ≠ [] := by unfold trimL at hl; rw [hl]; simp
    have hc : isWS c = false := by
      have := List.head_dropWhile_not isWS hne
      unfold trimL at hl
      simpa [hl] using this
    rw [lemma_trimR_head c r hc]
    refine ⟨c, trimR r, rfl, hc, ?_⟩
    rw [lemma_trimL_head c _ hc, lemma_trimR_head c _ hc, lemma_trimR_idem]

theorem lemma_trimWS_noWS (v : Bytes) (h : ∀ c ∈ v, isWS c = false) : trimWS v = v := by
  unfold trimWS
  cases v with
  | nil => rfl
  | cons c r => rw [lemma_trimL_head c r (h c (by simp)), lemma_trimR_noWS _ h]

/-! ### tokens and q-values contain no blanks -/

theorem lemma_tchar_excl : ∀ c ∈ [' ', '\t', ';'], AcceptSpec.isTchar c = false := by decide +kernel

theorem lemma_tchar_plain (c : Char) (h : AcceptSpec.isTchar c = true) : c ≠ ';' ∧ isWS c = false := by
  have hx : c ∉ [' ', '\t', ';'] := fun hm => by rw [lemma_tchar_excl c hm] at h; cases h
  simp only [List.mem_cons, List.not_mem_nil, or_false, not_or] at hx
  exact ⟨hx.2.2, by simp [isWS, hx.1, hx.2.1]⟩

theorem lemma_token (s : Bytes) (h : AcceptSpec.isToken s = true) : s ≠ [] ∧ ∀ c ∈ s, c ≠ ';' ∧ isWS c = false := by
  unfold AcceptSpec.isToken at h
  simp only [Bool.and_eq_true, Bool.not_eq_true', List.all_eq_true] at h
  exact ⟨by intro e; simp [e] at h, fun c hc => lemma_tchar_plain c (h.2 c hc)⟩

theorem lemma_digit_noWS (c : Char) (h : AcceptSpec.isDigitC c = true) : isWS c = false := by
  unfold AcceptSpec.isDigitC at h
  exact (lemma_tchar_plain c (by simp only [AcceptSpec.isTchar, AcceptSpec.isAlphaNum, h, Bool.true_or])).2

theorem lemma_qvalue_shape (v : Bytes) (q : Nat) (h : AcceptSpec.qvalue v = some q) :
    (v.head? = some '0' ∨ v.head? = some '1') ∧ ∀ c ∈ v, isWS c = false := by
  -- the four shapes of the grammar: `0`, `1`, `0.` and at most three digits, `1.` and at most three zeros
  unfold AcceptSpec.qvalue at h
  split at h
  · simp; decide
  · simp; decide
  · rename_i ds
    split at h
    · rename_i hc
      simp only [Bool.and_eq_true, List.all_eq_true] at hc
      refine ⟨by simp, ?_⟩
      intro c hc'
      simp only [List.mem_cons] at hc'
      rcases hc' with rfl | rfl | hc'
      · decide
      · decide
      · exact lemma_digit_noWS c (hc.2 c hc')
    · simp at h
  · rename_i zs
    split at h
    · rename_i hc
      simp only [Bool.and_eq_true, List.all_eq_true] at hc
      refine ⟨by simp, ?_⟩
      intro c hc'
      simp only [List.mem_cons] at hc'
      rcases hc' with rfl | rfl | hc'
      · decide
      · decide
      · have := hc.2 c hc'; simp at this; subst this; decide
    · simp at h
  · simp at h

theorem lemma_unquote_noquote (v : Bytes) (h : v.head? ≠ some '"') : unquote v = v := by
  unfold unquote
  have : (v.head? == some '"') = false := by simpa using h
  simp [this]


/-! ### the character-level parser computes the oracle's ranges -/

/-- contract of the `strconv.ParseFloat` fallback on the two grammatical q-values the integer parser
    rejects -/
def PFContract (pf : PF) : Prop := pf ['0', '.'] = some 0 ∧ pf ['1', '.'] = some 1000000

theorem lemma_applyQ (pf : PF) (hpf : PFContract pf) (v : Bytes) (q : Nat) (sp : ASpec)
    (h : AcceptSpec.qvalue v = some q) : applyQ pf v sp = { sp with q := q * 1000 } := by
  unfold applyQ
  rw [lemma_parseQuality]
  by_cases hb : v = ['0', '.'] ∨ v = ['1', '.']
  · simp only [hb, if_true]
    rcases hb with rfl | rfl
    · have : q = 0 := by simpa [AcceptSpec.qvalue, AcceptSpec.frac3] using h.symm
      subst this; simp [hpf.1]
    · have : q = 1000 := by simpa [AcceptSpec.qvalue] using h.symm
      subst this; simp [hpf.2]
  · simp only [hb, if_false, h]

def paramEffect (x : AcceptSpec.Param) (sp : ASpec) : ASpec :=
  match x with
  | .weight q => { sp with q := q * 1000 }
  | .other => sp

theorem lemma_param (pf : PF) (hpf : PFContract pf) (p : Bytes) (sp : ASpec) (x : AcceptSpec.Param)
    (hne : (AcceptSpec.strip p).isEmpty = false) (h : AcceptSpec.param (AcceptSpec.strip p) = some x) :
    parseAcceptParam pf p sp = paramEffect x sp := by
  -- a grammatical piece is `k=v` with `k` a token; a token and a q-value hold no blank and no quote, so the model's
  -- trimming and unquoting change nothing: `q=v` goes to `applyQ`, every other name leaves the spec as it is
  unfold parseAcceptParam
  rw [lemma_trimWS_eq]
  simp only [hne, Bool.false_eq_true, if_false]
  unfold AcceptSpec.param at h
  rw [lemma_splitEq] at h
  cases hc : cutFirst '=' (AcceptSpec.strip p) with
  | none => simp [hc] at h
  | some kv =>
    obtain ⟨k, v⟩ := kv
    simp only [hc] at h ⊢
    by_cases htok : AcceptSpec.isToken k = true
    · simp only [htok, Bool.not_true, Bool.false_eq_true, if_false] at h
      rw [lemma_trimWS_noWS k fun c hc => ((lemma_token k htok).2 c hc).2]
      have hk : k.isEmpty = false := by simpa using (lemma_token k htok).1
      simp only [hk, Bool.false_eq_true, if_false]
      by_cases hq : (k == ['q'] || k == ['Q']) = true
      · simp only [hq, if_true] at h
        cases hv : AcceptSpec.qvalue v with
        | none => simp [hv] at h
        | some q =>
          simp only [hv, Option.map_some, Option.some.injEq] at h
          subst h
          obtain ⟨hhead, hnows⟩ := lemma_qvalue_shape v q hv
          rw [lemma_trimWS_noWS v hnows]
          have hvne : v.isEmpty = false := by
            cases v with
            | nil => simp at hhead
            | cons _ _ => rfl
          have hunq : unquote v = v := lemma_unquote_noquote v (by rcases hhead with h | h <;> simp [h])
          have hqk : isQKey k = true := hq
          simp only [hvne, Bool.false_eq_true, if_false, hunq, hqk, if_true]
          exact lemma_applyQ pf hpf v q sp hv
      · simp only [hq, Bool.false_eq_true, if_false] at h
        have hx : x = .other := by
          split at h
          · simpa using h.symm
          · simp at h
        subst hx
        have hqk : isQKey k = false := by simpa [isQKey] using hq
        simp only [hqk, Bool.false_eq_true, if_false, paramEffect]
        split <;> rfl
    · simp [htok] at h

theorem lemma_param_blank (pf : PF) (p : Bytes) (sp : ASpec) (h : (AcceptSpec.strip p).isEmpty = true) :
    parseAcceptParam pf p sp = sp := by
  unfold parseAcceptParam
  rw [lemma_trimWS_eq]
  simp only [h, if_true]

theorem lemma_params (pf : PF) (hpf : PFContract pf) (L : List Bytes) (xs : List AcceptSpec.Param) (sp : ASpec)
    (h : AcceptSpec.params L = some xs) :
    (L.filter nonEmpty).foldl (fun sp p => parseAcceptParam pf p sp) sp = xs.foldl (fun sp x => paramEffect x sp) sp := by
  induction L generalizing xs sp with
  | nil => simp [AcceptSpec.params] at h; subst h; rfl
  | cons p rest ih =>
    simp only [AcceptSpec.params] at h
    cases hb : (AcceptSpec.strip p).isEmpty
    · simp only [hb, if_false, Bool.false_eq_true] at h
      have hp := lemma_nonEmpty_of_strip p hb
      cases hx : AcceptSpec.param (AcceptSpec.strip p) with
      | none => simp [hx] at h
      | some x =>
        cases hxs : AcceptSpec.params rest with
        | none => simp [hx, hxs] at h
        | some xs' =>
          simp only [hx, hxs, Option.some.injEq] at h
          subst h
          simp only [List.filter_cons, hp, if_true, List.foldl_cons, lemma_param pf hpf p sp x hb hx]
          exact ih xs' _ hxs
    · simp only [hb, if_true] at h
      by_cases hp : nonEmpty p = true
      · simp only [List.filter_cons, hp, if_true, List.foldl_cons, lemma_param_blank pf p sp hb]
        exact ih xs sp h
      · simp only [List.filter_cons, hp, if_false, Bool.false_eq_true]
        exact ih xs sp h

theorem lemma_effects (xs : List AcceptSpec.Param) (sp : ASpec) :
    xs.foldl (fun sp x => paramEffect x sp) sp =
      match (AcceptSpec.weights xs).getLast? with
      | some q => { sp with q := q * 1000 }
      | none => sp := by
  induction xs generalizing sp with
  | nil => rfl
  | cons x r ih =>
    rw [List.foldl_cons, ih]
    cases x with
    | other => rfl
    | weight q =>
      show _ = match (q :: AcceptSpec.weights r).getLast? with
        | some q => { sp with q := q * 1000 }
        | none => sp
      rw [List.getLast?_cons]
      cases (AcceptSpec.weights r).getLast? <;> rfl

theorem lemma_effects_value (xs : List AcceptSpec.Param) (sp : ASpec) :
    (xs.foldl (fun sp x => paramEffect x sp) sp).value = sp.value := by
  rw [lemma_effects]
  split <;> rfl

theorem lemma_effects_weight (xs : List AcceptSpec.Param) (v : Bytes) (q : Nat)
    (h : AcceptSpec.weightOf (AcceptSpec.weights xs) = some q) :
    xs.foldl (fun sp x => paramEffect x sp) { value := v, q := 1000000 } = { value := v, q := q * 1000 } := by
  rw [lemma_effects]
  generalize AcceptSpec.weights xs = ws at h
  -- `weightOf` admits no weight (the default, 1) or exactly one
  rcases ws with _ | ⟨q', _ | ⟨_, _⟩⟩ <;> cases h <;> rfl

theorem lemma_rangeOK_ne (media : Bool) (v : Bytes) (h : AcceptSpec.rangeOK media v = true) : v ≠ [] := by
  rintro rfl
  cases media <;> simp [AcceptSpec.rangeOK, AcceptSpec.mediaRange, AcceptSpec.splitOn, AcceptSpec.isToken] at h

theorem lemma_element (media : Bool) (e : Bytes) (x : AcceptSpec.Range) (h : AcceptSpec.element media e = some x) :
    ∃ r ps xs q, AcceptSpec.splitOn ';' e = r :: ps ∧ AcceptSpec.rangeOK media (AcceptSpec.strip r) = true ∧
      AcceptSpec.params ps = some xs ∧ AcceptSpec.weightOf (AcceptSpec.weights xs) = some q ∧
      x = { value := AcceptSpec.strip r, q := q } := by
  unfold AcceptSpec.element at h
  split at h
  · cases h
  · rename_i r ps hs
    split at h
    · cases h
    · rename_i hok
      split at h
      · cases h
      · rename_i xs hps
        cases hw : AcceptSpec.weightOf (AcceptSpec.weights xs) with
        | none => simp [hw] at h
        | some q =>
          simp only [hw, Option.map_some, Option.some.injEq] at h
          exact ⟨r, ps, xs, q, hs, by simpa using hok, hps, hw, h.symm⟩

theorem lemma_element_valid (media : Bool) (e : Bytes) (x : AcceptSpec.Range) (h : AcceptSpec.element media e = some x) :
    AcceptSpec.rangeOK media x.value = true := by
  obtain ⟨r, ps, xs, q, _, hok, _, _, rfl⟩ := lemma_element media e x h
  exact hok

-- an oracle range as the model's spec: `r.q` is in thousandths, the model's `q` in millionths
def toA (r : AcceptSpec.Range) : ASpec := { value := r.value, q := r.q * 1000 }

theorem lemma_part (pf : PF) (hpf : PFContract pf) (media : Bool) (e : Bytes) (x : AcceptSpec.Range)
    (hne : (AcceptSpec.strip e).isEmpty = false) (h : AcceptSpec.element media (AcceptSpec.strip e) = some x) :
    parseAcceptPart pf e = toA x := by
  obtain ⟨r, ps, xs, q, hs, _, hps, hw, rfl⟩ := lemma_element media _ x h
  obtain ⟨c0, r0, hshape, hc0, hidem⟩ := lemma_strip_shape e hne
  unfold parseAcceptPart toA
  rw [lemma_trimWS_eq]
  simp only [hne, Bool.false_eq_true, if_false]
  rw [lemma_splitOn_cut] at hs
  cases hc : cutFirst ';' (AcceptSpec.strip e) with
  | none =>
    -- no parameter: the element is its value, with the default weight
    simp only [hc, List.cons.injEq] at hs
    obtain ⟨rfl, rfl⟩ := hs
    cases hps
    cases hw
    rw [hidem]
  | some vp =>
    obtain ⟨v0, ps0⟩ := vp
    simp only [hc, List.cons.injEq] at hs
    obtain ⟨rfl, rfl⟩ := hs
    -- the value: nothing to trim on the left
    have hv : AcceptSpec.strip v0 = trimR v0 := by
      have hcat := lemma_cutFirst_some ';' _ v0 ps0 hc
      rw [← lemma_trimWS_eq]
      unfold trimWS
      cases v0 with
      | nil => rfl
      | cons c r =>
        rw [hshape] at hcat
        simp only [List.cons_append, List.cons.injEq] at hcat
        rw [← hcat.1, lemma_trimL_head c0 r hc0]
    dsimp only
    rw [lemma_scanSegs_nil, lemma_params pf hpf _ xs _ hps, lemma_effects_weight xs _ q hw, hv]

theorem lemma_part_blank (pf : PF) (e : Bytes) (h : (AcceptSpec.strip e).isEmpty = true) :
    (parseAcceptPart pf e).value = [] := by
  unfold parseAcceptPart
  rw [lemma_trimWS_eq]
  simp only [h, if_true]

theorem lemma_elements (pf : PF) (hpf : PFContract pf) (media : Bool) (L : List Bytes) (rs : List AcceptSpec.Range)
    (h : AcceptSpec.elements media L = some rs) :
    (((L.filter nonEmpty).map (parseAcceptPart pf)).filter (fun sp => !sp.value.isEmpty)) = rs.map toA ∧
    ∀ r ∈ rs, AcceptSpec.rangeOK media r.value = true := by
  induction L generalizing rs with
  | nil => simp [AcceptSpec.elements] at h; subst h; exact ⟨rfl, by simp⟩
  | cons e rest ih =>
    simp only [AcceptSpec.elements] at h
    cases hb : (AcceptSpec.strip e).isEmpty
    · simp only [hb, if_false, Bool.false_eq_true] at h
      have hp := lemma_nonEmpty_of_strip e hb
      cases hx : AcceptSpec.element media (AcceptSpec.strip e) with
      | none => simp [hx] at h
      | some x =>
        cases hxs : AcceptSpec.elements media rest with
        | none => simp [hx, hxs] at h
        | some xs' =>
          simp only [hx, hxs, Option.some.injEq] at h
          subst h
          obtain ⟨ih1, ih2⟩ := ih xs' hxs
          have hok := lemma_element_valid media _ x hx
          have hv : (!(toA x).value.isEmpty) = true := by simpa [toA] using lemma_rangeOK_ne media _ hok
          simp only [List.filter_cons, hp, if_true, List.map_cons, lemma_part pf hpf media e x hb hx, hv, ih1,
            List.forall_mem_cons]
          exact ⟨trivial, hok, ih2⟩
    · simp only [hb, if_true] at h
      by_cases hp : nonEmpty e = true
      · simp only [List.filter_cons, hp, if_true, List.map_cons, lemma_part_blank pf e hb, List.isEmpty_nil,
          Bool.not_true, Bool.false_eq_true, if_false]
        exact ih rs h
      · simp only [List.filter_cons, hp, if_false, Bool.false_eq_true]
        exact ih rs h

theorem lemma_parseAccept (pf : PF) (hpf : PFContract pf) (media : Bool) (header : Bytes) (rs : List AcceptSpec.Range)
    (h : AcceptSpec.ranges media header = some rs) : parseAccept pf header = rs.map toA := by
  unfold parseAccept
  rw [lemma_scanSegs_nil]
  exact (lemma_elements pf hpf media _ rs h).1


/-! ### the matchers agree with the oracle's specificity -/

/-- the oracle's specificity of a range for offer `o` (`spToken`, `spOf` alike). For an offer outside the oracle's
    grammar the 0 for every range is a default that says nothing of the code, which is why the theorems stated with
    `spOf` ask `offerOK` of every offer -/
def spMedia (o : Bytes) : AcceptSpec.Range → Nat :=
  match AcceptSpec.mediaOffer o with
  | some p => AcceptSpec.mediaSpecificity p
  | none => fun _ => 0

def spToken (o : Bytes) : AcceptSpec.Range → Nat :=
  match AcceptSpec.tokenOffer o with
  | some m => AcceptSpec.tokenSpecificity m
  | none => fun _ => 0

def spOf (media : Bool) (o : Bytes) : AcceptSpec.Range → Nat := if media then spMedia o else spToken o
def offerOK (media : Bool) (o : Bytes) : Bool :=
  if media then (AcceptSpec.mediaOffer o).isSome else (AcceptSpec.tokenOffer o).isSome

theorem lemma_offerOK_nil : ∀ media, offerOK media [] = false := by decide +kernel

theorem lemma_cutFirst_absent (sep : Char) (v : Bytes) (h : ∀ c ∈ v, c ≠ sep) : cutFirst sep v = none := by
  cases hc : cutFirst sep v with
  | none => rfl
  | some ab => exact absurd rfl (h sep (lemma_cutFirst_some sep v _ _ hc ▸ by simp))

theorem lemma_splitMediaType (v t s : Bytes) (h : AcceptSpec.splitOn '/' v = [t, s])
    (ht : AcceptSpec.isToken t = true) (hs : AcceptSpec.isToken s = true) :
    splitMediaType v = (lower t, lower s) := by
  obtain ⟨hcut, hcat⟩ := lemma_splitOn_two '/' v t s h
  have hall : ∀ c ∈ v, c ≠ ';' ∧ isWS c = false := by
    intro c hc
    rw [hcat] at hc
    simp only [List.mem_append, List.mem_cons] at hc
    rcases hc with hc | rfl | hc
    · exact (lemma_token t ht).2 c hc
    · decide
    · exact (lemma_token s hs).2 c hc
  unfold splitMediaType
  rw [lemma_cutFirst_absent ';' v (fun c hc => (hall c hc).1)]
  dsimp only
  rw [lemma_trimWS_noWS v (fun c hc => (hall c hc).2), hcut]

theorem lemma_toNat_ofNat (n : Nat) (h : n < 0xD800) : (Char.ofNat n).toNat = n := by
  have hv : n.isValidChar := Or.inl h
  simp [Char.ofNat, hv, Char.ofNatAux, Char.toNat]

theorem lemma_lowerC_idem (c : Char) : lowerC (lowerC c) = lowerC c := by
  unfold lowerC
  by_cases h : ('A'.toNat ≤ c.toNat && c.toNat ≤ 'Z'.toNat) = true
  · simp only [h, if_true]
    have hb : 65 ≤ c.toNat ∧ c.toNat ≤ 90 := by simpa using h
    have := lemma_toNat_ofNat (c.toNat + 32) (by omega)
    have h2 : ('A'.toNat ≤ (Char.ofNat (c.toNat + 32)).toNat && (Char.ofNat (c.toNat + 32)).toNat ≤ 'Z'.toNat) = false := by
      rw [this]; simp; omega
    simp only [h2, Bool.false_eq_true, if_false]
  · simp only [h, if_false, Bool.false_eq_true]

theorem lemma_lower_idem (s : Bytes) : lower (lower s) = lower s := by
  simp [lower, List.map_map, Function.comp_def, lemma_lowerC_idem]

theorem lemma_table_lower : ∀ p ∈ mimeTable, lower p.2 = p.2 := by
  -- the literals of the table are turned into their characters by `String.toList_ofList`, a lemma, which spares the
  -- kernel their decoding by evaluation
  unfold mimeTable bs; repeat rewrite [String.toList_ofList]
  decide +kernel

theorem lemma_offer (o t s : Bytes) (h : AcceptSpec.mediaOffer o = some (t, s)) :
    splitMediaType (normalizeMediaType o) = (t, s) ∧ t ≠ ['*'] ∧ s ≠ ['*'] ∧ normalizeMediaType o ≠ [] := by
  -- the normalised offer is in lower case already (`lower` is idempotent and the table's entries are in lower case), so
  -- `splitMediaType`, which lower-cases both halves, returns the oracle's `(t, s)` as they are
  have hlow : lower (normalizeMediaType o) = normalizeMediaType o := by
    unfold normalizeMediaType
    dsimp only
    cases hl : mimeTable.lookup (lower (trimSpace o)) with
    | none => exact lemma_lower_idem _
    | some f => exact lemma_table_lower _ (List.mem_of_lookup_some _ _ _ hl)
  -- the oracle's table, trimmer and `lower` are the model's by unfolding (`lemma_table_eq`, `lemma_trimSpace_eq`,
  -- `lemma_lower_eq`), so its view of the offer is `normalizeMediaType o`
  have h : (match AcceptSpec.splitOn '/' (normalizeMediaType o) with
    | [t, s] =>
      if (AcceptSpec.isToken t && AcceptSpec.isToken s && !List.contains t '*' && !List.contains s '*') = true then
        some (t, s)
      else none
    | _ => none) = some (t, s) := h
  split at h
  · rename_i t0 s0 hsplit
    split at h
    · rename_i hcond
      simp only [Option.some.injEq, Prod.mk.injEq] at h
      obtain ⟨rfl, rfl⟩ := h
      simp only [Bool.and_eq_true, Bool.not_eq_true'] at hcond
      obtain ⟨⟨⟨ht, hs⟩, hts⟩, hss⟩ := hcond
      have hsm := lemma_splitMediaType _ _ _ hsplit ht hs
      obtain ⟨_, hcat⟩ := lemma_splitOn_two '/' _ _ _ hsplit
      have hl2 : lower t0 ++ '/' :: lower s0 = t0 ++ '/' :: s0 := by
        have : lower (t0 ++ '/' :: s0) = t0 ++ '/' :: s0 := hcat ▸ hlow
        simpa [lower, show lowerC '/' = '/' by decide] using this
      have hlen : (lower t0).length = t0.length := by simp [lower]
      obtain ⟨e1, e2⟩ := List.append_inj hl2 hlen
      simp only [List.cons.injEq, true_and] at e2
      refine ⟨by rw [hsm, e1, e2], ?_, ?_, ?_⟩
      · intro e; rw [e] at hts; simp at hts
      · intro e; rw [e] at hss; simp at hss
      · rw [hcat]; simp
    · simp at h
  · simp at h

theorem lemma_matchMedia (o : Bytes) (r : AcceptSpec.Range) (ho : (AcceptSpec.mediaOffer o).isSome = true)
    (hr : AcceptSpec.rangeOK true r.value = true) :
    matchMediaType (normalizeMediaType o) (toA r) = if spMedia o r > 0 then (r.q * 1000, spMedia o r) else (0, 0) := by
  obtain ⟨⟨ot, os⟩, ho⟩ := Option.isSome_iff_exists.mp ho
  obtain ⟨hsplit, hot, hos, _⟩ := lemma_offer o ot os ho
  have hr : (AcceptSpec.mediaRange r.value).isSome = true := hr
  simp only [spMedia, ho]
  cases hm : AcceptSpec.mediaRange r.value with
  | none => simp [hm] at hr
  | some ts =>
    obtain ⟨t, s⟩ := ts
    have hm' := hm
    unfold AcceptSpec.mediaRange at hm'
    split at hm'
    · rename_i t0 s0 hsp
      split at hm'
      · rename_i hcond
        simp only [Option.some.injEq, Prod.mk.injEq] at hm'
        simp only [Bool.and_eq_true] at hcond
        have hsr := lemma_splitMediaType _ _ _ hsp hcond.1.1 hcond.1.2
        rw [← lemma_lower_eq, ← lemma_lower_eq] at hm'
        obtain ⟨e1, e2⟩ := hm'
        rw [e1, e2] at hsr
        -- the same three tests of the range against the offer, the model from `*/*` up, the oracle from the exact match
        -- down: the order does not matter because the offer holds no `*` (`hot`, `hos`), so at most one test succeeds
        unfold matchMediaType AcceptSpec.mediaSpecificity
        simp only [toA, hsplit, hsr, hm]
        by_cases c1 : (t == ['*'] && s == ['*']) = true
        · have c1' : t = ['*'] ∧ s = ['*'] := by simpa using c1
          obtain ⟨rfl, rfl⟩ := c1'
          have n1 : (['*'] == ot) = false := by simpa using fun e => hot e.symm
          have n2 : (['*'] == os) = false := by simpa using fun e => hos e.symm
          simp [n1, n2]
        · simp only [c1, Bool.false_eq_true, if_false]
          by_cases c2 : (t == ot && s == ['*']) = true
          · have c2' : t = ot ∧ s = ['*'] := by simpa using c2
            obtain ⟨rfl, rfl⟩ := c2'
            have n2 : (['*'] == os) = false := by simpa using fun e => hos e.symm
            simp [n2]
          · simp only [c2, Bool.false_eq_true, if_false]
            by_cases c3 : (t == ot && s == os) = true
            · simp [c3]
            · simp [c3]
      · simp at hm'
    · simp at hm'

theorem lemma_isPrefix_startsWith (p s : Bytes) : isPrefix p s = AcceptSpec.startsWith s p := by
  induction p generalizing s with
  | nil => cases s <;> rfl
  | cons a as ih =>
    cases s with
    | nil => rfl
    | cons b bs =>
      simp only [isPrefix, AcceptSpec.startsWith, ih]
      rw [Bool.beq_comm]

theorem lemma_matchToken (o : Bytes) (r : AcceptSpec.Range) (ho : (AcceptSpec.tokenOffer o).isSome = true) :
    tokSpecificity (lower (trimSpace o)) (toA r) = if spToken o r > 0 then (r.q * 1000, spToken o r) else (0, 0) := by
  obtain ⟨m, ho⟩ := Option.isSome_iff_exists.mp ho
  simp only [spToken, ho]
  have hm : m = lower (trimSpace o) := by
    unfold AcceptSpec.tokenOffer at ho
    dsimp only at ho
    split at ho
    · simp only [Option.some.injEq] at ho; rw [← ho]; rfl
    · simp at ho
  subst hm
  unfold tokSpecificity AcceptSpec.tokenSpecificity
  simp only [toA, lemma_isPrefix_startsWith, ← lemma_lower_eq]
  by_cases c1 : (lower r.value == lower (trimSpace o)) = true
  · simp [c1]
  · simp only [c1, Bool.false_eq_true, if_false]
    by_cases c2 : (AcceptSpec.startsWith (lower r.value) (lower (trimSpace o) ++ ['-']) ||
        AcceptSpec.startsWith (lower (trimSpace o)) (lower r.value ++ ['-'])) = true
    · simp [c2]
    · simp only [c2, Bool.false_eq_true, if_false]
      by_cases c3 : (lower r.value == ['*']) = true
      · simp [c3]
      · simp [c3]


/-! ### arg-max loops -/

/-- state of an arg-max loop after the elements `done`, `v` being what the loop keeps (initially `v0`, then `g` of an
    element) and `q` the score it was kept with: nothing of positive score yet, or `g` of an element of `done` whose
    score is positive and maximal -/
def BestInv {α β : Type} (score : α → Nat) (g : α → β) (v0 v : β) (q : Int) (done : List α) : Prop :=
  (v = v0 ∧ q ≤ 0 ∧ ∀ o ∈ done, score o = 0) ∨
  (∃ o ∈ done, v = g o ∧ q = (score o : Int) ∧ score o > 0 ∧ ∀ o' ∈ done, score o' ≤ score o)

/-- a loop whose step either keeps its state, the new element being no better, or takes the new element with its
    positive, not smaller score, maintains `BestInv` — whatever else the state holds and however ties are broken -/
theorem lemma_argmax_fold {α β σ : Type} (score : α → Nat) (g : α → β) (v0 : β) (val : σ → β) (qv : σ → Int)
    (f : σ → α → σ)
    (hf : ∀ b o, (f b o = b ∧ (score o > 0 → (score o : Int) ≤ qv b)) ∨
                 (val (f b o) = g o ∧ qv (f b o) = score o ∧ score o > 0 ∧ qv b ≤ score o))
    (rest : List α) : ∀ (b : σ) (done : List α), BestInv score g v0 (val b) (qv b) done →
      BestInv score g v0 (val (rest.foldl f b)) (qv (rest.foldl f b)) (done ++ rest) := by
  induction rest with
  | nil => intro b done h; simpa using h
  | cons o rest ih =>
    intro b done h
    rw [List.foldl_cons, show done ++ o :: rest = (done ++ [o]) ++ rest by simp]
    apply ih
    unfold BestInv at h ⊢
    simp only [List.forall_mem_append, List.forall_mem_singleton]
    rcases hf b o with ⟨hk, hle⟩ | ⟨ho, hq, hpos, hge⟩
    · rw [hk]
      have hle' : score o = 0 ∨ (score o : Int) ≤ qv b := by
        by_cases hp : score o > 0
        · exact Or.inr (hle hp)
        · exact Or.inl (by omega)
      rcases h with ⟨h1, h2, h0⟩ | ⟨o1, hmem, hv, hbq, hp, hall⟩
      · exact Or.inl ⟨h1, h2, h0, by omega⟩
      · exact Or.inr ⟨o1, List.mem_append_left _ hmem, hv, hbq, hp, hall, by omega⟩
    · refine Or.inr ⟨o, by simp, ho, hq, hpos, fun x hx => ?_, Nat.le_refl _⟩
      rcases h with ⟨_, _, h0⟩ | ⟨o1, _, _, hbq, _, hall⟩
      · rw [h0 x hx]; omega
      · have := hall x hx; omega

theorem lemma_bestSpec (m : ASpec → Nat × Nat) (specs : List ASpec) :
    BestInv (fun sp => (m sp).2) m (0, 0) (bestSpec m specs) ((bestSpec m specs).2 : Int) specs := by
  refine lemma_argmax_fold (fun sp => (m sp).2) m (0, 0) id (fun b => (b.2 : Int)) _ ?_ specs (0, 0) []
    (Or.inl ⟨rfl, Int.le_refl _, by simp⟩)
  intro b sp
  by_cases h : (m sp).2 > b.2
  · rw [if_pos h]
    exact Or.inr ⟨rfl, rfl, by omega, by omega⟩
  · rw [if_neg h]
    exact Or.inl ⟨rfl, fun _ => by omega⟩

/-! ### the outer loops: an offer of maximal, strictly positive quality -/

/-- quality and specificity the model assigns to a normalised Accepts offer -/
def mq (specs : List ASpec) (o : Bytes) : Nat × Nat := bestSpec (matchMediaType o) specs

theorem lemma_acceptsLoop (specs : List ASpec) (norm : List Bytes) :
    BestInv (fun o => (mq specs o).1) id [] (acceptsLoop specs norm).offer (acceptsLoop specs norm).q norm := by
  refine lemma_argmax_fold (fun o => (mq specs o).1) id [] Best.offer Best.q _ ?_ norm _ []
    (Or.inl ⟨rfl, by decide, by simp⟩)
  intro b o
  have hq : bestSpec (matchMediaType o) specs = ((mq specs o).1, (mq specs o).2) := rfl
  simp only [hq]
  split
  · rename_i hc
    simp only [Bool.and_eq_true, decide_eq_true_eq, Bool.or_eq_true, beq_iff_eq] at hc
    exact Or.inr ⟨rfl, rfl, hc.1, by omega⟩
  · rename_i hc
    simp only [Bool.and_eq_true, decide_eq_true_eq, Bool.or_eq_true, beq_iff_eq, not_and, not_or] at hc
    exact Or.inl ⟨rfl, fun hp => by have := (hc hp).1; omega⟩

theorem lemma_originalOf (f : Bytes → Bytes) (offers : List Bytes) (best : Bytes) (h : best ∈ offers.map f) :
    originalOf offers (offers.map f) best ∈ offers ∧ f (originalOf offers (offers.map f) best) = best := by
  induction offers with
  | nil => simp at h
  | cons o rest ih =>
    simp only [List.map_cons, originalOf]
    by_cases hb : (f o == best) = true
    · simp only [hb, if_true]
      exact ⟨by simp, by simpa using hb⟩
    · simp only [hb, if_false, Bool.false_eq_true]
      have : best ∈ rest.map f := by
        simp only [List.map_cons, List.mem_cons] at h
        rcases h with h | h
        · exfalso; apply hb; simp [h]
        · exact h
      obtain ⟨h1, h2⟩ := ih this
      exact ⟨by simp [h1], h2⟩

theorem lemma_acceptsWith (specs : List ASpec) (offers : List Bytes) (hs : specs ≠ [])
    (hne : ∀ o ∈ offers, normalizeMediaType o ≠ []) :
    ∃ q, BestInv (fun o => (mq specs (normalizeMediaType o)).1) id [] (acceptsWith specs offers) q offers := by
  unfold acceptsWith
  have hse : specs.isEmpty = false := by simpa using hs
  simp only [hse, Bool.false_eq_true, if_false]
  rcases lemma_acceptsLoop specs (offers.map normalizeMediaType) with ⟨h1, _, h0⟩ | ⟨b, hmem, he, _, hpos, hall⟩
  · refine ⟨-1, Or.inl ⟨by simp [h1], by decide, fun o ho => h0 _ (List.mem_map_of_mem ho)⟩⟩
  · subst he
    have hb : (acceptsLoop specs (offers.map normalizeMediaType)).offer ≠ [] :=
      (List.forall_mem_map (P := (· ≠ []))).2 hne _ hmem
    have hb' : ((acceptsLoop specs (offers.map normalizeMediaType)).offer != []) = true := by simpa using hb
    simp only [hb', if_true]
    obtain ⟨ho1, ho2⟩ := lemma_originalOf normalizeMediaType offers _ hmem
    refine ⟨_, Or.inr ⟨_, ho1, rfl, rfl, ?_, fun o ho => ?_⟩⟩
    · simpa only [ho2] using hpos
    · simpa only [ho2] using hall _ (List.mem_map_of_mem ho)

/-- quality and specificity the model assigns to an Accept-Charset, -Encoding or -Language offer -/
def tq (specs : List ASpec) (o : Bytes) : Nat × Nat := bestSpec (tokSpecificity (lower (trimSpace o))) specs

theorem lemma_acceptHeaderMatch (specs : List ASpec) (offers : List Bytes) (hs : specs ≠ []) :
    ∃ q, BestInv (fun o => (tq specs o).1) id [] (acceptHeaderMatch specs offers) q offers := by
  cases offers with
  | nil => exact ⟨0, Or.inl ⟨rfl, Int.le_refl 0, fun _ h => nomatch h⟩⟩
  | cons o os =>
    unfold acceptHeaderMatch
    rw [if_neg (by simp), if_neg (by simpa using hs)]
    refine ⟨_, lemma_argmax_fold (fun o => (tq specs o).1) id [] Prod.fst Prod.snd _ ?_ (o :: os) _ []
      (Or.inl ⟨rfl, by decide, by simp⟩)⟩
    intro b o
    have hq : bestSpec (tokSpecificity (lower (trimSpace o))) specs = ((tq specs o).1, (tq specs o).2) := rfl
    simp only [hq]
    split
    · rename_i hc
      simp only [Bool.and_eq_true, decide_eq_true_eq] at hc
      exact Or.inr ⟨rfl, rfl, hc.1, by omega⟩
    · rename_i hc
      simp only [Bool.and_eq_true, decide_eq_true_eq, not_and] at hc
      exact Or.inl ⟨rfl, fun hp => by have := hc hp; omega⟩

/-! ### from the model's "first most specific spec" to the oracle's qmin / qmax -/

theorem lemma_maxNat (l : List Nat) : AcceptSpec.maxNat l ∈ 0 :: l ∧ ∀ b ∈ 0 :: l, b ≤ AcceptSpec.maxNat l :=
  List.max?_eq_some_iff.1 List.max?_cons'

theorem lemma_mem_top (sp : AcceptSpec.Range → Nat) (rs : List AcceptSpec.Range) (r : AcceptSpec.Range) :
    r ∈ AcceptSpec.top sp rs ↔ r ∈ rs ∧ sp r > 0 ∧ ∀ r' ∈ rs, sp r' ≤ sp r := by
  obtain ⟨hmem, hge⟩ := lemma_maxNat (rs.map sp)
  have hge' : ∀ r' ∈ rs, sp r' ≤ AcceptSpec.maxNat (rs.map sp) :=
    fun r' h => hge _ (List.mem_cons_of_mem _ (List.mem_map_of_mem h))
  simp only [AcceptSpec.top]
  constructor
  · intro h
    split at h
    · cases h
    · rename_i hM
      simp only [List.mem_filter, beq_iff_eq] at h hM
      rw [h.2]
      exact ⟨h.1, by omega, hge'⟩
  · rintro ⟨hr, hpos, hmax⟩
    have hM : AcceptSpec.maxNat (rs.map sp) = sp r := by
      have := hge' r hr
      rcases List.mem_cons.1 hmem with h0 | h
      · omega
      · obtain ⟨r', hr', e⟩ := List.mem_map.1 h
        have := hmax r' hr'
        omega
    rw [hM, if_neg (by simp; omega)]
    simp [hr]

theorem lemma_top_bounds (sp : AcceptSpec.Range → Nat) (rs : List AcceptSpec.Range) (r : AcceptSpec.Range)
    (h : r ∈ AcceptSpec.top sp rs) : AcceptSpec.qmin sp rs ≤ r.q ∧ r.q ≤ AcceptSpec.qmax sp rs := by
  have hq : r.q ∈ (AcceptSpec.top sp rs).map (·.q) := List.mem_map_of_mem h
  refine ⟨?_, (lemma_maxNat _).2 _ (List.mem_cons_of_mem _ hq)⟩
  unfold AcceptSpec.qmin
  cases hl : (AcceptSpec.top sp rs).map (·.q) with
  | nil => rw [hl] at hq; cases hq
  | cons q qs => exact (List.min?_eq_some_iff.1 List.min?_cons').2 _ (hl ▸ hq)

theorem lemma_top_empty (sp : AcceptSpec.Range → Nat) (rs : List AcceptSpec.Range) (h : ∀ r ∈ rs, sp r = 0) :
    AcceptSpec.qmin sp rs = 0 ∧ AcceptSpec.qmax sp rs = 0 := by
  have : AcceptSpec.top sp rs = [] := List.eq_nil_iff_forall_not_mem.2 fun r hr => by
    have hm := (lemma_mem_top sp rs r).1 hr
    have := h r hm.1
    omega
  simp [AcceptSpec.qmin, AcceptSpec.qmax, this, AcceptSpec.maxNat]

theorem lemma_quality_bounds (rs : List AcceptSpec.Range) (sp : AcceptSpec.Range → Nat) (m : ASpec → Nat × Nat)
    (hm : ∀ r ∈ rs, m (toA r) = if sp r > 0 then (r.q * 1000, sp r) else (0, 0)) :
    AcceptSpec.qmin sp rs * 1000 ≤ (bestSpec m (rs.map toA)).1 ∧ (bestSpec m (rs.map toA)).1 ≤ AcceptSpec.qmax sp rs * 1000 := by
  have hm2 : ∀ r ∈ rs, (m (toA r)).2 = sp r := fun r hr => by
    rw [hm r hr]
    split
    · rfl
    · exact (Nat.eq_zero_of_not_pos ‹_›).symm
  rcases lemma_bestSpec m (rs.map toA) with ⟨h0, _, hall⟩ | ⟨x, hx, hbx, _, hpos, hmax⟩
  · obtain ⟨e1, e2⟩ := lemma_top_empty sp rs fun r hr => by rw [← hm2 r hr]; exact hall _ (List.mem_map_of_mem hr)
    rw [h0, e1, e2]; simp
  · obtain ⟨r, hr, rfl⟩ := List.mem_map.1 hx
    simp only [hm2 r hr] at hpos hmax
    have hmr := hm r hr
    rw [if_pos hpos] at hmr
    obtain ⟨b1, b2⟩ := lemma_top_bounds sp rs r ((lemma_mem_top sp rs r).2 ⟨hr, hpos, fun r' hr' => by
      rw [← hm2 r' hr']; exact hmax _ (List.mem_map_of_mem hr')⟩)
    rw [hbx, hmr]
    exact ⟨Nat.mul_le_mul_right _ b1, Nat.mul_le_mul_right _ b2⟩

/-! ### the oracle's relation on the answer, read on the offers -/

theorem lemma_any_zip_map {α β : Type} (l : List α) (g : α → β) (f : α × β → Bool) :
    (l.zip (l.map g)).any f = l.any (fun a => f (a, g a)) := by
  induction l with
  | nil => rfl
  | cons a r ih => simp [ih]

/-- the oracle's relation read on the offers, `sp o` being the specificity function of offer `o`: the answer is empty
    and no offer need have positive quality, or it is an offer that may have positive quality, no smaller than what
    any offer must have -/
def Admits (sp : Bytes → AcceptSpec.Range → Nat) (rs : List AcceptSpec.Range) (offers : List Bytes) (ans : Bytes) : Prop :=
  (ans = [] ∧ ∀ o ∈ offers, AcceptSpec.qmin (sp o) rs = 0) ∨
  (ans ≠ [] ∧ ans ∈ offers ∧ AcceptSpec.qmax (sp ans) rs > 0 ∧
    ∀ o ∈ offers, AcceptSpec.qmin (sp o) rs ≤ AcceptSpec.qmax (sp ans) rs)

theorem lemma_acceptable_of (rs : List AcceptSpec.Range) (offers : List Bytes) (sp : Bytes → AcceptSpec.Range → Nat)
    (ans : Bytes) (ho : offers ≠ []) (hrs : rs ≠ []) (h : Admits sp rs offers ans) :
    AcceptSpec.acceptable rs offers (offers.map sp) ans = true := by
  unfold AcceptSpec.acceptable
  have h1 : offers.isEmpty = false := by simpa using ho
  have h2 : rs.isEmpty = false := by simpa using hrs
  simp only [h1, h2, Bool.false_eq_true, if_false, lemma_any_zip_map]
  rcases h with ⟨ha, hall⟩ | ⟨hne, hmem, hpos, hall⟩
  · subst ha
    simp only [List.isEmpty_nil, if_true, List.all_map, List.all_eq_true, Function.comp, beq_iff_eq]
    exact hall
  · have h3 : ans.isEmpty = false := by simpa using hne
    simp only [h3, Bool.false_eq_true, if_false, List.any_eq_true]
    refine ⟨ans, hmem, ?_⟩
    simp only [beq_self_eq_true, Bool.true_and, Bool.and_eq_true, decide_eq_true_eq, List.all_map, List.all_eq_true,
      Function.comp]
    exact ⟨hpos, hall⟩

/-! ### what `answer` is -/

/-- the early returns on no offers and on no header change no answer: an empty header parses to no spec, for which
    `acceptsWith` and `acceptHeaderMatch` answer the first offer themselves, and both answer `""` when nothing is offered -/
theorem lemma_answer_eq (pf : PF) (c : Call) :
    answer pf c = if c.kind == Kind.accept then acceptsWith (parseAccept pf c.header) c.offers
      else acceptHeaderMatch (parseAccept pf c.header) c.offers := by
  have hp : (if c.header.isEmpty then [] else parseAccept pf c.header) = parseAccept pf c.header := by
    cases c.header <;> rfl
  unfold answer
  rw [hp]
  cases c.kind
  · cases c.offers with
    | nil => cases parseAccept pf c.header <;> rfl
    | cons o os => cases c.header <;> rfl
  all_goals rfl

theorem lemma_answer_no_ranges (pf : PF) (hpf : PFContract pf) (c : Call)
    (hr : AcceptSpec.ranges (c.kind == Kind.accept) c.header = some []) : answer pf c = c.offers.headD [] := by
  rw [lemma_answer_eq, lemma_parseAccept pf hpf _ _ [] hr]
  cases c.offers <;> cases (c.kind == Kind.accept) <;> rfl

theorem lemma_acceptsWith_wf (specs : List ASpec) (offers : List Bytes) :
    acceptsWith specs offers = [] ∨ acceptsWith specs offers ∈ offers := by
  unfold acceptsWith
  split
  · cases offers <;> simp
  · dsimp only
    rcases lemma_acceptsLoop specs (offers.map normalizeMediaType) with ⟨h1, _, _⟩ | ⟨b, hmem, he, _⟩
    · left; simp [h1]
    · subst he
      split
      · right; exact (lemma_originalOf normalizeMediaType offers _ hmem).1
      · left; rfl

theorem lemma_acceptHeaderMatch_wf (specs : List ASpec) (offers : List Bytes) :
    acceptHeaderMatch specs offers = [] ∨ acceptHeaderMatch specs offers ∈ offers := by
  by_cases hs : specs = []
  · subst hs
    cases offers <;> simp [acceptHeaderMatch]
  · obtain ⟨_, ⟨h1, _, _⟩ | ⟨b, hmem, he, _⟩⟩ := lemma_acceptHeaderMatch specs offers hs
    · exact .inl h1
    · exact .inr (he ▸ hmem)

theorem lemma_answer_wf (pf : PF) (c : Call) : AcceptSpec.wellFormedAnswer c.offers (answer pf c) = true := by
  have h : answer pf c = [] ∨ answer pf c ∈ c.offers := by
    rw [lemma_answer_eq]
    split
    · exact lemma_acceptsWith_wf _ _
    · exact lemma_acceptHeaderMatch_wf _ _
  unfold AcceptSpec.wellFormedAnswer
  rcases h with h | h
  · simp [h]
  · simp [h]

/-- the oracle judges the offers by their specificity functions `os.map g`, and only when all of them are well formed:
    a judgement `P` that holds of the functions `h o` of well-formed offers holds where the oracle asks for it -/
theorem lemma_allSome {α β : Type} (f : Bytes → Option α) (g : α → β) (h : Bytes → β)
    (hgh : ∀ o p, f o = some p → h o = g p) (offers : List Bytes) (P : List β → Prop)
    (key : (∀ o ∈ offers, (f o).isSome = true) → P (offers.map h)) (os : List α)
    (hs : AcceptSpec.allSome (offers.map f) = some os) : P (os.map g) := by
  induction offers generalizing P os with
  | nil => cases hs; exact key (fun _ h => nomatch h)
  | cons o rest ih =>
    cases ho : f o with
    | none => simp [ho, AcceptSpec.allSome] at hs
    | some p =>
      simp only [List.map_cons, ho, AcceptSpec.allSome, Option.map_eq_some_iff] at hs
      obtain ⟨os', hr, rfl⟩ := hs
      refine ih (fun l => P (g p :: l)) (fun hr => ?_) os' hr
      rw [← hgh o p ho]
      exact key (List.forall_mem_cons.2 ⟨by simp [ho], hr⟩)

/-! ### from scores to the oracle's relation -/

/-- an answer of maximal positive score, every score lying in the oracle's quality interval of its offer (in
    millionths), is an answer the oracle admits: `score` may be any reading of an ambiguous header -/
theorem lemma_rel_of_scores (rs : List AcceptSpec.Range) (offers : List Bytes) (sp : Bytes → AcceptSpec.Range → Nat)
    (score : Bytes → Nat) (ans : Bytes) (q : Int) (hne : ∀ o ∈ offers, o ≠ [])
    (hb : ∀ o ∈ offers, AcceptSpec.qmin (sp o) rs * 1000 ≤ score o ∧ score o ≤ AcceptSpec.qmax (sp o) rs * 1000)
    (h : BestInv score id [] ans q offers) : Admits sp rs offers ans := by
  rcases h with ⟨h1, _, h0⟩ | ⟨b, hmem, he, _, hpos, hall⟩
  · refine Or.inl ⟨h1, fun o ho => ?_⟩
    have := (hb o ho).1
    rw [h0 o ho] at this
    omega
  · subst he
    have ha := hb _ hmem
    refine Or.inr ⟨hne _ hmem, hmem, by omega, fun o ho => ?_⟩
    have h1 := (hb o ho).1
    have h2 := hall o ho
    omega

/-- all four calls, every list of well-formed offers (the empty one too), a header with at least one range: each
    helper's loop ends with an offer of maximal positive score (`lemma_acceptsWith`, `lemma_acceptHeaderMatch`), and its
    matcher scores as the oracle's specificity says -/
theorem lemma_admits (pf : PF) (hpf : PFContract pf) (c : Call) (rs : List AcceptSpec.Range)
    (hr : AcceptSpec.ranges (c.kind == Kind.accept) c.header = some rs) (hrs : rs ≠ [])
    (hoff : ∀ o ∈ c.offers, offerOK (c.kind == Kind.accept) o = true) :
    Admits (spOf (c.kind == Kind.accept)) rs c.offers (answer pf c) := by
  have hne : ∀ o ∈ c.offers, o ≠ [] := fun o ho e => by
    have := hoff o ho
    rw [e, lemma_offerOK_nil] at this
    cases this
  have hs : rs.map toA ≠ [] := by simpa using hrs
  unfold Admits
  rw [lemma_answer_eq, lemma_parseAccept pf hpf _ _ rs hr]
  generalize (c.kind == Kind.accept) = media at hr hoff ⊢
  cases media <;> simp only [spOf, offerOK, Bool.false_eq_true, if_false, if_true] at hoff ⊢
  · obtain ⟨q, hq⟩ := lemma_acceptHeaderMatch (rs.map toA) c.offers hs
    exact lemma_rel_of_scores rs c.offers spToken _ _ q hne
      (fun o ho => lemma_quality_bounds _ _ _ fun r _ => lemma_matchToken o r (hoff o ho)) hq
  · obtain ⟨q, hq⟩ := lemma_acceptsWith (rs.map toA) c.offers hs fun o ho => by
      obtain ⟨⟨t, s⟩, hm⟩ := Option.isSome_iff_exists.mp (hoff o ho)
      exact (lemma_offer o t s hm).2.2.2
    exact lemma_rel_of_scores rs c.offers spMedia _ _ q hne
      (fun o ho => lemma_quality_bounds _ _ _ fun r hr' =>
        lemma_matchMedia o r (hoff o ho) ((lemma_elements pf hpf true _ rs hr).2 r hr')) hq

theorem lemma_rel (pf : PF) (hpf : PFContract pf) (c : Call) (rs : List AcceptSpec.Range)
    (hr : AcceptSpec.ranges (c.kind == Kind.accept) c.header = some rs) (hrs : rs ≠ []) (hne : c.offers ≠ [])
    (hoff : ∀ o ∈ c.offers, offerOK (c.kind == Kind.accept) o = true) :
    (answer pf c = [] ∧ ∀ o ∈ c.offers, AcceptSpec.qmin (spOf (c.kind == Kind.accept) o) rs = 0) ∨
    (answer pf c ≠ [] ∧ answer pf c ∈ c.offers ∧
      AcceptSpec.qmax (spOf (c.kind == Kind.accept) (answer pf c)) rs > 0 ∧
      ∀ o ∈ c.offers, AcceptSpec.qmin (spOf (c.kind == Kind.accept) o) rs ≤
        AcceptSpec.qmax (spOf (c.kind == Kind.accept) (answer pf c)) rs) :=
  lemma_admits pf hpf c rs hr hrs hoff

/-- on a grammatical header with well-formed offers the answer is admissible, also when there is nothing to choose
    from (no offers: the empty answer) or nothing to go by (no ranges: the first offer) -/
theorem lemma_acceptable (pf : PF) (hpf : PFContract pf) (c : Call) (rs : List AcceptSpec.Range)
    (hr : AcceptSpec.ranges (c.kind == Kind.accept) c.header = some rs)
    (hoff : ∀ o ∈ c.offers, offerOK (c.kind == Kind.accept) o = true) :
    AcceptSpec.acceptable rs c.offers (c.offers.map (spOf (c.kind == Kind.accept))) (answer pf c) = true := by
  by_cases hoe : c.offers = []
  · have := lemma_answer_wf pf c
    rw [hoe] at this ⊢
    simpa [AcceptSpec.wellFormedAnswer, AcceptSpec.acceptable] using this
  · by_cases hrs : rs = []
    · subst hrs
      rw [lemma_answer_no_ranges pf hpf c hr]
      cases hc : c.offers with
      | nil => exact absurd hc hoe
      | cons o _ => simp [AcceptSpec.acceptable]
    · exact lemma_acceptable_of rs c.offers _ _ hoe hrs (lemma_admits pf hpf c rs hr hrs hoff)

end Rivaas.C19
