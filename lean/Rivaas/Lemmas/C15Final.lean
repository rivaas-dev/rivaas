import Rivaas.Lemmas.C15Fold
/-
C15: the end of the exchange — the middleware's Close, net/http's finishRequest on both sides — and
the predicate `Transparent` that collects what C15 demands, read off the end relation `EndRel` that every
safe program reaches (`lemma_run_end`).
-/
namespace Rivaas.C15
open Rivaas.Http Rivaas.Compress

/-- what C15 demands of the exchange with the middleware (`W`) against the one without (`P`);
    `enc` is the encoding the middleware was set up with for this request -/
structure Transparent (enc : Bytes) (W : WithResp) (P : Base × List WOut) : Prop where
  noPanic : W.panicked = P.1.panicked
  status : W.resp.status = P.1.resp.status
  headers : ∀ k, k ≠ kCE → k ≠ kCL → k ≠ kVary → hget W.resp.hdrs k = hget P.1.resp.hdrs k
  body : W.decoded = some P.1.resp.body
  outs : W.outs = P.2
  coding : hget W.resp.hdrs kCE = hget P.1.resp.hdrs kCE ∨ hget W.resp.hdrs kCE = some [enc]

theorem lemma_resp_hdrs (b : Base) (h : noBody b.status = false) :
    b.resp.hdrs = hdel (addCT b.snap b.ctype) kCL := by
  have h304 : (b.status == 304) = false := by
    simp only [noBody, Bool.or_eq_false_iff] at h
    exact h.2
  unfold Base.resp addCT
  simp only [h304, Bool.false_eq_true, if_false]
  cases b.ctype <;> rfl

theorem lemma_init (sn : Sniff) (cfg : Cfg) (enc : Bytes) (h0 : Hdrs) (henc : enc ≠ []) :
    Inv sn false ({ base := { live := h0 }, thr := cfg.minSize, enc := enc, exclCT := cfg.exclCT } : CW) { live := h0 } :=
  Or.inl ⟨⟨Or.inl (.fresh cfg.minSize enc cfg.exclCT h0 henc), fun _ _ => rfl⟩, fun _ => ⟨rfl, fun _ => rfl⟩⟩

/-- the response assembled from the middleware's final writer state: the branch of `runWith` with the middleware
    active (`lemma_runWith_eq` in `Props/C15`) -/
def respOf (sn : Sniff) (w : CW) (outs : List WOut) : WithResp :=
  let b := w.base.finish sn
  if w.compress && w.hasWriter then
    { panicked := w.panicked, resp := { b.resp with body := [] },
      decoded := if w.closed && b.body.isEmpty then some w.plain else none, outs := outs }
  else
    { panicked := w.panicked, resp := b.resp, decoded := some b.resp.body, outs := outs }

theorem lemma_respOf_pass (sn : Sniff) (w : CW) (p : Base) (outs : List WOut) (hc : w.compress = false)
    (rel : PassRel w.base p) : Transparent w.enc (respOf sn w outs) (p.finish sn, outs) := by
  have hf := lemma_pass_flush sn w.base p rel
  have r1 : (w.base.finish sn).resp = (p.finish sn).resp := lemma_pass_resp _ _ hf
  unfold respOf
  simp only [hc, Bool.false_and, Bool.false_eq_true, if_false]
  refine ⟨?_, by rw [r1], fun k _ _ _ => by rw [r1], by rw [r1], rfl, Or.inl (by rw [r1])⟩
  show w.base.panicked = (p.flush sn).panicked
  rw [← lemma_flush_panicked sn w.base, hf.1]

theorem lemma_respOf_cmp (sn : Sniff) (w : CW) (p : Base) (outs : List WOut) (core : CmpCore sn w p)
    (hcl : w.closed = true) : Transparent w.enc (respOf sn w outs) (p.finish sn, outs) := by
  have hb : (w.base.flush sn).resp.hdrs = hdel (cmpSnap p.snap (pendType sn p) w.enc) kCL := by
    rw [lemma_flush_eq sn w.base core.bw, lemma_resp_hdrs _ (core.bst ▸ core.nb)]
    show hdel (addCT w.base.snap (pendType sn w.base)) kCL = _
    rw [lemma_cmp_pendType sn w.base p.snap _ w.enc core.encne core.snapEq core.bct, core.snapEq]
    rfl
  have hP : (p.flush sn).resp.hdrs = hdel (addCT p.snap (pendType sn p)) kCL := by
    rw [lemma_flush_eq sn p core.pw]
    exact lemma_resp_hdrs _ core.nb
  have hbody : (w.base.flush sn).body = [] := by rw [lemma_flush_eq sn w.base core.bw]; exact core.bb
  unfold respOf
  simp only [core.c, core.hw, hcl, Bool.and_self, if_true, Base.finish, hbody, List.isEmpty_nil]
  refine ⟨?_, ?_, fun k h1 h2 h3 => ?_, ?_, rfl, Or.inr ?_⟩
  · show w.base.panicked = (p.flush sn).panicked
    rw [lemma_flush_panicked, core.bpn, core.pp]
  · show (w.base.flush sn).status = (p.flush sn).status
    rw [lemma_flush_eq sn p core.pw, lemma_flush_eq sn w.base core.bw]
    exact core.bst
  · show hget (w.base.flush sn).resp.hdrs k = hget (p.flush sn).resp.hdrs k
    rw [hb, hP, lemma_hget_hdel, if_neg h2, lemma_hget_cmpSnap, if_neg h3, if_neg h1, if_neg h2, lemma_hget_hdel,
      if_neg h2]
  · show some (plainOf w.evs) = some (p.flush sn).body
    rw [lemma_flush_eq sn p core.pw, core.pl]
  · show hget (w.base.flush sn).resp.hdrs kCE = some [w.enc]
    rw [hb, lemma_hget_hdel, if_neg lemma_keys_ne.2.1, lemma_hget_cmpSnap, if_neg lemma_keys_ne.1, if_pos rfl]

/-- the end of the exchange: the middleware closes, unless the deferred finalisation already ran -/
theorem lemma_end_state (sn : Sniff) (seen : Bool) (w : CW) (p : Base) (h : Inv sn seen w p) :
    EndRel sn (if w.restored then w else w.close sn) p := by
  rcases h with ⟨hl, _⟩ | ⟨hr, ha⟩
  · simp only [lemma_live_restored sn w p hl, Bool.false_eq_true, if_false]
    exact (lemma_close_state sn w p hl).1
  · simp only [hr.r, if_true]
    exact ⟨ha, Or.inl ⟨hr.c, hr.rel⟩⟩

theorem lemma_run_end (sn : Sniff) (cfg : Cfg) (enc : Bytes) (h0 : Hdrs) (ops : List Op) (henc : enc ≠ [])
    (hv : ∀ o ∈ ops, OpValid o) (hs : Safe false ops) :
    EndRel sn (finalCW sn cfg enc h0 ops).1 (runOps (plainStep sn) { live := h0 } ops).1 ∧
    (finalCW sn cfg enc h0 ops).2 = (runOps (plainStep sn) { live := h0 } ops).2 := by
  obtain ⟨⟨seen', hinv⟩, houts⟩ := lemma_fold sn ops false _ _ hv hs (lemma_init sn cfg enc h0 henc)
  exact ⟨lemma_end_state sn seen' _ _ hinv, houts⟩

theorem lemma_end_transparent (sn : Sniff) (W : CW) (p : Base) (outs : List WOut) (h : EndRel sn W p) :
    Transparent W.enc (respOf sn W outs) (p.finish sn, outs) := by
  rcases h.2 with ⟨hc, hrel⟩ | ⟨core, hcl⟩
  · exact lemma_respOf_pass sn W p outs hc hrel
  · exact lemma_respOf_cmp sn W p outs core hcl

end Rivaas.C15
