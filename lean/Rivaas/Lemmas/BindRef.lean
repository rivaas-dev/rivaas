import Rivaas.Model.Bind
import Rivaas.Lemmas.BindPath
import Rivaas.Lemmas.BindFlatten
/-
C04: the bind loop over cached index paths equals the *structural* binder `refFs`, which walks the
struct type field by field, descends into embedded structs in place and never mentions an index
path (`lemma_loop_eq_ref`). This is the bind-level content of K04a for every shape and depth:
each promoted field is handled with its own current value and its own key.
-/
namespace Rivaas.Bind

variable (P : Params) (cfg : Cfg) (nest : Nest) (tag : Tag)

/-- the loop body on a field that is not an embedded struct, acting on the field's value -/
def refLeaf (g : Getter) (d : Nat) (h : FieldHdr) (t : Ty) (v : Val) : Val ⊕ Stop :=
  match mkInfo P tag [] h t with
  | none => .inl v
  | some f => if !wants g f then .inl v else fieldAction P cfg nest g d f v

mutual
def refFld (g : Getter) (d : Nat) (h : FieldHdr) : Ty → Val → Val ⊕ Stop
  | .struct sub, v =>
    if !h.exported then .inl v
    else if h.anon then
      match v with
      | .struct cs => match refFs g d sub cs with
        | .inl cs' => .inl (.struct cs')
        | .inr o => .inr o
      | _ => .inr .panic
    else refLeaf P cfg nest tag g d h (.struct sub) v
  | .ptr (.struct sub), v =>
    if !h.exported then .inl v
    else if h.anon then
      match v with
      | .ptr (.struct cs) => match refFs g d sub cs with
        | .inl cs' => .inl (.ptr (.struct cs'))
        | .inr o => .inr o
      | .nil =>
        -- allocated when — and only when — a promoted field below it receives a value
        if (flatten P tag sub).any (wants g) then
          match refFs g d sub (zeroFs sub) with
          | .inl cs' => .inl (.ptr (.struct cs'))
          | .inr o => .inr o
        else .inl .nil
      | _ => .inr .panic
    else refLeaf P cfg nest tag g d h (.ptr (.struct sub)) v
  | t, v => if !h.exported then .inl v else refLeaf P cfg nest tag g d h t v
def refFs (g : Getter) (d : Nat) : List Fld → List Val → List Val ⊕ Stop
  | [], _ => .inl []
  | (h, t) :: fs, v :: vs =>
    match refFld g d h t v with
    | .inr o => .inr o
    | .inl v' => match refFs g d fs vs with
      | .inr o => .inr o
      | .inl vs' => .inl (v' :: vs')
  | _ :: _, [] => .inr .panic
end

def embLift (wrap : Val → Val) : List Val ⊕ Stop → Val ⊕ Stop
  | .inl cs' => .inl (wrap (.struct cs'))
  | .inr o => .inr o

theorem lemma_refFld_held (g : Getter) (d : Nat) (h : FieldHdr) {t : Ty} {sub : List Fld}
    (hsf : structFields? t = some sub) (cs : List Val) (hex : h.exported = true) (han : h.anon = true) :
    refFld P cfg nest tag g d h t (rewrap t (.struct cs)) = embLift (rewrap t) (refFs P cfg nest tag g d sub cs) := by
  rcases structFields?_some hsf with rfl | rfl <;>
  · unfold refFld
    rw [hex, han]
    dsimp only [rewrap]
    cases refFs P cfg nest tag g d sub cs <;> rfl

theorem lemma_refFld_nil (g : Getter) (d : Nat) (h : FieldHdr) (sub : List Fld) (hex : h.exported = true) (han : h.anon = true) :
    refFld P cfg nest tag g d h (.ptr (.struct sub)) .nil =
      if (flatten P tag sub).any (wants g) then embLift .ptr (refFs P cfg nest tag g d sub (zeroFs sub)) else .inl .nil := by
  unfold refFld
  rw [hex, han]
  dsimp only
  cases refFs P cfg nest tag g d sub (zeroFs sub) <;> rfl

def refOut (pre : List Val) : List Val ⊕ Stop → Outcome
  | .inl ws => .ok (.struct (pre ++ ws))
  | .inr o => o.out

def fldOut (vs : List Val) (i : Nat) : Val ⊕ Stop → Outcome
  | .inl v' => .ok (.struct (vs.set i v'))
  | .inr o => o.out

theorem lemma_lift_refOut (vs : List Val) (i : Nat) (wrap : Val → Val) (r : List Val ⊕ Stop) :
    liftOut vs i wrap (refOut [] r) = fldOut vs i (embLift wrap r) := by
  rcases r with _ | _ | _ <;> rfl

theorem lemma_loop_leaf (sty : List Fld) (g : Getter) (d i : Nat) (h : FieldHdr) (t : Ty) (vs : List Val) (v : Val)
    (hs : sty[i]? = some (h, t)) (hv : vs[i]? = some v) :
    loopWith P cfg nest sty ((mkInfo P tag [i] h t).toList) (.struct vs) g d =
      fldOut vs i (refLeaf P cfg nest tag g d h t v) := by
  rw [lemma_mkInfo_idx P tag [i] h t]
  unfold refLeaf
  cases hm : mkInfo P tag [] h t with
  | none => simp [loopWith, fldOut, lemma_set_self vs i v hv]
  | some f =>
    simp only [Option.map_some, Option.toList_some, loopWith, lemma_reach_one, hv]
    have hw : wants g { f with index := [i] } = wants g f := rfl
    rw [hw]
    by_cases hwf : wants g f = true
    · simp only [hwf, Bool.not_true, Bool.false_eq_true, if_false]
      rw [lemma_updAt_one sty vs i h t v id hs hv]
      simp only [id, lemma_set_self vs i v hv, lemma_reach_one, hv]
      have ha : fieldAction P cfg nest g d { f with index := [i] } v = fieldAction P cfg nest g d f v := rfl
      rw [ha]
      cases fieldAction P cfg nest g d f v with
      | inl nv => simp [lemma_updAt_one sty vs i h t v _ hs hv, fldOut]
      | inr o => simp [fldOut]
    · have hwf' : wants g f = false := by simpa using hwf
      simp [hwf', fldOut, lemma_set_self vs i v hv]

theorem lemma_zero_struct (sub : List Fld) : zero (.struct sub) = .struct (zeroFs sub) := by simp [zero]

theorem refFld_own (g : Getter) (d : Nat) (h : FieldHdr) (t : Ty) (v : Val)
    (hl : h.exported = false ∨ h.anon = false ∨ structFields? t = none) :
    refFld P cfg nest tag g d h t v = if !h.exported then .inl v else refLeaf P cfg nest tag g d h t v := by
  -- only an exported anonymous struct field is entered
  have key : h.exported = true → h.anon = true → structFields? t = none := fun hex han => by simpa [hex, han] using hl
  cases t with
  | struct fs =>
    unfold refFld
    cases hex : h.exported <;> cases han : h.anon <;> first | rfl | cases key hex han
  | ptr e =>
    cases e with
    | struct fs =>
      unfold refFld
      cases hex : h.exported <;> cases han : h.anon <;> first | rfl | cases key hex han
    | _ => rfl
  | _ => rfl

theorem lemma_loop_fld_of (g : Getter) (d : Nat) (t : Ty) (sty : List Fld) (h : FieldHdr) (i : Nat) (vs : List Val) (v : Val)
    (ihsub : ∀ sub, structFields? t = some sub → ∀ cs, wts sub cs = true →
      loopWith P cfg nest sub (flatten P tag sub) (.struct cs) g d = refOut [] (refFs P cfg nest tag g d sub cs))
    (hs : sty[i]? = some (h, t)) (hv : vs[i]? = some v) (hw : wt t v = true) :
    loopWith P cfg nest sty (flattenFld P tag [] i h t) (.struct vs) g d =
      fldOut vs i (refFld P cfg nest tag g d h t v) := by
  rcases fld_kind h t with ⟨sub, hsf, hex, han⟩ | hl
  · rw [flattenFld_embedded P tag [] i h t sub hsf hex han, List.nil_append, lemma_flatten_embedded P tag i sub]
    -- the loop below a struct that is there: held by value, or behind a pointer that is, or has just been, allocated
    have there : ∀ (ws cs : List Val), wts sub cs = true → ws[i]? = some (rewrap t (.struct cs)) →
        loopWith P cfg nest sty ((flatten P tag sub).map (pj i)) (.struct ws) g d =
          fldOut ws i (embLift (rewrap t) (refFs P cfg nest tag g d sub cs)) := by
      intro ws cs hwc hws
      rw [lemma_lift P cfg nest sty sub i _ g d (lemma_through hsf hs) _ ws cs
        (fun f hf => (lemma_flatten_valid P tag sub cs hwc f hf).1) hws, ihsub sub hsf cs hwc, lemma_lift_refOut]
    cases structVal_of_wt hsf hw with
    | held cs hwc => rw [lemma_refFld_held P cfg nest tag g d h hsf cs hex han, there vs cs hwc hv]
    | nil ht =>
      subst ht
      have hwz := lemma_wts_zero sub
      rw [lemma_refFld_nil P cfg nest tag g d h sub hex han,
        lemma_lift_nil P cfg nest sty i h sub g d hs (flatten P tag sub) vs
          (fun f hf => by rw [lemma_zero_struct]; exact lemma_flatten_valid P tag sub _ hwz f hf) hv]
      cases hany : (flatten P tag sub).any (wants g) with
      | true =>
        rw [if_pos rfl, if_pos rfl, there _ (zeroFs sub) hwz (by rw [lemma_get_set vs i _ _ hv, lemma_zero_struct]; rfl)]
        rcases refFs P cfg nest tag g d sub (zeroFs sub) with cs' | o
        · simp only [embLift, fldOut, List.set_set, rewrap]
        · rfl
      | false =>
        rw [if_neg Bool.false_ne_true, if_neg Bool.false_ne_true]
        simp only [fldOut, lemma_set_self vs i _ hv]
  · rw [flattenFld_own P tag [] i h t hl, refFld_own P cfg nest tag g d h t v hl]
    split
    · simp [loopWith, fldOut, lemma_set_self vs i v hv]
    · exact lemma_loop_leaf P cfg nest tag sty g d i h t vs v hs hv

/-- the loop's invariant: the values `pre` of the fields done (types `spre`), then the values `vs` of the fields `fs` still to do -/
theorem lemma_loop_fs (g : Getter) (d : Nat) :
    ∀ (fs spre : List Fld) (pre vs : List Val), spre.length = pre.length → wts fs vs = true →
      loopWith P cfg nest (spre ++ fs) (flattenFs P tag [] pre.length fs) (.struct (pre ++ vs)) g d =
        refOut pre (refFs P cfg nest tag g d fs vs) := by
  intro fs
  induction fs using fld_induction with
  | nil =>
    intro spre pre vs _ hw
    cases vs with
    | nil => rfl
    | cons _ _ => cases hw
  | cons h t rest ihsub ih =>
    intro spre pre vs hlen hw
    cases vs with
    | nil => cases hw
    | cons v vrest =>
      obtain ⟨hwv, hwr⟩ : wt t v = true ∧ wts rest vrest = true := by simpa only [wts, Bool.and_eq_true] using hw
      simp only [flattenFs, refFs]
      rw [lemma_loop_append, lemma_loop_fld_of P cfg nest tag g d t _ h _ _ v
        (fun sub hsf cs hwc => ihsub sub hsf [] [] cs rfl hwc) (by simp [← hlen]) (by simp) hwv]
      cases hr : refFld P cfg nest tag g d h t v with
      | inr o => cases o <;> rfl
      | inl v' =>
        have := ih (spre ++ [(h, t)]) (pre ++ [v']) vrest (by simp [hlen]) hwr
        simp only [List.append_assoc, List.singleton_append, List.length_append, List.length_singleton] at this
        simp only [fldOut, List.set_append_right _ _ (Nat.le_refl _), Nat.sub_self, List.set_cons_zero, this]
        cases refFs P cfg nest tag g d rest vrest with
        | inl ws => simp only [refOut, List.append_assoc, List.singleton_append]
        | inr o => rfl

/-- The bind loop is the structural binder (what `C04.bind_loop_is_structural` states). For every struct type,
    every well-typed destination, every getter and every treatment `nest` of nested structs, looping over the cached
    index paths of `parseStructType` computes exactly what the field-by-field recursion computes. -/
theorem lemma_loop_eq_ref (g : Getter) (d : Nat) (sty : List Fld) (vs : List Val) (hw : wts sty vs = true) :
    loopWith P cfg nest sty (flatten P tag sty) (.struct vs) g d =
      refOut [] (refFs P cfg nest tag g d sty vs) :=
  lemma_loop_fs P cfg nest tag g d sty [] [] vs rfl hw

theorem lemma_loop_fld (g : Getter) (d : Nat) :
    ∀ (t : Ty) (sty : List Fld) (h : FieldHdr) (i : Nat) (vs : List Val) (v : Val),
      sty[i]? = some (h, t) → vs[i]? = some v → wt t v = true →
      loopWith P cfg nest sty (flattenFld P tag [] i h t) (.struct vs) g d =
        fldOut vs i (refFld P cfg nest tag g d h t v) :=
  fun t sty h i vs v => lemma_loop_fld_of P cfg nest tag g d t sty h i vs v
    (fun sub _ cs hwc => lemma_loop_eq_ref P cfg nest tag g d sub cs hwc)

end Rivaas.Bind
