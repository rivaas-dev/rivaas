import Rivaas.Model.Chain
/-
The chain machine (`Model/Chain.lean`) as the invariants of its users see it: the induction along `run`, a case rule
for `Next`'s loop head, and an elimination rule for `step` that presents its ten branches as five kinds of move.
Props/C02, Props/C10 (recovery) and the simulation of `Lemmas/ChainSim.lean` rest on these.
-/
namespace Rivaas.Chain

theorem run_ind (cfg : Cfg) (progs : List Prog) {P : St → Prop} (hstep : ∀ s, P s → P (step cfg progs s))
    (n : Nat) (s : St) (h : P s) : P (run cfg progs n s) := by
  induction n generalizing s with
  | zero => exact h
  | succ n ih => exact ih _ (hstep s h)

theorem run_add (cfg : Cfg) (progs : List Prog) (n m : Nat) (s : St) :
    run cfg progs (n + m) s = run cfg progs m (run cfg progs n s) := by
  induction n generalizing s with
  | zero => simp [run]
  | succ n ih => rw [Nat.succ_add]; simp only [run]; exact ih _

theorem run_one (cfg : Cfg) (progs : List Prog) (s : St) : run cfg progs 1 s = step cfg progs s := rfl

theorem run_halted (cfg : Cfg) (progs : List Prog) (n : Nat) (s : St) (h : s.stack = []) :
    run cfg progs n s = s :=
  run_ind cfg progs (P := (· = s)) (fun s' e => by rw [e]; simp [step, h]) n s rfl

theorem loopHead_cases (cfg : Cfg) (progs : List Prog) (s : St) :
    ((s.stopped cfg = true ∨ ¬(0 ≤ s.idx ∧ s.idx < progs.length)) ∧ loopHead cfg progs s = s) ∨
    (0 ≤ s.idx ∧ s.idx < progs.length ∧ s.stopped cfg = false ∧ ∃ p : Prog, progs[s.idx.toNat]? = some p ∧
      loopHead cfg progs s =
        { s with stack := Frame.fn s.idx.toNat p.fk p.acts :: Frame.loop :: s.stack,
                 trace := s.trace ++ [Ev.enter s.idx.toNat] }) := by
  unfold loopHead
  by_cases hb : 0 ≤ s.idx ∧ s.idx < progs.length
  · rw [if_pos hb]
    cases hs : s.stopped cfg with
    | true => exact .inl ⟨.inl rfl, rfl⟩
    | false =>
      have hk : s.idx.toNat < progs.length := by omega
      refine .inr ⟨hb.1, hb.2, rfl, progs[s.idx.toNat], List.getElem?_eq_getElem hk, ?_⟩
      simp [List.getD, List.getElem?_eq_getElem hk]
  · rw [if_neg hb]; exact .inl ⟨.inr hb, rfl⟩

/-- `st` is the stack `stk` after its top frame has performed one act -/
def Advanced (stk st : List Frame) : Prop :=
  ∃ k fk a as rest, stk = Frame.fn k fk (a :: as) :: rest ∧ st = Frame.fn k fk as :: rest

theorem step_cases (cfg : Cfg) (progs : List Prog) (s : St) {P : St → Prop} (halted : P s)
    (ret : ∀ k fk acts rest, s.stack = Frame.fn k fk acts :: rest →
      P { s with stack := rest, trace := s.trace ++ popEv k fk })
    (loop : ∀ st, s.stack = Frame.loop :: st ∨ Advanced s.stack st →
      P (loopHead cfg progs { s with idx := s.idx + 1, stack := st }))
    (panic : ∀ v st, Advanced s.stack st → P (unwind cfg v st s))
    (quiet : ∀ st (s' : St), Advanced s.stack st → (s'.stack = st ∨ ∃ k b, s'.stack = Frame.fn k .sub b :: st) →
      s'.trace = s.trace → s'.idx = s.idx → (s.stopped cfg = true → s'.stopped cfg = true) →
      (∀ c, s.status = some c → s'.status = some c) → P s') : P (step cfg progs s) := by
  unfold step
  split
  · exact halted
  · rename_i rest hst
    exact loop rest (.inl hst)
  · rename_i k fk rest hst
    exact ret k fk [] rest hst
  · rename_i k fk a as rest hst
    have hadv : Advanced s.stack (Frame.fn k fk as :: rest) := ⟨k, fk, a, as, rest, hst, rfl⟩
    split  -- on the act: `ret`, `abort`, `cancel`, `write`, `next`, `call`, `panic`
    · exact ret k fk _ rest hst
    · exact quiet _ _ hadv (.inl rfl) rfl rfl (fun _ => by simp [St.stopped]) fun _ => id
    · refine quiet _ _ hadv (.inl rfl) rfl rfl (fun h => ?_) fun _ => id
      simp only [St.stopped, Bool.or_eq_true, Bool.and_eq_true, and_true] at h ⊢
      exact h.imp_right And.left
    · exact quiet _ _ hadv (.inl rfl) rfl rfl id fun c h => by show s.status.or _ = _; rw [h]; rfl
    · exact loop _ (.inr hadv)
    · exact quiet _ _ hadv (.inr ⟨_, _, rfl⟩) rfl rfl id fun _ => id
    · exact panic _ _ hadv

end Rivaas.Chain
