import Rivaas.Lemmas.OpenAPIGen
/-
C07 — helper lemmas: evaluating `gen` on concrete inputs. `gen` is defined by well-founded recursion,
which the kernel does not unfold under `decide`; these equations (proved from the definition) are
used to compute the witnesses instead.
-/
namespace Rivaas.OpenAPI

theorem gen_struct_fresh {env : Env} {seen opn : List Nat} {id : Nat} {n p : B} {fs : List Field} {st : Schemas}
    (hl : env.lookup id = some (.struct n p fs)) (hs : id ∉ seen) (hn : schemaName n p ≠ [])
    (hk : hasKey st (schemaName n p) = false) :
    gen env seen opn (.named id) st =
      let r := genFields env (id :: seen) [] false (flatten env [id] fs) .nil [] st
      (refTo (schemaName n p), (schemaName n p, objNode r.2.1 r.1) :: r.2.2) := by
  rw [gen_named_struct hl, if_neg hs, if_neg (by simp [hk]), if_pos hn]

/-- first writer wins: a struct whose component name is already registered is not generated, whatever
    its fields are -/
theorem gen_struct_known {env : Env} {seen opn : List Nat} {id : Nat} {n p : B} {fs : List Field} {st : Schemas}
    (hl : env.lookup id = some (.struct n p fs)) (hs : id ∉ seen) (hn : schemaName n p ≠ [])
    (hk : hasKey st (schemaName n p) = true) :
    gen env seen opn (.named id) st = (refTo (schemaName n p), st) := by
  rw [gen_named_struct hl, if_neg hs, if_pos ⟨hn, hk⟩]

theorem applyConstraints_nil (t : IR) : applyConstraints [] t = t := by
  cases t <;> simp [applyConstraints, Tree.modHead, applyConstraintsHead]

theorem docTags_nil (m : FieldMeta) (t : IR) (hd : m.docT = []) (hx : m.exampleT = []) : docTags m t = t := by
  cases t <;> simp [docTags, Tree.modHead, docTagsHead, hd, hx]

theorem genFields_one_prim (env : Env) (seen opn : List Nat) (m : FieldMeta) (k : PKind) (st : Schemas)
    (he : m.exported = true) (hj : m.json ≠ s "-") (hv : m.validate = [])
    (hd : m.docT = []) (hx : m.exampleT = []) :
    genFields env seen opn false [(m, .prim k)] .nil [] st =
      (PTree.cons (parseJSONName m.json m.name) (primSchema k) .nil, [], st) := by
  have hreq : isFieldRequired env m (.prim k) = false := by
    simp only [isFieldRequired, isPtrKind, hv]
    decide +kernel
  rw [genFields, if_neg (by simp [he]), if_neg hj, genFields, gen]
  simp only [hreq, Bool.false_and, hv, applyConstraints_nil, docTags_nil _ _ hd hx, PTree.set]
  rfl

def fmW (n j : String) : FieldMeta :=
  { name := s n, exported := true, json := s j, validate := [], query := [], path := [], header := [], cookie := [] }

/-- two struct types `a/dup.I{A string}` and `b/dup.I{B bool}`: the same component name `dup.I` (K07h) -/
def envW : Env := [(0, .struct (s "I") (s "a/dup") [.field (fmW "A" "a") (.prim .string)]),
                   (1, .struct (s "I") (s "b/dup") [.field (fmW "B" "b") (.prim .bool)])]

theorem schemaName_dupI :
    (schemaName (s "I") (s "a/dup") = s "dup.I" ∧ schemaName (s "I") (s "a/dup") ≠ []) ∧
    (schemaName (s "I") (s "b/dup") = s "dup.I" ∧ schemaName (s "I") (s "b/dup") ≠ []) := by
  decide +kernel

theorem envW_first : (gen envW [] [] (.named 0) []) =
    (refTo (s "dup.I"), [(s "dup.I", objNode [] (.cons (s "a") (primSchema .string) .nil))]) := by
  rw [gen_struct_fresh (n := s "I") (p := s "a/dup") (fs := [.field (fmW "A" "a") (.prim .string)])
    rfl (by simp) schemaName_dupI.1.2 rfl]
  rw [flatten, flatten, genFields_one_prim _ _ _ _ _ _ rfl (by decide +kernel) rfl rfl rfl, schemaName_dupI.1.1]
  have h2 : parseJSONName (fmW "A" "a").json (fmW "A" "a").name = s "a" := by decide +kernel
  rw [h2]

theorem envW_second : (gen envW [] [] (.named 1) []) =
    (refTo (s "dup.I"), [(s "dup.I", objNode [] (.cons (s "b") (primSchema .bool) .nil))]) := by
  rw [gen_struct_fresh (n := s "I") (p := s "b/dup") (fs := [.field (fmW "B" "b") (.prim .bool)])
    rfl (by simp) schemaName_dupI.2.2 rfl]
  rw [flatten, flatten, genFields_one_prim _ _ _ _ _ _ rfl (by decide +kernel) rfl rfl rfl, schemaName_dupI.2.1]
  have h2 : parseJSONName (fmW "B" "b").json (fmW "B" "b").name = s "b" := by decide +kernel
  rw [h2]

/-! ## a recursive type, evaluated -/

theorem gen_struct_seen {env : Env} {seen opn : List Nat} {id : Nat} {n p : B} {fs : List Field} {st : Schemas}
    (hl : env.lookup id = some (.struct n p fs)) (hs : id ∈ seen) (hn : schemaName n p ≠ []) :
    gen env seen opn (.named id) st = (refTo (schemaName n p), st) := by
  rw [gen_named_struct hl, if_pos hs, if_pos hn]

/-- `type Node struct { Next *Node "json:next" }` -/
def envR : Env := [(0, .struct (s "Node") (s "x/pa") [.field (fmW "Next" "next") (.ptr (.named 0))])]

/-- generating the recursive type terminates with a reference to the component it registers, and the
    component refers to itself -/
theorem envR_eval : gen envR [] [] (.named 0) [] =
    (refTo (s "pa.Node"), [(s "pa.Node", objNode [] (.cons (s "next") (refTo (s "pa.Node")) .nil))]) := by
  have h1 : schemaName (s "Node") (s "x/pa") = s "pa.Node" ∧ s "pa.Node" ≠ [] := by decide +kernel
  have hn : schemaName (s "Node") (s "x/pa") ≠ [] := by rw [h1.1]; exact h1.2
  have hreq : isFieldRequired envR (fmW "Next" "next") (.ptr (.named 0)) = false := by decide +kernel
  have h2 : parseJSONName (fmW "Next" "next").json (fmW "Next" "next").name = s "next" := by decide +kernel
  rw [gen_struct_fresh (n := s "Node") (p := s "x/pa") (fs := [.field (fmW "Next" "next") (.ptr (.named 0))])
    rfl (by simp) hn rfl]
  rw [flatten, flatten]
  rw [genFields, if_neg (by simp [fmW]), if_neg (by decide +kernel), genFields, gen,
    gen_struct_seen (n := s "Node") (p := s "x/pa") (fs := [.field (fmW "Next" "next") (.ptr (.named 0))])
      rfl (by simp) hn]
  have h3 : (fmW "Next" "next").validate = [] := rfl
  simp only [hreq, Bool.false_and, h1.1, h2, h3, applyConstraints_nil, docTags_nil (fmW "Next" "next") _ rfl rfl, PTree.set, setNullable, refTo, Tree.modHead]
  rfl

end Rivaas.OpenAPI
