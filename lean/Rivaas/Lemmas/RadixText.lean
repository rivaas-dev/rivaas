import Rivaas.Lemmas.RadixTree
import Rivaas.Lemmas.ListCore
/-
The text layer of C01, registration side: how a pattern text is cut into segments by the model of
`addRouteWithConstraints` (`splitSlash`, `trimSlashes`, `cutWildSuffix`, `contains ':'`) and by the oracle
(`parsePattern`), and that on the vocabulary of the property the two agree (`addRoute_normal`). The request
side (`parsePath` against `cutAny`) is in RadixServe.
-/
namespace Rivaas.RadixL
open Rivaas.Route Rivaas.Radix Rivaas.Match

theorem splitSlash_eq (s : Bytes) : Radix.splitSlash s = Match.splitOnSlash s := by
  induction s with
  | nil => rfl
  | cons c cs ih => simp only [Radix.splitSlash, Match.splitOnSlash, ih]; rfl

theorem splitOnSlash_eq (s : Bytes) : splitOnSlash s = s.splitOn '/' := by
  induction s with
  | nil => rfl
  | cons c cs ih =>
    simp only [splitOnSlash, List.splitOn_cons_eq_if_modifyHead, ih, beq_iff_eq]
    cases h : cs.splitOn '/' with
    | nil => exact absurd h (List.splitOn_ne_nil _ _)
    | cons _ _ => rfl

theorem joinSlash_eq_intercalate (l : List Bytes) : Match.joinSlash l = ['/'].intercalate l := by
  induction l with
  | nil => rfl
  | cons a rest ih =>
    cases rest with
    | nil => simp [Match.joinSlash]
    | cons b bs => rw [Match.joinSlash, ih, List.intercalate_cons_cons]; simp

theorem split_ne_nil (s : Bytes) : splitOnSlash s ≠ [] := splitOnSlash_eq s ▸ List.splitOn_ne_nil '/' s

theorem split_noslash (s : Bytes) : ∀ seg ∈ splitOnSlash s, '/' ∉ seg :=
  fun _ h => List.not_mem_of_mem_splitOn (splitOnSlash_eq s ▸ h)

theorem join_split (s : Bytes) : Match.joinSlash (splitOnSlash s) = s := by
  rw [splitOnSlash_eq, joinSlash_eq_intercalate, List.intercalate_splitOn]

theorem split_join (segs : List Bytes) (hne : segs ≠ []) (hs : ∀ s ∈ segs, '/' ∉ s) :
    splitOnSlash (Match.joinSlash segs) = segs := by
  rw [splitOnSlash_eq, joinSlash_eq_intercalate, List.splitOn_intercalate _ hs hne]

/-! ### what `parsePattern` accepts -/

/-- the vocabulary of the property, per segment -/
def segOK : PSeg → Prop
  | .lit s => s ≠ [] ∧ '/' ∉ s ∧ ':' ∉ s ∧ '*' ∉ s
  | .par n => n ≠ [] ∧ '/' ∉ n ∧ ':' ∉ n ∧ '*' ∉ n
  | .wild => True

structure NormalPat (text : Bytes) (pat : Pat) : Prop where
  segs : ∀ s ∈ pat, segOK s
  wlast : wildOnlyLast pat = true
  dist : distinct (declNames pat) = true
  text : text = render pat

theorem parseSeg_some (seg : Bytes) (hs : '/' ∉ seg) (ps : PSeg) (h : parseSeg seg = some ps) :
    renderSeg ps = seg ∧ segOK ps := by
  unfold parseSeg at h
  split at h
  · cases h
  · injection h with h; subst h; exact ⟨rfl, trivial⟩
  · rename_i n
    simp at h
    obtain ⟨⟨h1, h2, h3⟩, rfl⟩ := h
    refine ⟨rfl, h1, ?_, h2, h3⟩
    intro hm; exact hs (List.mem_cons_of_mem _ hm)
  · rename_i hne hstar hcolon
    simp at h
    obtain ⟨⟨h2, h3⟩, rfl⟩ := h
    exact ⟨rfl, fun e => hne e, hs, h2, h3⟩

theorem parseSegs_some (segs : List Bytes) (hs : ∀ s ∈ segs, '/' ∉ s) (pat : Pat) (h : parseSegs segs = some pat) :
    segs = pat.map renderSeg ∧ ∀ s ∈ pat, segOK s := by
  induction segs generalizing pat with
  | nil =>
    simp only [parseSegs, Option.some.injEq] at h
    subst h; simp
  | cons a rest ih =>
    simp only [parseSegs] at h
    cases ha : parseSeg a with
    | none => simp [ha] at h
    | some pa =>
      cases hr : parseSegs rest with
      | none => simp [ha, hr] at h
      | some pr =>
        simp only [ha, hr, Option.bind_eq_bind, Option.bind_some, Option.pure_def, Option.some.injEq] at h
        subst h
        obtain ⟨h1, h2⟩ := parseSeg_some a (hs a (by simp)) pa ha
        obtain ⟨h3, h4⟩ := ih (fun s hm => hs s (List.mem_cons_of_mem _ hm)) pr hr
        refine ⟨by simp [h1, ← h3], ?_⟩
        intro s hm
        simp only [List.mem_cons] at hm
        rcases hm with rfl | hm
        · exact h2
        · exact h4 s hm

theorem parsePattern_normal (text : Bytes) (pat : Pat) (h : parsePattern text = some pat) : NormalPat text pat := by
  unfold parsePattern at h
  split at h
  · injection h with h; subst h
    exact ⟨by simp, rfl, rfl, rfl⟩
  · rename_i rest hne
    cases hp : parseSegs (splitOnSlash rest) with
    | none => simp [hp] at h
    | some p =>
      simp only [hp] at h
      by_cases hc : wildOnlyLast p = true ∧ distinct (declNames p) = true
      · simp only [hc, and_self, if_true, Option.some.injEq] at h
        subst h
        obtain ⟨h1, h2⟩ := parseSegs_some _ (split_noslash rest) p hp
        refine ⟨h2, hc.1, hc.2, ?_⟩
        unfold render
        rw [← h1, join_split]
      · simp [hc] at h
  · cases h

/-! ### the model's string operations on a pattern text of the vocabulary -/

theorem renderSeg_ok (s : PSeg) (h : segOK s) : renderSeg s ≠ [] ∧ '/' ∉ renderSeg s := by
  cases s with
  | lit t => exact ⟨h.1, h.2.1⟩
  | par n =>
    refine ⟨by simp [renderSeg], ?_⟩
    simp only [renderSeg, List.mem_cons, not_or]
    exact ⟨by decide, h.2.1⟩
  | wild => exact ⟨by simp [renderSeg], by simp [renderSeg]⟩

theorem dropSlashes_id (s : Bytes) (h : s.head? ≠ some '/') : dropSlashes s = s := by
  cases s with
  | nil => rfl
  | cons c cs =>
    have hc : ¬ c = '/' := by intro e; subst e; exact h rfl
    simp [dropSlashes, hc]

theorem join_head (a : Bytes) (rest : List Bytes) (ha : a ≠ []) : (Match.joinSlash (a :: rest)).head? = a.head? := by
  cases a with
  | nil => exact absurd rfl ha
  | cons c cs =>
    cases rest with
    | nil => rfl
    | cons b bs => rfl

theorem join_ne_nil (texts : List Bytes) (hne : texts ≠ []) (ht : ∀ t ∈ texts, t ≠ []) : Match.joinSlash texts ≠ [] := by
  cases texts with
  | nil => exact absurd rfl hne
  | cons a rest =>
    have ha := ht a (by simp)
    cases a with
    | nil => exact absurd rfl ha
    | cons c cs => cases rest <;> simp [Match.joinSlash]

theorem join_snoc (bt : List Bytes) (hne : bt ≠ []) (x : Bytes) :
    Match.joinSlash (bt ++ [x]) = Match.joinSlash bt ++ '/' :: x := by
  induction bt with
  | nil => exact absurd rfl hne
  | cons a rest ih =>
    cases rest with
    | nil => rfl
    | cons b bs =>
      have := ih (by simp)
      simp only [List.cons_append, Match.joinSlash] at this ⊢
      rw [this]; simp

theorem join_last (texts : List Bytes) (hne : texts ≠ []) (ht : ∀ t ∈ texts, t ≠ []) :
    (Match.joinSlash texts).getLast? = (texts.getLast hne).getLast? := by
  have hl := ht _ (List.getLast_mem hne)
  conv => lhs; rw [← List.dropLast_concat_getLast hne]
  by_cases hd : texts.dropLast = []
  · rw [hd]; rfl
  · rw [join_snoc _ hd, List.getLast?_append, List.getLast?_cons_of_ne_nil hl, List.getLast?_eq_some_getLast hl]
    rfl

theorem trim_join (texts : List Bytes) (hne : texts ≠ []) (ht : ∀ t ∈ texts, t ≠ [] ∧ '/' ∉ t) :
    trimSlashes ('/' :: Match.joinSlash texts) = Match.joinSlash texts := by
  unfold trimSlashes
  have h1 : dropSlashes ('/' :: Match.joinSlash texts) = Match.joinSlash texts := by
    simp only [dropSlashes, if_true]
    apply dropSlashes_id
    cases texts with
    | nil => exact absurd rfl hne
    | cons a rest =>
      rw [join_head a rest (ht a (by simp)).1]
      intro h
      have := (ht a (by simp)).2
      cases a with
      | nil => simp at h
      | cons c cs =>
        simp only [List.head?_cons, Option.some.injEq] at h
        subst h; exact this (by simp)
  rw [h1]
  have h2 : dropSlashes (Match.joinSlash texts).reverse = (Match.joinSlash texts).reverse := by
    apply dropSlashes_id
    rw [List.head?_reverse, join_last texts hne (fun t h => (ht t h).1)]
    intro h
    have hl := ht (texts.getLast hne) (List.getLast_mem hne)
    exact hl.2 (List.mem_of_getLast? h)
  rw [h2, List.reverse_reverse]

theorem mem_join (texts : List Bytes) (c : Char) (hc : c ≠ '/') :
    c ∈ Match.joinSlash texts ↔ ∃ t ∈ texts, c ∈ t := by
  induction texts with
  | nil => simp [Match.joinSlash]
  | cons a rest ih =>
    cases rest with
    | nil => simp [Match.joinSlash]
    | cons b bs =>
      simp only [Match.joinSlash, List.mem_append, List.mem_cons, ih, hc, false_or]
      constructor
      · rintro (h | ⟨t, ht, hct⟩)
        · exact ⟨a, Or.inl rfl, h⟩
        · exact ⟨t, Or.inr ht, hct⟩
      · rintro ⟨t, (rfl | ht), hct⟩
        · exact Or.inl hct
        · exact Or.inr ⟨t, ht, hct⟩

theorem cutWild_none (s : Bytes) (h : '*' ∉ s) : cutWildSuffix s = none := by
  unfold cutWildSuffix
  split
  · rename_i r heq
    exact absurd (List.mem_reverse.mp (heq ▸ List.mem_cons_self ..)) h
  · rfl

theorem cutWild_some (s : Bytes) : cutWildSuffix (s ++ ['/', '*']) = some s := by
  unfold cutWildSuffix
  simp

/-! ### registration of a pattern text of the vocabulary = registration of its entry -/

theorem body_cons2 (a b : PSeg) (rest : Pat) : bodyOf (a :: b :: rest) = a :: bodyOf (b :: rest) := by
  unfold bodyOf endsWild
  simp only [List.getLast?_cons_cons]
  split <;> rfl

theorem body_nowild (pat : Pat) (h : wildOnlyLast pat = true) : ∀ s ∈ bodyOf pat, s ≠ PSeg.wild := by
  induction pat with
  | nil => simp [bodyOf, endsWild]
  | cons a rest ih =>
    cases rest with
    | nil =>
      unfold bodyOf endsWild
      by_cases ha : a = PSeg.wild
      · simp [ha]
      · simp [ha]
    | cons b bs =>
      rw [body_cons2]
      simp only [wildOnlyLast, Bool.and_eq_true, decide_eq_true_eq, ne_eq] at h
      intro s hs
      simp only [List.mem_cons] at hs
      rcases hs with rfl | hs
      · exact h.1
      · exact ih h.2 s hs

theorem mem_body (pat : Pat) (s : PSeg) (h : s ∈ bodyOf pat) : s ∈ pat := by
  unfold bodyOf at h
  split at h
  · exact (List.dropLast_sublist pat).subset h
  · exact h

theorem normal_patOK (text : Bytes) (pat : Pat) (hn : NormalPat text pat) : patOK pat := by
  unfold patOK
  rw [List.all_eq_true]
  intro s hs
  have hnw := body_nowild pat hn.wlast s hs
  have hok := hn.segs s (mem_body pat s hs)
  cases s with
  | wild => exact absurd rfl hnw
  | par n => rfl
  | lit t =>
    simp only [litOK, Bool.and_eq_true, decide_eq_true_eq]
    refine ⟨hok.1, ?_⟩
    intro hh
    have : ':' ∈ t := by
      cases t with
      | nil => simp at hh
      | cons c cs => simp only [List.head?_cons, Option.some.injEq] at hh; subst hh; simp
    exact hok.2.2.1 this

theorem texts_ok (pat : Pat) (h : ∀ s ∈ pat, segOK s) : ∀ t ∈ pat.map renderSeg, t ≠ [] ∧ '/' ∉ t := by
  intro t ht
  simp only [List.mem_map] at ht
  obtain ⟨s, hs, rfl⟩ := ht
  exact renderSeg_ok s (h s hs)

/-- the segments `addRouteWithConstraints` obtains from a pattern text of the vocabulary -/
theorem model_segs (pat : Pat) (hne : pat ≠ []) (h : ∀ s ∈ pat, segOK s) :
    splitSlash (trimSlashes ('/' :: Match.joinSlash (pat.map renderSeg))) = segTexts pat := by
  have hne' : pat.map renderSeg ≠ [] := by simpa using hne
  rw [trim_join _ hne' (texts_ok pat h), splitSlash_eq, split_join _ hne' (fun t ht => (texts_ok pat h t ht).2)]
  rfl

theorem mem_render (pat : Pat) (c : Char) (hc : c ≠ '/') : c ∈ render pat ↔ ∃ s ∈ pat, c ∈ renderSeg s := by
  unfold render
  simp only [List.mem_cons, mem_join _ _ hc, hc, false_or, List.mem_map]
  exact ⟨fun ⟨_, ⟨s, hs, e⟩, h⟩ => ⟨s, hs, e ▸ h⟩, fun ⟨s, hs, h⟩ => ⟨_, ⟨s, hs, rfl⟩, h⟩⟩

theorem colon_iff (pat : Pat) (h : ∀ s ∈ pat, segOK s) (hnw : ∀ s ∈ pat, s ≠ PSeg.wild) :
    (render pat).contains ':' = !isStaticPat pat := by
  cases hst : isStaticPat pat with
  | true =>
    -- literals of the vocabulary hold no `:`
    obtain ⟨lits, rfl⟩ := MatchL.static_lits hst
    rw [Bool.not_true, ← Bool.not_eq_true, List.contains_iff_mem]
    rw [mem_render _ _ (by decide)]
    rintro ⟨s, hs, hc⟩
    obtain ⟨x, _, rfl⟩ := List.mem_map.mp hs
    exact (h _ hs).2.2.1 hc
  | false =>
    -- some segment is a parameter, rendered `:name`
    apply List.contains_iff_mem.mpr
    rw [mem_render _ _ (by decide)]
    obtain ⟨s, hs, hk⟩ := List.all_eq_false.mp hst
    cases s with
    | lit x => simp [kind] at hk
    | par n => exact ⟨_, hs, by simp [renderSeg]⟩
    | wild => exact absurd rfl (hnw _ hs)

theorem render_nostar (pat : Pat) (h : ∀ s ∈ pat, segOK s) (hnw : ∀ s ∈ pat, s ≠ PSeg.wild) : '*' ∉ render pat := by
  rw [mem_render _ _ (by decide)]
  rintro ⟨s, hs, hc⟩
  cases s with
  | wild => exact hnw _ hs rfl
  | lit x => exact (h _ hs).2.2.2 hc
  | par n => exact (h _ hs).2.2.2 ((List.mem_cons.mp hc).resolve_left (by decide))

theorem render_ne (pat : Pat) (hne : pat ≠ []) (h : ∀ s ∈ pat, segOK s) : render pat ≠ ['/'] ∧ render pat ≠ [] := by
  refine ⟨?_, by simp [render]⟩
  intro e
  unfold render at e
  injection e with _ e
  exact join_ne_nil _ (by simpa using hne) (fun t ht => (texts_ok pat h t ht).1) e

/-- how the registration code reads the text of a pattern of the vocabulary: the root; `/*`; a body followed
by `/*`; or no wildcard suffix, a `:` exactly when there is a parameter, and the pattern's own segments -/
theorem text_cases (text : Bytes) (pat : Pat) (hn : NormalPat text pat) :
    (pat = [] ∧ text = ['/']) ∨
    (pat ≠ [] ∧ ¬ (text = ['/'] ∨ text = []) ∧
      ((endsWild pat = true ∧ bodyOf pat = [] ∧ cutWildSuffix text = some []) ∨
       (endsWild pat = true ∧ cutWildSuffix text = some (render (bodyOf pat)) ∧
          splitSlash (trimSlashes (render (bodyOf pat))) = segTexts (bodyOf pat)) ∨
       (endsWild pat = false ∧ cutWildSuffix text = none ∧ text.contains ':' = !isStaticPat pat ∧
          splitSlash (trimSlashes text) = segTexts pat))) := by
  have htext := hn.text
  by_cases hpe : pat = []
  · left; exact ⟨hpe, by rw [htext, hpe]; rfl⟩
  · right
    obtain ⟨hne1, hne2⟩ := render_ne pat hpe hn.segs
    rw [← htext] at hne1 hne2
    refine ⟨hpe, fun h => h.elim hne1 hne2, ?_⟩
    cases hw : endsWild pat with
    | true =>
      have hsplit := pat_split pat
      rw [hw, if_pos rfl] at hsplit
      by_cases hbe : bodyOf pat = []
      · left
        refine ⟨rfl, hbe, ?_⟩
        rw [htext, hsplit, hbe]; rfl
      · right; left
        have ht : text = render (bodyOf pat) ++ ['/', '*'] := by
          rw [htext]
          conv => lhs; rw [hsplit]
          unfold render
          simp only [List.map_append, List.map_cons, List.map_nil, renderSeg]
          rw [join_snoc _ (by simpa using hbe)]
          rfl
        exact ⟨rfl, by rw [ht]; exact cutWild_some _,
          model_segs _ hbe fun s hs => hn.segs s (mem_body _ s hs)⟩
    | false =>
      right; right
      have hnw : ∀ s ∈ pat, s ≠ PSeg.wild := by
        have := body_nowild pat hn.wlast
        rwa [show bodyOf pat = pat by simp [bodyOf, hw]] at this
      refine ⟨rfl, ?_, ?_, ?_⟩
      · rw [htext]; exact cutWild_none _ (render_nostar pat hn.segs hnw)
      · rw [htext]; exact colon_iff pat hn.segs hnw
      · rw [htext]; exact model_segs _ hpe hn.segs

theorem addLeaf_normal (t : Tree) (r : Route) (hn : NormalPat r.text r.pat) :
    addLeafGen false t r.text (leafOf r) =
      if inTree r then { t with nodes := addEntry t.nodes (toEntry r) }
      else { t with statics := setStatic r.text (leafOf r) t.statics } := by
  -- the branches of the Go code in the order of `text_cases`. In each, once `text_cases` has decided the tests, what is
  -- left to see is that the slot written is the one `addEntry` writes for `toEntry r`: the leaf or the wild slot of the
  -- node at the end of the body's path
  rcases text_cases r.text r.pat hn with ⟨hpe, ht⟩ | ⟨hpe, hroot, ⟨hw, hbe, hcut⟩ | ⟨hw, hcut, hsegs⟩ | ⟨hw, hcut, hcolon, hsegs⟩⟩
  · -- the root `/`: the leaf of the root node
    have hin : inTree r = true := by simp [inTree, hpe]
    simp only [addLeafGen, ht, true_or, if_true, hin]
    simp [addEntry, toEntry, bodyOf, endsWild, hpe, segTexts, descendPrefix] <;> rfl
  · -- `/*`: the wild slot of the root node
    have hin := notStatic_inTree r (endsWild_not_static _ hw)
    simp only [addLeafGen, hroot, if_false, hin, if_true, hcut]
    simp [addEntry, toEntry, hbe, hw, segTexts, descendPrefix] <;> rfl
  · -- a body followed by `/*`: the wild slot at the end of the prefix walk
    have hin := notStatic_inTree r (endsWild_not_static _ hw)
    have hpre : render (bodyOf r.pat) ≠ [] := by simp [render]
    simp only [addLeafGen, hroot, if_false, hin, if_true, hcut, hpre, hsegs]
    simp [addEntry, toEntry, hw] <;> rfl
  · -- no wildcard: `staticPaths` when there is no `:`, else `insertStd`, which is the prefix walk and then the leaf
    have hbody : bodyOf r.pat = r.pat := by simp [bodyOf, hw]
    simp only [addLeafGen, hroot, if_false, hcut]
    cases hst : isStaticPat r.pat with
    | true =>
      have hin : inTree r = false := by simp [inTree, hst, hpe]
      rw [hst] at hcolon
      simp only [hcolon, Bool.not_true, Bool.false_eq_true, not_false_eq_true, if_true, hin, if_false]
    | false =>
      have hin : inTree r = true := by simp [inTree, hst]
      rw [hst] at hcolon
      simp only [hcolon, Bool.not_false, not_true_eq_false, if_false, hin, if_true, hsegs]
      have hpok := normal_patOK _ _ hn
      unfold patOK at hpok
      rw [hbody] at hpok
      rw [insertStd_eq _ _ hpe hpok]
      simp [addEntry, toEntry, hw, hbody] <;> rfl

theorem parNames_append (a b : Pat) : parNames (a ++ b) = parNames a ++ parNames b := by
  induction a with
  | nil => rfl
  | cons x xs ih => cases x <;> simp [parNames, ih]

theorem segNames_lit (c : Char) (cs : Bytes) (rest : List Bytes) (hc : c ≠ ':') :
    segNames ((c :: cs) :: rest) = segNames rest := by
  conv => lhs; unfold segNames
  split
  · rename_i heq; cases heq
  · rename_i n rest' heq
    injection heq with h1 _
    injection h1 with h1 _
    exact absurd h1 hc
  · rename_i _ heq
    injection heq with _ h2
    rw [h2]

theorem segNames_segTexts (pat : Pat) (h : ∀ s ∈ pat, segOK s) (hnw : ∀ s ∈ pat, s ≠ PSeg.wild) :
    segNames (segTexts pat) = parNames pat := by
  induction pat with
  | nil => rfl
  | cons a rest ih =>
    have ih' := ih (fun s hs => h s (List.mem_cons_of_mem _ hs)) (fun s hs => hnw s (List.mem_cons_of_mem _ hs))
    unfold segTexts at ih' ⊢
    cases a with
    | wild => exact absurd rfl (hnw _ (List.mem_cons_self ..))
    | par n => simp [renderSeg, segNames, parNames, ih']
    | lit x =>
      have hok := h _ (List.mem_cons_self ..)
      simp only [segOK] at hok
      cases x with
      | nil => exact absurd rfl hok.1
      | cons c cs =>
        have hc : c ≠ ':' := by intro e; subst e; exact hok.2.2.1 (List.mem_cons_self ..)
        simp only [List.map_cons, renderSeg, parNames]
        rw [← ih']
        exact segNames_lit c cs _ hc

theorem parNames_static (pat : Pat) (h : isStaticPat pat = true) : parNames pat = [] := by
  obtain ⟨lits, rfl⟩ := MatchL.static_lits h
  clear h
  induction lits with
  | nil => rfl
  | cons l ls ih => exact ih

/-- `node.paramNames` of a route of the vocabulary are the names its pattern declares -/
theorem paramNames_normal (r : Route) (hn : NormalPat r.text r.pat) : paramNamesOf r.text = declNames r.pat := by
  have hwildNames : endsWild r.pat = true → declNames r.pat = parNames (bodyOf r.pat) ++ [wildParam] := by
    intro hw
    have hsplit := pat_split r.pat
    rw [hw, if_pos rfl] at hsplit
    unfold declNames
    rw [show r.pat.getLast? = some PSeg.wild by simpa [endsWild] using hw, if_pos rfl]
    conv => lhs; rw [hsplit, parNames_append]
    simp [parNames]; rfl
  rcases text_cases r.text r.pat hn with ⟨hpe, ht⟩ | ⟨hpe, hroot, ⟨hw, hbe, hcut⟩ | ⟨hw, hcut, hsegs⟩ | ⟨hw, hcut, hcolon, hsegs⟩⟩
  · simp [paramNamesOf, ht, hpe, declNames, parNames]
  · simp only [paramNamesOf, hroot, if_false, hcut, if_true, hwildNames hw, hbe, parNames, List.nil_append]
  · have hpre : render (bodyOf r.pat) ≠ [] := by simp [render]
    simp only [paramNamesOf, hroot, if_false, hcut, hpre, hsegs, hwildNames hw]
    rw [segNames_segTexts _ (fun s hs => hn.segs s (mem_body _ s hs)) (body_nowild r.pat hn.wlast)]
  · have hnw : ∀ s ∈ r.pat, s ≠ PSeg.wild := by
      have := body_nowild r.pat hn.wlast
      rwa [show bodyOf r.pat = r.pat by simp [bodyOf, hw]] at this
    have hdecl : declNames r.pat = parNames r.pat := by
      unfold declNames
      simp [show ¬ r.pat.getLast? = some PSeg.wild by simpa [endsWild] using hw]
    simp only [paramNamesOf, hroot, if_false, hcut, hdecl]
    cases hst : isStaticPat r.pat with
    | true =>
      rw [hst] at hcolon
      simp only [hcolon, Bool.not_true, Bool.false_eq_true, not_false_eq_true, if_true]
      exact (parNames_static _ hst).symm
    | false =>
      rw [hst] at hcolon
      simp only [hcolon, Bool.not_false, not_true_eq_false, if_false, hsegs]
      exact segNames_segTexts _ hn.segs hnw

/-- `addRouteWithConstraints` on a pattern text of the vocabulary does what the pattern says: the
root, parameter and wildcard patterns go into the node map as their entry, the parameter-free ones
into `staticPaths` under their text; the leaf carries the names the pattern declares -/
theorem addRoute_normal (t : Tree) (r : Route) (hn : NormalPat r.text r.pat) :
    addRouteGen false t r.text r.rid r.cons =
      if inTree r then { t with nodes := addEntry t.nodes (toEntry r) }
      else { t with statics := setStatic r.text (leafOf r) t.statics } := by
  unfold addRouteGen
  rw [paramNames_normal r hn]
  exact addLeaf_normal t r hn

end Rivaas.RadixL
