import Rivaas.Lemmas.CompilerStatic
/-
C11, engine level: an answer of the per-tree table is the tree engine's answer, and inside a version tree the
answer does not depend on the bloom configuration (the version cache itself can be seen: it keeps the routes as
they were at warm-up).
-/
namespace Rivaas.CompilerL
open Rivaas.Route Rivaas.Radix Rivaas.Compiler Rivaas.Match Rivaas.RadixL

/-- Stage 3 of the compiled engine: when the per-tree table (any bloom size, any number of hash functions)
answers, it answers with the leaf the tree engine finds in `staticPaths`. -/
theorem stage3_eq (hash : Bytes → Nat) (sat : Nat → Bytes → Bool) (noRoute : Bool) (script : List Reg) (R : List Route)
    (hRs : specRoutes script = some R) (hR : ∀ r ∈ R, NormalPat r.text r.pat) (size k : Nat) (req : Req)
    (hinj : InjOn hash (req.path :: R.map (·.text)))
    (t : Tree) (ht : treeOf (build noRoute script) req.method = some t)
    (p : Bytes) (lf : Leaf) (h : (mainTable hash size k t).get hash req.path = some (p, lf)) :
    servedTable lf req.path req = serve sat (build noRoute script) req := by
  unfold serve
  rw [ht]
  dsimp only
  -- a method that has a tree is a standard one, and its tree that of its routes
  have hm : req.method ∈ stdMethods := Decidable.byContradiction fun hm => by rw [treeOf, if_neg hm] at ht; cases ht
  rw [treeOf_build noRoute script R hRs req.method hm] at ht
  split at ht
  · cases ht
  cases ht
  obtain ⟨rfl, hs⟩ := table_get_sound hash R hR req.method _ req.path hinj p lf h
  obtain ⟨r', hr', _, ht', htx, rfl⟩ := static_live hR hs
  have hn := hR r' (live_sub hr')
  -- the root `/` lives in the tree, not in `staticPaths`
  have hgood := render_ne r'.pat (notInTree r' ht').2 hn.segs
  rw [← hn.text, htx] at hgood
  have hnr : ¬ (req.path = ['/'] ∨ req.path = []) := not_or.mpr hgood
  have hgr : getRoute sat (treeFor R req.method) req.path Ctx.fresh = (some (leafOf r'), Ctx.fresh) := by
    rw [treeFor_char R hR req.method]
    simp only [getRoute, getRouteGen, hnr, if_false, hs]
  rw [hgr]
  simp only [servedTable, served, leafOf, htx, hgood.2, if_false]
  rfl

theorem versionTable_bloom (hash : Bytes → Nat) (size k size' k' : Nat) (t : Tree) (path : Bytes) :
    (versionTable hash size k t).bind (·.get hash path) = (versionTable hash size' k' t).bind (·.get hash path) := by
  unfold versionTable
  by_cases hc : countStatic t = 0
  · rw [if_pos hc, if_pos hc]
  · rw [if_neg hc, if_neg hc]
    dsimp only
    generalize Bloom.new _ k = b
    generalize Bloom.new _ k' = b'
    rw [fillTable_routes_bloom hash t [] b b']
    by_cases he : (fillTable hash t ⟨[], b'⟩).routes.isEmpty = true
    · rw [if_pos he, if_pos he]
    · rw [if_neg he, if_neg he]
      exact fillTable_get_bloom hash t b b' path

/-- **Inside a version tree the options do not show**: the answer does not depend on the bloom filter size, the
number of hash functions, or whether route compilation is on (for the same placement of the explicit `Warmup()`
call, if any) — for every script and every hash function. Nothing is said of the cache against the tree walk. -/
theorem versioned_transparent (hash : Bytes → Nat) (sat : Nat → Bytes → Bool) (o o' : Opts)
    (hw : o.warmAt = o'.warmAt) (noRoute : Bool) (script : List Reg) (req : Req) :
    serveVersioned hash sat o script noRoute req = serveVersioned hash sat o' script noRoute req := by
  have hww : o'.warmed script = o.warmed script := by unfold Opts.warmed; rw [hw]
  unfold serveVersioned versionLookup
  simp only [hww, versionTable_bloom hash o.size o.k o'.size o'.k]

end Rivaas.CompilerL
