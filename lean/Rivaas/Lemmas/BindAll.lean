import Rivaas.Model.BindAll
import Rivaas.Spec.BindAll
import Rivaas.Lemmas.BindExpect
/-
C04 — the collecting bind (`WithAllErrors`) against the plain bind: they run the same steps up to
the first error. `Agree o oa`: a plain success is a collecting run without errors and the same
value; a plain error is the *first* error of the collecting run - or that run, which goes on, panics
further on (an ill-typed destination: fewer values than fields). Step by step: on a field that is not a struct the
two steps store the same value or fail with the same single error (`lemma_leaf_step`); on a nested struct they agree
if the treatments of the struct do (`lemma_agree_step`).
-/
namespace Rivaas.Bind

def Agree (o : Outcome) (oa : OutAll) : Prop :=
  match o with
  | .ok v => oa = .done v []
  | .panic => oa = .panic
  | .err e => oa = .panic ∨ ∃ v es, oa = .done v (e :: es)

def AgreeStep (a : Val ⊕ Stop) (sa : StepAll) : Prop :=
  match a with
  | .inl nv => sa = .store nv []
  | .inr .panic => sa = .panic
  | .inr (.err e) => sa = .panic ∨ (∃ es, sa = .skip (e :: es)) ∨ (∃ nv es, sa = .store nv (e :: es))

theorem lemma_prepend_nil (oa : OutAll) : oa.prepend [] = oa := by
  cases oa <;> rfl

theorem lemma_agree_err_prepend (e : Err) (es : List Err) (oa : OutAll) : Agree (.err e) (oa.prepend (e :: es)) := by
  cases oa with
  | panic => exact Or.inl rfl
  | done v es' => exact Or.inr ⟨v, es ++ es', rfl⟩

theorem lemma_agree_seq (o : Outcome) (oa : OutAll) (k : Val → Outcome) (ka : Val → OutAll) :
    Agree o oa → (∀ v, Agree (k v) (ka v)) →
    Agree (match o with | .ok v => k v | o' => o')
      (match oa with | .done v es => (ka v).prepend es | .panic => .panic) := by
  intro h hk
  cases o with
  | ok v => cases (h : oa = .done v []); dsimp only; rw [lemma_prepend_nil]; exact hk v
  | panic => cases (h : oa = .panic); exact rfl
  | err e =>
    rcases (h : oa = .panic ∨ ∃ v es, oa = .done v (e :: es)) with rfl | ⟨v, es, rfl⟩
    · exact Or.inl rfl
    · exact lemma_agree_err_prepend e es _

theorem lemma_agree_after (a : Val ⊕ Stop) (sa : StepAll) (k : Val → Outcome) (ka : Val → OutAll) (kskip : OutAll) :
    AgreeStep a sa → (∀ v, Agree (k v) (ka v)) →
    Agree (match a with | .inl nv => k nv | .inr o => o.out)
      (match sa with | .store nv es => (ka nv).prepend es | .skip es => kskip.prepend es | .panic => .panic) := by
  intro h hk
  cases a with
  | inl nv => cases (h : sa = .store nv []); dsimp only; rw [lemma_prepend_nil]; exact hk nv
  | inr st =>
    cases st with
    | panic => cases (h : sa = .panic); exact rfl
    | err e =>
      rcases (h : sa = .panic ∨ (∃ es, sa = .skip (e :: es)) ∨ ∃ nv es, sa = .store nv (e :: es)) with
        rfl | ⟨es, rfl⟩ | ⟨nv, es, rfl⟩
      · exact Or.inl rfl
      · exact lemma_agree_err_prepend e es _
      · exact lemma_agree_err_prepend e es _

theorem lemma_agree_clean (o : Outcome) (oa : OutAll) (h : Agree o oa) (v : Val) : oa = .done v [] ↔ o = .ok v := by
  cases o with
  | ok w => cases (h : oa = .done w []); exact ⟨fun h => by cases h; rfl, fun h => by cases h; rfl⟩
  | panic => cases (h : oa = .panic); exact ⟨fun h => (by cases h), fun h => (by cases h)⟩
  | err e =>
    refine ⟨fun ha => ?_, fun h => by cases h⟩
    rcases (h : oa = .panic ∨ ∃ v es, oa = .done v (e :: es)) with rfl | ⟨w, es, rfl⟩
    · cases ha
    · cases ha

theorem lemma_agree_first (o : Outcome) (oa : OutAll) (h : Agree o oa) (v : Val) (e : Err) (es : List Err)
    (ha : oa = .done v (e :: es)) : o = .err e := by
  cases o with
  | ok w => cases (h : oa = .done w []); cases ha
  | panic => cases (h : oa = .panic); cases ha
  | err e' =>
    rcases (h : oa = .panic ∨ ∃ v es, oa = .done v (e' :: es)) with rfl | ⟨w, es', rfl⟩
    · cases ha
    · cases ha  -- identifies `e'` with `e`
      rfl

section
open Spec

theorem lemma_leaf_step (P : Params) (cfg : Cfg) (nest : Nest) (nestA : NestAll) (g : Getter) (depth : Nat)
    (f : FieldInfo) (cur : Val) (hs : isStructTy f.ty = false) :
    (∃ nv, fieldAction P cfg nest g depth f cur = .inl nv ∧ fieldActionAll P cfg nestA g depth f cur = .store nv []) ∨
    (∃ c, errNames c = [] ∧ fieldAction P cfg nest g depth f cur = .inr (.err (.bind f.name c)) ∧
      fieldActionAll P cfg nestA g depth f cur = .skip [.bind f.name c]) := by
  rw [fieldAction_leaf P cfg nest g depth f cur hs, fieldActionAll_leaf P cfg nestA g depth f cur hs]
  cases h : leafAction P cfg g f cur with
  | ok nv => exact Or.inl ⟨nv, rfl, rfl⟩
  | error c =>
    -- an error of one of the three classes of a leaf: no field name inside
    exact Or.inr ⟨c, by rcases lemma_leafAction_err P cfg g f cur c h with rfl | rfl | rfl <;> rfl, rfl, rfl⟩

end

theorem lemma_agree_nested (name : Bytes) (ty : Ty) (o : Outcome) (oa : OutAll) (h : Agree o oa) :
    AgreeStep (nestedOut name ty o) (nestedOutAll name ty oa) := by
  cases o with
  | ok v => cases (h : oa = .done v []); exact rfl
  | panic => cases (h : oa = .panic); exact rfl
  | err e =>
    rcases (h : oa = .panic ∨ ∃ v es, oa = .done v (e :: es)) with rfl | ⟨v, es, rfl⟩
    · exact Or.inl rfl
    · exact Or.inr (Or.inr ⟨rewrap ty v, es.map (.bind name), rfl⟩)

theorem lemma_agree_step (P : Params) (cfg : Cfg) (nest : Nest) (nestA : NestAll)
    (hn : ∀ a b c d, Agree (nest a b c d) (nestA a b c d))
    (g : Getter) (depth : Nat) (f : FieldInfo) (cur : Val) :
    AgreeStep (fieldAction P cfg nest g depth f cur) (fieldActionAll P cfg nestA g depth f cur) := by
  by_cases hs : isStructTy f.ty = true
  · rw [fieldAction_struct P cfg nest g depth f cur hs, fieldActionAll_struct P cfg nestA g depth f cur hs]
    by_cases hd : cfg.maxDepth < depth + 1
    · rw [if_pos hd, if_pos hd]
      exact Or.inr (Or.inl ⟨[], rfl⟩)
    · rw [if_neg hd, if_neg hd]
      exact lemma_agree_nested _ _ _ _ (hn _ _ _ _)
  · rcases lemma_leaf_step P cfg nest nestA g depth f cur (by simpa using hs) with ⟨nv, hp, ha⟩ | ⟨c, _, hp, ha⟩
    · rw [hp, ha]; exact rfl
    · rw [hp, ha]; exact Or.inr (Or.inl ⟨[], rfl⟩)

theorem lemma_agree_loop (P : Params) (cfg : Cfg) (nest : Nest) (nestA : NestAll)
    (hn : ∀ a b c d, Agree (nest a b c d) (nestA a b c d)) (sty : List Fld) :
    ∀ (fis : List FieldInfo) (elem : Val) (g : Getter) (depth : Nat),
      Agree (loopWith P cfg nest sty fis elem g depth) (loopAllWith P cfg nestA sty fis elem g depth)
  | [], elem, g, depth => rfl
  | f :: rest, elem, g, depth => by
    unfold loopWith loopAllWith
    cases reach elem f.index with
    | bad => exact rfl
    | _ =>
      dsimp only
      by_cases hw : (!wants g f) = true
      · rw [if_pos hw, if_pos hw]
        exact lemma_agree_loop P cfg nest nestA hn sty rest elem g depth
      · rw [if_neg hw, if_neg hw]
        cases reach (updAt (.struct sty) elem f.index id) f.index with
        | ok cur =>
          exact lemma_agree_after _ _ _ _ _ (lemma_agree_step P cfg nest nestA hn g depth f cur)
            (fun v => lemma_agree_loop P cfg nest nestA hn sty rest _ g depth)
        | _ => exact rfl

theorem lemma_agree_bindAt (P : Params) (cfg : Cfg) (tag : Tag) :
    ∀ (n : Nat) (sty : List Fld) (elem : Val) (g : Getter) (depth : Nat),
      Agree (bindAt P cfg tag n sty elem g depth) (bindAtAll P cfg tag n sty elem g depth)
  | 0, sty, elem, g, depth =>
    lemma_agree_loop P cfg (fun _ _ _ _ => .err .depth) (fun _ v _ _ => .done v [.depth])
      (fun _ v _ _ => Or.inr ⟨v, [], rfl⟩) sty _ elem g depth
  | n + 1, sty, elem, g, depth => lemma_agree_loop P cfg _ _ (lemma_agree_bindAt P cfg tag n) sty _ elem g depth

theorem lemma_agree_bind (P : Params) (cfg : Cfg) (tag : Tag) (ty : Ty) (init : Val) (src : Src) :
    Agree (bind P cfg tag ty init src) (bindAll P cfg tag ty init src) := by
  cases ty with
  | struct fs => exact lemma_agree_bindAt P cfg tag cfg.maxDepth fs init _ 0
  | _ => exact Or.inr ⟨init, [], rfl⟩

/-- a plain treatment of nested structs as a collecting one: its error is the one error collected, on the struct as it was -/
def collectOf (nest : Nest) : NestAll := fun nfs v g d =>
  match nest nfs v g d with
  | .ok v' => .done v' []
  | .err e => .done v [e]
  | .panic => .panic

theorem lemma_agree_collectOf (nest : Nest) (nfs : List Fld) (v : Val) (g : Getter) (d : Nat) :
    Agree (nest nfs v g d) (collectOf nest nfs v g d) := by
  unfold collectOf
  cases nest nfs v g d with
  | ok v' => exact rfl
  | err e => exact Or.inr ⟨v, [], rfl⟩
  | panic => exact rfl

theorem lemma_agree_pass (P : Params) (cfg : Cfg) (fs : List Fld) (ty : Tag → Ty) :
    ∀ (srcs : List Src) (cur : Val), Agree (bindPass P cfg fs ty srcs cur) (bindPassAll P cfg fs ty srcs cur)
  | [], cur => rfl
  | s :: rest, cur => by
    unfold bindPass bindPassAll
    by_cases ht : hasTagFs s.kind fs = true
    · rw [if_pos ht, if_pos ht]
      exact lemma_agree_seq _ _ _ _ (lemma_agree_bind P cfg s.kind (ty s.kind) cur s) (lemma_agree_pass P cfg fs ty rest)
    · rw [if_neg ht, if_neg ht]
      exact lemma_agree_pass P cfg fs ty rest cur

theorem lemma_agree_multi (P : Params) (cfg : Cfg) (fs : List Fld) (init : Val) (srcs : List Src) :
    Agree (bindMulti P cfg fs init srcs) (bindMultiAll P cfg fs init srcs) := by
  unfold bindMulti bindMultiAll
  by_cases he : srcs.isEmpty = true
  · rw [if_pos he, if_pos he]
    exact Or.inr ⟨init, [], rfl⟩
  · rw [if_neg he, if_neg he]
    by_cases h1 : (srcs.length == 1) = true
    · rw [if_pos h1, if_pos h1]
      exact lemma_agree_pass P cfg fs _ srcs init
    · rw [if_neg h1, if_neg h1]
      exact lemma_agree_seq _ _ _ _ (lemma_agree_pass P cfg fs _ _ init) (lemma_agree_pass P cfg fs _ srcs)

end Rivaas.Bind
