import Rivaas.Spec.Presence
/-
C05 — `LeafPaths` after the repair of K05 (prefix set; DESIGN.md, appendix sketch D) against the declarative
`IsLeaf` (a present path with no present descendant), and its independence of map iteration order.
-/
namespace Rivaas.Presence

theorem mem_dottedPrefixes (p q : Path) : p ∈ dottedPrefixes q ↔ isParentOf p q := by
  unfold isParentOf
  induction q generalizing p with
  | nil => simp [dottedPrefixes]
  | cons c cs ih =>
    -- either `p` is empty and the dot is `c`, or `p` starts with `c` and the rest is a prefix of `cs`
    cases p with
    | nil =>
      rw [dottedPrefixes, List.nil_append, List.cons_prefix_cons]
      split
      · next h => exact ⟨fun _ => ⟨h.symm, List.nil_prefix⟩, fun _ => List.mem_cons_self⟩
      · next h => exact ⟨fun hm => (by obtain ⟨_, _, e⟩ := List.mem_map.mp hm; cases e), fun ⟨e, _⟩ => absurd e.symm h⟩
    | cons d ds =>
      have hmap : d :: ds ∈ (dottedPrefixes cs).map (c :: ·) ↔ d = c ∧ ds ∈ dottedPrefixes cs := by
        rw [List.mem_map]
        exact ⟨fun ⟨a, ha, e⟩ => by cases e; exact ⟨rfl, ha⟩, fun ⟨e, ha⟩ => ⟨ds, ha, by rw [e]⟩⟩
      rw [dottedPrefixes, List.cons_append, List.cons_prefix_cons, ← ih ds, ← hmap]
      split
      · rw [List.mem_cons]; exact or_iff_right (List.cons_ne_nil _ _)
      · rfl

theorem isLeafB_iff (pm : List Path) (p : Path) : isLeafB pm p = true ↔ IsLeaf pm p := by
  simp only [isLeafB, IsLeaf, isParentOf, Bool.and_eq_true, List.contains_iff_mem, Bool.not_eq_true',
    List.any_eq_false, List.isPrefixOf_iff_prefix, not_exists, not_and]

theorem leafTest_eq (pm : List Path) {p : Path} (hp : p ∈ pm) :
    (!(pm.flatMap dottedPrefixes).contains p) = isLeafB pm p := by
  apply Bool.eq_iff_iff.mpr
  simp only [Bool.not_eq_true', ← Bool.not_eq_true, List.contains_iff_mem, List.mem_flatMap, mem_dottedPrefixes,
    isLeafB_iff, IsLeaf, hp, true_and]

theorem leafPaths_eq_spec (pm : List Path) : leafPaths pm = sortPaths (pm.filter (isLeafB pm)) := by
  unfold leafPaths; rw [List.filter_congr fun p hp => leafTest_eq pm hp]

/-- The oracle's formulation, used as the *compiled* implementation of `leafPaths`: it tests each
    path against the present paths directly instead of materialising the set of all dotted
    prefixes (quadratic in the nesting depth). `@[csimp]` makes the compiler use it on the strength
    of the equality proof; the theorems keep talking about `leafPaths`. -/
def leafPathsFast (pm : List Path) : List Path := sortPaths (pm.filter (isLeafB pm))

@[csimp] theorem leafPaths_eq_fast : @leafPaths = @leafPathsFast := by
  funext pm; exact leafPaths_eq_spec pm

theorem perm_leafFilter {pm₁ pm₂ : List Path} (h : pm₁.Perm pm₂) :
    (pm₁.filter (isLeafB pm₁)).Perm (pm₂.filter (isLeafB pm₂)) := by
  have hf : isLeafB pm₁ = isLeafB pm₂ :=
    funext fun p => Bool.eq_iff_iff.mpr (by simp only [isLeafB_iff, IsLeaf, h.mem_iff])
  rw [hf]
  exact h.filter _

end Rivaas.Presence
