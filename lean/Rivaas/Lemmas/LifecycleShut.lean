import Rivaas.Lemmas.LifecycleSegs
/-
C09 — helper lemmas: executeShutdownHooks (the model's `shutHooks` over `lifo`), with the requests released from
inside the hooks.
-/
namespace Rivaas.Lifecycle
open Spec

theorem relIn_kinds (met : Bool) (i k : Nat) (qs : List Rel) : kindsIn [.reqFin] (relIn met i k qs) := by
  induction qs generalizing k with
  | nil => exact kindsIn_nil _
  | cons q rest ih =>
    simp only [relIn]
    apply kindsIn_append _ (ih _)
    split
    · exact kindsIn_cons (by simp [kind]) (kindsIn_nil _)
    · exact kindsIn_nil _

theorem relIn_probes (sc : Scenario) (i k : Nat) (qs : List Rel) :
    (relIn sc.metrics i k qs).all (reqProbeOk sc) = true := by
  induction qs generalizing k with
  | nil => simp [relIn]
  | cons q rest ih =>
    simp only [relIn, List.all_append, ih, Bool.and_true]
    split <;> simp [reqProbeOk]

theorem relIn_tags (met : Bool) (i k : Nat) (qs : List Rel) : (relIn met i k qs).filterMap shutTag = [] :=
  List.filterMap_eq_nil_iff.mpr fun e he => Option.isNone_iff_eq_none.mp
    ((relIn_kinds met i k qs).off (k := .shut) (P := fun e => (shutTag e).isNone) (by decide)
      (fun e => by cases e <;> rfl) e he)

theorem relIn_shutProbes (sc : Scenario) (met : Bool) (i k : Nat) (qs : List Rel) :
    (relIn met i k qs).all (shutProbeOk sc) = true :=
  List.all_eq_true.mpr ((relIn_kinds met i k qs).off (k := .shut) (by decide) fun e => by cases e <;> rfl)

def shutHead (met sent : Bool) (reqs : List Rel) (ex : Bool) (i : Nat) : List Ev :=
  Ev.shutIn i true met (!ex) :: ((if sent then relIn met i 0 reqs else []) ++ [Ev.shutOut i])

theorem shutHooks_cons (met sent : Bool) (reqs : List Rel) (ex : Bool) (i : Nat) (b : HB)
    (rest : List (Nat × HB)) :
    shutHooks met sent reqs ex ((i, b) :: rest) =
      if b == .panic then ⟨shutHead met sent reqs ex i, true, ex⟩
      else
        let r := shutHooks met sent reqs (ex || b == .block) rest
        ⟨shutHead met sent reqs ex i ++ r.evs, r.panicked, r.expired⟩ := by
  simp only [shutHooks, shutHead]

theorem shutHead_kinds (met sent : Bool) (reqs : List Rel) (ex : Bool) (i : Nat) :
    kindsIn [.shut, .reqFin] (shutHead met sent reqs ex i) := by
  apply kindsIn_cons (by simp [kind])
  apply kindsIn_append
  · cases sent
    · exact kindsIn_nil _
    · exact kindsIn_mono (relIn_kinds met i 0 reqs) (by simp)
  · exact kindsIn_cons (by simp [kind]) (kindsIn_nil _)

theorem shutHead_tags (met sent : Bool) (reqs : List Rel) (ex : Bool) (i : Nat) :
    (shutHead met sent reqs ex i).filterMap shutTag = [(true, i), (false, i)] := by
  cases sent <;> simp [shutHead, shutTag, List.filterMap_append, relIn_tags]

theorem shutHead_reqProbes (sc : Scenario) (sent : Bool) (ex : Bool) (i : Nat) :
    (shutHead sc.metrics sent sc.reqs ex i).all (reqProbeOk sc) = true := by
  cases sent <;> simp [shutHead, reqProbeOk, List.all_append, relIn_probes]

theorem shutHead_shutProbes (sc : Scenario) (sent : Bool) (ex : Bool) (i : Nat) :
    (shutHead sc.metrics sent sc.reqs ex i).all (shutProbeOk sc) = (!ex || blockAbove sc.shuts i) := by
  cases sent <;> simp [shutHead, shutProbeOk, List.all_append, relIn_shutProbes]

theorem shutHooks_kinds (met sent : Bool) (reqs : List Rel) (ex : Bool) (order : List (Nat × HB)) :
    kindsIn [.shut, .reqFin] (shutHooks met sent reqs ex order).evs := by
  induction order generalizing ex with
  | nil => exact kindsIn_nil _
  | cons p rest ih =>
    obtain ⟨i, b⟩ := p
    rw [shutHooks_cons]
    split
    · exact shutHead_kinds _ _ _ _ _
    · exact kindsIn_append (shutHead_kinds _ _ _ _ _) (ih _)

theorem shutHooks_reqProbes (sc : Scenario) (sent : Bool) (ex : Bool) (order : List (Nat × HB)) :
    (shutHooks sc.metrics sent sc.reqs ex order).evs.all (reqProbeOk sc) = true := by
  induction order generalizing ex with
  | nil => simp [shutHooks]
  | cons p rest ih =>
    obtain ⟨i, b⟩ := p
    rw [shutHooks_cons]
    split
    · exact shutHead_reqProbes _ _ _ _
    · simp only [List.all_append, shutHead_reqProbes, ih, Bool.and_self]

theorem shutHooks_append (met sent : Bool) (reqs : List Rel) (ex : Bool) (l1 l2 : List (Nat × HB)) :
    shutHooks met sent reqs ex (l1 ++ l2) =
      if (shutHooks met sent reqs ex l1).panicked then shutHooks met sent reqs ex l1
      else
        ⟨(shutHooks met sent reqs ex l1).evs ++ (shutHooks met sent reqs (shutHooks met sent reqs ex l1).expired l2).evs,
         (shutHooks met sent reqs (shutHooks met sent reqs ex l1).expired l2).panicked,
         (shutHooks met sent reqs (shutHooks met sent reqs ex l1).expired l2).expired⟩ := by
  induction l1 generalizing ex with
  | nil => simp [shutHooks]
  | cons p rest ih =>
    obtain ⟨i, b⟩ := p
    rw [List.cons_append, shutHooks_cons, shutHooks_cons]
    by_cases hb : (b == HB.panic) = true
    · simp [hb]
    · simp only [hb, Bool.false_eq_true, if_false, ih]
      by_cases hp : (shutHooks met sent reqs (ex || b == HB.block) rest).panicked = true
      · simp [hp]
      · simp [hp, List.append_assoc]

/-- `for i := len(hooks) - 1; i >= 0; i--` reaches hook `i` last: after the hooks registered later, unless one of
    them panicked, and with the deadline state they left -/
theorem shutHooks_lifo_cons (met sent : Bool) (reqs : List Rel) (ex : Bool) (i : Nat) (b : HB) (rest : List HB) :
    shutHooks met sent reqs ex (lifo i (b :: rest)) =
      let r := shutHooks met sent reqs ex (lifo (i + 1) rest)
      if r.panicked then r
      else ⟨r.evs ++ shutHead met sent reqs r.expired i, b == .panic, r.expired || b == .block⟩ := by
  rw [lifo, shutHooks_append, shutHooks_cons]
  cases hb : b == HB.panic
  · simp [shutHooks]
  · have : (b == HB.block) = false := eq_of_beq hb ▸ rfl
    simp [this]

theorem shutHooks_not_panicked (met sent : Bool) (reqs : List Rel) (ex : Bool) (order : List (Nat × HB))
    (h : (shutHooks met sent reqs ex order).panicked = false) : firstPanicIdx order = none := by
  induction order generalizing ex with
  | nil => rfl
  | cons p rest ih =>
    obtain ⟨i, b⟩ := p
    rw [shutHooks_cons] at h
    by_cases hb : (b == HB.panic) = true
    · simp [hb] at h
    · simp only [hb, Bool.false_eq_true, if_false] at h
      simp only [firstPanicIdx, hb, Bool.false_eq_true, if_false]
      exact ih _ h

theorem seqDown_succ_bottom (n lo : Nat) :
    seqDown (n + 1) lo = seqDown n (lo + 1) ++ [(true, lo), (false, lo)] := by
  induction n with
  | zero => simp [seqDown]
  | succ n ih =>
    rw [seqDown, ih]
    have h1 : lo + (n + 1) = lo + 1 + n := by omega
    simp only [seqDown, h1, List.cons_append]

/-- OnShutdown hooks run in reverse registration order, each once, down to the first that panics -/
theorem shutHooks_lifo_tags (met sent : Bool) (reqs : List Rel) (ex : Bool) (i : Nat) (hs : List HB) :
    (shutHooks met sent reqs ex (lifo i hs)).panicked = (lastPanic hs i).isSome ∧
    (shutHooks met sent reqs ex (lifo i hs)).evs.filterMap shutTag =
      (match lastPanic hs i with
       | none => seqDown hs.length i
       | some p => seqDown (i + hs.length - p) p) := by
  induction hs generalizing i with
  | nil => simp [lifo, shutHooks, lastPanic, seqDown]
  | cons b rest ih =>
    obtain ⟨ih1, ih2⟩ := ih (i + 1)
    rw [shutHooks_lifo_cons]
    dsimp only
    rw [ih1, lastPanic]
    cases hlp : lastPanic rest (i + 1) with
    | some p =>
      -- a hook above `i` panics: hook `i` does not run
      rw [hlp] at ih2
      have : i + 1 + rest.length - p = i + (rest.length + 1) - p := by omega
      simp only [Option.isSome_some, if_true, ih1, hlp, ih2, List.length_cons, this, and_self]
    | none =>
      -- no hook above `i` panics: hook `i` runs, and its two tags go below the others' (`seqDown_succ_bottom`)
      rw [hlp] at ih2
      have : i + (rest.length + 1) - i = rest.length + 1 := by omega
      cases hb : b == HB.panic <;>
        simp [List.filterMap_append, ih2, shutHead_tags, this, seqDown_succ_bottom]

theorem shutHooks_lifo_expired (met sent : Bool) (reqs : List Rel) (i : Nat) (hs : List HB)
    (h : (shutHooks met sent reqs false (lifo i hs)).expired = true) : hs.any (· == .block) = true := by
  induction hs generalizing i with
  | nil => cases h
  | cons b rest ih =>
    rw [shutHooks_lifo_cons] at h
    dsimp only at h
    rw [List.any_cons]
    split at h
    · rw [ih _ h, Bool.or_true]
    · rcases Bool.or_eq_true_iff.mp h with h | h
      · rw [ih _ h, Bool.or_true]
      · rw [h, Bool.true_or]

/-- what an OnShutdown hook sees: the server still serves, the metrics server is as started, and its
    context has ended only if a hook registered after it held on until the deadline -/
theorem shutHooks_lifo_probes (sc : Scenario) (sent : Bool) (i : Nat) (hs : List HB) (h : sc.shuts.drop i = hs) :
    (shutHooks sc.metrics sent sc.reqs false (lifo i hs)).evs.all (shutProbeOk sc) = true := by
  induction hs generalizing i with
  | nil => rfl
  | cons b rest ih =>
    have h' : sc.shuts.drop (i + 1) = rest := by rw [← List.drop_drop, h]; rfl
    rw [shutHooks_lifo_cons]
    dsimp only
    split
    · exact ih _ h'
    · rw [List.all_append, ih _ h', shutHead_shutProbes, blockAbove, h']
      cases hexp : (shutHooks sc.metrics sent sc.reqs false (lifo (i + 1) rest)).expired
      · rfl
      · exact shutHooks_lifo_expired _ _ _ _ _ hexp

end Rivaas.Lifecycle
