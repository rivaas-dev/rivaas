import Rivaas.Lemmas.RadixNodes
import Rivaas.Lemmas.MatchOrder
/-
C01: helpers for the descent of `getRoute` (the parameter writes along a pattern; what depends on the shape of a
pattern only); the search itself is in RadixSearch.
-/
namespace Rivaas.RadixL
open Rivaas.Route Rivaas.Radix Rivaas.Match

def pushAll (ctx : Ctx) (ps : List (Bytes × Bytes)) : Ctx := ps.foldl (fun c kv => c.push kv.1 kv.2) ctx

/-- the state of `getRoute` (context, local `overflow`) after a sequence of parameter writes -/
def pushAllT (st : Ctx × List (Bytes × Bytes)) (ps : List (Bytes × Bytes)) : Ctx × List (Bytes × Bytes) :=
  ps.foldl (fun c kv => pushT c kv.1 kv.2) st

/-- a successful lookup: the leaf together with the context the handler sees -/
def okOf (r : Option Leaf × Ctx) : Option (Leaf × Ctx) := r.1.map fun lf => (lf, r.2)

theorem pushAll_append (ctx : Ctx) (a b : List (Bytes × Bytes)) : pushAll ctx (a ++ b) = pushAll (pushAll ctx a) b := by
  simp [pushAll, List.foldl_append]

theorem pushAllT_append (st : Ctx × List (Bytes × Bytes)) (a b : List (Bytes × Bytes)) :
    pushAllT st (a ++ b) = pushAllT (pushAllT st a) b := by
  simp [pushAllT, List.foldl_append]

/-- the parameter writes of the descent along `suf`, with the names the nodes hold -/
def pushesFor (ns : Nodes) (trail : Bool) : Key → Pat → List Bytes → List (Bytes × Bytes)
  | cur, PSeg.lit s :: rest, _ :: xs => pushesFor ns trail (cur ++ [ESeg.s s]) rest xs
  | cur, PSeg.par _ :: rest, x :: xs => ((getK ns cur).pname.getD [], x) :: pushesFor ns trail (cur ++ [ESeg.p]) rest xs
  | _, [PSeg.wild], x :: xs => [(wildParam, restOfPath (x :: xs) trail)]
  | _, _, _ => []

theorem endsWild_cons (a : PSeg) (as : Pat) (ha : a ≠ PSeg.wild) : endsWild (a :: as) = endsWild as := by
  cases as with
  | nil => simp [endsWild, ha]
  | cons b bs => rfl

theorem ekey_static {seg : PSeg} {x : Bytes} (h : ekey seg = some (ESeg.s x)) : seg = PSeg.lit x := by
  cases seg with
  | lit s =>
    simp only [ekey, Option.some.injEq] at h
    injection h with h; rw [h]
  | par n => simp [ekey] at h
  | wild => simp [ekey] at h

theorem sameShape_of_ekey {a b : PSeg} {e : ESeg} (ha : ekey a = some e) (hb : ekey b = some e) : sameShape a b = true := by
  cases a with
  | wild => simp [ekey] at ha
  | lit s =>
    cases b with
    | wild => simp [ekey] at hb
    | lit s' =>
      simp only [ekey, Option.some.injEq] at ha hb
      rw [← hb] at ha
      injection ha with ha
      simp [sameShape, ha]
    | par n =>
      simp only [ekey, Option.some.injEq] at ha hb
      rw [← hb] at ha
      exact absurd ha (by simp)
  | par n =>
    cases b with
    | wild => simp [ekey] at hb
    | lit s' =>
      simp only [ekey, Option.some.injEq] at ha hb
      rw [← hb] at ha
      exact absurd ha (by simp)
    | par n' => rfl

/-! ### what depends on the shape of a pattern only -/

theorem ekeys_erase (a : Pat) : ekeys (MatchL.shapeOf a) = ekeys a := by
  rw [ekeys, MatchL.shapeOf, List.filterMap_map]
  exact congrArg (List.filterMap · a) (funext fun x => by cases x <;> rfl)

theorem endsWild_erase (a : Pat) : endsWild (MatchL.shapeOf a) = endsWild a := by
  unfold endsWild
  rw [MatchL.shapeOf, List.getLast?_map]
  cases a.getLast? with
  | none => rfl
  | some x => cases x <;> rfl

theorem isStaticPat_erase (a : Pat) : isStaticPat (MatchL.shapeOf a) = isStaticPat a := by
  rw [isStaticPat, MatchL.shapeOf, List.all_map]
  exact congrArg (List.all a) (funext fun x => by cases x <;> rfl)

theorem pushesFor_nil (ns : Nodes) (trail : Bool) (cur : Key) (a : Pat) : pushesFor ns trail cur a [] = [] := by
  cases a with
  | nil => rfl
  | cons x xs => cases x <;> cases xs <;> rfl

theorem pushesFor_erase (ns : Nodes) (trail : Bool) (a : Pat) :
    ∀ (cur : Key) (segs : List Bytes), pushesFor ns trail cur (MatchL.shapeOf a) segs = pushesFor ns trail cur a segs := by
  induction a with
  | nil => intro cur segs; rfl
  | cons x xs ih =>
    intro cur segs
    cases segs with
    | nil => rw [pushesFor_nil, pushesFor_nil]
    | cons z zs =>
      rw [MatchL.shapeOf, List.map_cons]
      cases x with
      | lit s => exact ih _ zs
      | par n => simp only [MatchL.eraseName, pushesFor]; rw [← ih]; rfl
      | wild => cases xs <;> rfl

theorem pushesFor_shape (ns : Nodes) (trail : Bool) {a b : Pat} (cur : Key) (segs : List Bytes) (h : shapeEq a b = true) :
    pushesFor ns trail cur a segs = pushesFor ns trail cur b segs :=
  MatchL.shape_congr (f := fun a => pushesFor ns trail cur a segs) (pushesFor_erase ns trail · cur segs) h

theorem shapeEq_static {a b : Pat} (hb : isStaticPat b = true) (h : shapeEq a b = true) : a = b := by
  have erase_static : ∀ c : Pat, isStaticPat c = true → MatchL.shapeOf c = c := fun c hc => by
    obtain ⟨lits, rfl⟩ := MatchL.static_lits hc
    rw [MatchL.shapeOf, List.map_map]
    rfl
  have ha : isStaticPat a = true := (MatchL.shape_congr isStaticPat_erase h).trans hb
  rw [← erase_static a ha, ← erase_static b hb, MatchL.shapeOf_eq h]

theorem ekey_param {seg : PSeg} (h : ekey seg = some ESeg.p) : ∃ n, seg = PSeg.par n := by
  cases seg with
  | lit s => simp [ekey] at h
  | par n => exact ⟨n, rfl⟩
  | wild => simp [ekey] at h

end Rivaas.RadixL
