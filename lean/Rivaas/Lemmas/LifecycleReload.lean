import Rivaas.Lemmas.LifecycleShut
/-
C09 — helper lemmas: the reload rounds around the select loop.
-/
namespace Rivaas.Lifecycle
open Spec

theorem reloadEvs_kinds (r k i : Nat) : kindsIn [.reload] (reloadEvs r k i) := by
  induction k generalizing i with
  | zero => exact kindsIn_nil _
  | succ k ih => exact kindsIn_cons (by simp [kind]) (kindsIn_cons (by simp [kind]) (ih _))

theorem reloadEvs_round_eq (r k i : Nat) : ∀ e ∈ reloadEvs r k i, reloadRound e = some r := by
  induction k generalizing i with
  | zero => intro e he; cases he
  | succ k ih =>
    intro e he
    simp only [reloadEvs, List.mem_cons] at he
    rcases he with rfl | rfl | he
    · rfl
    · rfl
    · exact ih _ e he

def ids (l : List Ev) : List Nat := l.filterMap reloadRound

theorem ids_nil : ids [] = [] := rfl

theorem ids_append (a b : List Ev) : ids (a ++ b) = ids a ++ ids b := List.filterMap_append ..

theorem ids_sig : ids [Ev.sig] = [] := rfl

theorem ids_take_drop (l : List Ev) (c : Nat) : ids (l.take c) ++ ids (l.drop c) = ids l := by
  rw [← ids_append, List.take_append_drop]

/-- the stop signal spliced into a block of events, the part after it kept apart -/
theorem ids_splice (evs : List Ev) (c : Nat) : ids (evs.take c ++ [Ev.sig]) ++ ids (evs.drop c) = ids evs := by
  rw [ids_append, ids_sig, List.append_nil, ids_take_drop]

theorem reloadEvs_rounds (r k i : Nat) : ∀ x ∈ ids (reloadEvs r k i), x = r := by
  intro x hx
  obtain ⟨e, he, hx⟩ := List.mem_filterMap.mp hx
  exact Option.some.inj (hx.symm.trans (reloadEvs_round_eq r k i e he))

/-- what the reload loop maintains; `r` = number of the next round -/
structure LoopInv (fx : Fixes) (st : Loop) (r : Nat) : Prop where
  preK : kindsIn [.reload, .sig] st.pre
  postK : kindsIn [.reload] st.post
  lt : ∀ x ∈ ids st.pre ++ ids st.post, x < r
  sorted : (ids st.pre ++ ids st.post).Pairwise (· ≤ ·)
  post : st.cancelled = false → st.post = []
  sig : st.cancelled = true → st.pre.any isSig = true
  dead : fx.d = true → st.dead = false
  res : fx.d = true → st.res.all (· != .panic) = true
  /-- apart from reload events the loop contributes the stop signal, if it arrived inside a round -/
  rest : st.pre.filter (fun e => !isReload e) = if st.cancelled then [Ev.sig] else []

theorem filter_nonReload_of_kinds {l : List Ev} (h : kindsIn [.reload] l) :
    l.filter (fun e => !isReload e) = [] := by
  apply List.filter_eq_nil_iff.mpr
  intro e he
  have := h e he
  simp only [List.mem_singleton] at this
  simp [kind_isReload e this]

theorem LoopInv.init (fx : Fixes) : LoopInv fx ⟨[], [], false, false, []⟩ 0 where
  preK := kindsIn_nil _
  postK := kindsIn_nil _
  lt := by intro x hx; simp [ids_nil] at hx
  sorted := by simp [ids_nil]
  post := fun _ => rfl
  sig := by intro h; cases h
  dead := fun _ => rfl
  res := fun _ => rfl
  rest := rfl

theorem roundRes_ne_panic (fx : Fixes) (h : fx.d = true) (beh : List HB) (n : Nat) :
    (roundRes fx beh n != .panic) = true := by
  unfold roundRes
  split <;> simp [h]

theorem roundPanics_false (fx : Fixes) (h : fx.d = true) (beh : List HB) (n : Nat) :
    roundPanics fx beh n = false := by
  simp [roundPanics, h]

theorem sorted_append_round {pre : List Nat} {r : Nat} {blk : List Nat} (hlt : ∀ x ∈ pre, x < r)
    (hs : pre.Pairwise (· ≤ ·)) (hb : ∀ x ∈ blk, x = r) : (pre ++ blk).Pairwise (· ≤ ·) :=
  List.pairwise_append.mpr ⟨hs,
    List.pairwise_of_forall_mem_list fun a ha b hb' => Nat.le_of_eq ((hb a ha).trans (hb b hb').symm),
    fun a ha b hb' => hb b hb' ▸ Nat.le_of_lt (hlt a ha)⟩

theorem LoopInv.skip {fx : Fixes} {st : Loop} {r : Nat} (h : LoopInv fx st r) :
    LoopInv fx { st with res := st.res ++ [.na] } (r + 1) :=
  { h with
    lt := fun x hx => Nat.lt_succ_of_lt (h.lt x hx)
    res := fun hd => by simp only [List.all_append, h.res hd, Bool.true_and]; rfl }

/-- a round that runs while nothing is cancelled: `a` is what it adds to the log before the shutdown sequence, `st'.post`
    what goes on after `Start` has returned -/
theorem LoopInv.round {fx : Fixes} {st : Loop} {r : Nat} (h : LoopInv fx st r) (hc : st.cancelled = false) {st' : Loop}
    {a : List Ev} {x : RRes} (hpre : st'.pre = st.pre ++ a) (hres : st'.res = st.res ++ [x])
    (ha : kindsIn [.reload, .sig] a) (hp : kindsIn [.reload] st'.post) (hid : ∀ y ∈ ids a ++ ids st'.post, y = r)
    (hrest : a.filter (fun e => !isReload e) = if st'.cancelled then [Ev.sig] else [])
    (hpost : st'.cancelled = false → st'.post = []) (hd : fx.d = true → st'.dead = false)
    (hx : fx.d = true → (x != .panic) = true) : LoopInv fx st' (r + 1) := by
  have hlt0 : ∀ y ∈ ids st.pre, y < r := fun y hy => h.lt y (List.mem_append_left _ hy)
  have hs0 : (ids st.pre).Pairwise (· ≤ ·) := by
    have := h.sorted; rwa [h.post hc, ids_nil, List.append_nil] at this
  refine ⟨hpre ▸ kindsIn_append h.preK ha, hp, ?_, ?_, hpost, ?_, hd, ?_, ?_⟩
  · rw [hpre, ids_append, List.append_assoc]
    intro y hy
    rcases List.mem_append.mp hy with hy | hy
    · exact Nat.lt_succ_of_lt (hlt0 y hy)
    · rw [hid y hy]; exact Nat.lt_succ_self _
  · rw [hpre, ids_append, List.append_assoc]; exact sorted_append_round hlt0 hs0 hid
  · intro hcn
    rw [hcn, if_pos rfl] at hrest
    have : Ev.sig ∈ a.filter (fun e => !isReload e) := hrest ▸ List.mem_singleton_self _
    exact List.any_eq_true.mpr ⟨_, hpre ▸ List.mem_append_right _ (List.mem_filter.mp this).1, rfl⟩
  · intro hd'
    simp only [hres, List.all_append, h.res hd', Bool.true_and, List.all_cons, List.all_nil, Bool.and_true]
    exact hx hd'
  · rw [hpre, List.filter_append, h.rest, hc, hrest]; rfl

theorem LoopInv.step (fx : Fixes) (n : Nat) (st : Loop) (r : Nat) (rd : Round) (h : LoopInv fx st r) :
    LoopInv fx (roundStep fx n st r rd) (r + 1) := by
  unfold roundStep
  by_cases hcd : (st.cancelled || st.dead) = true
  · rw [if_pos hcd]; exact h.skip
  rw [if_neg hcd]
  by_cases hh : (rd.trig == Trig.hup && n == 0) = true
  · rw [if_pos hh]; exact h.skip
  rw [if_neg hh]
  dsimp only
  have hc : st.cancelled = false := by
    cases hx : st.cancelled
    · rfl
    · simp [hx] at hcd
  have hk := reloadEvs_kinds r (ran rd.beh n) 0
  have hr := reloadEvs_rounds r (ran rd.beh n) 0
  generalize reloadEvs r (ran rd.beh n) 0 = evs at hk hr ⊢
  have hk' : kindsIn [.reload, .sig] evs := kindsIn_mono hk (by simp)
  -- the whole round before the shutdown sequence
  have hid0 : ∀ y ∈ ids evs ++ ids st.post, y = r := by
    rw [h.post hc, ids_nil, List.append_nil]; exact hr
  have hrest0 : evs.filter (fun e => !isReload e) = if st.cancelled then [Ev.sig] else [] := by
    rw [hc]; exact filter_nonReload_of_kinds hk
  -- the signal arrives inside the round
  have hkc : ∀ c, kindsIn [.reload, .sig] (evs.take c ++ [Ev.sig]) := fun c =>
    kindsIn_append (kindsIn_take hk' c) (kindsIn_cons (by simp [kind]) (kindsIn_nil _))
  have hrestc : ∀ c, (evs.take c ++ [Ev.sig]).filter (fun e => !isReload e) = [Ev.sig] := fun c => by
    rw [List.filter_append, filter_nonReload_of_kinds (kindsIn_take hk c)]; rfl
  have hdead := fun hd => roundPanics_false fx hd rd.beh n
  have hres := fun hd => roundRes_ne_panic fx hd rd.beh n
  split
  · -- SIGHUP round, no signal inside
    exact h.round hc rfl rfl hk' h.postK hid0 hrest0 h.post hdead fun _ => rfl
  · -- SIGHUP round, the signal arrives in hook j
    rename_i c _ _
    refine h.round hc (by simp only [List.append_assoc]) rfl (kindsIn_append (hkc c) (kindsIn_drop hk' c)) h.postK ?_ ?_
      (fun hx => nomatch hx) hdead fun _ => rfl
    · rw [h.post hc, ids_nil, List.append_nil, ids_append, ids_splice]; exact hr
    · rw [List.filter_append, hrestc, filter_nonReload_of_kinds (kindsIn_drop hk _)]; rfl
  · -- programmatic round, no signal inside
    exact h.round hc rfl rfl hk' h.postK hid0 hrest0 h.post h.dead hres
  · -- programmatic round, the signal arrives in hook j: the rest of the round runs after Start returned
    exact h.round hc (List.append_assoc ..) rfl (hkc _) (kindsIn_drop hk _) (by rw [ids_splice]; exact hr) (hrestc _)
      (fun hx => nomatch hx) h.dead hres

theorem LoopInv.rounds (fx : Fixes) (n : Nat) (st : Loop) (r : Nat) (rds : List Round) (h : LoopInv fx st r) :
    ∃ r', LoopInv fx (roundsFrom fx n st r rds) r' := by
  induction rds generalizing st r with
  | nil => exact ⟨r, h⟩
  | cons rd rest ih => exact ih _ _ (LoopInv.step fx n st r rd h)

/-! ### what continues after `Start` has returned belongs to a round the environment started itself -/

theorem roundStep_post (fx : Fixes) (n : Nat) (st : Loop) (r : Nat) (rd : Round) :
    (roundStep fx n st r rd).post = st.post ∨
    (rd.trig = .prog ∧ ∃ c k, (roundStep fx n st r rd).post = (reloadEvs r k 0).drop c) := by
  unfold roundStep
  by_cases h1 : (st.cancelled || st.dead) = true
  · rw [if_pos h1]; exact .inl rfl
  · rw [if_neg h1]
    by_cases h2 : (rd.trig == .hup && n == 0) = true
    · rw [if_pos h2]; exact .inl rfl
    · rw [if_neg h2]
      dsimp only
      split
      · exact .inl rfl
      · exact .inl rfl
      · exact .inl rfl
      · rename_i htr _
        exact .inr ⟨htr, _, _, rfl⟩

theorem roundsFrom_post_env (fx : Fixes) (n : Nat) (sc : Scenario) (st : Loop) (r : Nat) (rds : List Round)
    (hall : sc.rounds.drop r = rds) (hp : st.post.all (isEnvReload sc) = true) :
    (roundsFrom fx n st r rds).post.all (isEnvReload sc) = true := by
  induction rds generalizing st r with
  | nil => exact hp
  | cons rd rest ih =>
    refine ih _ _ (by rw [← List.drop_drop, hall]; rfl) ?_
    have hrd : sc.rounds[r]? = some rd := by
      have := congrArg List.head? hall
      simpa [List.head?_drop] using this
    rcases roundStep_post fx n st r rd with h | ⟨htr, c, k, h⟩
    · rw [h]; exact hp
    · rw [h]
      refine List.all_eq_true.mpr fun e he => ?_
      simp [isEnvReload, reloadEvs_round_eq r k 0 e (List.mem_of_mem_drop he), hrd, htr]

end Rivaas.Lifecycle
