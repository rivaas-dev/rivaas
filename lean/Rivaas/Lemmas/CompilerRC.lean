import Rivaas.Lemmas.CompilerStatic
import Rivaas.Lemmas.CompilerDynamic
/-
C11: the state of the route compiler after the registration script — the invariant of the static map and the
dynamic list (`RCInv`: every template is the compiled form of the last registration of its (method, pattern)), kept by
`RemoveRoute` (`remove_inv`) and by `AddRoute` (`add_inv`), the two halves of one registration.
-/
namespace Rivaas.CompilerL
open Rivaas.Route Rivaas.Radix Rivaas.Compiler Rivaas.Match Rivaas.RadixL

/-- `RegisterRoute`, compiler part, for an oracle route -/
def rcRegisterR (hash : Bytes → Nat) (rc : RC) (r : Route) : RC := (rc.remove hash r.method r.text).add hash (C r)

theorem rcBuildFrom_eq (hash : Bytes → Nat) (script : List Reg) : ∀ (i : Nat) (R : List Route),
    specRoutesFrom i script = some R → ∀ rc : RC, rcBuildFrom hash rc i script = R.foldl (rcRegisterR hash) rc := by
  induction script with
  | nil =>
    intro i R h rc
    simp only [specRoutesFrom, Option.some.injEq] at h
    subst h; rfl
  | cons g gs ih =>
    intro i R h rc
    obtain ⟨p, rest, hp, hr, rfl⟩ := specRoutesFrom_cons i g gs R h
    simp only [rcBuildFrom, List.foldl_cons]
    rw [ih (i + 1) rest hr]
    congr 1
    simp only [rcRegister, rcRegisterR, C, flatten_groups]

/-! ### list surgery of `RemoveRoute` and `sortRoutesBySpecificity` -/

def tailMove (l : List CRoute) : List CRoute :=
  match l.getLast? with
  | some z => z :: l.dropLast
  | none => []

theorem tailMove_perm (l : List CRoute) : (tailMove l).Perm l := by
  unfold tailMove
  cases hl : l.getLast? with
  | none => rw [List.getLast?_eq_none_iff.mp hl]
  | some z =>
    obtain ⟨ys, rfl⟩ := List.getLast?_eq_some_iff.mp hl
    rw [List.dropLast_concat]
    exact (List.perm_append_singleton z ys).symm

def dkeys (l : List CRoute) : List (Bytes × Bytes) := l.map fun c => (c.method, c.pattern)

theorem swapRemove_spec (m p : Bytes) (l : List CRoute) (hnd : (dkeys l).Nodup) :
    (dkeys (swapRemove m p l)).Nodup ∧ ∀ x ∈ swapRemove m p l, x ∈ l ∧ ¬ (x.method = m ∧ x.pattern = p) := by
  induction l with
  | nil => exact ⟨hnd, fun _ h => nomatch h⟩
  | cons a rest ih =>
    obtain ⟨ha, hnd'⟩ := List.nodup_cons.mp hnd
    rw [swapRemove]
    by_cases hk : a.method = m ∧ a.pattern = p
    · -- the entry found goes, the tail is permuted; its key does not occur again
      rw [if_pos hk]
      have hp : (tailMove rest).Perm rest := tailMove_perm rest
      refine ⟨((hp.map _).nodup_iff).mpr hnd', fun x hx => ?_⟩
      have hx' := hp.mem_iff.mp hx
      exact ⟨List.mem_cons_of_mem _ hx', fun hxk =>
        ha (List.mem_map.mpr ⟨x, hx', by dsimp only; rw [hxk.1, hxk.2, hk.1, hk.2]⟩)⟩
    · rw [if_neg hk]
      obtain ⟨ih1, ih2⟩ := ih hnd'
      refine ⟨List.nodup_cons.mpr ⟨fun hm => ?_, ih1⟩, fun x hx => ?_⟩
      · obtain ⟨x, hx, e⟩ := List.mem_map.mp hm
        exact ha (List.mem_map.mpr ⟨x, (ih2 x hx).1, e⟩)
      · rcases List.mem_cons.mp hx with rfl | hx
        · exact ⟨List.mem_cons_self .., hk⟩
        · exact ⟨List.mem_cons_of_mem _ (ih2 x hx).1, (ih2 x hx).2⟩

theorem insertSpec_perm (key : CRoute) (acc : List CRoute) : (insertSpec key acc).Perm (key :: acc) := by
  induction acc with
  | nil => exact List.Perm.refl _
  | cons r rest ih =>
    simp only [insertSpec]
    split
    · exact List.Perm.refl _
    · exact (List.Perm.cons r ih).trans (List.Perm.swap key r rest)

/-- the insertion loop runs in lockstep with the loop that only conses, which reverses the list -/
theorem sortSpec_perm (l : List CRoute) : (sortSpec l).Perm l := by
  have := List.foldl_rel (r := List.Perm) (.refl []) (l := l) fun a _ c _ h => (insertSpec_perm a c).trans (h.cons a)
  rw [List.foldl_flip_cons_eq_append', List.append_nil] at this
  exact this.trans (List.reverse_perm l)

/-! ### the templates after a registration sequence -/

def GoodR (R : List Route) : Prop := ∀ r ∈ R, NormalPat r.text r.pat

/-- `cr` is the compiled form of the last registration of its (method, pattern) in `Rp` -/
def LastReg (Rp : List Route) (cr : CRoute) : Prop :=
  ∃ R1 r R2, Rp = R1 ++ r :: R2 ∧ cr = C r ∧ ∀ r' ∈ R2, ¬ (r'.method = cr.method ∧ r'.text = cr.pattern)

theorem LastReg.snoc {Rp : List Route} {cr : CRoute} (h : LastReg Rp cr) (r : Route)
    (hk : ¬ (cr.method = r.method ∧ cr.pattern = r.text)) : LastReg (Rp ++ [r]) cr := by
  obtain ⟨R1, r0, R2, hRp, hxc, hlast⟩ := h
  refine ⟨R1, r0, R2 ++ [r], by rw [hRp, List.append_assoc]; rfl, hxc, fun r' hr' => ?_⟩
  rcases List.mem_append.mp hr' with hr' | hr'
  · exact hlast r' hr'
  · rw [List.mem_singleton.mp hr']
    exact fun e => hk ⟨e.1.symm, e.2.symm⟩

/-- the compiler files a template under (method, pattern text), the tree a leaf under (method, shape): the last registration
of its key is live in the tree as soon as the routes of its method and shape have its pattern, hence its text -/
theorem LastReg.live {R : List Route} {cr : CRoute} (hg : GoodR R) (h : LastReg R cr) :
    ∃ r ∈ R, cr = C r ∧
      ((∀ x ∈ R, x.method = r.method → shapeEq x.pat r.pat = true → x.pat = r.pat) → r ∈ live R) := by
  obtain ⟨R1, r, R2, rfl, rfl, hlast⟩ := h
  have hr : r ∈ R1 ++ r :: R2 := List.mem_append_right _ (List.mem_cons_self ..)
  obtain ⟨hmeth, hpatt, _⟩ := C_meta r (hg r hr)
  rw [hmeth, hpatt] at hlast
  refine ⟨r, hr, rfl, fun hpat => mem_live_iff.mpr ⟨R1, R2, rfl, List.any_eq_false.mpr fun x hx hrep => ?_⟩⟩
  simp only [replaces, Bool.and_eq_true, decide_eq_true_eq] at hrep
  have hxR : x ∈ R1 ++ r :: R2 := List.mem_append_right _ (List.mem_cons_of_mem _ hx)
  exact hlast x hx ⟨hrep.1, by rw [(hg x hxR).text, (hg r hr).text, hpat x hxR hrep.1 hrep.2]⟩

/-- every template the compiler holds is the compiled form of the last registration of its (method, pattern). No
assumption on the hash: a collision overwrites or deletes the other key's entry, it does not put a template under a
wrong hash. -/
structure RCInv (hash : Bytes → Nat) (Rp : List Route) (rc : RC) : Prop where
  stat : ∀ h cr, mapGet h rc.staticRoutes = some cr →
    LastReg Rp cr ∧ cr.isStatic = true ∧ hash (cr.method ++ cr.pattern) = h
  keys : (rc.staticRoutes.map (·.1)).Nodup
  bloom : BloomOK rc.staticBloom rc.staticRoutes
  dyn : ∀ cr ∈ rc.dynamic, LastReg Rp cr ∧ cr.isStatic = false ∧ cr.hasWildcard = false
  dkeys : (dkeys rc.dynamic).Nodup

/-- `RemoveRoute(r.method, r.text)` before the registration `r`: what stays sits under another key, so it is still the
last registration of its key when `r` has been registered -/
theorem remove_inv (hash : Bytes → Nat) (Rp : List Route) (rc : RC) (r : Route) (hinv : RCInv hash Rp rc) :
    RCInv hash (Rp ++ [r]) (rc.remove hash r.method r.text) ∧
      ∀ x ∈ (rc.remove hash r.method r.text).dynamic, ¬ (x.method = r.method ∧ x.pattern = r.text) := by
  obtain ⟨hnd, hsub⟩ := swapRemove_spec r.method r.text rc.dynamic hinv.dkeys
  refine ⟨⟨fun h cr hget => ?_, mapDel_nodup _ hinv.keys, hinv.bloom.del hinv.keys _, fun x hx => ?_, hnd⟩, fun x hx => (hsub x hx).2⟩
  · by_cases hk : hash (r.method ++ r.text) = h
    · rw [← hk] at hget
      cases (mapGet_mapDel_self _ hinv.keys).symm.trans hget
    · obtain ⟨hl, hs, hh⟩ := hinv.stat h cr ((mapGet_mapDel_ne _ _ _ hk).symm.trans hget)
      exact ⟨hl.snoc r fun e => hk (by rw [← hh, e.1, e.2]), hs, hh⟩
  · obtain ⟨hl, hf⟩ := hinv.dyn x (hsub x hx).1
    exact ⟨hl.snoc r (hsub x hx).2, hf⟩

/-- `AddRoute(cr)`, `cr` any template that is the last registration of its key; the dynamic list is sorted again: only
its content matters, and the key must not be in it already -/
theorem add_inv (hash : Bytes → Nat) (Rp : List Route) (rc : RC) (cr : CRoute) (hinv : RCInv hash Rp rc)
    (hnew : LastReg Rp cr) (hfresh : ∀ x ∈ rc.dynamic, ¬ (x.method = cr.method ∧ x.pattern = cr.pattern)) :
    RCInv hash Rp (rc.add hash cr) := by
  unfold RC.add
  cases hst : cr.isStatic
  · cases hwc : cr.hasWildcard
    · have hperm : (sortSpec (rc.dynamic ++ [cr])).Perm (rc.dynamic ++ [cr]) := sortSpec_perm _
      refine ⟨hinv.stat, hinv.keys, hinv.bloom, fun x hx => ?_, ((hperm.map _).nodup_iff).mpr ?_⟩
      · rcases List.mem_append.mp (hperm.mem_iff.mp hx) with hx' | hx'
        · exact hinv.dyn x hx'
        · rw [List.mem_singleton.mp hx']
          exact ⟨hnew, hst, hwc⟩
      · rw [List.map_append, List.nodup_append]
        refine ⟨hinv.dkeys, List.pairwise_singleton _ _, fun a ha b hb => ?_⟩
        obtain ⟨x, hx, rfl⟩ := List.mem_map.mp ha
        rw [List.mem_singleton.mp hb]
        exact fun hk => hfresh x hx (Prod.mk.inj hk)
    · exact hinv
  · rw [if_pos rfl]
    refine ⟨fun h cr' hget => ?_, mapSet_nodup _ _ hinv.keys, hinv.bloom.set _ _, hinv.dyn, hinv.dkeys⟩
    rw [mapGet_mapSet] at hget
    by_cases hk : hash (cr.method ++ cr.pattern) = h
    · rw [if_pos hk] at hget
      cases hget
      exact ⟨hnew, hst, hk⟩
    · rw [if_neg hk] at hget
      exact hinv.stat h cr' hget

theorem rc_step (hash : Bytes → Nat) (Rp : List Route) (rc : RC) (r : Route) (hgr : NormalPat r.text r.pat)
    (hinv : RCInv hash Rp rc) : RCInv hash (Rp ++ [r]) (rcRegisterR hash rc r) := by
  obtain ⟨hmr, hpr, _⟩ := C_meta r hgr
  obtain ⟨hrem, hfresh⟩ := remove_inv hash Rp rc r hinv
  exact add_inv hash _ _ (C r) hrem ⟨Rp, r, [], rfl, rfl, fun _ h => nomatch h⟩ (by rw [hmr, hpr]; exact hfresh)

theorem rcBuild_inv (hash : Bytes → Nat) (script : List Reg) (R : List Route) (hR : specRoutes script = some R)
    (hg : GoodR R) : RCInv hash R (rcBuildFrom hash RC.empty 0 script) := by
  rw [rcBuildFrom_eq hash script 0 R hR]
  exact foldl_inv (rcRegisterR hash) (RCInv hash) (fun r => NormalPat r.text r.pat) (rc_step hash) R [] RC.empty
    hg
    ⟨fun _ _ h => (nomatch h), List.nodup_nil, BloomOK.nil _, fun _ hx => (nomatch hx), List.nodup_nil⟩

theorem lookupStatic_get (hash : Bytes → Nat) (rc : RC) (hb : BloomOK rc.staticBloom rc.staticRoutes) (m path : Bytes) :
    rc.freeze.lookupStatic hash m path = mapGet (hash (m ++ path)) rc.staticRoutes := by
  unfold RC.lookupStatic RC.freeze
  dsimp only
  rw [hb.lookup]
  -- `hasStatic` is off only for the empty map
  cases rc.staticRoutes <;> rfl

theorem lookupStatic_sound (hash : Bytes → Nat) (script : List Reg) (R : List Route) (hR : specRoutes script = some R)
    (hg : GoodR R) (m path : Bytes) (cr : CRoute) (h : (rcBuild hash script).lookupStatic hash m path = some cr) :
    LastReg R cr ∧ cr.isStatic = true ∧ hash (cr.method ++ cr.pattern) = hash (m ++ path) := by
  have hinv := rcBuild_inv hash script R hR hg
  rw [rcBuild, lookupStatic_get hash _ hinv.bloom] at h
  exact hinv.stat _ _ h

end Rivaas.CompilerL
