import Rivaas.Lemmas.LifecycleLog
/-
C09 — helper lemmas: the two halves of the main theorem — a failed start-up that leaves nothing running, and the
shutdown sequence with K09c and K09e repaired, are in the lifecycle language.
-/
namespace Rivaas.C09
open Rivaas.Lifecycle Rivaas.Lifecycle.Spec

theorem lemma_map_complete (l : List Rel) (f : Rel → ReqRes) (hf : ∀ q ∈ l, f q = .complete) (k : Nat)
    (hk : k < l.length) : ((l.map f)[k]? == some ReqRes.complete) = true := by
  rw [List.getElem?_map, List.getElem?_eq_getElem hk]
  simp [hf _ (List.getElem_mem hk)]

theorem lemma_reqRes_ne_incomplete (sent : Bool) (ranJ : Nat → Bool) (drained : Bool) (l : List Rel) :
    (l.map (reqResOf sent ranJ drained)).all (· != .incomplete) = true := by
  simp only [List.all_map, List.all_eq_true]
  intro q _
  cases q with
  | never => rfl
  | _ => simp only [Function.comp, reqResOf]; split <;> rfl

/-- what the shutdown sequence is handed: the segments before it -/
structure Before (sc : Scenario) (sent : Bool) (s : Segs) : Prop where
  starts : ∃ c, s.starts = (startHooks sc.metrics 0 c sc.starts).evs
  readies : s.readies = readyHooks true sc.metrics 0 sc.readies
  reqIns : s.reqIns = if sent then reqIns 0 sc.reqs else []
  reloads : kindsIn [.reload, .sig] s.reloads
  sigK : kindsIn [.sig] s.sig
  post : kindsIn [.reload] s.post
  postEnv : s.post.all (isEnvReload sc) = true
  sorted : (ids s.reloads ++ ids s.post).Pairwise (· ≤ ·)
  hasSig : s.before.any isSig = true
  shuts : s.shuts = []
  drain : s.drain = []
  flush : s.flush = []
  stops : s.stops = []

theorem shutdownTail_shape (fx : Fixes) (sc : Scenario) (race sent : Bool) :
    (kindsIn [.shut, .reqFin] (shutdownTail fx sc race sent).shuts ∧ kindsIn [.reqFin] (shutdownTail fx sc race sent).drain ∧
      kindsIn [.flush] (shutdownTail fx sc race sent).flush ∧ kindsIn [.stop] (shutdownTail fx sc race sent).stops) ∧
    ((shutdownTail fx sc race sent).res = .panic ∨ (shutdownTail fx sc race sent).res = .ok ∨
      (shutdownTail fx sc race sent).res = .errDrain) := by
  have K := shutHooks_kinds sc.metrics sent sc.reqs false (lifo 0 sc.shuts)
  have D : ∀ d : Bool, kindsIn [.reqFin] (if d = true then drainEvs sc.metrics 0 sc.reqs else []) := fun d => by
    cases d
    · exact kindsIn_nil _
    · exact drainEvs_kinds _ _ _
  unfold shutdownTail
  dsimp only
  -- the Booleans that decide how the tail ends, by cases (`split` on the copies of the tail is much slower to check)
  generalize shutHooks sc.metrics sent sc.reqs false (lifo 0 sc.shuts) = sh at *
  cases sh.panicked
  · generalize (sent && sc.reqs.any (stuck sc.shuts.length sh.expired) || sh.expired && race) = timeout
    cases timeout
    · exact ⟨⟨K, D _, flushIf_kinds _, stopHooks_kinds _ _⟩, .inr (.inl rfl)⟩
    · cases fx.c
      · exact ⟨⟨K, D _, kindsIn_nil _, kindsIn_nil _⟩, .inr (.inr rfl)⟩
      · exact ⟨⟨K, D _, flushIf_kinds _, stopHooks_kinds _ _⟩, .inr (.inr rfl)⟩
  · exact ⟨⟨K, kindsIn_nil _, kindsIn_nil _, kindsIn_nil _⟩, .inl rfl⟩

theorem Before.wk {sc : Scenario} {sent : Bool} {s : Segs} (b : Before sc sent s) (fx : Fixes) (race : Bool)
    (rres : List RRes) : Segs.WK (shutdownSeq fx sc race sent s rres).segs := by
  obtain ⟨tail, _⟩ := shutdownTail_shape fx sc race sent
  obtain ⟨c, hc⟩ := b.starts
  refine ⟨hc ▸ startHooks_kinds _ _ _ _, b.readies ▸ readyHooks_kinds _ _ _ _, ?_, b.reloads, b.sigK, tail.1, tail.2.1,
    tail.2.2.1, tail.2.2.2, b.post⟩
  show kindsIn [.reqIn] s.reqIns
  rw [b.reqIns]
  cases sent
  · exact kindsIn_nil _
  · exact reqIns_kinds _ _

/-- what the oracle demands of every run, whether or not start-up succeeds -/
theorem lemma_front (sc : Scenario) {s : Segs} (h : s.WK) (c : Bool)
    (hs : s.starts = (startHooks sc.metrics 0 c sc.starts).evs)
    (hr : s.readies = [] ∨ s.readies = readyHooks true sc.metrics 0 sc.readies)
    (hp : s.post.all (isEnvReload sc) = true) (hsorted : (ids s.reloads ++ ids s.post).Pairwise (· ≤ ·))
    {o : Obs} (hl : o.log = s.log) (hres : o.rounds.all (· != .panic) = true) :
    (returnsOnce sc o.log && startsOk sc o.log && readiesOk sc o.log && reloadsOk o) = true := by
  simp only [returnsOnce, startsOk, readiesOk, reloadsOk, Bool.and_eq_true, beq_iff_eq, nodupNat_iff]
  rw [hl, Segs.afterRet_log h, Segs.log_startTag h, Segs.log_startProbe h, Segs.log_readyProbe h, Segs.log_readyIdx h,
    Segs.log_reloadRound h, hs]
  refine ⟨⟨⟨⟨Segs.log_anyRet, hp⟩, startHooks_tags .., startHooks_probes ..⟩, ?_⟩, noInterleave_of_sorted _ hsorted, hres⟩
  rcases hr with hr | hr
  · rw [hr]; exact ⟨rfl, List.nodup_nil⟩
  · rw [hr, readyHooks_idx]
    exact ⟨readyHooks_probes _ _ _ _ (by omega), List.nodup_range'⟩

theorem lemma_orderOk {s : Segs} (h : s.WK) : orderOk s.log = true := by
  simp only [orderOk, Bool.and_eq_true]
  exact ⟨⟨⟨⟨⟨⟨⟨⟨Segs.log_precedes h isShut_kind isFlush_kind (by decide),
    Segs.log_precedes h isShut_kind isStop_kind (by decide)⟩, Segs.log_precedes h isShut_kind isRet_kind (by decide)⟩,
    Segs.log_precedes h isReqFin_kind isFlush_kind (by decide)⟩, Segs.log_precedes h isReqFin_kind isStop_kind (by decide)⟩,
    Segs.log_precedes h isReqFin_kind isRet_kind (by decide)⟩, Segs.log_precedes h isFlush_kind isStop_kind (by decide)⟩,
    Segs.log_precedes h isFlush_kind isRet_kind (by decide)⟩, Segs.log_precedes h isStop_kind isRet_kind (by decide)⟩

theorem lemma_timeoutLegit (sc : Scenario) (sent expired race : Bool)
    (hexp : expired = true → sc.shuts.any (· == .block) = true)
    (h : (sent && sc.reqs.any (stuck sc.shuts.length expired) || expired && race) = true) :
    timeoutLegit sc = true := by
  simp only [timeoutLegit, Bool.or_eq_true]
  simp only [Bool.or_eq_true, Bool.and_eq_true] at h
  rcases h with ⟨_, h⟩ | ⟨h, _⟩
  · simp only [List.any_eq_true] at h
    obtain ⟨q, hq, hs⟩ := h
    cases q with
    | hook j =>
      left; exact List.any_eq_true.mpr ⟨_, hq, by simpa [stuck, stuckForever] using hs⟩
    | drain => right; exact hexp (by simpa [stuck] using hs)
    | never => left; exact List.any_eq_true.mpr ⟨_, hq, rfl⟩
    | hijack => simp [stuck] at hs
  · right; exact hexp h

theorem lemma_allComplete (sc : Scenario) (expired : Bool) (fp : Option Nat) (hfp : fp = none)
    (hns : sc.reqs.any (stuck sc.shuts.length expired) = false) (k : Nat) (hk : k < sc.reqs.length) :
    ((sc.reqs.map (reqResOf true (shutRanIdx sc.shuts.length fp) (true && !expired)))[k]? ==
      some ReqRes.complete) = true := by
  apply lemma_map_complete _ _ _ k hk
  intro q hq
  have hq' : stuck sc.shuts.length expired q = false := by
    have := List.any_eq_false.mp hns q hq
    simpa using this
  subst hfp
  cases q with
  | hook j =>
    simp only [stuck, ge_iff_le, decide_eq_false_iff_not, Nat.not_le] at hq'
    simp [reqResOf, shutRanIdx, hq']
  | drain =>
    simp only [stuck] at hq'
    simp [reqResOf, hq']
  | never => simp [stuck] at hq'
  | hijack => simp [reqResOf]

theorem lemma_count_flushIf (b : Bool) : (flushIf b).count Ev.flush = if b then 1 else 0 := by
  cases b <;> rfl

theorem shutdownOk_tail {sc : Scenario} {o : Obs} (hr : o.res = .ok ∨ o.res = .errDrain) :
    shutdownOk sc o = (guardedBy isSig isShut o.log && guardedBy isSig isRet o.log && o.log.all (shutProbeOk sc) &&
      tailOk sc o) := by
  rcases hr with hr | hr <;> simp only [shutdownOk, hr]

theorem shutdownOk_panic {sc : Scenario} {o : Obs} (hr : o.res = .panic) {p : Nat} (hp : lastPanic sc.shuts 0 = some p) :
    shutdownOk sc o = (guardedBy isSig isShut o.log && guardedBy isSig isRet o.log && o.log.all (shutProbeOk sc) &&
      o.log.filterMap shutTag == seqDown (sc.shuts.length - p) p) := by
  simp only [shutdownOk, hr, hp]

/-- the shutdown sequence is in the language after whatever `Before` admits (no OnStart hook failed, the listener is
    bound, no reload round panicked into `Start`), once a drain timeout no longer ends it (K09c) and telemetry is flushed
    also when the budget is used up (K09e) -/
theorem lemma_shutdown (fx : Fixes) (hfc : fx.c = true) (hfe : fx.e = true) (sc : Scenario) (race sent : Bool) (s : Segs)
    (rres : List RRes) (b : Before sc sent s) (hnf : sc.starts.find? startFails = none) (hl : sc.listen = .ok)
    (hres : rres.all (· != .panic) = true) :
    holds sc (shutdownSeq fx sc race sent s rres).obs = true := by
  have T := shutHooks_lifo_tags sc.metrics sent sc.reqs false 0 sc.shuts
  have P := shutHooks_lifo_probes sc sent 0 sc.shuts rfl
  have E := shutHooks_lifo_expired sc.metrics sent sc.reqs 0 sc.shuts
  have Q := shutHooks_reqProbes sc sent false (lifo 0 sc.shuts)
  have NP := shutHooks_not_panicked sc.metrics sent sc.reqs false (lifo 0 sc.shuts)
  have wk := b.wk fx race rres
  obtain ⟨c, hc⟩ := b.starts
  simp only [holds]
  refine Bool.and_eq_true_iff.mpr ⟨lemma_front sc wk c hc (.inr b.readies) b.postEnv b.sorted rfl hres, ?_⟩
  simp only [hnf, hl, Option.isNone_none, beq_self_eq_true, Bool.and_self, if_true]
  have G := Segs.log_guarded wk b.hasSig
  unfold shutdownSeq Run.obs shutdownTail at *
  simp only [] at wk G ⊢
  generalize shutHooks sc.metrics sent sc.reqs false (lifo 0 sc.shuts) = sh at *
  obtain ⟨T1, T2⟩ := T
  cases hp : sh.panicked
  · -- no panic: drain, flush, OnStop hooks, return
    have hlp : lastPanic sc.shuts 0 = none := by
      rw [hp] at T1; exact Option.isSome_eq_false_iff.mp T1.symm |> Option.isNone_iff_eq_none.mp
    rw [hlp] at T2
    simp only [hp, Bool.false_eq_true, if_false, hfc, hfe, Bool.not_true, Bool.and_false, Bool.true_or,
      Bool.and_true] at wk G ⊢
    generalize hd : (sent && !sh.expired) = drained at *
    generalize ht : (sent && sc.reqs.any (stuck sc.shuts.length sh.expired) || sh.expired && race) = timeout at *
    refine (shutdownOk_tail ?_).trans ?_
    · cases timeout
      · exact .inl rfl
      · exact .inr rfl
    simp only [tailOk, requestsOk, allComplete, flushStopOk, Bool.and_eq_true, beq_iff_eq]
    rw [Segs.log_shutProbe wk, Segs.log_shutTag wk, Segs.log_reqInIdx wk, Segs.log_reqProbe wk, Segs.log_countFlush wk,
      Segs.log_stopTag wk, Segs.log_stopProbe wk]
    -- the holes, in the order of `tailOk`: the four clauses of `requestsOk` (a timeout has its reason, all complete when
    -- there is none, no response broken, the probes), then of `flushStopOk` one flush, each OnStop hook once, its probes
    refine ⟨⟨G, P⟩, ⟨⟨T2, ⟨⟨?_, ?_⟩, ?_⟩, ?_⟩, ⟨⟨⟨?_, ?_⟩, ?_⟩, rfl⟩, rfl⟩, lemma_orderOk wk⟩
    · cases timeout
      · rfl
      · exact lemma_timeoutLegit sc sent sh.expired race E ht
    · cases timeout
      · refine Bool.or_eq_true_iff.mpr (.inr ?_)
        show (s.reqIns.filterMap reqInIdx).all _ = true
        rw [b.reqIns]
        cases sent
        · rfl
        · simp only [if_true, reqIns_idx, List.all_eq_true, List.mem_range'_1, Nat.zero_add, Nat.zero_le, true_and]
          intro k hk
          rw [← hd]
          exact lemma_allComplete sc sh.expired _ (NP hp) (Bool.or_eq_false_iff.mp ht).1 k hk
      · rfl
    · exact Bool.or_eq_true_iff.mpr (.inr (lemma_reqRes_ne_incomplete _ _ _ _))
    · rw [Q]
      cases drained
      · rfl
      · exact drainEvs_probes sc 0 sc.reqs
    · show (!sc.tracing || (flushIf sc.tracing).count Ev.flush == 1) = true
      rw [lemma_count_flushIf]
      cases sc.tracing <;> rfl
    · show eachOnce ((stopHooks 0 sc.stops).filterMap stopTag) sc.stops.length = true
      rw [stopHooks_tags]; exact eachOnce_seqUp _
    · exact stopHooks_probes 0 _ sc.stops (by omega)
  · -- a panicking OnShutdown hook: the panic leaves Start, the hooks before it ran LIFO
    simp only [hp, if_true] at wk G ⊢
    rw [hp] at T1
    obtain ⟨p, hpp⟩ := Option.isSome_iff_exists.mp T1.symm
    rw [hpp] at T2
    rw [shutdownOk_panic rfl hpp, Segs.log_shutProbe wk, Segs.log_shutTag wk]
    simp only [Bool.and_eq_true, beq_iff_eq]
    exact ⟨⟨G, P⟩, by simpa using T2⟩

theorem lemma_naRounds (sc : Scenario) : (naRounds sc).all (· != .panic) = true := by
  simp [naRounds]

theorem lemma_failed_wk (sc : Scenario) (c : Bool) (fl : List Ev) (hfl : kindsIn [.flush] fl) :
    Segs.WK { starts := (startHooks sc.metrics 0 c sc.starts).evs, flush := fl } where
  starts := startHooks_kinds _ _ _ _
  readies := kindsIn_nil _
  reqIns := kindsIn_nil _
  reloads := kindsIn_nil _
  sig := kindsIn_nil _
  shuts := kindsIn_nil _
  drain := kindsIn_nil _
  flush := hfl
  stops := kindsIn_nil _
  post := kindsIn_nil _

def failedObs (sc : Scenario) (c : Bool) (res : Res) (finMet finHeld tr : Bool) : Obs :=
  { log := ({ starts := (startHooks sc.metrics 0 c sc.starts).evs, flush := flushIf tr } : Segs).log,
    res := res, finApp := false, finMet := finMet, finHeld := finHeld, reqs := naReqs sc, rounds := naRounds sc }

/-- a failed start-up of the repaired code: nothing is left running -/
theorem lemma_failed (sc : Scenario) (c : Bool) (res : Res) (finMet finHeld : Bool) (tr : Bool)
    (hcond : ((sc.starts.find? startFails).isNone && sc.listen == Listen.ok) = false)
    (hres : (sc.starts.find? startFails = some .panic ∧ res = .panic) ∨
      (isError res = true ∧ (finMet = false ∧ finHeld = false) ∧ tr = sc.tracing)) :
    holds sc (failedObs sc c res finMet finHeld tr) = true := by
  have wk := lemma_failed_wk sc c (flushIf tr) (flushIf_kinds _)
  simp only [holds]
  refine Bool.and_eq_true_iff.mpr
    ⟨lemma_front sc wk c rfl (.inl rfl) rfl (by simp [ids_nil]) rfl (lemma_naRounds sc), ?_⟩
  simp only [hcond, Bool.false_eq_true, if_false, failedStartOk, Bool.and_eq_true]
  refine ⟨?_, ?_⟩
  · show (!(({ starts := (startHooks sc.metrics 0 c sc.starts).evs, flush := flushIf tr } : Segs).log.any isReady)) = true
    rw [Segs.log_anyReady wk]; rfl
  · rcases hres with ⟨hf, rfl⟩ | ⟨h1, ⟨rfl, rfl⟩, rfl⟩
    · rw [hf]; rfl
    · -- the error path: telemetry is down again, and what the tracer buffered was flushed once, before the return
      have ok : (isError res && !false && telemetryClean sc (failedObs sc c res false false sc.tracing)) = true := by
        simp only [telemetryClean, failedObs, h1, Bool.not_false, Bool.true_and]
        rw [Segs.log_countFlush wk, Segs.log_precedes wk isFlush_kind isRet_kind (by decide)]
        show (!sc.tracing || ((flushIf sc.tracing).count Ev.flush == 1 && true)) = true
        rw [lemma_count_flushIf]
        cases sc.tracing <;> rfl
      split
      · exact Bool.or_eq_true_iff.mpr (.inr ok)
      · exact ok

end Rivaas.C09
