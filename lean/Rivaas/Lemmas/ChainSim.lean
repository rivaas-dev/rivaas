import Rivaas.Spec.Chain
import Rivaas.Lemmas.ChainStep
/-
Simulation of the reference interpreter (`Spec/Chain.lean`, suffix recursion, no index) by the
small-step machine (`Model/Chain.lean`, explicit stack and `c.index`), for the repaired recovery
(`abortOnRecover = true`). Used by `Rivaas.C02.run_eq_ref`.

`ChainSim j nextK` says: whenever `Next`'s loop head is reached with `c.index = j` and caller stack
`K`, the machine eventually is back at `K` in the state `nextK` predicts (normal return, and then
the chain is over: stopped or index past the end) or in the middle of unwinding the panic
`nextK` predicts through `K`.
-/
namespace Rivaas.Chain

def mk (r : RS) (i : Int) (stk : List Frame) : St :=
  { idx := i, aborted := r.aborted, cancelled := r.cancelled, stack := stk, trace := r.trace,
    status := r.status, body := r.body, escaped := none }

def proj (s : St) : RS :=
  { aborted := s.aborted, cancelled := s.cancelled, trace := s.trace, status := s.status, body := s.body }

section
variable (cfg : Cfg) (progs : List Prog)

/-- the chain is over for every later `Next()`: stopped, or the cursor is at/after the last position -/
def DoneR (r : RS) (i : Int) : Prop := r.stopped cfg.check = true ∨ (progs.length : Int) ≤ i + 1

theorem stopped_mk (r : RS) (i : Int) (K : List Frame) : (mk r i K).stopped cfg = r.stopped cfg.check := rfl

theorem loopHead_mk_done (r : RS) (i : Int) (K : List Frame)
    (h : r.stopped cfg.check = true ∨ (progs.length : Int) ≤ i) : loopHead cfg progs (mk r i K) = mk r i K := by
  rcases loopHead_cases cfg progs (mk r i K) with ⟨_, e⟩ | ⟨_, hlt, hs, _⟩
  · exact e
  · rcases h with h | h
    · rw [stopped_mk, h] at hs; cases hs
    · have : i < progs.length := hlt
      omega

theorem loopHead_mk_enter (r : RS) (j : Nat) (K : List Frame) (h : Prog) (hj : progs[j]? = some h)
    (hs : r.stopped cfg.check = false) :
    loopHead cfg progs (mk r j K) = mk (r.emit (.enter j)) j (Frame.fn j h.fk h.acts :: Frame.loop :: K) := by
  rcases loopHead_cases cfg progs (mk r j K) with ⟨hd, _⟩ | ⟨_, _, _, p, hp, e⟩
  · rcases hd with hd | hd
    · rw [stopped_mk, hs] at hd; cases hd
    · have : j < progs.length := (List.getElem?_eq_some_iff.mp hj).1
      exact absurd ⟨Int.natCast_nonneg j, Int.ofNat_lt.mpr this⟩ hd
  · rw [show (mk r j K).idx.toNat = j from rfl, hj] at hp
    cases hp
    exact e

def Reaches (s : St) (T : St → Prop) : Prop := ∃ n, T (run cfg progs n s)

theorem Reaches.prepend {s s' : St} {T : St → Prop} (h : Reaches cfg progs s' T) (m : Nat)
    (hrun : run cfg progs m s = s') : Reaches cfg progs s T := by
  obtain ⟨n, h⟩ := h
  exact ⟨m + n, by rw [run_add, hrun]; exact h⟩

/-- where the machine gets from the loop head under caller stack `K`, against a result of `refChain`: back at `K` with
    the chain over, or the predicted panic unwinding through `K` -/
def ChainPost (K : List Frame) : RS × Option Nat → St → Prop
  | (r', none), x => ∃ i', x = mk r' i' K ∧ (r'.stopped cfg.check = true ∨ (progs.length : Int) ≤ i')
  | (r', some v), x => ∃ i' stk, x = unwind cfg v K (mk r' i' stk)

def ChainSim (j : Nat) (nextK : RS → RS × Option Nat) : Prop :=
  ∀ (r : RS) (K : List Frame), Reaches cfg progs (loopHead cfg progs (mk r j K)) (ChainPost cfg progs K (nextK r))

/-- where the machine gets from inside the frame of handler `k` above `R`, against a result of `refActs`: the frame
    returns to `R`, or the predicted panic unwinds through it -/
def ActsPost (k : Nat) (fk : FK) (R : List Frame) : RS × Bool × Option Nat → St → Prop
  | (r', c', none), x => ∃ i', x = mk { r' with trace := r'.trace ++ popEv k fk } i' R ∧
      (c' = false → i' = k) ∧ (c' = true → DoneR cfg progs r' i')
  | (r', _, some v), x => ∃ i' as' stk, x = unwind cfg v (Frame.fn k fk as' :: R) (mk r' i' stk)

/-- What the machine does with the rest of a function body, against `refActs`, along the recursion of `refActs`: `c`
    says whether this handler has called `Next()`; until then the cursor is the handler's own position, afterwards
    the chain is over for every later `Next()`. -/
theorem actsSim (k : Nat) (nextK : RS → RS × Option Nat) (hN : ChainSim cfg progs (k + 1) nextK)
    (acts : List Act) (c : Bool) (r : RS) : ∀ (fk : FK) (R : List Frame) (i : Int),
      (c = false → i = k) → (c = true → DoneR cfg progs r i) →
      Reaches cfg progs (mk r i (Frame.fn k fk acts :: R)) (ActsPost cfg progs k fk R (refActs k nextK acts c r)) := by
  fun_induction refActs k nextK acts c r with
  -- the clauses of `refActs`; all but `next` are one step of the machine
  | case1 c r => intro fk R i hc0 hc1; exact ⟨1, i, rfl, hc0, hc1⟩  -- `[]`: the frame returns
  | case2 tail c r => intro fk R i hc0 hc1; exact ⟨1, i, rfl, hc0, hc1⟩  -- `ret`
  | case3 as c r ih =>  -- `abort`
    intro fk R i hc0 hc1
    exact (ih fk R i hc0 fun h => (hc1 h).imp_left fun _ => by simp [RS.stopped]).prepend cfg progs 1 rfl
  | case4 as c r ih =>  -- `cancel`
    intro fk R i hc0 hc1
    exact (ih fk R i hc0 fun h => (hc1 h).imp_left fun hs => by
      -- setting `cancelled` can only turn `stopped` on
      simp only [RS.stopped, Bool.or_eq_true, Bool.and_eq_true, and_true] at hs ⊢
      exact hs.imp_right And.left).prepend cfg progs 1 rfl
  | case5 as c r ih =>  -- `write`
    intro fk R i hc0 hc1
    exact (ih fk R i hc0 fun h => (hc1 h).imp_left fun hs => by simpa [RS.stopped, RS.write] using hs).prepend
      cfg progs 1 rfl
  | case6 v tail c r =>  -- `panic v`: the unwinding begins
    intro fk R i hc0 hc1
    exact ⟨1, i, tail, _, rfl⟩
  | case7 b as c r r1 c1 v hrb ihb =>  -- `call b`, and `b` panics
    intro fk R i hc0 hc1
    have hB := ihb .sub (Frame.fn k fk as :: R) i hc0 hc1
    rw [hrb] at hB
    obtain ⟨n1, i1, as1, h1⟩ := hB
    exact ⟨1 + n1, i1, as, by rw [run_add, run_one]; exact h1⟩
  | case8 b as c r r1 c1 hrb ihb ihas =>  -- `call b`, and `b` returns: on with `as`
    intro fk R i hc0 hc1
    have hB := ihb .sub (Frame.fn k fk as :: R) i hc0 hc1
    rw [hrb] at hB
    obtain ⟨n1, i1, h1, h3, h4⟩ := hB
    refine (ihas fk R i1 h3 h4).prepend cfg progs (1 + n1) ?_
    rw [run_add, run_one]
    exact h1.trans (by simp [popEv])
  | case9 as r ih =>  -- `next` again: the chain is over, a no-op
    intro fk R i _ hc1
    have hd := hc1 rfl
    have hstep : step cfg progs (mk r i (Frame.fn k fk (Act.next :: as) :: R)) = mk r (i + 1) (Frame.fn k fk as :: R) :=
      loopHead_mk_done cfg progs r (i + 1) _ hd
    exact (ih fk R (i + 1) (by simp) fun _ => hd.imp_right fun h => by omega).prepend cfg progs 1 hstep
  | case10 as c r hc r1 v hnk =>  -- the first `next`, and the rest of the chain panics
    intro fk R i hc0 _
    cases hc0 (Bool.eq_false_iff.mpr hc)
    have hNr := hN r (Frame.fn k fk as :: R)
    rw [hnk] at hNr
    obtain ⟨n1, i1, h1⟩ := hNr
    exact ⟨1 + n1, i1, as, by rw [run_add, run_one]; exact h1⟩
  | case11 as c r hc r1 hnk ih =>  -- the first `next`, and the rest returns (`hN`)
    intro fk R i hc0 _
    cases hc0 (Bool.eq_false_iff.mpr hc)
    have hNr := hN r (Frame.fn k fk as :: R)
    rw [hnk] at hNr
    obtain ⟨n1, i1, h1, h3⟩ := hNr
    exact (ih fk R i1 (by simp) fun _ => h3.imp_right fun h => by omega).prepend cfg progs (1 + n1)
      (by rw [run_add, run_one]; exact h1)

theorem popEv_fk (p : Prog) : popEv k p.fk = [Ev.exit k] := by
  unfold Prog.fk; split <;> rfl

theorem chainSim (hab : cfg.abortOnRecover = true) :
    ∀ (rest : List Prog) (j : Nat), progs.drop j = rest → ChainSim cfg progs j (refChain cfg.check j rest) := by
  intro rest
  induction rest with
  | nil =>
    intro j hj r K
    simp only [refChain]
    have hlen : progs.length ≤ j := List.drop_eq_nil_iff.mp hj
    exact ⟨0, j, loopHead_mk_done cfg progs r j K (.inr (by omega)), Or.inr (by omega)⟩
  | cons h rest' ih =>
    intro j hj r K
    have hjh : progs[j]? = some h := by
      have := congrArg List.head? hj
      simpa [List.head?_drop] using this
    have hdrop : progs.drop (j + 1) = rest' := by
      have := congrArg List.tail hj
      simpa [List.tail_drop] using this
    have hN := ih (j + 1) hdrop
    simp only [refChain]
    cases hs : r.stopped cfg.check with
    | true =>
      simp only [if_true]
      exact ⟨0, j, loopHead_mk_done cfg progs r j K (.inl hs), Or.inl hs⟩
    | false =>
      simp only [Bool.false_eq_true, if_false]
      have henter := loopHead_mk_enter cfg progs r j K h hjh hs
      have hB := actsSim cfg progs j _ hN h.acts false (r.emit (.enter j)) h.fk (Frame.loop :: K) j (fun _ => rfl) (by simp)
      rcases hra : refActs j (refChain cfg.check (j + 1) rest') h.acts false (r.emit (.enter j)) with ⟨r1, c1, _ | v⟩
      · rw [hra] at hB
        obtain ⟨n1, i1, h1, h3, h4⟩ := hB
        rw [popEv_fk] at h1
        have h1' : run cfg progs n1 (loopHead cfg progs (mk r j K)) = mk (r1.emit (.exit j)) i1 (Frame.loop :: K) := by
          rw [henter, h1]; rfl
        have hloop : step cfg progs (mk (r1.emit (.exit j)) i1 (Frame.loop :: K)) =
            loopHead cfg progs (mk (r1.emit (.exit j)) (i1 + 1) K) := rfl
        simp only []
        cases c1 with
        | true =>
          simp only [if_true]
          have hd : DoneR cfg progs (r1.emit (.exit j)) i1 :=
            (h4 rfl).imp_left fun hs => by simpa [RS.stopped, RS.emit] using hs
          refine ⟨n1 + 1, i1 + 1, ?_, hd⟩
          rw [run_add, h1', run_one, hloop, loopHead_mk_done cfg progs _ _ K hd]
        | false =>
          simp only [Bool.false_eq_true, if_false]
          have hi1 : i1 = j := h3 rfl
          subst hi1
          exact (hN (r1.emit (.exit j)) K).prepend cfg progs (n1 + 1) (by rw [run_add, h1', run_one, hloop]; rfl)
      · rw [hra] at hB
        obtain ⟨n1, i1, as1, stk, h1⟩ := hB
        simp only []
        cases hrec : h.recovers with
        | true =>
          simp only [if_true]
          have hfk : h.fk = .recover := by simp [Prog.fk, hrec]
          rw [hfk] at h1 henter
          -- handlePanic: abort, 500, then the frame returns and the loop stops
          let r2 : RS := ({ r1 with aborted := true } : RS).write Chunk.rec500
          have hun : unwind cfg v (Frame.fn j .recover as1 :: Frame.loop :: K) (mk r1 i1 stk) =
              mk r2 i1 (Frame.fn j .recover [] :: Frame.loop :: K) := by
            unfold unwind
            rw [hab, Bool.or_true]
            rfl
          have hpop : step cfg progs (mk r2 i1 (Frame.fn j .recover [] :: Frame.loop :: K)) =
              mk (r2.emit (.exit j)) i1 (Frame.loop :: K) := rfl
          have hloop : step cfg progs (mk (r2.emit (.exit j)) i1 (Frame.loop :: K)) =
              loopHead cfg progs (mk (r2.emit (.exit j)) (i1 + 1) K) := rfl
          have hst : (r2.emit (.exit j)).stopped cfg.check = true := by simp [RS.stopped, RS.emit, RS.write, r2]
          have hno := loopHead_mk_done cfg progs (r2.emit (.exit j)) (i1 + 1) K (.inl hst)
          refine ⟨n1 + (1 + 1), i1 + 1, ?_, Or.inl hst⟩
          rw [run_add, henter, h1, hun, run_add, run_one, run_one, hpop, hloop, hno]
        | false =>
          simp only [Bool.false_eq_true, if_false]
          have hfk : h.fk = .plain := by simp [Prog.fk, hrec]
          rw [hfk] at h1 henter
          refine ⟨n1, i1, stk, ?_⟩
          rw [henter, h1]
          simp [unwind, mk, RS.emit]

end

end Rivaas.Chain
