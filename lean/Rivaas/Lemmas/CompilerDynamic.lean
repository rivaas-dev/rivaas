import Rivaas.Model.Compiler
import Rivaas.Lemmas.RadixServe
/-
C11, dynamic side: what `CompileRoute` computes for a route of the vocabulary (`C_eq`), and a successful
`matchAndExtract` of such a compiled route is a match of the oracle with the same bindings.
-/
namespace Rivaas.CompilerL
open Rivaas.Route Rivaas.Radix Rivaas.Compiler Rivaas.Match Rivaas.RadixL

/-- the constraint check of the compiled matcher: per parameter, every constraint registered under
its name -/
def consFirstOK (sat : Nat → Bytes → Bool) (cons : List (Bytes × Nat)) (b : List (Bytes × Bytes)) : Bool :=
  b.all fun (n, v) => (consFor false n cons).all fun cid => sat cid v

def noWild (pat : Pat) : Prop := pat.all litOK = true

/-! ### the analysis loop of `CompileRoute`, segment by segment -/

theorem analyse_par (cons : List (Bytes × Nat)) (i : Nat) (n : Bytes) (rest : Pat) :
    analyse cons i (segTexts (PSeg.par n :: rest)) =
      ((analyse cons (i + 1) (segTexts rest)).1, (i, n, consFor false n cons) :: (analyse cons (i + 1) (segTexts rest)).2) := by
  show analyse cons i ((':' :: n) :: segTexts rest) = _
  simp only [analyse]

/-- a literal of the vocabulary does not start with `:`, so the loop files it as static -/
theorem analyse_lit (cons : List (Bytes × Nat)) (i : Nat) (s : Bytes) (rest : Pat) (hs : litOK (PSeg.lit s) = true) :
    analyse cons i (segTexts (PSeg.lit s :: rest)) =
      ((i, s) :: (analyse cons (i + 1) (segTexts rest)).1, (analyse cons (i + 1) (segTexts rest)).2) := by
  simp only [litOK, Bool.and_eq_true, decide_eq_true_eq] at hs
  show analyse cons i (s :: segTexts rest) = _
  simp only [analyse]
  split
  · exact absurd rfl hs.2
  · rfl

theorem noWild_cons (a : PSeg) (rest : Pat) : noWild (a :: rest) ↔ litOK a = true ∧ noWild rest := by
  simp only [noWild, List.all_cons, Bool.and_eq_true]

/-- the bindings the second parameter loop writes: each name with the segment at its position -/
def bindingsAt (segs : List Bytes) (ps : List (Nat × Bytes × List Nat)) : List (Bytes × Bytes) :=
  ps.map fun p => (p.2.1, (segs[p.1]?).getD [])

theorem paramsWrite_eq (segs : List Bytes) (ps : List (Nat × Bytes × List Nat)) :
    ∀ (j : Nat) (slots : List (Bytes × Bytes)) (over : SMap), slots.length = min j 8 →
      paramsWrite segs j ps slots over =
        ((pushAll ⟨slots, over⟩ (bindingsAt segs ps)).slots, (pushAll ⟨slots, over⟩ (bindingsAt segs ps)).over) := by
  induction ps with
  | nil => intro _ _ _ _; rfl
  | cons p rest ih =>
    intro j slots over hsl
    simp only [paramsWrite, bindingsAt, List.map_cons, pushAll, List.foldl_cons, Ctx.push]
    -- the loop counter and the number of filled slots agree up to the eighth parameter
    by_cases hj : j < 8
    · rw [Nat.min_eq_left (Nat.le_of_lt hj)] at hsl
      rw [if_pos hj, if_pos (hsl ▸ hj)]
      exact ih (j + 1) _ over (by rw [List.length_append, hsl, Nat.min_eq_left hj]; rfl)
    · rw [Nat.min_eq_right (Nat.le_of_not_lt hj)] at hsl
      rw [if_neg hj, if_neg (hsl ▸ Nat.lt_irrefl _)]
      exact ih (j + 1) slots _ (by rw [hsl, Nat.min_eq_right (Nat.le_succ_of_le (Nat.le_of_not_lt hj))])

theorem paramsValid_cons (sat : Nat → Bytes → Bool) (segs : List Bytes) (i : Nat) (n : Bytes) (c : List Nat)
    (rest : List (Nat × Bytes × List Nat)) (x : Bytes) (h : segs[i]? = some x) :
    paramsValid sat segs ((i, n, c) :: rest) = (!rejects sat c x && paramsValid sat segs rest) := by
  rw [paramsValid, h]
  dsimp only
  cases rejects sat c x <;> rfl

theorem analyse_match (sat : Nat → Bytes → Bool) (cons : List (Bytes × Nat)) (segs : List Bytes) (pat : Pat) (hp : noWild pat) :
    ∀ i, segs.length = i + pat.length →
      (analyse cons i (segTexts pat)).1.all (fun (x : Nat × Bytes) => segs[x.1]? == some x.2) = true →
      paramsValid sat segs (analyse cons i (segTexts pat)).2 = true →
      matchPat false pat (segs.drop i) = some (bindingsAt segs (analyse cons i (segTexts pat)).2) ∧
      consFirstOK sat cons (bindingsAt segs (analyse cons i (segTexts pat)).2) = true := by
  induction pat with
  | nil =>
    intro i hlen _ _
    rw [(List.drop_of_length_le (Nat.le_of_eq hlen) : segs.drop i = [])]
    exact ⟨rfl, rfl⟩
  | cons a rest ih =>
    intro i hlen hst hpv
    obtain ⟨ha, hrest⟩ := (noWild_cons a rest).mp hp
    rw [List.length_cons] at hlen
    have hi : i < segs.length := hlen ▸ Nat.lt_add_of_pos_right (Nat.succ_pos _)
    have hget : segs[i]? = some segs[i] := List.getElem?_eq_getElem hi
    have ih' := ih hrest (i + 1) (hlen.trans (by rw [Nat.add_comm rest.length 1, Nat.add_assoc]))
    rw [List.drop_eq_getElem_cons hi]
    cases a with
    | wild => cases ha
    | lit s =>
      rw [analyse_lit cons _ s rest ha] at hst hpv ⊢
      rw [List.all_cons, Bool.and_eq_true, hget] at hst
      rw [matchPat_lit, if_pos (by simpa using hst.1 : segs[i] = s).symm]
      exact ih' hst.2 hpv
    | par n =>
      rw [analyse_par] at hst hpv ⊢
      rw [paramsValid_cons sat segs _ _ _ _ _ hget, Bool.and_eq_true, Bool.not_eq_true'] at hpv
      obtain ⟨hb, hcb⟩ := ih' hst hpv.2
      rw [matchPat_par, hb]
      simp only [bindingsAt, List.map_cons, hget, Option.getD_some]
      refine ⟨rfl, ?_⟩
      rw [consFirstOK, List.all_cons, Bool.and_eq_true]
      exact ⟨by simpa [rejects] using hpv.1, hcb⟩

theorem analyse_params_empty (cons : List (Bytes × Nat)) (pat : Pat) (hp : noWild pat) (i : Nat) :
    (analyse cons i (segTexts pat)).2.isEmpty = isStaticPat pat := by
  induction pat generalizing i with
  | nil => rfl
  | cons a rest ih =>
    obtain ⟨ha, hrest⟩ := (noWild_cons a rest).mp hp
    cases a with
    | wild => cases ha
    | par n => rw [analyse_par]; rfl
    | lit s =>
      rw [analyse_lit cons _ s rest ha]
      exact (ih hrest (i + 1)).trans (by simp [isStaticPat, kind])

/-- the patterns the two-segment fast path of `matchAndExtract` is taken for -/
theorem analyse_fast (cons : List (Bytes × Nat)) (pat : Pat) (hp : noWild pat) (hl2 : pat.length = 2)
    (hl1 : (analyse cons 0 (segTexts pat)).2.length = 1)
    (hpos : (analyse cons 0 (segTexts pat)).2.head?.map (·.1) = some 1) :
    ∃ s n, pat = [PSeg.lit s, PSeg.par n] ∧ litOK (PSeg.lit s) = true := by
  obtain ⟨a, bq, rfl⟩ : ∃ a bq, pat = [a, bq] := ⟨_, _, List.eq_getElem_of_length_eq_two pat hl2⟩
  obtain ⟨ha, hp'⟩ := (noWild_cons _ _).mp hp
  obtain ⟨hbq, _⟩ := (noWild_cons _ _).mp hp'
  cases a with
  | wild => cases ha
  | par na => rw [analyse_par] at hpos; cases hpos
  | lit s =>
    cases bq with
    | wild => cases hbq
    | lit s2 =>
      rw [analyse_lit _ _ _ _ ha, analyse_lit _ _ _ _ hbq] at hl1
      cases hl1
    | par n => exact ⟨s, n, rfl, ha⟩

/-! ### what `CompileRoute` computes for a route of the vocabulary -/

theorem segTexts_last_star (pat : Pat) (h : ∀ s ∈ pat, segOK s) : lastStar (segTexts pat) = endsWild pat := by
  rw [lastStar, endsWild, segTexts, List.getLast?_map]
  cases hl : pat.getLast? with
  | none => rfl
  | some s =>
    -- only the wildcard renders to a text ending in `*`
    have hsok := h s (List.mem_of_getLast? hl)
    cases s with
    | wild => rfl
    | lit x =>
      have : ¬ x.getLast? = some '*' := fun hh => hsok.2.2.2 (List.mem_of_getLast? hh)
      simp [renderSeg, this]
    | par n =>
      have : ¬ (':' :: n).getLast? = some '*' := fun hh =>
        (List.mem_cons.mp (List.mem_of_getLast? hh)).elim (by decide) hsok.2.2.2
      simp [renderSeg, this]

def C (r : Route) : CRoute := compileRoute r.method r.text r.cons r.rid

theorem noWild_of_normal (text : Bytes) (pat : Pat) (hn : NormalPat text pat) (hw : endsWild pat = false) : noWild pat := by
  have := normal_patOK text pat hn
  rwa [patOK, bodyOf, hw, if_neg Bool.false_ne_true] at this

/-- `CompileRoute` on a route of the vocabulary, field by field. A wildcard route (left to the tree) carries no
segment lists. -/
theorem C_eq (r : Route) (hn : NormalPat r.text r.pat) :
    C r = ⟨r.method, r.text, r.pat.length,
      if endsWild r.pat then [] else (analyse r.cons 0 (segTexts r.pat)).1,
      if endsWild r.pat then [] else (analyse r.cons 0 (segTexts r.pat)).2,
      isStaticPat r.pat, endsWild r.pat, r.rid⟩ := by
  by_cases hpe : r.pat = []
  · have ht : r.text = ['/'] := by rw [hn.text, hpe]; rfl
    rw [C, ht, hpe]
    rfl
  · obtain ⟨h1, h2⟩ := render_ne r.pat hpe hn.segs
    have hsegs : splitSlash (trimSlashes r.text) = segTexts r.pat := by
      rw [hn.text]; exact model_segs _ hpe hn.segs
    rw [← hn.text] at h1 h2
    rw [C, compileRoute, compileRouteGen]
    have hlen : (segTexts r.pat).length = r.pat.length := List.length_map _
    simp only [Bool.false_eq_true, if_false, h2, h1, hsegs, segTexts_last_star r.pat hn.segs, hlen]
    cases hw : endsWild r.pat with
    | true => simp only [if_true, endsWild_not_static _ hw]
    | false =>
      simp only [Bool.false_eq_true, if_false, analyse_params_empty r.cons r.pat (noWild_of_normal _ _ hn hw) 0]

theorem C_meta (r : Route) (hn : NormalPat r.text r.pat) :
    (C r).method = r.method ∧ (C r).pattern = r.text ∧ (C r).rid = r.rid := by
  rw [C_eq r hn]
  exact ⟨rfl, rfl, rfl⟩

theorem C_isStatic (r : Route) (hn : NormalPat r.text r.pat) : (C r).isStatic = isStaticPat r.pat := by
  rw [C_eq r hn]

theorem C_hasWildcard (r : Route) (hn : NormalPat r.text r.pat) : (C r).hasWildcard = endsWild r.pat := by
  rw [C_eq r hn]

/-! ### `matchAndExtract` -/

theorem split_length (s : Bytes) : (splitOnSlash s).length = countSlashes s + 1 := by
  rw [splitOnSlash_eq]
  induction s with
  | nil => rfl
  | cons c cs ih =>
    rw [List.splitOn_cons_eq_if_modifyHead, countSlashes, List.filter_cons]
    by_cases hc : c = '/' <;> simp [hc, ih, countSlashes]

theorem splitOnSlash_index (l : Bytes) :
    splitOnSlash l = match indexSlash l with
      | some k => l.take k :: splitOnSlash (l.drop (k + 1))
      | none => [l] := by
  induction l with
  | nil => rfl
  | cons c cs ih =>
    rw [splitOnSlash, indexSlash]
    by_cases hc : c = '/'
    · rw [if_pos hc, if_pos hc]; rfl
    · rw [if_neg hc, if_neg hc, ih]
      cases indexSlash cs <;> rfl

theorem generalMatch_cases (sat : Nat → Bytes → Bool) (r : CRoute) (path : Bytes) (over : SMap) :
    generalMatch sat r path over = (false, ⟨[], over⟩) ∨
    (countSlashes path = expectedSlashes r.segCount path ∧ (parseSegs16 path).length = r.segCount ∧
      (r.statics.all fun (x : Nat × Bytes) => (parseSegs16 path)[x.1]? == some x.2) = true ∧
      paramsValid sat (parseSegs16 path) r.params = true ∧
      generalMatch sat r path over =
        (true, ⟨(paramsWrite (parseSegs16 path) 0 r.params [] over).1, (paramsWrite (parseSegs16 path) 0 r.params [] over).2⟩)) := by
  unfold generalMatch
  dsimp only
  by_cases h1 : path.length < r.segCount + (r.segCount - 1)
  · exact Or.inl (if_pos h1)
  rw [if_neg h1]
  by_cases h2 : countSlashes path ≠ expectedSlashes r.segCount path
  · exact Or.inl (if_pos h2)
  rw [if_neg h2]
  by_cases h3 : (parseSegs16 path).length ≠ r.segCount
  · exact Or.inl (if_pos h3)
  rw [if_neg h3]
  cases r.statics.all fun (x : Nat × Bytes) => (parseSegs16 path)[x.1]? == some x.2
  · exact Or.inl rfl
  cases paramsValid sat (parseSegs16 path) r.params
  · exact Or.inl rfl
  exact Or.inr ⟨Decidable.not_not.mp h2, Decidable.not_not.mp h3, rfl, rfl, rfl⟩

theorem fastMatch_cases (eo : Bool) (sat : Nat → Bytes → Bool) (st : Option Bytes) (name : Bytes) (c : List Nat)
    (path : Bytes) (over : SMap) :
    fastMatch eo sat st name c path over = (false, ⟨[], over⟩) ∨
    ∃ rest k, path = '/' :: rest ∧ indexSlash rest = some k ∧ indexSlash (rest.drop (k + 1)) = none ∧
      firstMismatch st (rest.take k) = false ∧ (eo = false → rest.drop (k + 1) ≠ []) ∧
      rejects sat c (rest.drop (k + 1)) = false ∧
      fastMatch eo sat st name c path over = (true, ⟨[(name, rest.drop (k + 1))], over⟩) := by
  unfold fastMatch
  split
  case h_2 => exact Or.inl rfl
  rename_i rest
  by_cases h1 : ('/' :: rest).length < 3
  · exact Or.inl (if_pos h1)
  rw [if_neg h1]
  cases hk : indexSlash rest with
  | none => exact Or.inl rfl
  | some k =>
    dsimp only
    cases h2 : indexSlash (rest.drop (k + 1)) with
    | some j => exact Or.inl rfl
    | none =>
      rw [Option.isSome_none, if_neg Bool.false_ne_true]
      cases h3 : firstMismatch st (rest.take k)
      case true => exact Or.inl rfl
      rw [if_neg Bool.false_ne_true]
      by_cases h4 : (!eo && (rest.drop (k + 1)).isEmpty) = true
      · exact Or.inl (if_pos h4)
      rw [if_neg h4]
      cases h5 : rejects sat c (rest.drop (k + 1))
      case true => exact Or.inl rfl
      refine Or.inr ⟨rest, k, rfl, hk, h2, h3, ?_, h5, rfl⟩
      intro he e0
      rw [he, e0] at h4
      exact h4 rfl

theorem matchAndExtract_fail_over (sat : Nat → Bytes → Bool) (r : CRoute) (path : Bytes) (over : SMap) (e' : Extract)
    (h : matchAndExtract sat r path over = (false, e')) : e'.over = over := by
  unfold matchAndExtract matchAndExtractGen at h
  split at h
  · rw [← (Prod.mk.inj h).2]
  · split at h
    · split at h
      · rename_i name c _
        rcases fastMatch_cases false sat (r.statics.head?.map (·.2)) name c path over with hf | ⟨_, _, _, _, _, _, _, _, hv⟩
        · cases hf.symm.trans h; rfl
        · cases hv.symm.trans h
      · cases h; rfl
    · rcases generalMatch_cases sat r path over with hf | ⟨_, _, _, _, hv⟩
      · cases hf.symm.trans h; rfl
      · cases hv.symm.trans h

/-- a path the fast path accepts is `/s/v` with `v` non-empty and free of `/` -/
theorem fastMatch_true (sat : Nat → Bytes → Bool) (s name : Bytes) (c : List Nat) (path : Bytes) (over : SMap)
    (e : Extract) (h : fastMatch false sat (some s) name c path over = (true, e)) :
    ∃ v, cutAny path = ⟨[s, v], false⟩ ∧ rejects sat c v = false ∧ e = ⟨[(name, v)], over⟩ := by
  rcases fastMatch_cases false sat (some s) name c path over with hf | ⟨rest, k, hpath, hk, hmore, hfs, hemp, hrej, hv⟩
  · cases hf.symm.trans h
  · have hsplit : splitOnSlash rest = [rest.take k, rest.drop (k + 1)] := by
      rw [splitOnSlash_index rest, hk]
      dsimp only
      rw [splitOnSlash_index (rest.drop (k + 1)), hmore]
    have hseq : rest.take k = s := by simpa [firstMismatch] using hfs
    rw [hseq] at hsplit
    refine ⟨rest.drop (k + 1), ?_, hrej, (Prod.mk.inj (h.symm.trans hv)).2⟩
    rw [hpath, cutAny_slashed rest (fun e0 => by rw [e0] at hsplit; cases hsplit), hsplit]
    exact if_neg (fun hl => hemp rfl (Option.some.inj hl))

theorem generalMatch_true (sat : Nat → Bytes → Bool) (r : CRoute) (rest : Bytes) (over : SMap) (e : Extract)
    (h0 : r.segCount ≠ 0) (h : generalMatch sat r ('/' :: rest) over = (true, e)) :
    ∃ xs, cutAny ('/' :: rest) = ⟨xs, false⟩ ∧ xs.length = r.segCount ∧
      (r.statics.all fun (x : Nat × Bytes) => xs[x.1]? == some x.2) = true ∧ paramsValid sat xs r.params = true ∧
      (⟨e.slots, e.over⟩ : Ctx) = pushAll ⟨[], over⟩ (bindingsAt xs r.params) := by
  rcases generalMatch_cases sat r ('/' :: rest) over with hf | ⟨hcs, hlen, hst, hpv, hv⟩
  · cases hf.symm.trans h
  have he := (Prod.mk.inj (h.symm.trans hv)).2
  have hrne : rest ≠ [] := by
    intro e0
    subst e0
    exact h0 hlen.symm
  have hpieces : (splitOnSlash rest).length = r.segCount := (split_length rest).trans hcs
  have hp16 : parseSegs16 ('/' :: rest) = (cutAny ('/' :: rest)).segs.take maxSegments := by
    rw [parseSegs16, parsePath_eq _ (fun e0 => hrne (List.cons.inj e0).2) (List.cons_ne_nil _ _)]
  have hcut := cutAny_slashed rest hrne
  by_cases hlast : (splitOnSlash rest).getLast? = some []
  · rw [hp16, hcut, if_pos hlast] at hlen
    have := List.length_take_le' maxSegments (splitOnSlash rest).dropLast
    rw [hlen, List.length_dropLast, hpieces] at this
    exact absurd this (Nat.not_le.mpr (Nat.sub_one_lt h0))
  · rw [if_neg hlast] at hcut
    have hsegs : parseSegs16 ('/' :: rest) = splitOnSlash rest := by
      rw [hp16, hcut] at hlen ⊢
      dsimp only at hlen ⊢
      rw [List.length_take, hpieces] at hlen
      exact List.take_of_length_le (hpieces ▸ Nat.le_trans (Nat.le_of_eq hlen.symm) (Nat.min_le_left _ _))
    rw [hsegs] at hst hpv he
    exact ⟨_, hcut, hpieces, hst, hpv, by rw [he, paramsWrite_eq _ _ 0 [] over rfl]⟩

theorem matchAndExtract_sound (sat : Nat → Bytes → Bool) (r : Route) (hn : NormalPat r.text r.pat)
    (hne : r.pat ≠ []) (hw : endsWild r.pat = false)
    (hns : isStaticPat r.pat = false)
    (path : Bytes) (hp : path.head? = some '/') (over : SMap) (e : Extract)
    (h : matchAndExtract sat (compileRoute r.method r.text r.cons r.rid) path over = (true, e)) :
    ∃ b, matchPat (cutAny path).trail r.pat (cutAny path).segs = some b ∧ consFirstOK sat r.cons b = true ∧
      (⟨e.slots, e.over⟩ : Ctx) = pushAll ⟨[], over⟩ b := by
  have hnow := noWild_of_normal _ _ hn hw
  rw [show compileRoute r.method r.text r.cons r.rid = C r from rfl, C_eq r hn, hw, if_neg Bool.false_ne_true, if_neg Bool.false_ne_true] at h
  cases path with
  | nil => cases hp
  | cons c rest =>
    cases (Option.some.inj hp : c = '/')
    have hlen0 : ¬ r.pat.length = 0 := fun e0 => hne (List.eq_nil_of_length_eq_zero e0)
    unfold matchAndExtract matchAndExtractGen at h
    simp only [hlen0, if_false] at h
    by_cases hfast : r.pat.length = 2 ∧ (analyse r.cons 0 (segTexts r.pat)).2.length = 1 ∧
        ((analyse r.cons 0 (segTexts r.pat)).2.head?.map (·.1)) = some 1
    · -- the two-segment fast path: the pattern is `[lit s, par n]`
      rw [if_pos hfast] at h
      obtain ⟨s, n, hpat, hs⟩ := analyse_fast r.cons r.pat hnow hfast.1 hfast.2.1 hfast.2.2
      rw [hpat, analyse_lit _ _ _ _ hs, analyse_par] at h
      obtain ⟨v, hcut, hrej, he⟩ := fastMatch_true sat s n _ _ over e h
      rw [hpat, hcut, he]
      refine ⟨[(n, v)], by rw [matchPat_lit, if_pos rfl, matchPat_par]; rfl, ?_, rfl⟩
      simpa [consFirstOK, rejects] using hrej
    · -- the general path
      rw [if_neg hfast] at h
      obtain ⟨xs, hcut, hxl, hst, hpv, he⟩ := generalMatch_true sat _ rest over e hlen0 h
      rw [hcut]
      obtain ⟨hb, hcb⟩ := analyse_match sat r.cons xs r.pat hnow 0 (hxl.trans (Nat.zero_add _).symm) hst hpv
      exact ⟨_, hb, hcb, he⟩

end Rivaas.CompilerL
