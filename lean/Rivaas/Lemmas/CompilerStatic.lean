import Rivaas.Model.Compiler
import Rivaas.Lemmas.RadixBuild
/-
C11, static side: bloom filters never hide a key that was added, hash-keyed tables are tables keyed by
the text when the hash separates the keys in play.
-/
namespace Rivaas.CompilerL
open Rivaas.Route Rivaas.Radix Rivaas.Compiler Rivaas.Match Rivaas.RadixL

/-- a fold invariant that may speak of the elements folded in so far (`Rp`: the registrations made, the entries read) -/
theorem foldl_inv {α σ} (f : σ → α → σ) (Inv : List α → σ → Prop) (P : α → Prop)
    (step : ∀ Rp s a, P a → Inv Rp s → Inv (Rp ++ [a]) (f s a)) :
    ∀ (R Rp : List α) (s : σ), (∀ x ∈ R, P x) → Inv Rp s → Inv (Rp ++ R) (R.foldl f s) := by
  intro R
  induction R with
  | nil => intro Rp s _ h; rwa [List.append_nil]
  | cons a rest ih =>
    intro Rp s hr h
    rw [List.append_cons]
    exact ih _ _ (fun x hx => hr x (List.mem_cons_of_mem _ hx)) (step Rp s a (hr a (List.mem_cons_self ..)) h)

theorem nodup_add_key {α} {l : List α} (k : α) [Decidable (k ∈ l)] (h : l.Nodup) : (if k ∈ l then l else l ++ [k]).Nodup := by
  split
  · exact h
  · next hk => exact List.nodup_append.mpr ⟨h, List.pairwise_singleton _ _, fun a ha b hb => by
      rw [List.mem_singleton.mp hb]; exact fun e => hk (e ▸ ha)⟩

/-! ### bloom filter -/

def Bloom.has (b : Bloom) (h : Nat) : Prop := ∀ s ∈ b.seeds, b.pos h s ∈ b.bits

theorem Bloom.has_add_self (b : Bloom) (h : Nat) : Bloom.has (b.add h) h := by
  intro s hs
  simp only [Bloom.add] at hs ⊢
  simp only [List.mem_append, List.mem_map]
  left; exact ⟨s, hs, rfl⟩

theorem Bloom.has_add_mono (b : Bloom) (h h' : Nat) (hb : Bloom.has b h) : Bloom.has (b.add h') h := by
  intro s hs
  simp only [Bloom.add] at hs ⊢
  simp only [List.mem_append]
  right; exact hb s hs

theorem Bloom.test_of_has (b : Bloom) (h : Nat) (hb : Bloom.has b h) : b.test h = true := by
  unfold Bloom.test
  simp only [List.all_eq_true, List.contains_iff_mem]
  exact hb

/-! ### hash-keyed association lists -/

theorem mapGet_mapSet {α} (k k' : Nat) (v : α) (l : List (Nat × α)) :
    mapGet k (mapSet k' v l) = if k' = k then some v else mapGet k l := by
  induction l with
  | nil => rfl
  | cons a rest ih =>
    rw [mapSet]
    by_cases hk : a.1 = k'
    · rw [if_pos hk, mapGet, mapGet]
      by_cases h : k' = k
      · rw [if_pos h, if_pos h]
      · rw [if_neg h, if_neg h, if_neg (hk ▸ h)]
    · rw [if_neg hk, mapGet, mapGet, ih]
      by_cases h : a.1 = k
      · rw [if_pos h, if_neg fun e => hk (h.trans e.symm), if_pos h]
      · rw [if_neg h, if_neg h]

theorem mapGet_mapDel_ne {α} (k k' : Nat) (l : List (Nat × α)) (h : k' ≠ k) :
    mapGet k (mapDel k' l) = mapGet k l := by
  induction l with
  | nil => rfl
  | cons a rest ih =>
    rw [mapDel]
    by_cases hk : a.1 = k'
    · rw [if_pos hk, mapGet, if_neg (hk ▸ h)]
    · rw [if_neg hk, mapGet, mapGet, ih]

theorem mapGet_eq_none {α} {k : Nat} {l : List (Nat × α)} (h : k ∉ l.map (·.1)) : mapGet k l = none := by
  induction l with
  | nil => rfl
  | cons a rest ih =>
    rw [List.map_cons, List.mem_cons, not_or] at h
    rw [mapGet, if_neg (Ne.symm h.1), ih h.2]

theorem mapDel_keys {α} (k : Nat) (l : List (Nat × α)) : (mapDel k l).map (·.1) = (l.map (·.1)).erase k := by
  induction l with
  | nil => rfl
  | cons a rest ih =>
    rw [mapDel, List.map_cons, List.erase_cons]
    by_cases hk : a.1 = k
    · rw [if_pos hk, if_pos (beq_iff_eq.mpr hk)]
    · rw [if_neg hk, if_neg (fun h => hk (beq_iff_eq.mp h)), List.map_cons, ih]

theorem mapSet_keys {α} (k : Nat) (v : α) (l : List (Nat × α)) :
    (mapSet k v l).map (·.1) = if k ∈ l.map (·.1) then l.map (·.1) else l.map (·.1) ++ [k] := by
  induction l with
  | nil => rfl
  | cons a rest ih =>
    rw [mapSet]
    by_cases hk : a.1 = k
    · rw [if_pos hk, List.map_cons, List.map_cons, if_pos (hk ▸ List.mem_cons_self ..), hk]
    · rw [if_neg hk, List.map_cons, List.map_cons, ih]
      simp only [List.mem_cons, Ne.symm hk, false_or]
      split <;> rfl

theorem mapSet_nodup {α} (k : Nat) (v : α) {l : List (Nat × α)} (h : (l.map (·.1)).Nodup) :
    ((mapSet k v l).map (·.1)).Nodup := mapSet_keys k v l ▸ nodup_add_key k h

theorem mapDel_nodup {α} (k : Nat) {l : List (Nat × α)} (h : (l.map (·.1)).Nodup) : ((mapDel k l).map (·.1)).Nodup :=
  mapDel_keys k l ▸ h.erase k

/-- `delete(m, k)` leaves nothing under `k` (`mapDel` drops one entry: the only one) -/
theorem mapGet_mapDel_self {α} (k : Nat) {l : List (Nat × α)} (h : (l.map (·.1)).Nodup) : mapGet k (mapDel k l) = none :=
  mapGet_eq_none (mapDel_keys k l ▸ h.not_mem_erase)

/-! ### a hash-keyed map behind a bloom filter -/

/-- every key stored in the map was added to the filter -/
def BloomOK {α} (b : Bloom) (l : List (Nat × α)) : Prop := ∀ h, (mapGet h l).isSome = true → Bloom.has b h

theorem BloomOK.nil {α} (b : Bloom) : BloomOK b ([] : List (Nat × α)) := fun _ hh => nomatch hh

theorem BloomOK.set {α} {b : Bloom} {l : List (Nat × α)} (h : BloomOK b l) (k : Nat) (v : α) :
    BloomOK (b.add k) (mapSet k v l) := by
  intro k' hk'
  rw [mapGet_mapSet] at hk'
  by_cases hkk : k = k'
  · rw [← hkk]; exact Bloom.has_add_self _ _
  · rw [if_neg hkk] at hk'
    exact Bloom.has_add_mono _ _ _ (h k' hk')

theorem BloomOK.del {α} {b : Bloom} {l : List (Nat × α)} (h : BloomOK b l) (hnd : (l.map (·.1)).Nodup) (k : Nat) :
    BloomOK b (mapDel k l) := by
  intro k' hk'
  by_cases e : k = k'
  · rw [← e, mapGet_mapDel_self k hnd] at hk'
    cases hk'
  · rw [mapGet_mapDel_ne _ _ _ e] at hk'
    exact h k' hk'

theorem BloomOK.lookup {α} {b : Bloom} {l : List (Nat × α)} (h : BloomOK b l) (k : Nat) (small : Prop) [Decidable small] :
    (if small then mapGet k l else if !b.test k then none else mapGet k l) = mapGet k l := by
  split
  · rfl
  · cases hm : mapGet k l with
    | none => split <;> rfl
    | some v => rw [Bloom.test_of_has _ _ (h k (by rw [hm]; rfl))]; rfl

/-! ### the per-tree table of static routes -/

def InjOn (hash : Bytes → Nat) (keys : List Bytes) : Prop :=
  ∀ a ∈ keys, ∀ b ∈ keys, hash a = hash b → a = b

theorem InjOn.mono {hash : Bytes → Nat} {keys keys' : List Bytes} (h : InjOn hash keys) (hsub : ∀ a ∈ keys', a ∈ keys) :
    InjOn hash keys' := fun a ha b hb => h a (hsub a ha) b (hsub b hb)

/-- the exact content of the map after the loop over entries that are all kept; the stage proofs read only the
soundness half, `fillTable_inv` -/
theorem fillTable_char (hash : Bytes → Nat) (statics : List (Bytes × Leaf)) (tb : Table)
    (hgood : ∀ p lf, (p, lf) ∈ statics → p ≠ [] ∧ ¬ p.contains ':' = true) :
    ∀ (h : Nat),
      mapGet h (statics.foldl (fun tb (x : Bytes × Leaf) =>
          if x.1 = [] ∨ x.1.contains ':' = true then tb
          else { routes := mapSet (hash x.1) (x.1, x.2) tb.routes, bloom := tb.bloom.add (hash x.1) }) tb).routes =
        (RadixL.lastSome (fun (x : Bytes × Leaf) => if hash x.1 = h then some x else none) statics <|> mapGet h tb.routes) := by
  induction statics generalizing tb with
  | nil => intro h; rfl
  | cons a rest ih =>
    intro h
    obtain ⟨hp1, hp2⟩ := hgood a.1 a.2 (List.mem_cons_self ..)
    rw [List.foldl_cons, if_neg (not_or.mpr ⟨hp1, hp2⟩), ih _ (fun p' lf' hm => hgood p' lf' (List.mem_cons_of_mem _ hm)),
      RadixL.lastSome, mapGet_mapSet]
    -- a later entry under `h` hides this one; otherwise this one answers exactly under its own hash
    cases RadixL.lastSome (fun (x : Bytes × Leaf) => if hash x.1 = h then some x else none) rest with
    | some v => rfl
    | none =>
      by_cases hh : hash a.1 = h
      · rw [if_pos hh, if_pos hh]; rfl
      · rw [if_neg hh, if_neg hh]; rfl

/-- the invariant of the loop over `staticPaths`. Soundness only: an entry with an empty path or a `:` is skipped, and a
collision overwrites, so not every entry read can be found -/
theorem fillTable_inv (hash : Bytes → Nat) (t : Tree) (b0 : Bloom) :
    BloomOK (fillTable hash t ⟨[], b0⟩).bloom (fillTable hash t ⟨[], b0⟩).routes ∧
    ∀ h x, mapGet h (fillTable hash t ⟨[], b0⟩).routes = some x → x ∈ t.statics ∧ hash x.1 = h := by
  unfold fillTable
  refine foldl_inv _ (fun (Rp : List (Bytes × Leaf)) (tb : Table) => BloomOK tb.bloom tb.routes ∧
      ∀ h x, mapGet h tb.routes = some x → x ∈ Rp ∧ hash x.1 = h)
    (fun _ => True) (fun Rp tb a _ ⟨hb, hm⟩ => ?_) t.statics [] ⟨[], b0⟩ (fun _ _ => trivial) ⟨BloomOK.nil _, fun _ _ h => by cases h⟩
  have hold : ∀ h x, mapGet h tb.routes = some x → x ∈ Rp ++ [a] ∧ hash x.1 = h := fun h x hx =>
    ⟨List.mem_append_left _ (hm h x hx).1, (hm h x hx).2⟩
  dsimp only
  split
  · exact ⟨hb, hold⟩
  · refine ⟨hb.set _ _, fun h x hx => ?_⟩
    rw [mapGet_mapSet] at hx
    split at hx
    · next hk =>
      cases hx
      exact ⟨List.mem_append_right _ (List.mem_singleton_self _), hk⟩
    · exact hold h x hx

theorem fillTable_routes_bloom (hash : Bytes → Nat) (t : Tree) (rs : List (Nat × (Bytes × Leaf))) (b b' : Bloom) :
    (fillTable hash t ⟨rs, b⟩).routes = (fillTable hash t ⟨rs, b'⟩).routes :=
  List.foldl_rel (r := fun tb tb' : Table => tb.routes = tb'.routes) rfl fun a _ c c' h => by
    dsimp only
    split
    · exact h
    · exact congrArg (mapSet _ _) h

/-- `Table.get` unfolds to the two-stage read of `BloomOK.lookup`, with `small` the test against
`tableDirectThreshold` -/
theorem Table.get_eq (hash : Bytes → Nat) (tb : Table) (h : BloomOK tb.bloom tb.routes) (path : Bytes) :
    tb.get hash path = mapGet (hash path) tb.routes := h.lookup _ _

/-- what the table answers does not depend on the filter it starts from: the map is filled without looking at the
filter, and the filter only ever hides keys that are not in the map (`BloomOK`) -/
theorem fillTable_get_bloom (hash : Bytes → Nat) (t : Tree) (b b' : Bloom) (path : Bytes) :
    (fillTable hash t ⟨[], b⟩).get hash path = (fillTable hash t ⟨[], b'⟩).get hash path := by
  rw [Table.get_eq hash _ (fillTable_inv hash t b).1, Table.get_eq hash _ (fillTable_inv hash t b').1,
    fillTable_routes_bloom hash t [] b b']

/-! ### `staticPaths` of a method tree -/

theorem setStatic_keys (k : Bytes) (lf : Leaf) (l : List (Bytes × Leaf)) :
    (setStatic k lf l).map (·.1) = if k ∈ l.map (·.1) then l.map (·.1) else l.map (·.1) ++ [k] := by
  induction l with
  | nil => rfl
  | cons a rest ih =>
    rw [setStatic]
    by_cases hk : a.1 = k
    · rw [if_pos hk, List.map_cons, List.map_cons, if_pos (hk ▸ List.mem_cons_self ..)]
    · rw [if_neg hk, List.map_cons, List.map_cons, ih]
      simp only [List.mem_cons, Ne.symm hk, false_or]
      split <;> rfl

theorem setStatic_nodup (k : Bytes) (lf : Leaf) {l : List (Bytes × Leaf)} (h : (l.map (·.1)).Nodup) :
    ((setStatic k lf l).map (·.1)).Nodup := setStatic_keys k lf l ▸ nodup_add_key k h

theorem staticsOf_nodup (R : List Route) (m : Bytes) : ((staticsOf R m).map (·.1)).Nodup :=
  foldl_inv (fun l (r : Route) => setStatic r.text (leafOf r) l) (fun _ l => (l.map (·.1)).Nodup) (fun _ => True)
    (fun _ _ r _ h => setStatic_nodup r.text (leafOf r) h) _ [] [] (fun _ _ => trivial) List.nodup_nil

theorem getStatic_of_mem {x : Bytes × Leaf} {l : List (Bytes × Leaf)} (hnd : (l.map (·.1)).Nodup) (h : x ∈ l) :
    getStatic x.1 l = some x.2 := by
  induction l with
  | nil => cases h
  | cons a rest ih =>
    obtain ⟨ha, hnd'⟩ := List.nodup_cons.mp hnd
    rw [getStatic]
    rcases List.mem_cons.mp h with rfl | h
    · exact if_pos rfl
    · rw [if_neg fun e => ha (List.mem_map.mpr ⟨x, h, e.symm⟩)]
      exact ih hnd' h

theorem table_get_sound (hash : Bytes → Nat) (R : List Route) (hR : ∀ r ∈ R, NormalPat r.text r.pat) (m : Bytes)
    (b0 : Bloom) (path : Bytes) (hinj : InjOn hash (path :: R.map (·.text))) (p : Bytes) (lf : Leaf)
    (h : (fillTable hash (treeFor R m) ⟨[], b0⟩).get hash path = some (p, lf)) :
    p = path ∧ getStatic path (staticsOf R m) = some lf := by
  rw [treeFor_char R hR m] at h
  rw [Table.get_eq hash _ (fillTable_inv hash _ b0).1] at h
  obtain ⟨hx, hh⟩ := (fillTable_inv hash _ b0).2 _ _ h
  have hget := getStatic_of_mem (staticsOf_nodup R m) hx
  obtain ⟨r, hr, _, _, htx, _⟩ := static_live hR hget
  -- the hash tells the entry's path from the request's unless they are equal
  cases hinj p (List.mem_cons_of_mem _ (List.mem_map.mpr ⟨r, live_sub hr, htx⟩)) path (List.mem_cons_self ..) hh
  exact ⟨rfl, hget⟩

end Rivaas.CompilerL
