import Rivaas.Spec.Config
import Rivaas.Lemmas.ListCore
/-
C14 — the merge of `loadSourcesSequential` (`mergeAll`) against the declarative "last source that defines the
path decides" (`lastWins`). DESIGN appendix sketch H treats one scalar leaf and one merge step; here every kind of
outcome and any number of sources. `CVal` is a nested inductive: functions and the lemmas about them are `mutual`
over (value, entry list); the main induction is on the *path*.
Then `load` exit by exit, the oracle's fault test telling the two outcomes apart (`load_outcome`), and that
`normalize` and the merge produce maps with distinct keys at every level (`WF`), on which the oracle's equality of
maps is reflexive.
-/
namespace Rivaas.Config

/-! ### `put` and `upsert` are one operation, `alter`: what is proved of it holds of both -/

def alter (f : CVal → CVal) : Kvs → Bytes → CVal → Kvs
  | [], k, v => [(k, v)]
  | (k', v') :: rest, k, v => if k' = k then (k', f v') :: rest else (k', v') :: alter f rest k v

theorem put_eq_alter (l : Kvs) (k : Bytes) (v : CVal) : put l k v = alter (fun _ => v) l k v := by
  induction l with
  | nil => rfl
  | cons kv rest ih => obtain ⟨k', v'⟩ := kv; simp only [put, alter, ih]

theorem upsert_eq_alter (d : Kvs) (k : Bytes) (v : CVal) : upsert d k v = alter (merge · v) d k v := by
  induction d with
  | nil => simp only [upsert, alter]
  | cons kv rest ih => obtain ⟨k', v'⟩ := kv; simp only [upsert, alter, ih]

section alter
variable (f : CVal → CVal) (l : Kvs) (k : Bytes) (v : CVal)

theorem lookup_alter (k2 : Bytes) :
    lookup k2 (alter f l k v) =
      if k2 = k then some (match lookup k l with | some v' => f v' | none => v) else lookup k2 l := by
  induction l with
  | nil => by_cases h : k = k2 <;> simp [alter, lookup, h, eq_comm]
  | cons kv rest ih =>
    obtain ⟨k', v'⟩ := kv
    -- the head key `k'` against the altered key `k` and the key `k2` looked up: each combination is read off
    -- `alter` and `lookup`, the tail by `ih`
    by_cases h2 : k2 = k
    · subst h2; by_cases h : k' = k2 <;> simp [alter, lookup, h, ih]
    · by_cases h : k' = k
      · subst h; simp [alter, lookup, h2, Ne.symm h2]
      · by_cases h3 : k' = k2 <;> simp [alter, lookup, h, h2, h3, ih]

theorem keys_alter :
    (alter f l k v).map (·.1) = if k ∈ l.map (·.1) then l.map (·.1) else l.map (·.1) ++ [k] := by
  induction l with
  | nil => rfl
  | cons kv rest ih =>
    obtain ⟨k', v'⟩ := kv
    by_cases h : k' = k
    · simp only [alter, h, if_true, List.map_cons, List.mem_cons, true_or]
    · simp only [alter, h, if_false, List.map_cons, List.mem_cons, ih, Ne.symm h, false_or]
      split <;> rfl

theorem wf_alter (hf : ∀ v', WF v' → WF (f v')) (h : WF (.map l)) (hv : WF v) : WF (.map (alter f l k v)) := by
  refine ⟨?_, ?_⟩
  · rw [DistinctKeys, keys_alter]
    split
    · exact h.1
    · rename_i hk
      exact List.nodup_append.mpr ⟨h.1, by simp, fun a ha b hb => by simp at hb; subst hb; exact fun e => hk (e ▸ ha)⟩
  · have hw : WFs l := h.2
    clear h
    induction l with
    | nil => simp [alter, WFs, hv]
    | cons kv rest ih =>
      obtain ⟨k', v'⟩ := kv
      simp only [WFs] at hw
      by_cases hk : k' = k
      · simp only [alter, hk, if_true, WFs]; exact ⟨hf _ hw.1, hw.2⟩
      · simp only [alter, hk, if_false, WFs]; exact ⟨hw.1, ih hw.2⟩

end alter

theorem lookup_put_self (m : Kvs) (k : Bytes) (v : CVal) : lookup k (put m k v) = some v := by
  rw [put_eq_alter, lookup_alter, if_pos rfl]; cases lookup k m <;> rfl

theorem lookup_put_other (m : Kvs) (k k2 : Bytes) (v : CVal) (hne : k2 ≠ k) :
    lookup k2 (put m k v) = lookup k2 m := by
  rw [put_eq_alter, lookup_alter, if_neg hne]

theorem lookup_eq (k : Bytes) (l : Kvs) : lookup k l = l.lookup k := by
  induction l with
  | nil => rfl
  | cons kv rest ih => obtain ⟨k', v'⟩ := kv; rw [lookup, ih, List.lookup_cons_ite]; simp only [eq_comm]

/-- `hs`: a key that occurs twice in `s` is merged into `d` twice, while `lookup k s` only finds its first entry -/
theorem lookup_mergeKvs (s d : Kvs) (k : Bytes) (hs : DistinctKeys s) :
    lookup k (mergeKvs d s) =
      match lookup k s with
      | some v => some (match lookup k d with | some v' => merge v' v | none => v)
      | none => lookup k d := by
  induction s generalizing d with
  | nil => simp [mergeKvs, lookup]
  | cons kv rest ih =>
    obtain ⟨k1, v1⟩ := kv
    simp only [DistinctKeys, List.map_cons, List.nodup_cons] at hs
    have hk1 : lookup k1 rest = none := (lookup_eq ..).trans ((List.lookup_eq_none_iff_not_mem ..).2 hs.1)
    simp only [mergeKvs]
    rw [ih _ hs.2]
    by_cases h : k1 = k
    · subst h
      simp [lookup, hk1, upsert_eq_alter, lookup_alter]
    · simp [lookup, h, Ne.symm h, upsert_eq_alter, lookup_alter]

theorem WFs_lookup {kvs : Kvs} {k : Bytes} {v : CVal} (h : WFs kvs) (hl : lookup k kvs = some v) : WF v := by
  induction kvs with
  | nil => simp [lookup] at hl
  | cons kv rest ih =>
    obtain ⟨k', v'⟩ := kv
    simp only [WFs] at h
    by_cases hk : k' = k
    · simp [lookup, hk] at hl; subst hl; exact h.1
    · simp [lookup, hk] at hl; exact ih h.2 hl

theorem merge_leaf (d : CVal) (r : Bytes) : merge d (.leaf r) = .leaf r := by
  cases d <;> simp [merge]

theorem merge_leaf_left (r : Bytes) (s : CVal) : merge (.leaf r) s = s := by
  cases s <;> simp [merge]

theorem classify_getPath_self (m : Kvs) (p : List Bytes) :
    classify (getPath m p) =
      match probe m p with
      | .leaf r => .leaf r
      | .blocked => .none
      | .isMap => .isMap
      | .absent => .none := by
  induction p generalizing m with
  | nil => rfl
  | cons k ks ih =>
    cases ks with
    | nil =>
      simp only [getPath, probe]
      rcases lookup k m with _ | _ | _ <;> rfl
    | cons k2 ks' =>
      simp only [getPath, probe]
      rcases lookup k m with _ | _ | inner
      · rfl
      · rfl
      · exact ih inner

theorem classify_getPath_merge (p : List Bytes) (d s : Kvs) (hs : WF (.map s)) :
    classify (getPath (mergeKvs d s) p) =
      match probe s p with
      | .leaf r => .leaf r
      | .blocked => .none
      | .isMap => .isMap
      | .absent => classify (getPath d p) := by
  induction p generalizing d s with
  | nil => rfl
  | cons k ks ih =>
    cases ks with
    | nil =>
      simp only [getPath, probe, lookup_mergeKvs s d k hs.1]
      rcases lookup k s with _ | r | m
      · rfl
      · cases lookup k d <;> simp only [merge_leaf, classify]
      · rcases lookup k d with _ | r' | m' <;> simp only [merge, classify]
    | cons k2 ks' =>
      simp only [getPath, probe, lookup_mergeKvs s d k hs.1]
      rcases hl : lookup k s with _ | r | m
      · rfl
      · cases lookup k d <;> simp only [merge_leaf, classify]
      · -- below a key the destination lacks or holds as a non-map, the source's subtree stands alone
        have hself := classify_getPath_self m (k2 :: ks')
        rcases lookup k d with _ | r' | dm
        · simp only [hself]; cases probe m (k2 :: ks') <;> rfl
        · simp only [merge, hself]; cases probe m (k2 :: ks') <;> rfl
        · simp only [merge]; exact ih dm m (WFs_lookup hs.2 hl)

mutual
  theorem wf_normalize : ∀ (kvs : Kvs), WF (.map (normalize kvs))
    | [] => by simp [normalize, WF, DistinctKeys, WFs]
    | (k, v) :: rest => by
      have h1 := wf_normalize rest
      have h2 := wf_normalizeVal v
      simp only [normalize]
      rw [put_eq_alter]
      exact wf_alter _ _ _ _ (fun _ _ => h2) h1 h2
  theorem wf_normalizeVal : ∀ (v : CVal), WF (normalizeVal v)
    | .leaf r => by simp [normalizeVal, WF]
    | .map kvs => by
      simp only [normalizeVal]
      exact wf_normalize kvs
end

/-! ### any number of sources -/

theorem mergeAll_snoc (srcs : List Kvs) (s : Kvs) :
    mergeAll (srcs ++ [s]) = mergeKvs (mergeAll srcs) (normalize s) := by
  simp [mergeAll, List.foldl_append]

theorem getPath_nil_kvs (p : List Bytes) : getPath [] p = none := by
  cases p with
  | nil => rfl
  | cons k ks => cases ks <;> simp [getPath, lookup]

theorem classify_getPath_mergeAll_rev (rs : List Kvs) (p : List Bytes) :
    classify (getPath (mergeAll rs.reverse) p) = lastWinsRev p (rs.map normalize) := by
  induction rs with
  | nil => simp [mergeAll, lastWinsRev, getPath_nil_kvs, classify]
  | cons r rest ih =>
    rw [List.reverse_cons, mergeAll_snoc]
    rw [classify_getPath_merge p _ _ (wf_normalize r), ih]
    simp only [List.map_cons, lastWinsRev]
    cases probe (normalize r) p <;> rfl

/-- the empty path included: there `getValueFromMap` finds nothing and no source defines anything -/
theorem classify_getPath_lastWins (srcs : List Kvs) (p : List Bytes) :
    classify (getPath (mergeAll srcs) p) = lastWins srcs p := by
  simpa [lastWins] using classify_getPath_mergeAll_rev srcs.reverse p

theorem loadSources_spec (srcs : List SrcResult) (i : Nat) (acc : List Kvs) :
    (srcFails ⟨srcs, none, []⟩ = false →
      loadSources srcs i acc = .ok (acc.reverse ++ okMaps ⟨srcs, none, []⟩)) ∧
    (srcFails ⟨srcs, none, []⟩ = true → ∃ j, loadSources srcs i acc = .error j) := by
  induction srcs generalizing i acc with
  | nil => simp [srcFails, loadSources, okMaps]
  | cons r rest ih =>
    cases r with
    | fail => simp [srcFails, loadSources]
    | ok m =>
      have := ih (i + 1) (m :: acc)
      simp only [srcFails, okMaps, List.any_cons, Bool.false_or, List.filterMap_cons, loadSources] at this ⊢
      constructor
      · intro h
        rw [this.1 h]
        simp
      · exact this.2

/-! ### `Load`, exit by exit: the state it starts from is returned untouched or replaced, never consulted -/

section load
variable {schema : Bool} {nv : Nat} {inp : LoadInput} {maps : List Kvs}

theorem load_source_fail {i : Nat} (hm : loadSources inp.srcs 0 [] = .error i) (st : State) :
    load schema nv st inp = (st, .source i) := by
  simp only [load, hm]

theorem load_schema_fail (hm : loadSources inp.srcs 0 [] = .ok maps)
    (hs : (schema && schemaRejects (mergeAll maps)) = true) (st : State) :
    load schema nv st inp = (st, .schema) := by
  simp only [load, hm, hs, if_true]

theorem load_validator_fail {i : Nat} (hm : loadSources inp.srcs 0 [] = .ok maps)
    (hs : (schema && schemaRejects (mergeAll maps)) = false) (hv : firstRejecting (mergeAll maps) nv = some i)
    (st : State) : load schema nv st inp = (st, .validator i) := by
  simp only [load, hm, hs, hv, Bool.false_eq_true, if_false]

theorem load_binding_fail (hm : loadSources inp.srcs 0 [] = .ok maps)
    (hs : (schema && schemaRejects (mergeAll maps)) = false) (hv : firstRejecting (mergeAll maps) nv = none)
    (hb : inp.bind = some .reject) (st : State) : load schema nv st inp = (st, .binding) := by
  simp only [load, hm, hs, hv, hb, Bool.false_eq_true, if_false]

theorem load_ok (hm : loadSources inp.srcs 0 [] = .ok maps)
    (hs : (schema && schemaRejects (mergeAll maps)) = false) (hv : firstRejecting (mergeAll maps) nv = none)
    (hb : inp.bind ≠ some .reject) (st : State) :
    load schema nv st inp = (⟨mergeAll maps, match inp.bind with | some (.ok f) => f | _ => st.bound⟩, .ok) := by
  simp only [load, hm, hs, hv, Bool.false_eq_true, if_false]
  rcases hbb : inp.bind with _ | f | _
  · rfl
  · rfl
  · exact absurd hbb hb

end load

/-! ### the oracle's fault test: the tests of `load` on the merged map, read through last-wins -/

theorem truthy_eq_classify (v : Option CVal) : truthy v = (classify v == .leaf "b:true".toList) := by
  rcases v with _ | r | m
  · rfl
  · simp only [truthy, classify]
    generalize "b:true".toList = t
    by_cases h : r = t
    · simp [h]
    · rw [beq_false_of_ne h, beq_false_of_ne fun e => h (Res.leaf.inj e)]
  · rfl

theorem truthy_lookup_mergeAll (maps : List Kvs) (k : Bytes) :
    truthy (lookup k (mergeAll maps)) = keyTrue maps k := by
  -- a path of one key is read by `lookup`
  rw [truthy_eq_classify, keyTrue, ← classify_getPath_lastWins maps [k]]
  rfl

theorem schemaRejects_mergeAll (maps : List Kvs) :
    schemaRejects (mergeAll maps) = keyTrue maps "schemafail".toList := truthy_lookup_mergeAll _ _

theorem validatorRejects_mergeAll (maps : List Kvs) :
    validatorRejects (mergeAll maps) = fun i =>
      keyTrue maps ("vfail".toList ++ (Nat.repr i).toList) || keyTrue maps ("vpanic".toList ++ (Nat.repr i).toList) :=
  funext fun i => by simp only [validatorRejects, truthy_lookup_mergeAll]

theorem mustFail_eq (schema : Bool) (nv : Nat) (inp : LoadInput) :
    mustFail schema nv inp =
      (srcFails inp || (schema && schemaRejects (mergeAll (okMaps inp))) ||
        (firstRejecting (mergeAll (okMaps inp)) nv).isSome ||
        (match inp.bind with | some .reject => true | _ => false)) := by
  have hfr : (firstRejecting (mergeAll (okMaps inp)) nv).isSome =
      (List.range nv).any (validatorRejects (mergeAll (okMaps inp))) := by
    apply Bool.eq_iff_iff.mpr
    rw [firstRejecting, List.find?_isSome, List.any_eq_true]
  rw [mustFail, hfr, validatorRejects_mergeAll, schemaRejects_mergeAll]
  rfl

/-- the two ways a `Load` can go, uniformly in the state it starts from -/
theorem load_outcome (schema : Bool) (nv : Nat) (inp : LoadInput) :
    (mustFail schema nv inp = true ∧ ∃ r, r ≠ .ok ∧ ∀ st, load schema nv st inp = (st, r)) ∨
    (mustFail schema nv inp = false ∧ loadSources inp.srcs 0 [] = .ok (okMaps inp) ∧ inp.bind ≠ some .reject ∧
      ∀ st, load schema nv st inp =
        (⟨mergeAll (okMaps inp), match inp.bind with | some (.ok f) => f | _ => st.bound⟩, .ok)) := by
  rw [mustFail_eq]
  cases hsf : srcFails inp with
  | true =>
    obtain ⟨j, hj⟩ := (loadSources_spec inp.srcs 0 []).2 hsf
    exact .inl ⟨rfl, .source j, nofun, load_source_fail hj⟩
  | false =>
    have hm : loadSources inp.srcs 0 [] = .ok (okMaps inp) := (loadSources_spec inp.srcs 0 []).1 hsf
    cases hs : (schema && schemaRejects (mergeAll (okMaps inp))) with
    | true => exact .inl ⟨rfl, .schema, nofun, load_schema_fail hm hs⟩
    | false =>
      cases hv : firstRejecting (mergeAll (okMaps inp)) nv with
      | some i => exact .inl ⟨rfl, .validator i, nofun, load_validator_fail hm hs hv⟩
      | none =>
        by_cases hb : inp.bind = some .reject
        · exact .inl ⟨by rw [hb]; rfl, .binding, nofun, load_binding_fail hm hs hv hb⟩
        · refine .inr ⟨?_, hm, hb, load_ok hm hs hv hb⟩
          rcases hbb : inp.bind with _ | f | _
          · rfl
          · rfl
          · exact absurd hbb hb

/-! ### equality of well-formed maps is reflexive -/

mutual
  theorem cvalEq_refl : ∀ (v : CVal), WF v → cvalEq v v = true
    | .leaf r, _ => by simp [cvalEq]
    | .map kvs, h => by
      simp only [WF] at h
      simp only [cvalEq, beq_self_eq_true, Bool.true_and]
      exact kvsSub_refl kvs kvs h.2 fun k v hkv => (lookup_eq ..).trans (List.lookup_of_mem_nodup _ k v h.1 hkv)
  /-- stated for two lists so that the induction can shrink `a` while `b` stays whole -/
  theorem kvsSub_refl : ∀ (a b : Kvs), WFs a → (∀ k v, (k, v) ∈ a → lookup k b = some v) → kvsSub a b = true
    | [], _, _, _ => by simp [kvsSub]
    | (k, v) :: rest, b, hw, hl => by
      simp only [WFs] at hw
      simp only [kvsSub, hl k v (List.mem_cons_self ..), Bool.and_eq_true]
      exact ⟨cvalEq_refl v hw.1, kvsSub_refl rest b hw.2 (fun k' v' h' => hl k' v' (List.mem_cons_of_mem _ h'))⟩
end

theorem kvsEq_refl (a : Kvs) (h : WF (.map a)) : kvsEq a a = true := by
  simpa [cvalEq, kvsEq] using cvalEq_refl (.map a) h

/-! ### merging well-formed maps gives a well-formed map (the state invariant of `Config.values`) -/

mutual
  theorem wf_merge : ∀ (s d : CVal), WF d → WF s → WF (merge d s)
    | .leaf r, d, _, _ => by rw [merge_leaf]; simp [WF]
    | .map s, .leaf r, _, hs => by rw [merge_leaf_left]; exact hs
    | .map s, .map d, hd, hs => by
      simp only [merge]
      exact wf_mergeKvs s d hd hs.2
  theorem wf_mergeKvs : ∀ (s d : Kvs), WF (.map d) → WFs s → WF (.map (mergeKvs d s))
    | [], d, hd, _ => by simp only [mergeKvs]; exact hd
    | (k, v) :: rest, d, hd, hs => by
      -- `hs` is, by definition, `⟨WF v, WFs rest⟩`
      simp only [mergeKvs]
      rw [upsert_eq_alter]
      exact wf_mergeKvs rest _ (wf_alter _ d k v (fun v' hv' => wf_merge v v' hv' hs.1) hd hs.1) hs.2
end

theorem wf_mergeAll (srcs : List Kvs) : WF (.map (mergeAll srcs)) :=
  List.foldlRecOn (motive := fun m => WF (.map m)) srcs _ (by simp [WF, DistinctKeys, WFs])
    fun _ ih s _ => wf_mergeKvs _ _ ih (wf_normalize s).2

end Rivaas.Config
