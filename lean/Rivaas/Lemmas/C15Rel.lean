import Rivaas.Lemmas.C15Base
/-
C15: the coupling relation between the repaired compressWriter (`CW`, `Model/Compress`) and the
plain run of the same handler program — one relation per phase (`UndRel` undecided: the writer in the normal
form `undW`, `PasRel` passing through, `CmpRel` compressing, `RestRel` after the deferred restore), the agreement
`Ag` of the live header maps on trailer keys — the writer's operations on each phase, and what the decision
(`start`) does.
-/
namespace Rivaas.C15
open Rivaas.Http Rivaas.Compress

def AEv : Bytes := "Accept-Encoding".toList

def addCT (h : Hdrs) (T : Option Bytes) : Hdrs :=
  match T with
  | some t => hset h kCT [t]
  | none => h

/-- the header snapshot the middleware sends when it compresses -/
def cmpSnap (h : Hdrs) (T : Option Bytes) (enc : Bytes) : Hdrs :=
  hset (hset (hdel (addCT h T) kCL) kCE [enc]) kVary [AEv]

theorem lemma_keys_ne : kCE ≠ kVary ∧ kCE ≠ kCL ∧ kCL ≠ kVary ∧ kTrailer ≠ kVary ∧ kTrailer ≠ kCE ∧
    kTrailer ≠ kCL ∧ kTrailer ≠ kCT := by
  -- one conjunction, so that the names are evaluated once. `String.toList_ofList` turns each name into its characters
  -- by a lemma; left to evaluation, the kernel decodes a string literal at a cost quadratic in its length
  dsimp only [kCE, kVary, kCL, kTrailer, kCT]
  repeat rewrite [String.toList_ofList]
  decide +kernel

theorem lemma_hget_cmpSnap (S : Hdrs) (T : Option Bytes) (enc k : Bytes) :
    hget (cmpSnap S T enc) k =
      if k = kVary then some [AEv] else if k = kCE then some [enc] else if k = kCL then none
      else hget (addCT S T) k := by
  unfold cmpSnap
  rw [lemma_hget_hset, lemma_hget_hset, lemma_hget_hdel]

theorem lemma_hfirst_cmpSnap (h : Hdrs) (T : Option Bytes) (enc : Bytes) :
    hfirst (cmpSnap h T enc) kCE = enc := by
  unfold hfirst
  rw [lemma_hget_cmpSnap, if_neg lemma_keys_ne.1, if_pos rfl]

theorem lemma_cmp_pendType (sn : Sniff) (b : Base) (snap0 : Hdrs) (T : Option Bytes) (enc : Bytes)
    (henc : enc ≠ []) (hsn : b.snap = cmpSnap snap0 T enc) (hct : b.ctype = none) : pendType sn b = none := by
  have hce : (hfirst b.snap kCE).isEmpty = false := by
    rw [hsn, lemma_hfirst_cmpSnap]
    exact List.isEmpty_eq_false_iff.mpr henc
  simp [pendType, hct, ctypeFor, hce]

/-- the middleware's writer as long as it has not decided: nothing has reached the base writer but the handler's
    header operations (`L`); `cm` is the header snapshot committed with the status `st`, `X` the bytes held back -/
abbrev undW (thr : Nat) (enc : Bytes) (ex : List Bytes) (L : Hdrs) (st : Nat) (cm : Option Hdrs) (X : Bytes) : CW :=
  { base := { live := L }, thr := thr, enc := enc, exclCT := ex, buffer := X, committed := cm, status := st }

/-- undecided: either no status is recorded yet and both sides have only seen header operations, or the plain run
    has committed the same snapshot with a status that allows a body and has received the held-back bytes -/
inductive UndRel (sn : Sniff) : CW → Base → Prop
  | fresh (thr : Nat) (enc : Bytes) (ex : List Bytes) (L : Hdrs) (henc : enc ≠ []) :
      UndRel sn (undW thr enc ex L 0 none []) { live := L }
  | holding (thr : Nat) (enc : Bytes) (ex : List Bytes) (L S : Hdrs) (st : Nat) (X : Bytes) (henc : enc ≠ [])
      (hnb : noBody st = false) (hv : validCode st = true) :
      UndRel sn (undW thr enc ex L st (some S) X) (held sn L st S X)

/-- decided, not compressing: the base writer is in the state of the plain run -/
structure PasRel (w : CW) (p : Base) : Prop where
  d : w.decided = true
  c : w.compress = false
  nr : w.restored = false
  hs : w.headersSent = true
  pw : p.wrote = true
  rel : PassRel w.base p

/-- decided, compressing: the base writer has the plain run's status and the snapshot `cmpSnap` made of the plain run's
    (with the type that run will sniff), no body of its own and no sniffed type; what the encoder was given is the plain
    run's body -/
structure CmpCore (sn : Sniff) (w : CW) (p : Base) : Prop where
  d : w.decided = true
  c : w.compress = true
  hw : w.hasWriter = true
  nr : w.restored = false
  hs : w.headersSent = true
  encne : w.enc ≠ []
  bw : w.base.wrote = true
  bst : w.base.status = p.status
  pw : p.wrote = true
  nb : noBody p.status = false
  bb : w.base.body = []
  bct : w.base.ctype = none
  bpn : w.base.panicked = false
  pp : p.panicked = false
  pl : plainOf w.evs = p.body
  snapEq : w.base.snap = cmpSnap p.snap (pendType sn p) w.enc

/-- compressing, between two handler operations: whatever the plain run still holds back is
    enough to fix the type it will sniff -/
def CmpRel (sn : Sniff) (w : CW) (p : Base) : Prop :=
  CmpCore sn w p ∧ (p.sent = false → hhas p.snap kCT = true ∨ 512 ≤ p.pend.length)

/-- after the deferred restore: the handler chain talks to the base writer -/
structure RestRel (w : CW) (p : Base) : Prop where
  r : w.restored = true
  c : w.compress = false
  rel : PassRel w.base p

/-- the four phases side by side; the proofs go through `Live` (`C15Step`: the first three, with `Ag`) and `Inv`
    (`C15Fold`) -/
def Rel (sn : Sniff) (w : CW) (p : Base) : Prop :=
  UndRel sn w p ∨ PasRel w p ∨ CmpRel sn w p ∨ RestRel w p

def Ag (w : CW) (p : Base) : Prop :=
  ∀ κ, isTrailerKey p.snap κ = true → hget w.base.live κ = hget p.live κ

def validC (c : Nat) : Prop := validCode c = true ∧ c ≠ 101

theorem lemma_validCode_ne_zero (c : Nat) (h : validCode c = true) : c ≠ 0 := by
  simp only [validCode, Bool.and_eq_true, decide_eq_true_eq] at h
  omega

theorem lemma_final_ge_200 (c : Nat) (h : validC c) (hi : informational c = false) : 200 ≤ c := by
  obtain ⟨h1, h2⟩ := h
  simp only [validCode, Bool.and_eq_true, decide_eq_true_eq] at h1
  simp only [informational, Bool.and_eq_false_iff, decide_eq_false_iff_not, bne_eq_false_iff_eq] at hi
  rcases hi with (hi | hi) | hi <;> omega

theorem lemma_noBody_of (c : Nat) (h200 : 200 ≤ c) (hs : shouldSkipStatus c = false) : noBody c = false := by
  simp only [shouldSkipStatus, Bool.or_eq_false_iff, beq_eq_false_iff_ne] at hs
  simp only [noBody, Bool.or_eq_false_iff, Bool.and_eq_false_iff, decide_eq_false_iff_not, beq_eq_false_iff_ne]
  refine ⟨⟨Or.inr (by omega), hs.1.1⟩, hs.1.2⟩

theorem lemma_informational_of_noBody (s : Nat) (h : noBody s = false) : informational s = false := by
  simp only [noBody, Bool.or_eq_false_iff, Bool.and_eq_false_iff, decide_eq_false_iff_not, beq_eq_false_iff_ne] at h
  simp only [informational, Bool.and_eq_false_iff, decide_eq_false_iff_not]
  exact Or.inl h.1.1

/-! ### the writer's operations: normal forms, and the encoding they never touch -/

theorem lemma_cw_writeHeader_idem (w : CW) (c : Nat) (h : w.headersSent = true ∨ w.status ≠ 0) :
    w.writeHeader c = w := by
  unfold CW.writeHeader
  rcases h with h | h <;> simp [h]

theorem lemma_implicitOK (w : CW) : w.implicitOK = w.writeHeader 200 := by
  unfold CW.implicitOK
  by_cases h : w.status = 0
  · by_cases h2 : w.headersSent = true
    · simp [h, h2, lemma_cw_writeHeader_idem w 200 (Or.inl h2)]
    · simp [h, h2]
  · simp [h, lemma_cw_writeHeader_idem w 200 (Or.inr h)]

theorem lemma_cw_writeHeader_live (w : CW) (c : Nat) : (w.writeHeader c).base.live = w.base.live := by
  unfold CW.writeHeader
  simp only [apply_ite CW.base, apply_ite Base.live, lemma_writeHeader_live, ite_self]

theorem lemma_validC_200 : validC 200 := ⟨by decide, by decide⟩

theorem lemma_cw_writeHeader_200_status (w : CW) :
    (w.writeHeader 200).headersSent = true ∨ (w.writeHeader 200).status ≠ 0 := by
  unfold CW.writeHeader
  by_cases h : (w.headersSent || w.status != 0) = true
  · rw [if_pos h]
    simpa using h
  · rw [if_neg h, if_neg (by decide : ¬ informational 200 = true)]
    dsimp only
    split
    · exact Or.inl rfl
    · exact Or.inr (Nat.succ_ne_zero 199)

theorem lemma_cw_write_norm (sn : Sniff) (w : CW) (d : Bytes) :
    w.write sn d = (w.writeHeader 200).write sn d := by
  have h := lemma_cw_writeHeader_200_status w
  conv => rhs; unfold CW.write
  rw [lemma_implicitOK, lemma_cw_writeHeader_idem (w.writeHeader 200) 200 h]
  conv => lhs; unfold CW.write
  rw [lemma_implicitOK]

theorem lemma_cw_flush_norm (sn : Sniff) (w : CW) :
    w.flush sn = (w.writeHeader 200).flush sn := by
  have h := lemma_cw_writeHeader_200_status w
  conv => rhs; unfold CW.flush
  rw [lemma_implicitOK, lemma_cw_writeHeader_idem (w.writeHeader 200) 200 h]
  conv => lhs; unfold CW.flush
  rw [lemma_implicitOK]

/-- without a committed Content-Type the writer waits for the bytes net/http sniffs -/
theorem lemma_holdBack_ge (w : CW) (S : Hdrs) (hcm : w.committed = some S) (hct : hhas S kCT = false) :
    512 ≤ w.holdBack := by
  unfold CW.holdBack
  simp only [hcm, hct, Bool.not_false, Bool.true_and, decide_eq_true_eq, sniffLen]
  split <;> omega

theorem lemma_writeHeader_enc (w : CW) (c : Nat) : (w.writeHeader c).enc = w.enc := by
  unfold CW.writeHeader
  simp only [apply_ite CW.enc, ite_self]

theorem lemma_restoreTrailers_enc (w : CW) : w.restoreTrailers.enc = w.enc := by
  unfold CW.restoreTrailers
  cases w.trailers <;> rfl

theorem lemma_restoreHeader_enc (w : CW) : w.restoreHeader.enc = w.enc := by
  unfold CW.restoreHeader
  cases w.committed <;> rfl

theorem lemma_initCompression_enc (w : CW) : w.initCompression.enc = w.enc := by
  unfold CW.initCompression
  simp only [apply_ite CW.enc, ite_self]

theorem lemma_start_enc (sn : Sniff) (w : CW) (pending : Bytes) (c : Bool) :
    (w.start sn pending c).1.enc = w.enc := by
  unfold CW.start
  simp only [apply_ite Prod.fst, apply_ite CW.enc, lemma_restoreTrailers_enc, lemma_initCompression_enc,
    lemma_restoreHeader_enc, ite_self]

theorem lemma_write_enc (sn : Sniff) (w : CW) (d : Bytes) : (w.write sn d).1.enc = w.enc := by
  unfold CW.write
  simp only [lemma_implicitOK, apply_ite Prod.fst, apply_ite CW.enc, lemma_start_enc, lemma_writeHeader_enc, ite_self]

theorem lemma_flush_enc (sn : Sniff) (w : CW) : (w.flush sn).enc = w.enc := by
  unfold CW.flush
  simp only [lemma_implicitOK, apply_ite CW.enc, lemma_start_enc, lemma_writeHeader_enc, ite_self]

theorem lemma_close_enc (sn : Sniff) (w : CW) : (w.close sn).enc = w.enc := by
  unfold CW.close
  simp only [apply_ite CW.enc, apply_ite Prod.fst, lemma_start_enc, ite_self]

theorem lemma_step_enc (sn : Sniff) (w : CW) (o : Op) : (CW.step sn w o).1.enc = w.enc := by
  unfold CW.step
  split
  · rfl
  · cases o with
    | setH k vs => rfl
    | delH k => rfl
    | writeHeader c => exact lemma_writeHeader_enc w c
    | write d => exact lemma_write_enc sn w d
    | flush => exact lemma_flush_enc sn w
    | copy cs => exact lemma_copyLoop_inv (·.enc = w.enc) _ (fun s d h => by rw [lemma_write_enc, h]) cs w 0 rfl
    | panic => exact lemma_close_enc sn w

theorem lemma_runOps_enc (sn : Sniff) (ops : List Op) (w : CW) : (runOps (CW.step sn) w ops).1.enc = w.enc :=
  lemma_runOps_inv (CW.step sn) (·.enc = w.enc) (fun _ => True) (fun s o _ h => by rw [lemma_step_enc, h]) ops w
    (fun _ _ => trivial) rfl

-- here and in `lemma_cw_flush_und`, `lemma_cw_close_und`, `lemma_start_und` the result of `start` enters as a variable
-- with its defining equation (callers pass `_ rfl`): the statement says what it needs of it without repeating the term
theorem lemma_cw_write_und (sn : Sniff) (thr : Nat) (enc : Bytes) (ex : List Bytes) (L : Hdrs) (st : Nat)
    (cm : Option Hdrs) (X d : Bytes) (hs : st ≠ 0) (r : CW × Err)
    (e : r = (undW thr enc ex L st cm X).start sn (X ++ d) true) :
    (undW thr enc ex L st cm X).write sn d =
      if X.length + d.length < (undW thr enc ex L st cm X).holdBack then
        (undW thr enc ex L st cm (X ++ d), ⟨d.length, .ok⟩)
      else (r.1, if r.2 != .ok then ⟨0, r.2⟩ else ⟨d.length, .ok⟩) := by
  subst e
  unfold CW.write
  rw [lemma_implicitOK, lemma_cw_writeHeader_idem _ 200 (Or.inr hs)]
  rfl

theorem lemma_cw_write_cmp (sn : Sniff) (w : CW) (d : Bytes) (hd : w.decided = true) (hc : w.compress = true)
    (hs : w.headersSent = true) :
    w.write sn d = ({ w with evs := w.evs ++ [some d] }, ⟨d.length, .ok⟩) := by
  unfold CW.write
  rw [lemma_implicitOK, lemma_cw_writeHeader_idem w 200 (Or.inl hs)]
  simp [hd, hc]

theorem lemma_cw_write_pas (sn : Sniff) (w : CW) (d : Bytes) (hd : w.decided = true) (hc : w.compress = false)
    (hs : w.headersSent = true) :
    w.write sn d = ({ w with base := (w.base.write sn d).1 }, (w.base.write sn d).2) := by
  unfold CW.write
  rw [lemma_implicitOK, lemma_cw_writeHeader_idem w 200 (Or.inl hs)]
  simp [hd, hc]

theorem lemma_cw_flush_und (sn : Sniff) (thr : Nat) (enc : Bytes) (ex : List Bytes) (L : Hdrs) (st : Nat)
    (cm : Option Hdrs) (X : Bytes) (hs : st ≠ 0) (s : CW)
    (e : s = ((undW thr enc ex L st cm X).start sn X (decide (X.length ≥ thr))).1) (sd : s.decided = true)
    (sh : s.headersSent = true) : (undW thr enc ex L st cm X).flush sn = s.flush sn := by
  subst e
  conv => rhs; unfold CW.flush
  rw [lemma_implicitOK, lemma_cw_writeHeader_idem _ 200 (Or.inl sh)]
  unfold CW.flush
  rw [lemma_implicitOK, lemma_cw_writeHeader_idem _ 200 (Or.inr hs)]
  simp only [sd, Bool.not_false, Bool.not_true, Bool.false_eq_true, if_true, if_false]

theorem lemma_cw_flush_cmp (sn : Sniff) (w : CW) (hd : w.decided = true) (hc : w.compress = true)
    (hw : w.hasWriter = true) (hs : w.headersSent = true) :
    w.flush sn = { w with evs := w.evs ++ [none], base := w.base.flush sn } := by
  unfold CW.flush
  rw [lemma_implicitOK, lemma_cw_writeHeader_idem w 200 (Or.inl hs)]
  simp [hd, hc, hw]

theorem lemma_cw_flush_pas (sn : Sniff) (w : CW) (hd : w.decided = true) (hc : w.compress = false)
    (hs : w.headersSent = true) :
    w.flush sn = { w with base := w.base.flush sn } := by
  unfold CW.flush
  rw [lemma_implicitOK, lemma_cw_writeHeader_idem w 200 (Or.inl hs)]
  simp [hd, hc]

theorem lemma_cw_close_cmp (sn : Sniff) (w : CW) (hd : w.decided = true) (hc : w.compress = true)
    (hw : w.hasWriter = true) : w.close sn = { w with closed := true } := by
  unfold CW.close
  simp [hd, hc, hw]

theorem lemma_cw_close_pas (sn : Sniff) (w : CW) (hd : w.decided = true) (hc : w.compress = false) :
    w.close sn = w := by
  unfold CW.close
  simp [hd, hc]

theorem lemma_cw_close_und (sn : Sniff) (w : CW) (hd : w.decided = false) (r : CW × Err)
    (e : r = w.start sn w.buffer (decide (w.buffer.length > 0) && decide (w.buffer.length ≥ w.thr)))
    (ok : r.2 = .ok) (rd : r.1.decided = true) : w.close sn = r.1.close sn := by
  subst e
  unfold CW.close
  simp only [hd, rd, ok, Bool.not_false, Bool.not_true, Bool.false_eq_true, if_true, if_false]

theorem lemma_plainOf_snoc_some (evs : List (Option Bytes)) (d : Bytes) :
    plainOf (evs ++ [some d]) = plainOf evs ++ d := by
  simp [plainOf, List.filterMap_append]

theorem lemma_plainOf_snoc_none (evs : List (Option Bytes)) :
    plainOf (evs ++ [none]) = plainOf evs := by
  simp [plainOf, List.filterMap_append]

/-! ### the undecided phase -/

/-- what `restoreTrailers` leaves in the live map `cur` when `old` is the map the handler left:
    the trailer entries (as `S` announces them) come from `old` -/
def restoredLive (S cur old : Hdrs) : Hdrs :=
  cur.filter (fun kv => !isTrailerKey S kv.1) ++ old.filter (fun kv => isTrailerKey S kv.1)

theorem lemma_restored_live (S cur old : Hdrs) (κ : Bytes) (hk : isTrailerKey S κ = true) :
    hget (restoredLive S cur old) κ = hget old κ := by
  unfold restoredLive
  rw [lemma_hget_append, lemma_hget_filter_key cur (fun k => !isTrailerKey S k),
    lemma_hget_filter_key old (fun k => isTrailerKey S k)]
  simp [hk]

theorem lemma_start_nf (sn : Sniff) (L S : Hdrs) (thr : Nat) (enc : Bytes) (ex : List Bytes) (B X : Bytes)
    (st : Nat) (c : Bool) (hv : validCode st = true) (hnb : noBody st = false) :
    (undW thr enc ex L st (some S) B).start sn X c =
      if ((hfirst S kCE).isEmpty && c) = true then
        ({ base := { live := restoredLive S (cmpSnap S (ctypeFor sn st S X) enc) L, wrote := true, status := st,
                     snap := cmpSnap S (ctypeFor sn st S X) enc },
           thr := thr, enc := enc, exclCT := ex, status := st, decided := true, compress := true,
           headersSent := true, hasWriter := true, evs := if X.isEmpty then [] else [some X] }, .ok)
      else
        ({ base := held sn (restoredLive S S L) st S X, thr := thr, enc := enc, exclCT := ex, status := st,
           decided := true, headersSent := true }, .ok) := by
  have hi := lemma_informational_of_noBody st hnb
  have h1 := lemma_validCode_ne_zero st hv
  by_cases hcond : ((hfirst S kCE).isEmpty && c) = true
  · simp only [Bool.and_eq_true] at hcond
    obtain ⟨hce, rfl⟩ := hcond
    have hT : ctypeFor sn st S X = if (!hhas S kCT && !X.isEmpty) = true then some (sn (X.take 512)) else none := by
      unfold ctypeFor
      simp only [hnb, hce, Bool.not_false, Bool.true_and]
    unfold CW.start
    simp only [CW.restoreHeader, CW.initCompression, CW.restoreTrailers, Base.writeHeader, hce, hv, hi, Bool.not_true,
      Bool.not_false, Bool.false_eq_true, if_false, Bool.and_self, if_true]
    rw [hT]
    by_cases hct : hhas S kCT = true
    · simp only [hct]
      cases X <;> rfl
    · simp only [hct]
      cases X <;> rfl
  · -- not compressing: the committed status goes out with the snapshot `S`
    have hc : c = false ∨ (hfirst S kCE).isEmpty = false := by
      cases c <;> simp_all
    simp only [hcond]
    by_cases hX : X = []
    · subst hX
      rcases hc with hc | hc <;>
        simp [CW.start, CW.restoreHeader, CW.restoreTrailers, Base.writeHeader, restoredLive, hv, hi, h1, hc] <;> rfl
    · -- and what was held back reaches the base writer in one Write, which `lemma_held_write` computes
      have hwX := lemma_held_write sn (restoredLive S S L) st S [] X hnb
      simp only [List.nil_append, lemma_held_nil, restoredLive] at hwX
      rcases hc with hc | hc <;>
        simp [CW.start, CW.restoreHeader, CW.restoreTrailers, Base.writeHeader, restoredLive, hv, hi, h1, hc, hX, hwX]

theorem lemma_start_und (sn : Sniff) (L S : Hdrs) (thr : Nat) (enc : Bytes) (ex : List Bytes) (B X : Bytes)
    (st : Nat) (c : Bool) (hv : validCode st = true) (hnb : noBody st = false) (henc : enc ≠ [])
    (r : CW × Err) (e : r = (undW thr enc ex L st (some S) B).start sn X c) :
    r.2 = .ok ∧ Ag r.1 (held sn L st S X) ∧
    (PasRel r.1 (held sn L st S X) ∨ (CmpCore sn r.1 (held sn L st S X) ∧ c = true)) := by
  rw [e, lemma_start_nf sn L S thr enc ex B X st c hv hnb]
  by_cases hcond : ((hfirst S kCE).isEmpty && c) = true
  · rw [if_pos hcond]
    refine ⟨rfl, fun κ hk => lemma_restored_live _ _ _ κ hk,
      Or.inr ⟨{ d := rfl, c := rfl, hw := rfl, nr := rfl, hs := rfl, encne := henc, bw := rfl, bst := rfl, pw := rfl,
                nb := hnb, bb := rfl, bct := rfl, bpn := rfl, pp := rfl, pl := ?_, snapEq := ?_ },
              (Bool.and_eq_true_iff.mp hcond).2⟩⟩
    · cases X <;> simp [plainOf, held]
    · by_cases hX : 2048 < X.length <;> simp [held, pendType, hX]
  · rw [if_neg hcond]
    exact ⟨rfl, fun κ hk => lemma_restored_live _ _ _ κ hk,
      Or.inl ⟨rfl, rfl, rfl, rfl, rfl, rfl, fun h => Bool.noConfusion h⟩⟩

end Rivaas.C15
