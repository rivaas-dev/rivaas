import Rivaas.Spec.Reverse
import Rivaas.Lemmas.ListCore
/-
C12 (last clause) — lemmas for the URLFor round trip: splitting a joined segment list gives the
segments back; the static segments of a parsed pattern are non-empty and slash-free; the parameter names the oracle
reads off a pattern (`Spec.pieces`, `Spec.paramNames`: no trimming, empty pieces kept) are those of the model's
`parseReversePattern`.
-/
namespace Rivaas.Reverse

theorem splitSlash_eq (s : Bytes) : splitSlash s = s.splitOn '/' := by
  induction s with
  | nil => rfl
  | cons c cs ih =>
    simp only [splitSlash, List.splitOn_cons_eq_if_modifyHead, ih, beq_iff_eq]
    cases h : cs.splitOn '/' with
    | nil => exact absurd h (List.splitOn_ne_nil _ _)
    | cons _ _ => rfl

theorem joinSlash_eq (l : List Bytes) : joinSlash l = ['/'].intercalate l := by
  induction l with
  | nil => rfl
  | cons a rest ih =>
    cases rest with
    | nil => simp [joinSlash]
    | cons b bs => simp [joinSlash, ih, List.intercalate_cons_cons]

theorem lemma_split_noSlash (s : Bytes) : ∀ x ∈ splitSlash s, '/' ∉ x :=
  fun _ h => List.not_mem_of_mem_splitOn (splitSlash_eq s ▸ h)

theorem lemma_split_slash (a b : Bytes) : splitSlash (a ++ '/' :: b) = splitSlash a ++ splitSlash b := by
  simp only [splitSlash_eq, List.splitOn_append_cons_self]

theorem lemma_split_join (parts : List Bytes) (hne : parts ≠ []) (h : ∀ x ∈ parts, '/' ∉ x) :
    splitSlash (joinSlash parts) = parts := by
  rw [splitSlash_eq, joinSlash_eq, List.splitOn_intercalate _ h hne]

theorem lemma_segOf_static (part t : Bytes) (h : segOf part = .static t) : t = part := by
  unfold segOf at h
  split at h
  · cases h
  · cases h; rfl

theorem lemma_parse_static (pattern t : Bytes) (h : Seg.static t ∈ parseReversePattern pattern) :
    t ≠ [] ∧ '/' ∉ t := by
  unfold parseReversePattern at h
  obtain ⟨part, hp, hseg⟩ := List.mem_map.1 h
  have ht := lemma_segOf_static part t hseg
  subst ht
  obtain ⟨hmem, hne⟩ := List.mem_filter.1 hp
  exact ⟨by simpa using hne, lemma_split_noSlash _ t hmem⟩

def boundParams (vals : Vals) : List Seg → List (Bytes × Bytes)
  | [] => []
  | .static _ :: rest => boundParams vals rest
  | .param n :: rest =>
    match valOf vals n with
    | some v => (n, v.1) :: boundParams vals rest
    | none => boundParams vals rest

/-- rendering with raw values, then matching segment by segment, binds every parameter to its value; what holds of
    the static texts and of the values holds of the rendered parts -/
theorem lemma_match_render (vals : Vals) (segs : List Seg) (P : Bytes → Prop)
    (hs : ∀ t, Seg.static t ∈ segs → P t) (hv : ∀ n, Seg.param n ∈ segs → ∃ v, valOf vals n = some v ∧ P v.1) :
    ∃ parts, renderAll vals false segs = some parts ∧ matchSegs segs parts = some (boundParams vals segs) ∧
      parts.length = segs.length ∧ ∀ x ∈ parts, P x := by
  induction segs with
  | nil => exact ⟨[], rfl, rfl, rfl, by simp⟩
  | cons sg rest ih =>
    obtain ⟨parts, h1, h2, h3, h4⟩ := ih (fun t ht => hs t (by simp [ht])) (fun n hn => hv n (by simp [hn]))
    cases sg with
    | static t =>
      exact ⟨t :: parts, by simp [renderAll, render, h1], by simp [matchSegs, h2, boundParams], by simp [h3],
        List.forall_mem_cons.2 ⟨hs t (by simp), h4⟩⟩
    | param n =>
      obtain ⟨v, hvn, hP⟩ := hv n (by simp)
      exact ⟨v.1 :: parts, by simp [renderAll, render, hvn, h1], by simp [matchSegs, h2, boundParams, hvn],
        by simp [h3], List.forall_mem_cons.2 ⟨hP, h4⟩⟩

/-! ### the spec's reading of a pattern against the model's -/

theorem lemma_pieces_eq (p : Bytes) : Spec.pieces p = splitSlash p := by
  induction p with
  | nil => rfl
  | cons c cs ih =>
    simp only [Spec.pieces, List.foldr_cons, splitSlash] at ih ⊢
    rw [ih]
    by_cases hc : c = '/'
    · simp [hc]
    · simp only [hc, if_false]
      cases splitSlash cs <;> rfl

def nonempty (x : Bytes) : Bool := decide (x ≠ [])

theorem lemma_filter_ltrim (l : Bytes) :
    (splitSlash (l.dropWhile (· = '/'))).filter nonempty = (splitSlash l).filter nonempty := by
  induction l with
  | nil => rfl
  | cons c cs ih =>
    by_cases hc : c = '/'
    · subst hc
      simp only [List.dropWhile_cons, decide_true, if_true, splitSlash]
      rw [ih]
      simp [nonempty]
    · simp [hc]

/-- trailing slashes, read off the reversed text: each one only adds an empty piece -/
theorem lemma_filter_rtrim (r : Bytes) :
    (splitSlash (r.dropWhile (· = '/')).reverse).filter nonempty = (splitSlash r.reverse).filter nonempty := by
  induction r with
  | nil => rfl
  | cons c cs ih =>
    by_cases hc : c = '/'
    · subst hc
      simp only [List.dropWhile_cons, decide_true, if_true, List.reverse_cons]
      rw [ih, lemma_split_slash, List.filter_append]
      exact (List.append_nil _).symm
    · simp [hc]

theorem lemma_filter_trim (p : Bytes) : (splitSlash (trimSlash p)).filter nonempty = (splitSlash p).filter nonempty := by
  unfold trimSlash
  rw [lemma_filter_rtrim, List.reverse_reverse, lemma_filter_ltrim]

def pname : Seg → Option Bytes
  | .param n => some n
  | .static _ => none

def specName (piece : Bytes) : Option Bytes :=
  match piece with
  | ':' :: n => some n
  | _ => none

theorem lemma_pname_segOf (q : Bytes) : pname (segOf q) = specName q := by
  cases q with
  | nil => rfl
  | cons c n =>
    by_cases hc : c = ':'
    · subst hc; rfl
    · unfold segOf specName
      split
      · rename_i h; cases h; exact absurd rfl hc
      · split
        · rename_i h; cases h; exact absurd rfl hc
        · rfl

theorem lemma_parse_eq (p : Bytes) : parseReversePattern p = ((splitSlash (trimSlash p)).filter nonempty).map segOf := by
  unfold parseReversePattern
  congr 1

theorem lemma_paramNames_eq (p : Bytes) : Spec.paramNames p = (parseReversePattern p).filterMap pname := by
  rw [lemma_parse_eq, List.filterMap_map, lemma_filter_trim, List.filterMap_filter]
  unfold Spec.paramNames
  rw [lemma_pieces_eq]
  -- an empty piece names no parameter, so it makes no difference that the model drops the empty pieces first
  congr 1
  funext q
  cases q with
  | nil => rfl
  | cons c n => exact (lemma_pname_segOf (c :: n)).symm

theorem lemma_render_some (vals : Vals) (b : Bool) (segs : List Seg)
    (hv : ∀ n, Seg.param n ∈ segs → ∃ v, valOf vals n = some v) : ∃ parts, renderAll vals b segs = some parts := by
  induction segs with
  | nil => exact ⟨[], rfl⟩
  | cons sg rest ih =>
    obtain ⟨parts, h⟩ := ih (fun n hn => hv n (by simp [hn]))
    cases sg with
    | static t => exact ⟨t :: parts, by simp [renderAll, render, h]⟩
    | param n =>
      obtain ⟨v, hvn⟩ := hv n (by simp)
      exact ⟨(if b then v.2 else v.1) :: parts, by simp [renderAll, render, hvn, h]⟩

theorem lemma_bound_static (vals : Vals) (segs : List Seg) (h : segs.any Seg.isParam = false) : boundParams vals segs = [] := by
  induction segs with
  | nil => rfl
  | cons a t ih =>
    cases a with
    | static x => exact ih h
    | param n => cases h

theorem lemma_bound_eq (vals : Vals) (segs : List Seg) (val : Bytes → Bytes)
    (hv : ∀ n, Seg.param n ∈ segs → ∃ v, valOf vals n = some v ∧ v.1 = val n) :
    boundParams vals segs = (segs.filterMap pname).map fun n => (n, val n) := by
  induction segs with
  | nil => rfl
  | cons a t ih =>
    have iht := ih (fun n hn => hv n (by simp [hn]))
    cases a with
    | static x =>
      have h1 : pname (Seg.static x) = none := rfl
      rw [List.filterMap_cons_none h1]
      simpa [boundParams] using iht
    | param n =>
      obtain ⟨v, hvn, hval⟩ := hv n (by simp)
      have h1 : pname (Seg.param n) = some n := rfl
      rw [List.filterMap_cons_some h1]
      simp [boundParams, hvn, hval, iht]

def strip (q : Bytes × Bytes × Bytes × Bool) : Bytes × Bytes × Bytes := (q.1, q.2.1, q.2.2.1)

theorem lemma_valOf_map (vals : List (Bytes × Bytes × Bytes × Bool)) (n : Bytes) :
    valOf (vals.map strip) n = (vals.find? (fun e => e.1 == n)).map fun q => (q.2.1, q.2.2.1) := by
  unfold valOf
  rw [List.find?_map, Option.map_map]
  rfl

end Rivaas.Reverse
