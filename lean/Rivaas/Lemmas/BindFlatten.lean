import Rivaas.Model.Bind
import Rivaas.Spec.Bind
import Rivaas.Lemmas.BindPath
/-
C04 helper lemmas about `flatten` (parseStructType): the entry made for a field is the oracle's reading of its tag
(`lemma_mkInfo_eq`), every cached index path leads to its field (`lemma_flattenFs`, the engine of `flatten_faithful`),
paths are relative to the prefix (`lemma_flattenFs_pre`), and a faithful path never makes `reach` panic on a well-typed value.
-/
namespace Rivaas.Bind

/-- `reflect.Type.FieldByIndex`: follow an index path through struct and pointer-to-struct fields -/
def fieldAt : List Fld → List Nat → Option Fld
  | _, [] => none
  | fs, [i] => fs[i]?
  | fs, i :: j :: rest =>
    match fs[i]? with
    | some (_, t) =>
      match structFields? t with
      | some fs' => fieldAt fs' (j :: rest)
      | none => none
    | none => none

theorem lemma_parseTag (tv name : Bytes) (isForm : Bool) :
    parseTag tv name isForm =
      (let parts := (splitB ',' tv).map trimSpace
       let primary := parts.headD []
       (if primary.isEmpty && isForm then name else primary,
        (parts.drop 1).filter (fun p => !p.isEmpty && !(isForm && p == B "omitempty")))) := by
  unfold parseTag
  have h1 : ((splitB ',' tv).map trimSpace).headD [] = trimSpace ((splitB ',' tv).headD []) := by
    cases splitB ',' tv with
    | nil => simp [trimSpace, trimLeft]
    | cons a r => simp
  have h2 : ((splitB ',' tv).map trimSpace).drop 1 = ((splitB ',' tv).drop 1).map trimSpace := by
    simp
  simp only [h1, h2]

theorem lemma_mkInfo_eq (P : Params) (tag : Tag) (idx : List Nat) (h : FieldHdr) (t : Ty) :
    mkInfo P tag idx h t = (Spec.tagNames (h.tag tag) h.name (tag == .form)).map fun pa =>
      { index := idx, name := h.name, tagName := pa.1, aliases := pa.2, ty := t, dflt := h.dflt,
        typedDefault := if !h.dflt.isEmpty && !isSliceTy t && !isMapTy t then convTy P Cfg.default t h.dflt else none } := by
  unfold Spec.tagNames mkInfo
  have hne : (tag != Tag.form) = !(tag == Tag.form) := rfl
  simp only [hne, lemma_parseTag]
  split
  · rfl
  · split <;> rfl

theorem lemma_mkInfo_fields {P : Params} {tag : Tag} {idx : List Nat} {h : FieldHdr} {t : Ty} {f : FieldInfo}
    (hm : f ∈ (mkInfo P tag idx h t).toList) : f.index = idx ∧ f.ty = t ∧ f.name = h.name ∧ f.dflt = h.dflt := by
  rw [lemma_mkInfo_eq] at hm
  generalize Spec.tagNames (h.tag tag) h.name (tag == .form) = o at hm
  cases o with
  | none => cases hm
  | some pa => cases List.mem_singleton.1 hm; exact ⟨rfl, rfl, rfl, rfl⟩

/-- the cached entry `f` describes the field of the type at index path `q`: its type, Go name and default tag -/
def Faithful (all : List Fld) (q : List Nat) (f : FieldInfo) : Prop :=
  ∃ h t, fieldAt all q = some (h, t) ∧ f.ty = t ∧ f.name = h.name ∧ f.dflt = h.dflt

theorem lemma_fieldAt_cons {all : List Fld} {i : Nat} {h : FieldHdr} {t : Ty} {fs' : List Fld} {q : List Nat}
    (h0 : all[i]? = some (h, t)) (hs : structFields? t = some fs') (hq : q ≠ []) :
    fieldAt all (i :: q) = fieldAt fs' q := by
  cases q with
  | nil => exact absurd rfl hq
  | cons j r => simp [fieldAt, h0, hs]

theorem flattenFld_embedded (P : Params) (tag : Tag) (pre : List Nat) (i : Nat) (h : FieldHdr) (t : Ty) (sub : List Fld)
    (hs : structFields? t = some sub) (hex : h.exported = true) (han : h.anon = true) :
    flattenFld P tag pre i h t = flattenFs P tag (pre ++ [i]) 0 sub := by
  rcases structFields?_some hs with rfl | rfl <;> simp [flattenFld, hex, han]

theorem flattenFld_own (P : Params) (tag : Tag) (pre : List Nat) (i : Nat) (h : FieldHdr) (t : Ty)
    (hl : h.exported = false ∨ h.anon = false ∨ structFields? t = none) :
    flattenFld P tag pre i h t = if !h.exported then [] else (mkInfo P tag (pre ++ [i]) h t).toList := by
  have key : h.exported = true → h.anon = true → structFields? t = none := fun hex han => by simpa [hex, han] using hl
  cases t with
  | struct fs =>
    unfold flattenFld
    cases hex : h.exported <;> cases han : h.anon <;> first | rfl | cases key hex han
  | ptr e =>
    cases e with
    | struct fs =>
      unfold flattenFld
      cases hex : h.exported <;> cases han : h.anon <;> first | rfl | cases key hex han
    | _ => rfl
  | _ => rfl

theorem lemma_flattenFld_of (P : Params) (tag : Tag) (pre : List Nat) (i : Nat) (h : FieldHdr) (t : Ty)
    (ihsub : ∀ sub, structFields? t = some sub → ∀ (pre : List Nat) (i : Nat) (f : FieldInfo),
      f ∈ flattenFs P tag pre i sub →
        ∃ q, q ≠ [] ∧ f.index = pre ++ q ∧ ∀ all : List Fld, (∀ k, all[i + k]? = sub[k]?) → Faithful all q f)
    (f : FieldInfo) (hf : f ∈ flattenFld P tag pre i h t) :
    ∃ q, q ≠ [] ∧ f.index = pre ++ q ∧ ∀ all : List Fld, all[i]? = some (h, t) → Faithful all q f := by
  rcases fld_kind h t with ⟨sub, hs, hex, han⟩ | hl
  · rw [flattenFld_embedded P tag pre i h t sub hs hex han] at hf
    obtain ⟨q, hq0, hq, hall⟩ := ihsub sub hs (pre ++ [i]) 0 f hf
    refine ⟨i :: q, by simp, by simp [hq], fun all ha => ?_⟩
    unfold Faithful
    rw [lemma_fieldAt_cons ha hs hq0]
    exact hall sub (fun k => by simp)
  · rw [flattenFld_own P tag pre i h t hl] at hf
    split at hf
    · cases hf
    · obtain ⟨h1, h2, h3, h4⟩ := lemma_mkInfo_fields hf
      exact ⟨[i], by simp, h1, fun all ha => ⟨h, t, by simp [fieldAt, ha], h2, h3, h4⟩⟩

theorem lemma_flattenFs (P : Params) (tag : Tag) :
    ∀ (fs : List Fld) (pre : List Nat) (i : Nat) (f : FieldInfo), f ∈ flattenFs P tag pre i fs →
      ∃ q, q ≠ [] ∧ f.index = pre ++ q ∧ ∀ all : List Fld, (∀ k, all[i + k]? = fs[k]?) → Faithful all q f := by
  intro fs
  induction fs using fld_induction with
  | nil => intro _ _ f hf; simp [flattenFs] at hf
  | cons h t rest ihsub ih =>
    intro pre i f hf
    simp only [flattenFs, List.mem_append] at hf
    rcases hf with hf | hf
    · obtain ⟨q, hq0, hq, hall⟩ := lemma_flattenFld_of P tag pre i h t ihsub f hf
      exact ⟨q, hq0, hq, fun all ha => hall all (lemma_window_cons ha).1⟩
    · obtain ⟨q, hq0, hq, hall⟩ := ih pre (i+1) f hf
      exact ⟨q, hq0, hq, fun all ha => hall all (lemma_window_cons ha).2⟩

theorem lemma_flattenFld (P : Params) (tag : Tag) (pre : List Nat) (i : Nat) (h : FieldHdr) :
    ∀ (t : Ty) (f : FieldInfo), f ∈ flattenFld P tag pre i h t →
      ∃ q, q ≠ [] ∧ f.index = pre ++ q ∧ ∀ all : List Fld, all[i]? = some (h, t) → Faithful all q f :=
  fun t => lemma_flattenFld_of P tag pre i h t (fun sub _ => lemma_flattenFs P tag sub)

/-! ### index paths are relative to the prefix -/

def addPre (pre : List Nat) (f : FieldInfo) : FieldInfo := { f with index := pre ++ f.index }

theorem lemma_mkInfo_idx (P : Params) (tag : Tag) (idx : List Nat) (h : FieldHdr) (t : Ty) :
    mkInfo P tag idx h t = (mkInfo P tag [] h t).map (fun f => { f with index := idx }) := by
  rw [lemma_mkInfo_eq, lemma_mkInfo_eq]
  cases Spec.tagNames (h.tag tag) h.name (tag == .form) <;> rfl

theorem lemma_mkInfo_pre (P : Params) (tag : Tag) (pre : List Nat) (i : Nat) (h : FieldHdr) (t : Ty) :
    (mkInfo P tag (pre ++ [i]) h t).toList = ((mkInfo P tag [i] h t).toList).map (addPre pre) := by
  rw [lemma_mkInfo_idx P tag (pre ++ [i]), lemma_mkInfo_idx P tag [i]]
  cases mkInfo P tag [] h t <;> rfl

theorem lemma_flattenFs_pre (P : Params) (tag : Tag) :
    ∀ (fs : List Fld) (i : Nat) (pre : List Nat), flattenFs P tag pre i fs = (flattenFs P tag [] i fs).map (addPre pre) := by
  intro fs
  induction fs using fld_induction with
  | nil => simp [flattenFs]
  | cons h t rest ihsub ih =>
    intro i pre
    simp only [flattenFs, List.map_append, ih (i+1) pre]
    congr 1
    rcases fld_kind h t with ⟨sub, hs, hex, han⟩ | hl
    · rw [flattenFld_embedded P tag pre i h t sub hs hex han, flattenFld_embedded P tag [] i h t sub hs hex han,
        ihsub sub hs 0 (pre ++ [i]), ihsub sub hs 0 ([] ++ [i])]
      simp [List.map_map, Function.comp_def, addPre]
    · rw [flattenFld_own P tag pre i h t hl, flattenFld_own P tag [] i h t hl]
      split
      · rfl
      · simpa using lemma_mkInfo_pre P tag pre i h t

theorem lemma_flattenFld_pre (P : Params) (tag : Tag) (i : Nat) (h : FieldHdr) :
    ∀ (t : Ty) (pre : List Nat), flattenFld P tag pre i h t = (flattenFld P tag [] i h t).map (addPre pre) := by
  intro t pre
  simpa [flattenFs] using lemma_flattenFs_pre P tag [(h, t)] i pre

theorem lemma_flatten_embedded (P : Params) (tag : Tag) (j : Nat) (sub : List Fld) :
    flattenFs P tag [j] 0 sub = (flatten P tag sub).map (pj j) := by
  rw [lemma_flattenFs_pre P tag sub 0 [j]]
  rfl

/-! ### a faithful path never makes `reach` panic -/

theorem lemma_reach_valid : ∀ (q : List Nat) (fs : List Fld) (vs : List Val),
    wts fs vs = true → (fieldAt fs q).isSome → reach (.struct vs) q ≠ .bad
  | [], fs, vs, _, hq => by simp [fieldAt] at hq
  | [i], fs, vs, hw, hq => by
    simp only [fieldAt] at hq
    obtain ⟨⟨h, t⟩, hf⟩ := Option.isSome_iff_exists.1 hq
    obtain ⟨v, hv, _⟩ := lemma_wts_get fs vs i h t hw hf
    simp [reach, hv]
  | i :: j :: rest, fs, vs, hw, hq => by
    simp only [fieldAt] at hq
    cases hf : fs[i]? with
    | none => simp [hf] at hq
    | some ht =>
      obtain ⟨h, t⟩ := ht
      simp only [hf] at hq
      obtain ⟨v, hv, hwt⟩ := lemma_wts_get fs vs i h t hw hf
      cases hsf : structFields? t with
      | none => simp [hsf] at hq
      | some sub =>
        simp only [hsf] at hq
        cases structVal_of_wt hsf hwt with
        | held cs hwc =>
          rw [(lemma_through hsf hf vs cs j rest hv).1]
          exact lemma_reach_valid (j :: rest) sub cs hwc hq
        | nil => rw [lemma_reach_nil vs i j rest hv]; simp

theorem lemma_flatten_valid (P : Params) (tag : Tag) (fs : List Fld) (vs : List Val) (hw : wts fs vs = true)
    (f : FieldInfo) (hf : f ∈ flatten P tag fs) : f.index ≠ [] ∧ reach (.struct vs) f.index ≠ .bad := by
  obtain ⟨q, hq0, hq, hall⟩ := lemma_flattenFs P tag fs [] 0 f hf
  have hidx : f.index = q := by simpa using hq
  obtain ⟨h, t, hfa, _⟩ := hall fs (fun k => by simp)
  rw [hidx]
  exact ⟨hq0, lemma_reach_valid q fs vs hw (by simp [hfa])⟩

end Rivaas.Bind
