import Rivaas.Model.Compress
/-
C15 (compression transparency), the side of net/http's response writer (`Base`, `Model/HttpBase`): header maps
as finite maps (`hget` after `hset` / `hdel` / a filter on keys), what the operations of the base writer leave
alone, the writer `held` that has received held-back bytes, io.Copy's loop, and the relation `PassRel` between
two base writers that differ at most in the live header map after WriteHeader has taken its snapshot (the
response is then the same, `lemma_pass_resp`; only trailers still read that map, hence `Ag` in `C15Rel`).
-/
namespace Rivaas.C15
open Rivaas.Http Rivaas.Compress

theorem lemma_hget_nil (k : Bytes) : hget [] k = none := rfl

theorem lemma_hget_cons (a : Bytes × List Bytes) (as : Hdrs) (k : Bytes) :
    hget (a :: as) k = if a.1 = k then some a.2 else hget as k := by
  unfold hget
  by_cases h : a.1 = k <;> simp [h]

theorem lemma_hget_filter_key (l : Hdrs) (q : Bytes → Bool) (k : Bytes) :
    hget (l.filter (fun kv => q kv.1)) k = if q k then hget l k else none := by
  induction l with
  | nil => simp [lemma_hget_nil]
  | cons a as ih =>
    rw [List.filter_cons]
    by_cases hk : a.1 = k
    · subst hk
      cases ha : q a.1 <;> simp [lemma_hget_cons, ha, ih]
    · cases q a.1 <;> simp [lemma_hget_cons, hk, ih]

theorem lemma_hget_hdel (h : Hdrs) (k k' : Bytes) :
    hget (hdel h k) k' = if k' = k then none else hget h k' := by
  unfold hdel
  rw [lemma_hget_filter_key h (· != k)]
  by_cases hk : k' = k <;> simp [hk]

theorem lemma_hget_append (a b : Hdrs) (k : Bytes) :
    hget (a ++ b) k = (hget a k).or (hget b k) := by
  simp only [hget, List.find?_append, Option.map_or]

theorem lemma_hget_hset (h : Hdrs) (k : Bytes) (vs : List Bytes) (k' : Bytes) :
    hget (hset h k vs) k' = if k' = k then some vs else hget h k' := by
  unfold hset
  rw [lemma_hget_append, lemma_hget_hdel, lemma_hget_cons, lemma_hget_nil]
  by_cases hk : k' = k
  · simp [hk]
  · have : ¬ (k = k') := fun e => hk e.symm
    simp [hk, this]

theorem lemma_hhas_hget (h : Hdrs) (k : Bytes) : hhas h k = (hget h k).isSome := by
  rw [hhas, hget, Option.isSome_map, Bool.eq_iff_iff, List.find?_isSome, List.any_eq_true]

theorem lemma_hfirst_hget (h : Hdrs) (k : Bytes) :
    hfirst h k = match hget h k with | some (v :: _) => v | _ => [] := rfl

def opLive : Op → Hdrs → Hdrs
  | .setH k vs, l => hset l k vs
  | .delH k, l => hdel l k
  | _, l => l

theorem lemma_opLive_congr (o : Op) (a b : Hdrs) (κ : Bytes) (h : hget a κ = hget b κ) :
    hget (opLive o a) κ = hget (opLive o b) κ := by
  cases o <;> simp only [opLive, lemma_hget_hset, lemma_hget_hdel, h]

/-! ### the base writer: what its operations leave alone -/

/-- the Content-Type net/http adds when the header block goes out with first chunk `chunk` -/
def ctypeFor (sn : Sniff) (status : Nat) (snap : Hdrs) (chunk : Bytes) : Option Bytes :=
  if !noBody status && (hfirst snap kCE).isEmpty && !hhas snap kCT && !chunk.isEmpty
  then some (sn (chunk.take 512)) else none

theorem lemma_emit (sn : Sniff) (b : Base) (p : Bytes) (h : b.sent = false) :
    b.emit sn p = { b with sent := true, pend := [], ctype := ctypeFor sn b.status b.snap p } := by
  simp [Base.emit, h, ctypeFor]

theorem lemma_emit_sent (sn : Sniff) (b : Base) (p : Bytes) (h : b.sent = true) : b.emit sn p = b := by
  simp [Base.emit, h]

theorem lemma_emit_eq (sn : Sniff) (b : Base) (p : Bytes) :
    b.emit sn p = { b with sent := true, pend := if b.sent then b.pend else [],
                           ctype := if b.sent then b.ctype else ctypeFor sn b.status b.snap p } := by
  obtain ⟨_, _, _, _, sent, _, _, _, _⟩ := b
  cases sent <;> rfl

theorem lemma_ctypeFor_append (sn : Sniff) (st : Nat) (snap : Hdrs) (a b : Bytes)
    (h : hhas snap kCT = true ∨ 512 ≤ a.length) :
    ctypeFor sn st snap (a ++ b) = ctypeFor sn st snap a := by
  unfold ctypeFor
  rcases h with h | h
  · simp [h]
  · have h3 : a ≠ [] := by intro e; simp [e] at h
    simp [List.take_append_of_le_length h, h3]

theorem lemma_writeHeader_wrote (b : Base) (h : b.wrote = true) (c : Nat) : b.writeHeader c = b := by
  simp [Base.writeHeader, h]

theorem lemma_writeHeader_200 (b : Base) (h : b.wrote = false) :
    b.writeHeader 200 = { b with wrote := true, status := 200, snap := b.live } := by
  simp [Base.writeHeader, h, validCode, informational]

theorem lemma_writeHeader_live (b : Base) (c : Nat) : (b.writeHeader c).live = b.live := by
  unfold Base.writeHeader
  simp only [apply_ite Base.live, ite_self]

theorem lemma_writeHeader_panicked (b : Base) (c : Nat) (hc : validCode c = true) :
    (b.writeHeader c).panicked = b.panicked := by
  unfold Base.writeHeader
  simp only [hc, Bool.not_true, Bool.false_eq_true, if_false, apply_ite Base.panicked, ite_self]

theorem lemma_base_write_norm (sn : Sniff) (b : Base) (d : Bytes) :
    b.write sn d = (b.writeHeader 200).write sn d := by
  by_cases h : b.wrote = true
  · rw [lemma_writeHeader_wrote b h]
  · have h' : b.wrote = false := by simpa using h
    unfold Base.write
    simp [h', lemma_writeHeader_200 b h']

theorem lemma_base_flush_norm (sn : Sniff) (b : Base) :
    b.flush sn = (b.writeHeader 200).flush sn := by
  by_cases h : b.wrote = true
  · rw [lemma_writeHeader_wrote b h]
  · have h' : b.wrote = false := by simpa using h
    unfold Base.flush
    simp [h', lemma_writeHeader_200 b h']

theorem lemma_write_live (sn : Sniff) (b : Base) (d : Bytes) : (b.write sn d).1.live = b.live := by
  unfold Base.write
  simp only [apply_ite Prod.fst, apply_ite Base.live, lemma_emit_eq, lemma_writeHeader_live, ite_self]

theorem lemma_write_panicked (sn : Sniff) (b : Base) (d : Bytes) : (b.write sn d).1.panicked = b.panicked := by
  unfold Base.write
  simp only [apply_ite Prod.fst, apply_ite Base.panicked, lemma_emit_eq,
    lemma_writeHeader_panicked b 200 (by decide), ite_self]

theorem lemma_write_snap_wrote (sn : Sniff) (b : Base) (d : Bytes) (hw : b.wrote = true) :
    (b.write sn d).1.wrote = true ∧ (b.write sn d).1.snap = b.snap := by
  unfold Base.write
  simp only [hw, if_true, apply_ite Prod.fst, apply_ite Base.snap, apply_ite Base.wrote, lemma_emit_eq, ite_self,
    and_self]

theorem lemma_flush_live (sn : Sniff) (b : Base) : (b.flush sn).live = b.live := by
  unfold Base.flush
  simp only [lemma_emit_eq, apply_ite Base.live, lemma_writeHeader_live, ite_self]

theorem lemma_flush_panicked (sn : Sniff) (b : Base) : (b.flush sn).panicked = b.panicked := by
  unfold Base.flush
  simp only [lemma_emit_eq, apply_ite Base.panicked, lemma_writeHeader_panicked b 200 (by decide), ite_self]

/-- the Content-Type net/http will have added once the header block is out -/
def pendType (sn : Sniff) (p : Base) : Option Bytes :=
  if p.sent then p.ctype else ctypeFor sn p.status p.snap p.pend

/-- a Write on a writer whose status allows a body: its result, the body, the status; and once what the writer still
    holds back fixes the type it will sniff (`hhas p.snap kCT = true ∨ 512 ≤ p.pend.length`), that stays so -/
theorem lemma_base_write_effects (sn : Sniff) (p : Base) (d : Bytes) (hw : p.wrote = true)
    (hnb : noBody p.status = false) :
    (p.write sn d).2 = ⟨d.length, .ok⟩ ∧ (p.write sn d).1.body = p.body ++ d ∧
    (p.write sn d).1.status = p.status ∧
    ((p.sent = false → hhas p.snap kCT = true ∨ 512 ≤ p.pend.length) →
      pendType sn (p.write sn d).1 = pendType sn p ∧
      ((p.write sn d).1.sent = false → hhas p.snap kCT = true ∨ 512 ≤ (p.write sn d).1.pend.length)) := by
  cases p with
  | mk live wrote status snap sent ctype pend body panicked =>
    simp only at hw hnb
    subst hw
    by_cases hde : d = []
    · subst hde
      simp [Base.write]
    · have hde' : d.isEmpty = false := by simpa using hde
      simp only [Base.write, hde', hnb, Bool.false_eq_true, if_false, if_true]
      by_cases hs : sent = true
      · subst hs
        simp [pendType]
      · have hs' : sent = false := by simpa using hs
        subst hs'
        by_cases ho : pend.length + d.length > 2048
        · simp [ho, lemma_emit, pendType]
          exact lemma_ctypeFor_append sn status snap pend d
        · simp [ho, pendType]
          exact fun h => ⟨lemma_ctypeFor_append sn status snap pend d h, h.imp id (fun h => by omega)⟩

theorem lemma_flush_eq (sn : Sniff) (p : Base) (hw : p.wrote = true) :
    p.flush sn = { p with sent := true, pend := if p.sent then p.pend else [], ctype := pendType sn p } := by
  unfold Base.flush pendType
  rw [if_pos hw, lemma_emit_eq]

/-- the bare writer after `WriteHeader(st)` took the snapshot `S` and the bytes `X` were written since (`st` allows
    a body): the header block has gone out iff more than 2048 bytes came -/
def held (sn : Sniff) (L : Hdrs) (st : Nat) (S : Hdrs) (X : Bytes) : Base :=
  { live := L, wrote := true, status := st, snap := S, body := X, sent := decide (2048 < X.length),
    pend := if 2048 < X.length then [] else X,
    ctype := if 2048 < X.length then ctypeFor sn st S X else none }

/-- a type sniffed from more than 2048 bytes does not change when more follow (`lemma_ctypeFor_append`) -/
theorem lemma_held_write (sn : Sniff) (L : Hdrs) (st : Nat) (S : Hdrs) (X d : Bytes) (hnb : noBody st = false) :
    (held sn L st S X).write sn d = (held sn L st S (X ++ d), ⟨d.length, .ok⟩) := by
  by_cases hd : d = []
  · subst hd
    simp [held, Base.write]
  · have hd' : d.isEmpty = false := by simpa using hd
    by_cases hX : 2048 < X.length
    · have hXd : 2048 < X.length + d.length := by omega
      have := lemma_ctypeFor_append sn st S X d (Or.inr (by omega))
      simp [held, Base.write, hd', hnb, hX, hXd, this]
    · by_cases ho : 2048 < X.length + d.length
      · simp [held, Base.write, Base.emit, hd', hnb, hX, ho, ctypeFor]
      · simp [held, Base.write, hd', hnb, hX, ho]

theorem lemma_held_unsent (sn : Sniff) (L : Hdrs) (st : Nat) (S : Hdrs) (X : Bytes)
    (h : (held sn L st S X).sent = false) : (held sn L st S X).pend = X := by
  have hl : ¬ 2048 < X.length := by simpa [held] using h
  simp only [held, hl, if_false]

theorem lemma_held_nil (sn : Sniff) (L : Hdrs) (st : Nat) (S : Hdrs) :
    held sn L st S [] = { live := L, wrote := true, status := st, snap := S } := rfl

/-! ### io.Copy's loop -/

theorem lemma_copyLoop_rel {σ τ : Type} (R : σ → τ → Prop) (f : σ → Bytes → σ × WOut) (g : τ → Bytes → τ × WOut)
    (hstep : ∀ s t d, R s t → R (f s d).1 (g t d).1 ∧ (f s d).2 = (g t d).2) :
    ∀ (cs : List Bytes) (s : σ) (t : τ) (acc : Nat), R s t →
      R (copyLoop f s cs acc).1 (copyLoop g t cs acc).1 ∧ (copyLoop f s cs acc).2 = (copyLoop g t cs acc).2 := by
  intro cs
  induction cs with
  | nil => intro s t acc h; exact ⟨h, rfl⟩
  | cons c cs ih =>
    intro s t acc h
    obtain ⟨h1, h2⟩ := hstep s t c h
    unfold copyLoop
    by_cases hc : c.isEmpty = true
    · simp only [hc, if_true]
      exact ih s t acc h
    · have hc' : c.isEmpty = false := by simpa using hc
      simp only [hc', Bool.false_eq_true, if_false, h2]
      by_cases c1 : (g t c).2.n > c.length
      · simp only [c1, if_true]; exact ⟨h1, trivial⟩
      · simp only [c1, if_false]
        by_cases c2 : ((g t c).2.err != Err.ok) = true
        · simp only [c2, if_true]; exact ⟨h1, trivial⟩
        · simp only [c2]
          by_cases c3 : ((g t c).2.n != c.length) = true
          · simp only [c3, if_true]; exact ⟨h1, rfl⟩
          · simp only [c3]
            exact ih _ _ _ h1

theorem lemma_copyLoop_inv {σ : Type} (P : σ → Prop) (f : σ → Bytes → σ × WOut)
    (hstep : ∀ s d, P s → P (f s d).1) (cs : List Bytes) (s : σ) (acc : Nat) (h : P s) :
    P (copyLoop f s cs acc).1 :=
  (lemma_copyLoop_rel (fun a b => a = b ∧ P a) f f
    (fun a _ d ⟨e, hp⟩ => e ▸ ⟨⟨rfl, hstep a d hp⟩, rfl⟩) cs s s acc ⟨rfl, h⟩).1.2

theorem lemma_runOps_inv {σ : Type} (step : σ → Op → σ × Option WOut) (P : σ → Prop) (Q : Op → Prop)
    (hstep : ∀ s o, Q o → P s → P (step s o).1) :
    ∀ (ops : List Op) (s : σ), (∀ o ∈ ops, Q o) → P s → P (runOps step s ops).1 := by
  intro ops
  induction ops with
  | nil => intro s _ h; exact h
  | cons o os ih =>
    intro s hq h
    exact ih _ (fun o' ho' => hq o' (List.mem_cons_of_mem _ ho')) (hstep s o (hq o (List.mem_cons_self ..)) h)

theorem lemma_plainStep_live (sn : Sniff) (b : Base) (o : Op) : (plainStep sn b o).1.live = opLive o b.live := by
  cases o with
  | copy cs => exact lemma_copyLoop_inv (·.live = b.live) _ (fun s d h => by rw [lemma_write_live, h]) cs b 0 rfl
  | writeHeader c => exact lemma_writeHeader_live b c
  | write d => exact lemma_write_live sn b d
  | flush => exact lemma_flush_live sn b
  | _ => rfl

theorem lemma_plainStep_snap (sn : Sniff) (b : Base) (o : Op) (hw : b.wrote = true) :
    (plainStep sn b o).1.snap = b.snap := by
  cases o with
  | copy cs =>
    exact (lemma_copyLoop_inv (fun s => s.wrote = true ∧ s.snap = b.snap) _
      (fun s d h => by rw [← h.2]; exact lemma_write_snap_wrote sn s d h.1) cs b 0 ⟨hw, rfl⟩).2
  | writeHeader c => simp only [plainStep, lemma_writeHeader_wrote b hw]
  | write d => exact (lemma_write_snap_wrote sn b d hw).2
  | flush => simp only [plainStep, lemma_flush_eq sn b hw]
  | _ => rfl

/-! ### two base writers that differ in a dead live map -/

/-- everything of a base writer except the live header map agrees; the live maps agree as long as
    they can still be read (before WriteHeader) -/
def PassRel (a b : Base) : Prop :=
  a = { b with live := a.live } ∧ (b.wrote = false → a.live = b.live)

theorem lemma_pass_refl (b : Base) : PassRel b b := ⟨rfl, fun _ => rfl⟩

theorem lemma_pass_eq_of_unwritten (a b : Base) (h : PassRel a b) (hw : b.wrote = false) : a = b := by
  obtain ⟨h1, h2⟩ := h
  rw [h1, h2 hw]

theorem lemma_pass_cases (a b : Base) (h : PassRel a b) :
    a = b ∨ ∃ (b' : Base) (L : Hdrs), b = ({ b' with wrote := true } : Base) ∧ a = ({ b' with wrote := true, live := L } : Base) := by
  by_cases hw : b.wrote = true
  · refine Or.inr ⟨b, a.live, ?_, ?_⟩
    · rw [← hw]
    · rw [← hw]; exact h.1
  · exact Or.inl (lemma_pass_eq_of_unwritten a b h (by simpa using hw))

theorem lemma_pass_of_wrote (b : Base) (L : Hdrs) (hw : b.wrote = true) : PassRel { b with live := L } b :=
  ⟨rfl, fun h => by rw [hw] at h; exact absurd h (by simp)⟩

theorem lemma_emit_setLive (sn : Sniff) (b : Base) (L : Hdrs) (p : Bytes) :
    ({ b with live := L } : Base).emit sn p = { b.emit sn p with live := L } := by
  obtain ⟨_, _, _, _, sent, _, _, _, _⟩ := b
  cases sent <;> rfl

theorem lemma_pass_emit (sn : Sniff) (a b : Base) (p : Bytes) (h : PassRel a b) (hw : b.wrote = true) :
    PassRel (a.emit sn p) (b.emit sn p) := by
  obtain ⟨L, rfl⟩ : ∃ L, a = { b with live := L } := ⟨_, h.1⟩
  rw [lemma_emit_setLive]
  exact lemma_pass_of_wrote _ L (by rw [lemma_emit_eq]; exact hw)

theorem lemma_pass_writeHeader (a b : Base) (c : Nat) (h : PassRel a b) :
    PassRel (a.writeHeader c) (b.writeHeader c) := by
  rcases lemma_pass_cases a b h with rfl | ⟨b', L, rfl, rfl⟩
  · exact lemma_pass_refl _
  · exact lemma_pass_of_wrote { b' with wrote := true } L rfl

theorem lemma_pass_write (sn : Sniff) (a b : Base) (d : Bytes) (h : PassRel a b) :
    PassRel (a.write sn d).1 (b.write sn d).1 ∧ (a.write sn d).2 = (b.write sn d).2 := by
  rcases lemma_pass_cases a b h with rfl | ⟨b', L, rfl, rfl⟩
  · exact ⟨lemma_pass_refl _, rfl⟩
  · have e : ({ b' with wrote := true, live := L } : Base).write sn d =
        ({ (({ b' with wrote := true } : Base).write sn d).1 with live := L },
          (({ b' with wrote := true } : Base).write sn d).2) := by
      by_cases hd : d.isEmpty = true
      · simp [Base.write, hd]
      · by_cases hn : noBody b'.status = true
        · simp [Base.write, hd, hn]
        · by_cases hs : b'.sent = true
          · simp [Base.write, hd, hn, hs]
          · by_cases ho : b'.pend.length + d.length > 2048 <;> simp [Base.write, Base.emit, hd, hn, hs, ho]
    rw [e]
    exact ⟨lemma_pass_of_wrote _ L (lemma_write_snap_wrote sn _ d rfl).1, rfl⟩

theorem lemma_pass_flush (sn : Sniff) (a b : Base) (h : PassRel a b) :
    PassRel (a.flush sn) (b.flush sn) := by
  rcases lemma_pass_cases a b h with rfl | ⟨b', L, rfl, rfl⟩
  · exact lemma_pass_refl _
  · exact lemma_pass_emit sn _ _ _ (lemma_pass_of_wrote { b' with wrote := true } L rfl) rfl

theorem lemma_pass_resp (a b : Base) (h : PassRel a b) : a.resp = b.resp := by
  obtain ⟨h1, _⟩ := h
  rw [h1]
  rfl

theorem lemma_pass_step (sn : Sniff) (a b : Base) (o : Op) (h : PassRel a b) :
    PassRel (plainStep sn a o).1 (plainStep sn b o).1 ∧ (plainStep sn a o).2 = (plainStep sn b o).2 := by
  cases o with
  | setH k vs | delH k =>
    rcases lemma_pass_cases a b h with rfl | ⟨b', L, rfl, rfl⟩
    · exact ⟨lemma_pass_refl _, rfl⟩
    · exact ⟨⟨rfl, fun h => Bool.noConfusion h⟩, rfl⟩
  | writeHeader c => exact ⟨lemma_pass_writeHeader a b c h, rfl⟩
  | write d =>
    obtain ⟨r1, r2⟩ := lemma_pass_write sn a b d h
    exact ⟨r1, by simp only [plainStep, r2]⟩
  | flush => exact ⟨lemma_pass_flush sn a b h, rfl⟩
  | copy cs =>
    obtain ⟨r1, r2⟩ := lemma_copyLoop_rel PassRel (Base.write sn) (Base.write sn)
      (fun s t d hst => lemma_pass_write sn s t d hst) cs a b 0 h
    exact ⟨r1, by simp only [plainStep, r2]⟩
  | panic => exact ⟨h, rfl⟩

end Rivaas.C15
