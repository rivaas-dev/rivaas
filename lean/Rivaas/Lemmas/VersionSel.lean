import Rivaas.Lemmas.VersionStr
/-
Selection-level lemmas for C13: detector order, the detector loop, path stripping, tree selection and
lifecycle decisions of the model against the declarative definitions of `Spec/Version.lean`.
-/
namespace Rivaas.Version
open Rivaas.Version.Spec

/-! ### hypotheses of the main theorem -/

/-- what `version.NewConfig` and the option functions enforce -/
structure ValidCfg (cfg : Cfg) : Prop where
  /-- `ErrDefaultRequired` / `ErrEmptyDefaultVersion` -/
  dflt_ne : cfg.dflt ≠ []
  /-- `WithAcceptDetection` rejects a pattern without `{version}` -/
  accept_ph : ∀ p, DetOpt.accept p ∈ cfg.opts → ∃ i, index p versionPlaceholder = some i

/-- the request as `net/http` delivers it: the path begins with `/`, header values carry no control
    characters other than HTAB -/
structure ValidReq (cfg : Cfg) (req : Req) : Prop where
  path_slash : req.path.head? = some '/'
  accept_safe : ∀ v, LibVal.accept v ∈ req.lib → HeaderSafe v

/-! ### path detector -/

theorem lemma_hasSuffix_singleton (s : Bytes) (c : Char) : hasSuffix s [c] = (s.getLast? == some c) := by
  unfold hasSuffix List.isSuffixOf
  rw [List.getLast?_eq_head?_reverse]
  cases s.reverse with
  | nil => rfl
  | cons a t => simpa [List.isPrefixOf] using BEq.comm

theorem lemma_hasPrefix_take (path pfx : Bytes) : hasPrefix path pfx = true ↔ path.take pfx.length = pfx := by
  unfold hasPrefix
  rw [List.isPrefixOf_iff_prefix, List.prefix_iff_eq_take]
  exact eq_comm

/-- the oracle's prefix test is `strings.HasPrefix` -/
theorem lemma_afterPrefix (pfx path : Bytes) :
    Spec.afterPrefix pfx path = if hasPrefix path pfx then some (path.drop pfx.length) else none := by
  unfold Spec.afterPrefix
  simp only [← lemma_hasPrefix_take]

theorem lemma_extract_core (pat pfx path : Bytes) (hne : pfx ≠ []) :
    PathDet.extractFromPath { pattern := pat, pfx := pfx } path =
      (Spec.segmentAfter pfx path).map fun sr => if pfx.getLast? = some 'v' then 'v' :: sr.1 else sr.1 := by
  unfold PathDet.extractFromPath Spec.segmentAfter
  rw [lemma_afterPrefix]
  simp only [hne, decide_false, Bool.false_or]
  cases hasPrefix path pfx
  · rfl
  · simp only [Bool.not_true, Bool.false_eq_true, if_false, if_true]
    by_cases hseg : List.takeWhile (fun x => x != '/') (List.drop pfx.length path) = []
    · simp only [hseg, if_true]
      split <;> rfl
    · have hrem : List.drop pfx.length path ≠ [] := by
        intro h; rw [h] at hseg; exact hseg rfl
      simp only [hseg, hrem, if_false, lemma_hasSuffix_singleton, Option.map_some]
      by_cases hv : pfx.getLast? = some 'v' <;> simp [hv]

theorem lemma_pfx_cases (p : Bytes) :
    ((newPathDetector p).pfx = [] ∧ Spec.pathPrefix p = none) ∨
    ((newPathDetector p).pfx ≠ [] ∧ Spec.pathPrefix p = some (newPathDetector p).pfx) := by
  unfold newPathDetector Spec.pathPrefix
  cases hi : index p versionPlaceholder with
  | none => left; simp
  | some i =>
    simp only
    by_cases hnil : List.take i p = []
    · left; simp [hnil]
    · right
      have h0 : i > 0 := by
        cases i with
        | zero => simp at hnil
        | succ n => omega
      simp [h0, hnil]

theorem lemma_extractFromPath_eq (p path : Bytes) :
    (newPathDetector p).extractFromPath path = Spec.pathVersion p path := by
  unfold Spec.pathVersion
  rcases lemma_pfx_cases p with ⟨hp, hpp⟩ | ⟨hp, hpp⟩
  · simp [hpp, PathDet.extractFromPath, hp]
  · rw [hpp]
    exact lemma_extract_core _ _ path hp

theorem lemma_extractSegment_eq (d : PathDet) (path : Bytes) :
    d.extractSegment path = d.extractFromPath path := rfl

/-! ### detector order -/

def toDet : DetOpt → Det
  | .path p => .path (newPathDetector p)
  | .header n => .header n
  | .query q => .query q
  | .accept p => .accept p
  | .custom i => .custom i

theorem lemma_applyOpt {α} (acc : List (Det × α)) (x : DetOpt × α) :
    applyOpt acc x = if isCustom x.1 then (toDet x.1, x.2) :: acc else acc ++ [(toDet x.1, x.2)] := by
  obtain ⟨o, a⟩ := x
  cases o <;> simp [applyOpt, isCustom, toDet]

theorem foldl_front_back {α β} (c : α → Bool) (f : α → β) (l : List α) (acc : List β) :
    l.foldl (fun acc x => if c x then f x :: acc else acc ++ [f x]) acc =
      (l.filter c).reverse.map f ++ acc ++ (l.filter (fun x => !c x)).map f := by
  induction l generalizing acc with
  | nil => simp
  | cons x xs ih =>
    rw [List.foldl_cons, ih]
    cases hc : c x <;> simp [hc]

/-- custom detectors first (the one configured last in front), then the others in configuration order -/
theorem lemma_buildDetectors {α} (l : List (DetOpt × α)) :
    buildDetectors l = (Spec.detectionOrder l).map fun x => (toDet x.1, x.2) := by
  unfold buildDetectors Spec.detectionOrder
  rw [funext fun acc => funext (lemma_applyOpt (α := α) acc), foldl_front_back]
  simp

/-! ### the detector loop -/

theorem lemma_validate_accepted (valid : List Bytes) (v : Bytes) :
    validateVersion valid v = if Spec.accepted valid v then some v else none := by
  unfold validateVersion Spec.accepted
  by_cases hv : v = []
  · simp [hv]
  · cases valid <;> simp [hv]

/-- `notifyInvalid` is called exactly for a non-empty candidate that `validateVersion` rejects -/
theorem lemma_mem_validateEv {valid : List Bytes} {c : Bytes} {e : ObsEv} :
    e ∈ validateEv valid c ↔ e = .invalid c ∧ c ≠ [] ∧ validateVersion valid c = none := by
  unfold validateEv validateVersion
  by_cases h1 : c = []
  · rw [if_pos h1, if_pos h1]
    exact ⟨nofun, fun h => absurd h1 h.2.1⟩
  · rw [if_neg h1, if_neg h1]
    by_cases h2 : valid.length = 0
    · rw [if_pos h2, if_pos h2]
      exact ⟨nofun, fun h => nomatch h.2.2⟩
    · rw [if_neg h2, if_neg h2]
      cases h3 : valid.contains c
      · exact ⟨fun h => ⟨List.mem_singleton.1 h, h1, rfl⟩, fun h => List.mem_singleton.2 h.1⟩
      · exact ⟨nofun, fun h => nomatch h.2.2⟩

/-- `DetectVersion`: the first detection the valid list accepts, else the default -/
theorem lemma_detectLoop (valid : List Bytes) (dflt path raw : Bytes) (l : List (Det × LibVal)) :
    detectLoop valid dflt path raw l =
      ((l.filterMap (detectOne path raw)).find? (Spec.accepted valid)).getD dflt := by
  induction l with
  | nil => simp [detectLoop]
  | cons d rest ih =>
    simp only [detectLoop, List.filterMap_cons]
    cases hd : detectOne path raw d with
    | none => simp only [ih]
    | some v =>
      simp only [lemma_validate_accepted, List.find?_cons]
      cases ha : Spec.accepted valid v <;> simp [ih]

/-! ### one detector against its candidate -/

theorem lemma_queryFirst_nil (q : Bytes) : queryFirst [] q = none := rfl

theorem lemma_detectOne_eq (req : Req) (o : DetOpt) (lv : LibVal)
    (hag : agreesOne req (o, lv) = true)
    (hph : ∀ p, o = .accept p → ∃ i, index p versionPlaceholder = some i)
    (hsafe : ∀ v, lv = .accept v → HeaderSafe v) :
    detectOne req.path req.rawQuery (toDet o, lv) = Spec.candidate req (o, lv) := by
  cases o with
  | path p => exact lemma_extractFromPath_eq p req.path
  | header n =>
    cases lv with
    | header v => cases v <;> rfl
    | _ => cases hag
  | query q =>
    cases lv with
    | query has get =>
      simp only [agreesOne, Bool.and_eq_true, beq_iff_eq] at hag
      simp only [toDet, detectOne, Spec.candidate, hag.1, hag.2]
      by_cases hr : req.rawQuery = []
      · simp [hr, lemma_queryFirst_nil]
      · cases queryFirst req.rawQuery q <;> simp [hr]
    | _ => cases hag
  | accept p =>
    cases lv with
    | accept v =>
      simp only [toDet, detectOne, Spec.candidate]
      obtain ⟨i, hi⟩ := hph p rfl
      by_cases hv : v = []
      · subst hv
        simp [Spec.acceptVersion, Spec.mediaTypes, hi, Spec.splitOn, Spec.trimOWS, Spec.middle]
      · rw [if_neg hv]
        exact lemma_accept_scan_eq_std p v i hi (hsafe v rfl)
    | _ => cases hag
  | custom n =>
    cases lv with
    | custom v => cases v <;> rfl
    | _ => cases hag

theorem lemma_filterMap_congr {α β} (f g : α → Option β) (l : List α) (h : ∀ x ∈ l, f x = g x) :
    l.filterMap f = l.filterMap g :=
  (List.filterMap_map (g := id)).symm.trans
    ((congrArg (List.filterMap id) (List.map_congr_left h)).trans (List.filterMap_map (g := id)))

theorem lemma_mem_detectionOrder {α} (l : List (DetOpt × α)) (x : DetOpt × α)
    (h : x ∈ Spec.detectionOrder l) : x ∈ l := by
  unfold Spec.detectionOrder at h
  simp only [List.mem_append, List.mem_reverse, List.mem_filter] at h
  rcases h with h | h <;> exact h.1

theorem lemma_libAgrees {cfg : Cfg} {req : Req} (h : Spec.libAgrees cfg req = true) :
    cfg.opts.length = req.lib.length ∧ ∀ x ∈ cfg.opts.zip req.lib, agreesOne req x = true := by
  simpa [Spec.libAgrees] using h

theorem lemma_detectVersion_eq (cfg : Cfg) (req : Req) (hc : ValidCfg cfg) (hr : ValidReq cfg req)
    (hlib : Spec.libAgrees cfg req = true) : detectVersion cfg req = Spec.selected cfg req := by
  unfold detectVersion detectors Spec.selected
  rw [lemma_detectLoop, lemma_buildDetectors, List.filterMap_map, lemma_filterMap_congr _ (Spec.candidate req)]
  intro x hx
  have hmem := lemma_mem_detectionOrder _ x hx
  obtain ⟨o, lv⟩ := x
  obtain ⟨ho, hl⟩ := List.of_mem_zip hmem
  exact lemma_detectOne_eq req o lv ((lemma_libAgrees hlib).2 _ hmem)
    (fun p hp => hc.accept_ph p (hp ▸ ho))
    (fun v hv => hr.accept_safe v (hv ▸ hl))

theorem lemma_selected_ne_nil (cfg : Cfg) (req : Req) (hc : ValidCfg cfg) : Spec.selected cfg req ≠ [] := by
  unfold Spec.selected
  cases hf : List.find? (Spec.accepted cfg.valid)
      (List.filterMap (Spec.candidate req) (Spec.detectionOrder (cfg.opts.zip req.lib))) with
  | some v =>
    have := List.find?_some hf
    unfold Spec.accepted at this
    simp only [Bool.and_eq_true, bne_iff_ne, ne_eq] at this
    simpa using this.1
  | none => simpa using hc.dflt_ne

/-! ### path stripping -/

def pdOf : Det → Option PathDet
  | .path pd => some pd
  | _ => none

theorem lemma_extractPathSegment (path : Bytes) (dets : List Det) :
    extractPathSegment path dets = (dets.filterMap pdOf).findSome? (·.extractSegment path) := by
  induction dets with
  | nil => rfl
  | cons d ds ih =>
    cases d with
    | path pd =>
      simp only [extractPathSegment, pdOf, List.filterMap_cons, List.findSome?_cons]
      cases pd.extractSegment path with
      | none => exact ih
      | some x => rfl
    | _ => exact ih

/-- `StripPathVersion`: the result of the first path detector that changes the path -/
theorem lemma_stripPathVersion (path : Bytes) (dets : List Det) :
    stripPathVersion path dets = (((dets.filterMap pdOf).map (·.stripVersion path)).find? (· != path)).getD path := by
  induction dets with
  | nil => rfl
  | cons d ds ih =>
    cases d with
    | path pd =>
      simp only [stripPathVersion, pdOf, List.filterMap_cons, List.map_cons, List.find?_cons]
      split
      · rename_i h; simp [h]
      · rename_i h; simp only [h]; exact ih
    | _ => exact ih

theorem lemma_filterMap_detectionOrder {α β} (f : DetOpt × α → Option β) (hf : ∀ x, isCustom x.1 = true → f x = none)
    (l : List (DetOpt × α)) : (Spec.detectionOrder l).filterMap f = l.filterMap f := by
  unfold Spec.detectionOrder
  rw [List.filterMap_append, List.filterMap_eq_nil_iff.2 fun x hx => hf x (List.mem_filter.1 (List.mem_reverse.1 hx)).2,
    List.nil_append, List.filterMap_filter]
  exact lemma_filterMap_congr _ _ l fun x _ => by cases h : isCustom x.1 <;> simp [h, hf x]

theorem lemma_pathDets_build (cfg : Cfg) (req : Req) (hlen : cfg.opts.length = req.lib.length) :
    ((detectors cfg req).map (·.1)).filterMap pdOf = (Spec.pathPatterns cfg).map newPathDetector := by
  unfold detectors Spec.pathPatterns
  rw [lemma_buildDetectors, List.map_map, List.filterMap_map,
    lemma_filterMap_detectionOrder _ fun ⟨o, _⟩ hx => by cases o <;> first | rfl | cases hx]
  conv => rhs; rw [← List.map_fst_zip (l₂ := req.lib) (Nat.le_of_eq hlen), List.filterMap_map, List.map_filterMap]
  exact lemma_filterMap_congr _ _ _ fun ⟨o, _⟩ _ => by cases o <;> rfl

/-- `StripVersion` removes the prefix and the segment after it as the oracle's `stripAfter` does, and leaves every
    other path alone -/
theorem lemma_stripVersion_eq (d : PathDet) (path : Bytes) :
    d.stripVersion path = (Spec.stripAfter d.pfx path).getD path := by
  obtain ⟨pat, pfx⟩ := d
  unfold PathDet.stripVersion Spec.stripAfter
  rw [lemma_afterPrefix]
  simp only
  cases hasPrefix path pfx
  · rfl
  · simp only [Bool.not_true, Bool.false_eq_true, if_false, if_true]
    by_cases hlen : pfx.length ≥ path.length
    · have : List.drop pfx.length path = [] := List.drop_eq_nil_of_le hlen
      simp [hlen, this]
    · have hafter : List.drop pfx.length path ≠ [] := by
        simpa using Nat.lt_of_not_le hlen
      simp only [hlen, hafter, if_false]
      cases hi : indexByte (List.drop pfx.length path) '/' with
      | none => simp [(lemma_indexByte_none _ _ hi).2]
      | some e =>
        obtain ⟨-, hdrop, hne⟩ := lemma_indexByte_some _ _ _ hi
        simp [hdrop, hne]

theorem lemma_stripVersion_stripBy (p path : Bytes) (hs : path.head? = some '/') :
    (newPathDetector p).stripVersion path = (Spec.stripBy path p).getD path := by
  rw [lemma_stripVersion_eq]
  unfold Spec.stripBy
  rcases lemma_pfx_cases p with ⟨hp, hpp⟩ | ⟨hp, hpp⟩
  · rw [hp, hpp]
    cases path with
    | nil => rfl
    | cons c cs =>
      obtain rfl : c = '/' := by simpa using hs
      simp [Spec.stripAfter, Spec.afterPrefix]
  · rw [hpp]

theorem lemma_afterPrefix_some {pfx path after : Bytes} (h : Spec.afterPrefix pfx path = some after) :
    path = pfx ++ after := by
  unfold Spec.afterPrefix at h
  split at h
  · rename_i ht
    cases h
    have := List.take_append_drop pfx.length path
    rw [ht] at this
    exact this.symm
  · cases h

theorem lemma_stripBy_of_segment {p path seg rest : Bytes} (h : Spec.versionSegment p path = some (seg, rest)) :
    Spec.stripBy path p = some (if rest = [] then ['/'] else rest) ∧ (if rest = [] then ['/'] else rest) ≠ path := by
  unfold Spec.versionSegment at h
  unfold Spec.stripBy
  cases hp : Spec.pathPrefix p with
  | none => rw [hp] at h; cases h
  | some pfx =>
    have hpl : 0 < pfx.length := List.length_pos_iff.2 <| by
      unfold Spec.pathPrefix at hp
      split at hp
      · cases hp
      · split at hp <;> cases hp
        assumption
    simp only [hp, Spec.segmentAfter, Spec.stripAfter] at h ⊢
    cases ha : Spec.afterPrefix pfx path with
    | none => rw [ha] at h; cases h
    | some after =>
      obtain rfl := lemma_afterPrefix_some ha
      simp only [ha] at h ⊢
      split at h
      · cases h
      · rename_i hseg
        cases h
        have hafter : after ≠ [] := fun e => hseg (by rw [e]; rfl)
        refine ⟨by rw [if_neg hafter], fun heq => ?_⟩
        -- `path = pfx ++ seg ++ rest` with `pfx` and `seg` non-empty: it is longer than `rest`, and longer than "/"
        have hsl := List.length_pos_iff.2 hseg
        have hal := congrArg List.length (List.takeWhile_append_dropWhile (p := (· != '/')) (l := after))
        have hl := congrArg List.length heq
        rw [List.length_append] at hal hl
        split at hl
        · have : 1 = pfx.length + after.length := hl
          omega
        · omega

theorem lemma_strip_mem (path : Bytes) (hs : path.head? = some '/') (pats : List Bytes)
    (hex : ∃ p ∈ pats, (Spec.versionSegment p path).isSome) :
    ((((pats.map newPathDetector).map (·.stripVersion path)).find? (· != path)).getD path) ∈
      pats.filterMap (Spec.stripBy path) := by
  cases hf : ((pats.map newPathDetector).map (·.stripVersion path)).find? (· != path) with
  | none =>
    obtain ⟨p, hp, hseg⟩ := hex
    obtain ⟨⟨seg, rest⟩, hsr⟩ := Option.isSome_iff_exists.1 hseg
    have hne := (lemma_stripBy_of_segment hsr).2
    have := List.find?_eq_none.1 hf _ (List.mem_map.2 ⟨_, List.mem_map.2 ⟨p, hp, rfl⟩, rfl⟩)
    rw [lemma_stripVersion_stripBy p path hs, (lemma_stripBy_of_segment hsr).1] at this
    exact absurd (by simpa using this) hne
  | some x =>
    obtain ⟨_, hx, rfl⟩ := List.mem_map.1 (List.mem_of_find?_eq_some hf)
    obtain ⟨p, hp, rfl⟩ := List.mem_map.1 hx
    have hne := List.find?_some hf
    rw [lemma_stripVersion_stripBy p path hs] at hne ⊢
    cases h : Spec.stripBy path p with
    | none => simp [h] at hne
    | some r => exact List.mem_filterMap.2 ⟨p, hp, h⟩

theorem lemma_pathVersion_isSome (p path : Bytes) :
    (Spec.pathVersion p path).isSome = (Spec.versionSegment p path).isSome := by
  unfold Spec.pathVersion Spec.versionSegment
  cases Spec.pathPrefix p with
  | none => rfl
  | some pfx => simp

/-- the routing path `processVersioning` computes is one the oracle admits -/
theorem lemma_routingPath_mem (cfg : Cfg) (req : Req) (hr : ValidReq cfg req)
    (hlen : cfg.opts.length = req.lib.length) :
    (match extractPathSegment req.path ((detectors cfg req).map (·.1)) with
      | some _ => stripPathVersion req.path ((detectors cfg req).map (·.1))
      | none => req.path) ∈ Spec.routingPaths cfg req.path := by
  rw [lemma_extractPathSegment, lemma_stripPathVersion, lemma_pathDets_build cfg req hlen]
  unfold Spec.routingPaths
  have hany : (Spec.pathPatterns cfg).any (fun p => (Spec.versionSegment p req.path).isSome) =
      (((Spec.pathPatterns cfg).map newPathDetector).findSome? (·.extractSegment req.path)).isSome := by
    rw [List.isSome_findSome?, List.any_map]
    congr 1
    funext p
    simp [lemma_extractSegment_eq, lemma_extractFromPath_eq, lemma_pathVersion_isSome]
  rw [hany]
  cases hfind : ((Spec.pathPatterns cfg).map newPathDetector).findSome? (·.extractSegment req.path) with
  | none => simp
  | some v =>
    rw [hfind] at hany
    simp only [Option.isSome_some, if_true]
    exact lemma_strip_mem req.path hr.path_slash _ (List.any_eq_true.1 hany)

/-! ### trees -/

theorem lemma_treeLookup_eq (routes : List Route) (ver : Option Bytes) (method path : Bytes) :
    treeLookup (treeRoutes routes ver method) path = Spec.routed routes ver method path := by
  have hc : ∀ p, (treeRoutes routes ver method).contains p =
      routes.any (fun r => r.ver == ver && r.method == method && r.path == p) := fun p => by
    simp only [treeRoutes, List.contains_map, List.any_filter, BEq.comm (b := p)]
  unfold treeLookup Spec.routed
  rw [hc, hc]
  by_cases h0 : path = []
  · subst h0
    rfl
  · by_cases h1 : path = ['/']
    · subst h1
      rfl
    · rw [if_neg (by simp [h0, h1]), if_neg h0]

theorem lemma_selectRoutingTree_eq (cfg : Cfg) (routes : List Route) (method ver : Bytes)
    (hv : ver ≠ []) (hd : cfg.dflt ≠ []) :
    selectRoutingTree cfg routes method ver = Spec.servingTree cfg routes method ver := by
  have hte : ∀ v, treeExists routes v method = Spec.hasRoutes routes v method := fun _ => rfl
  unfold selectRoutingTree Spec.servingTree
  rw [if_neg hv, hte, hte]
  cases hno : Spec.hasRoutes routes (some ver) method
  · by_cases he : ver = cfg.dflt
    · subst he
      simp [hno]
    · simp [hd, he]
  · rfl

/-! ### lifecycle, and `processVersioning` as a whole -/

theorem lemma_getLifecycle_eq (cfg : Cfg) (v : Bytes) :
    getLifecycle cfg.lifecycles v = Spec.lifecycleOf cfg v := by
  unfold getLifecycle Spec.lifecycleOf
  rw [List.getLast?_filter]

theorem lemma_shouldApply (cfg : Cfg) (dets : List Det) (path : Bytes) (hd : cfg.dflt ≠ []) :
    shouldApplyVersioning cfg dets path = true := by
  unfold shouldApplyVersioning
  split
  · rfl
  · split
    · rfl
    · simpa using hd

/-- `processVersioning` in the oracle's terms: the selected version, the tree that serves it, and a routing path
    the oracle admits -/
theorem lemma_processVersioning (cfg : Cfg) (routes : List Route) (req : Req) (hc : ValidCfg cfg)
    (hr : ValidReq cfg req) (hlib : Spec.libAgrees cfg req = true) :
    ∃ rp ∈ Spec.routingPaths cfg req.path, processVersioning cfg routes req =
      { version := Spec.selected cfg req, routingPath := rp,
        tree := Spec.servingTree cfg routes req.method (Spec.selected cfg req) } := by
  refine ⟨_, lemma_routingPath_mem cfg req hr (lemma_libAgrees hlib).1, ?_⟩
  unfold processVersioning
  simp only [lemma_shouldApply cfg _ req.path hc.dflt_ne, Bool.not_true, Bool.false_eq_true, if_false,
    lemma_detectVersion_eq cfg req hc hr hlib,
    lemma_selectRoutingTree_eq cfg routes req.method _ (lemma_selected_ne_nil cfg req hc) hc.dflt_ne]
  rfl

end Rivaas.Version
