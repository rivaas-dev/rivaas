import Rivaas.Lemmas.RadixServe
/-
From the registration script to the method trees: `build` registers the oracle's routes one by one.
-/
namespace Rivaas.RadixL
open Rivaas.Route Rivaas.Radix Rivaas.Match Rivaas.MatchL

theorem concatPrefix_eq (a b : Bytes) : concatPrefix a b = a ++ b := by
  unfold concatPrefix
  by_cases ha : a.length = 0
  · have : a = [] := List.eq_nil_of_length_eq_zero ha
    simp [this]
  · by_cases hb : b.length = 0
    · have : b = [] := List.eq_nil_of_length_eq_zero hb
      simp [ha, this]
    · simp [ha, hb]

theorem flatten_groups_sub (g : Reg) :
    concatPrefix (g.groups.foldl concatPrefix []) g.path = g.groups.foldr (· ++ ·) g.path := by
  rw [concatPrefix_eq]
  have : ∀ (l : List Bytes) (acc : Bytes), l.foldl concatPrefix acc ++ g.path = acc ++ l.foldr (· ++ ·) g.path := by
    intro l
    induction l with
    | nil => intro acc; rfl
    | cons a rest ih =>
      intro acc
      simp only [List.foldl_cons, List.foldr_cons, concatPrefix_eq, ih, List.append_assoc]
  simpa using this g.groups []

theorem trimSuffixSlash_eq (s : Bytes) : trimSuffixSlash s = if s.getLast? = some '/' then s.dropLast else s := by
  unfold trimSuffixSlash
  rw [← List.head?_reverse]
  cases hr : s.reverse with
  | nil => rfl
  | cons c r =>
    have hs : s = r.reverse ++ [c] := by
      have := congrArg List.reverse hr
      simpa using this
    by_cases hc : c = '/'
    · subst hc
      simp [hs]
    · have : ¬ (some c = some '/') := by simpa using hc
      simp only [List.head?_cons, this, if_false]
      split
      · rename_i r' heq
        injection heq with h1 _
        exact absurd h1 hc
      · rfl

/-- Registration through groups and through Mount is registration of the text the oracle reads
(`Group.Group` / `Group.addRoute` only concatenate; `Mount` / `mountRoute` normalise the prefix and put it in
front, `/` standing for the prefix itself). -/
theorem flatten_groups (g : Reg) : fullPathOf g = regText g := by
  unfold fullPathOf regText
  simp only [flatten_groups_sub]
  cases g.mount with
  | none => rfl
  | some pre =>
    simp only [mountPath, trimSuffixSlash_eq]
    have hh : ∀ p : Bytes, (p = [] ∨ p.head? ≠ some '/') ↔ ¬ (p.head? = some '/') := by
      intro p
      constructor
      · rintro (h | h)
        · subst h; simp
        · exact h
      · intro h; exact Or.inr h
    generalize (if pre.getLast? = some '/' then pre.dropLast else pre) = q
    by_cases h1 : q.head? = some '/'
    · have hq : q ≠ [] := by intro e; rw [e] at h1; simp at h1
      simp [h1, hq]
    · simp [h1]

def registerR (r0 : Router) (r : Route) : Router :=
  { r0 with trees := setTree r.method (addRouteOf ((treeOf r0 r.method).getD Tree.empty) r) r0.trees }

theorem specRoutesFrom_cons (i : Nat) (g : Reg) (gs : List Reg) (R : List Route) (h : specRoutesFrom i (g :: gs) = some R) :
    ∃ p rest, parsePattern (regText g) = some p ∧ specRoutesFrom (i + 1) gs = some rest ∧
      R = { method := g.method, text := regText g, pat := p, cons := g.cons, rid := i } :: rest := by
  simp only [specRoutesFrom] at h
  cases hp : parsePattern (regText g) with
  | none => simp [hp] at h
  | some p =>
    cases hr : specRoutesFrom (i + 1) gs with
    | none => simp [hp, hr] at h
    | some rest =>
      simp only [hp, hr, Option.some.injEq] at h
      exact ⟨p, rest, rfl, rfl, h.symm⟩

theorem buildFrom_eq (script : List Reg) : ∀ (i : Nat) (R : List Route), specRoutesFrom i script = some R →
    ∀ r0 : Router, buildFrom false r0 i script = R.foldl registerR r0 := by
  induction script with
  | nil =>
    intro i R h r0
    simp only [specRoutesFrom, Option.some.injEq] at h
    subst h; rfl
  | cons g gs ih =>
    intro i R h r0
    obtain ⟨p, rest, _, hr, rfl⟩ := specRoutesFrom_cons i g gs R h
    simp only [buildFrom, List.foldl_cons]
    rw [ih (i + 1) rest hr]
    congr 1
    simp only [register, registerR, addRouteOf, flatten_groups]

def getT (trees : List (Bytes × Tree)) (m : Bytes) : Option Tree := (trees.find? (·.1 = m)).map (·.2)

theorem getT_eq_lookup (trees : List (Bytes × Tree)) (m : Bytes) : getT trees m = trees.lookup m := by
  induction trees with
  | nil => rfl
  | cons a rest ih =>
    obtain ⟨k, v⟩ := a
    rw [List.lookup_cons_ite, ← ih]
    by_cases h : k = m <;> simp [getT, h, Ne.symm]

theorem getT_setTree (m m' : Bytes) (t : Tree) (trees : List (Bytes × Tree)) :
    getT (setTree m' t trees) m = if m = m' then some t else getT trees m := by
  simpa [getT_eq_lookup] using List.lookup_set (fun l k v => setTree k v l) (fun _ _ => rfl)
    (fun k0 v0 rest k v => by by_cases h : k0 = k <;> simp [setTree, h, Ne.symm]) trees m' m t

theorem treeOf_eq (r : Router) (m : Bytes) (hm : m ∈ stdMethods) : treeOf r m = getT r.trees m := by
  simp [treeOf, hm, getT]

theorem treeOf_fold (R : List Route) (m : Bytes) (hm : m ∈ stdMethods) :
    ∀ r0 : Router, treeOf (R.foldl registerR r0) m =
      if R.filter (·.method = m) = [] then treeOf r0 m
      else some ((R.filter (·.method = m)).foldl addRouteOf ((treeOf r0 m).getD Tree.empty)) := by
  induction R with
  | nil => intro r0; simp
  | cons r rest ih =>
    intro r0
    simp only [List.foldl_cons]
    rw [ih (registerR r0 r)]
    have hstep : treeOf (registerR r0 r) m =
        if m = r.method then some (addRouteOf ((treeOf r0 r.method).getD Tree.empty) r) else treeOf r0 m := by
      rw [treeOf_eq _ _ hm, treeOf_eq _ _ hm]
      simp only [registerR]
      rw [getT_setTree]
    rw [hstep]
    by_cases hrm : r.method = m
    · subst hrm
      simp only [if_true, List.filter_cons, decide_true, if_true, Option.getD_some, List.foldl_cons]
      by_cases hre : rest.filter (·.method = r.method) = []
      · simp [hre]
      · simp [hre]
    · have hmr : ¬ m = r.method := fun e => hrm e.symm
      simp only [hmr, if_false, List.filter_cons, hrm, decide_false, Bool.false_eq_true]

theorem noRoute_fold (R : List Route) (r0 : Router) : (R.foldl registerR r0).noRoute = r0.noRoute :=
  List.foldlRecOn (motive := fun x : Router => x.noRoute = r0.noRoute) R registerR rfl fun _ hb _ _ => hb

theorem treeOf_build (noRoute : Bool) (script : List Reg) (R : List Route) (hR : specRoutes script = some R)
    (m : Bytes) (hm : m ∈ stdMethods) :
    treeOf (build noRoute script) m =
      if R.filter (·.method = m) = [] then none else some (treeFor R m) := by
  unfold build
  rw [buildFrom_eq script 0 R hR, treeOf_fold R m hm]
  have : treeOf (⟨[], noRoute⟩ : Router) m = none := by simp [treeOf, hm]
  rw [this]
  rfl

end Rivaas.RadixL
