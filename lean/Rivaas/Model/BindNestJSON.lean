import Rivaas.Model.Bind
/-
C04 — setNestedStructWithDepth's shortcut: a nested struct field whose *own* key carries a value that
looks like a JSON object or array and that `json.Unmarshal` accepts for the field is that decoded
struct; the dotted keys, the defaults and the limits inside it play no part. What `encoding/json`
makes of the string is shipped (`PEntry.nj`). `bindJ` is `bind` with this step in front of every nested
bind, behind the depth test setNestedStructWithDepth makes first (after the fix for K04k; as shipped the shortcut came
before any depth test: `fieldActionJAsIs`); where no shipped entry says a string decodes, it *is* `bind`
(`bindJ_eq_bind`), so everything proved about `bind` carries over to the cases without a shortcut. Core Lean only.
-/
namespace Rivaas.Bind

def lastB : Bytes → Option Char
  | [] => none
  | [c] => some c
  | _ :: r => lastB r

/-- "looks like JSON": trimmed, `{…}` or `[…]` -/
def looksJSON (s : Bytes) : Bool :=
  let t := trimSpace s
  (t.head? == some '{' && lastB t == some '}') || (t.head? == some '[' && lastB t == some ']')

/-- the struct decoded from the value under the nested struct's own key; `g` is the nested struct's prefix
    getter: its own key is the prefix without the final dot -/
def nestShortcut (P : Params) (g : Getter) : Option Val :=
  let v := baseGet g.src g.pre.dropLast
  if v != [] && looksJSON v then (P v).nj else none

/-- one iteration of the loop with the shortcut of setNestedStructWithDepth in front of the nested bind: a nested struct
    field *within the depth limit* whose own key holds a JSON value the decoder accepts *is* that value -/
def fieldActionJ (P : Params) (cfg : Cfg) (nest : Nest) (g : Getter) (depth : Nat) (f : FieldInfo) (cur : Val) :
    Val ⊕ Stop :=
  -- after the fix for K04k: the depth test of setNestedStructWithDepth comes first
  if !isMapTy f.ty && isStructTy f.ty && !decide (cfg.maxDepth < depth + 1) then
    match nestShortcut P (g.push f.tagName) with
    | some dv => .inl (rewrap f.ty dv)
    | none => fieldAction P cfg nest g depth f cur
  else fieldAction P cfg nest g depth f cur

/-- as shipped (K04k): the shortcut was taken before any depth test -/
def fieldActionJAsIs (P : Params) (cfg : Cfg) (nest : Nest) (g : Getter) (depth : Nat) (f : FieldInfo) (cur : Val) :
    Val ⊕ Stop :=
  if !isMapTy f.ty && isStructTy f.ty then
    match nestShortcut P (g.push f.tagName) with
    | some dv => .inl (rewrap f.ty dv)
    | none => fieldAction P cfg nest g depth f cur
  else fieldAction P cfg nest g depth f cur

/-- `loopWith` with `fieldActionJ` -/
def loopWithJ (P : Params) (cfg : Cfg) (nest : Nest) (sty : List Fld) :
    List FieldInfo → Val → Getter → Nat → Outcome
  | [], elem, _, _ => .ok elem
  | f :: rest, elem, g, depth =>
    match reach elem f.index with
    | .bad => .panic
    | _ =>
      if !wants g f then loopWithJ P cfg nest sty rest elem g depth
      else
        let elem1 := updAt (.struct sty) elem f.index id
        match reach elem1 f.index with
        | .ok cur =>
          match fieldActionJ P cfg nest g depth f cur with
          | .inl nv => loopWithJ P cfg nest sty rest (updAt (.struct sty) elem1 f.index (fun _ => nv)) g depth
          | .inr o => o.out
        | _ => .panic

def bindAtJ (P : Params) (cfg : Cfg) (tag : Tag) : Nat → Nest
  | 0 => fun sty elem g depth =>
    loopWithJ P cfg (fun _ _ _ _ => .err .depth) sty (flatten P tag sty) elem g depth
  | n + 1 => fun sty elem g depth =>
    loopWithJ P cfg (bindAtJ P cfg tag n) sty (flatten P tag sty) elem g depth

def bindJ (P : Params) (cfg : Cfg) (tag : Tag) (ty : Ty) (init : Val) (src : Src) : Outcome :=
  match ty with
  | .struct fs => bindAtJ P cfg tag cfg.maxDepth fs init { src := src } 0
  | _ => .err .conv

theorem lemma_nestShortcut_none (P : Params) (h : ∀ s, (P s).nj = none) (g : Getter) : nestShortcut P g = none := by
  simp only [nestShortcut, h]
  split <;> rfl

theorem lemma_fieldActionJ_eq (P : Params) (cfg : Cfg) (nest : Nest) (h : ∀ s, (P s).nj = none) (g : Getter) (depth : Nat)
    (f : FieldInfo) (cur : Val) : fieldActionJ P cfg nest g depth f cur = fieldAction P cfg nest g depth f cur := by
  unfold fieldActionJ
  split
  · simp only [lemma_nestShortcut_none P h]
  · rfl

theorem lemma_loopWithJ_eq (P : Params) (cfg : Cfg) (nest : Nest) (sty : List Fld) (h : ∀ s, (P s).nj = none) :
    ∀ (fis : List FieldInfo) (elem : Val) (g : Getter) (depth : Nat),
      loopWithJ P cfg nest sty fis elem g depth = loopWith P cfg nest sty fis elem g depth
  | [], _, _, _ => rfl
  | f :: rest, elem, g, depth => by
    have ih := lemma_loopWithJ_eq P cfg nest sty h rest
    unfold loopWithJ loopWith
    simp only [lemma_fieldActionJ_eq P cfg nest h, ih]
    -- what is left differs in the names of the `match` auxiliaries only
    rfl

theorem lemma_bindAtJ_eq (P : Params) (cfg : Cfg) (tag : Tag) (h : ∀ s, (P s).nj = none) :
    ∀ n, bindAtJ P cfg tag n = bindAt P cfg tag n
  | 0 => by
    funext sty elem g depth
    simp only [bindAtJ, bindAt, lemma_loopWithJ_eq P cfg _ sty h]
  | n + 1 => by
    have ih := lemma_bindAtJ_eq P cfg tag h n
    funext sty elem g depth
    simp only [bindAtJ, bindAt, ih, lemma_loopWithJ_eq P cfg _ sty h]

end Rivaas.Bind
