import Rivaas.Model.OpenAPIText
/-
C07 — executable model of OpenAPI generation as it is in /repo now (after the `fix:` commits K07a–K07j).

Follows, statement by statement:
  openapi/internal/schema/common.go     walkFields(+visiting), schemaName, sanitizeComponentName,
                                        parseJSONName, isFieldRequired
  openapi/internal/schema/generator.go  Generate, guard, structSchema, GenerateProjected,
                                        applyValidationConstraints
  openapi/internal/schema/introspect.go IntrospectRequest, extractParamsFromTag, isParamRequired, inferFormat
  openapi/internal/build/builder.go     Build, buildOperation, paramSpecToParameter, extractPathParams,
                                        convertPath, generateFromMethodAndPath, singularize, capitalize
  openapi/validate/path.go              ValidatePath
  openapi/validate/validate.go          ValidateResponseCode
  openapi/internal/export/schema30.go, schema31.go, spec_v30.go, spec_v31.go  (projection of the members
                                        the generator can set)
  openapi/generate.go                   Generate (version switch, validator hook), convertOperation

Go types travel as `Ty` terms produced by the harness from `reflect` (reflect is a parameter): every
struct type (named or anonymous) and every named pointer/slice/array/map type has an identity `id`
and a definition in the environment; named primitive types are inlined as their kind.

Core Lean only.
-/
namespace Rivaas.OpenAPI

/-! ## Go types as seen through `reflect` -/

inductive PKind
  | bool | int | int8 | int16 | int32 | int64 | uint | uint8 | uint16 | uint32 | uint64
  | float32 | float64 | string | iface | other
  deriving DecidableEq, Repr, Inhabited

/-- what `reflect.StructField` tells about a field: name, exportedness and `Tag.Get` of the tags read -/
structure FieldMeta where
  name : B
  exported : Bool
  json : B
  validate : B
  query : B
  path : B
  header : B
  cookie : B
  dflt : B := []      -- Tag.Get("default")
  style : B := []     -- Tag.Get("style")
  explode : B := []   -- Tag.Get("explode")
  typeIs : B := []    -- type identity after one pointer level: "ip" (net.IP), "url" (url.URL) or ""
  docT : B := []      -- Tag.Get("doc")
  exampleT : B := []  -- Tag.Get("example")
  enumT : B := []     -- Tag.Get("enum")
  formatT : B := []   -- Tag.Get("format")
  deriving DecidableEq, Repr, Inhabited

inductive Ty
  | prim (k : PKind)
  | time                          -- reflect.TypeFor[time.Time]()
  | ptr (t : Ty)
  | slice (t : Ty)
  | array (t : Ty)
  | map (strKey : Bool) (t : Ty)  -- strKey: t.Key().Kind() == reflect.String
  | named (id : Nat)              -- a struct type (named or anonymous) or a named ptr/slice/array/map type
  deriving DecidableEq, Repr, Inhabited

inductive Field
  | field (m : FieldMeta) (t : Ty)
  | embed (id : Nat)              -- anonymous field whose type (after one pointer) is the struct `id`
  deriving DecidableEq, Repr, Inhabited

inductive Def
  | struct (name pkgPath : B) (fs : List Field)   -- t.Name(), t.PkgPath(), fields in declaration order
  | alias (t : Ty)                                -- named ptr/slice/array/map type: its unnamed structure
  deriving DecidableEq, Repr, Inhabited

abbrev Env := List (Nat × Def)

def Env.keys (env : Env) : List Nat := env.map (·.1)

/-- number of environment entries not yet in `seen` (termination measure) -/
def unseen (env : Env) (seen : List Nat) : Nat := (env.keys.filter (fun k => !seen.contains k)).length

theorem mem_keys_of_lookup {env : Env} {id : Nat} {d : Def} (h : env.lookup id = some d) : id ∈ env.keys := by
  induction env with
  | nil => simp [List.lookup] at h
  | cons e rest ih =>
    obtain ⟨k, v⟩ := e
    simp only [Env.keys, List.map_cons, List.mem_cons]
    by_cases hk : id = k
    · exact Or.inl hk
    · right
      have : (id == k) = false := by simpa using hk
      simp only [List.lookup, this] at h
      exact ih h

theorem filter_len_le (l : List Nat) (p q : Nat → Bool) (himp : ∀ x, p x = true → q x = true) :
    (l.filter p).length ≤ (l.filter q).length := by
  rw [← List.countP_eq_length_filter, ← List.countP_eq_length_filter]
  exact List.countP_mono_left fun x _ => himp x

theorem filter_len_lt (l : List Nat) (p q : Nat → Bool) (himp : ∀ x, p x = true → q x = true)
    (a : Nat) (ha : a ∈ l) (hq : q a = true) (hp : p a = false) :
    (l.filter p).length < (l.filter q).length := by
  obtain ⟨l1, l2, rfl⟩ := List.append_of_mem ha
  have h1 := filter_len_le l1 p q himp
  have h2 := filter_len_le l2 p q himp
  simp only [List.filter_append, List.filter_cons, hp, hq, List.length_append, List.length_cons, if_true,
    Bool.false_eq_true, if_false]
  omega

theorem filter_unseen_lt (keys seen : List Nat) (id : Nat) (h1 : id ∈ keys) (h2 : id ∉ seen) :
    (keys.filter (fun k => !(id :: seen).contains k)).length < (keys.filter (fun k => !seen.contains k)).length := by
  apply filter_len_lt keys _ _ _ id h1
  · simpa using h2
  · simp
  · intro x hx
    simp only [List.contains_cons, Bool.not_or, Bool.and_eq_true, Bool.not_eq_eq_eq_not, Bool.not_true] at hx
    simpa using hx.2

theorem unseen_lt {env : Env} {seen : List Nat} {id : Nat} {d : Def}
    (h1 : env.lookup id = some d) (h2 : id ∉ seen) : unseen env (id :: seen) < unseen env seen :=
  filter_unseen_lt env.keys seen id (mem_keys_of_lookup h1) h2

/-! ## walkFields -/

/-- `walkFieldsVisiting`: the fields `fn` is called with, in order. Embedded structs are flattened;
    a struct already being walked contributes nothing (K07j). -/
def flatten (env : Env) (visiting : List Nat) (fs : List Field) : List (FieldMeta × Ty) :=
  match fs with
  | [] => []
  | .field m t :: rest => (m, t) :: flatten env visiting rest
  | .embed id :: rest =>
    (if _h : id ∈ visiting then []
     else
      match _h2 : env.lookup id with
      | some (.struct _ _ efs) => flatten env (id :: visiting) efs
      | _ => []) ++ flatten env visiting rest
termination_by (unseen env visiting, fs.length)
decreasing_by
  · exact Prod.Lex.right _ (by simp)
  · exact Prod.Lex.left _ _ (unseen_lt _h2 _h)
  · exact Prod.Lex.right _ (by simp)

/-! ## schemaName -/

def nameByteOK (c : Char) : Bool :=
  ('a' ≤ c && c ≤ 'z') || ('A' ≤ c && c ≤ 'Z') || ('0' ≤ c && c ≤ '9') || c = '.' || c = '_' || c = '-'

/-- `sanitizeComponentName` (K07c) -/
def sanitize (name : B) : B := name.map fun c => if nameByteOK c then c else '_'

def lastSeg (pkgPath : B) : B := ((splitOn '/' pkgPath).getLast?).getD []

/-- `schemaName` of common.go -/
def schemaName (name pkgPath : B) : B :=
  if name = [] then []
  else if pkgPath = [] then sanitize name
  else
    let pkgName := lastSeg pkgPath
    if pkgName = [] ∨ pkgName = name then sanitize name
    else sanitize (pkgName ++ s "." ++ name)

/-- as shipped before K07c: no sanitising -/
def schemaNameAsIs (name pkgPath : B) : B :=
  if name = [] then []
  else if pkgPath = [] then name
  else
    let pkgName := lastSeg pkgPath
    if pkgName = [] ∨ pkgName = name then name
    else pkgName ++ s "." ++ name

/-! ## the intermediate representation (`model.Schema`) -/

inductive Kind | none | boolean | integer | number | string | object | array
  deriving DecidableEq, Repr, Inhabited

/-- a value `parseValue` produces from a tag (the `default` of a parameter schema) -/
inductive DV
  | str (v : B)
  | num (v : B)       -- as rendered
  | bool (v : Bool)
  deriving DecidableEq, Repr, Inhabited

/-- the scalar members of `model.Schema` the generator can set -/
structure Head where
  kind : Kind := .none
  nullable : Bool := false
  format : B := []
  contentEncoding : B := []
  exampleV : B := []                      -- `Example any`: only the constant string of time.Time occurs
  enum : List B := []
  pattern : B := []
  minimum : Option (Nat × Bool) := none  -- (value, exclusive)
  maximum : Option (Nat × Bool) := none
  minLength : Option Nat := none
  maxLength : Option Nat := none
  required : List B := []
  dflt : Option DV := none               -- `Default any` (from the `default` tag of a parameter field)
  description : B := []                  -- `Description` (from the `doc` tag of a struct field)
  deriving DecidableEq, Repr, Inhabited

mutual
  /-- a schema tree: either a `$ref` (all sibling members are dropped by both projections) or a node -/
  inductive Tree (α : Type) where
    | ref (r : B)
    | node (h : α) (items : OTree α) (props : PTree α) (addl : OTree α)
  inductive OTree (α : Type) where
    | none
    | some (t : Tree α)
  inductive PTree (α : Type) where
    | nil
    | cons (k : B) (t : Tree α) (rest : PTree α)
end

abbrev IR := Tree Head

def Tree.modHead {α} (f : α → α) : Tree α → Tree α
  | .ref r => .ref r
  | .node h i p a => .node (f h) i p a

/-- `s.Properties[k] = v` -/
def PTree.set {α} (k : B) (v : Tree α) : PTree α → PTree α
  | .nil => .cons k v .nil
  | .cons k' v' rest => if k' = k then .cons k v rest else .cons k' v' (PTree.set k v rest)

def refPrefix : B := s "#/components/schemas/"

def leaf (h : Head) : IR := .node h .none .nil .none
def objectSchema : IR := leaf { kind := .object }
def refTo (name : B) : IR := .ref (refPrefix ++ name)

/-- the constant example of K07b -/
def timeExample : B := s "2006-01-02T15:04:05Z"
def timeSchema : IR := leaf { kind := .string, format := s "date-time", exampleV := timeExample }
/-- as shipped before K07b: `time.Now().Format(time.RFC3339)` -/
def timeSchemaAsIs (now : B) : IR := leaf { kind := .string, format := s "date-time", exampleV := now }

def bytesSchema : IR := leaf { kind := .string, contentEncoding := s "base64" }

def primSchema : PKind → IR
  | .string => leaf { kind := .string }
  | .bool => leaf { kind := .boolean }
  | .int | .int8 | .int16 | .int32 | .uint | .uint8 | .uint16 | .uint32 => leaf { kind := .integer, format := s "int32" }
  | .int64 | .uint64 => leaf { kind := .integer, format := s "int64" }
  | .float32 => leaf { kind := .number, format := s "float" }
  | .float64 => leaf { kind := .number, format := s "double" }
  | .iface | .other => objectSchema

/-! ## tags -/

/-- `parseJSONName` -/
def parseJSONName (tag fallback : B) : B :=
  if tag = [] then fallback
  else
    match splitOn ',' tag with
    | p0 :: _ => if p0 ≠ [] then p0 else fallback
    | [] => fallback

/-- `t.Kind() == reflect.Pointer` -/
def isPtrKind (env : Env) : Ty → Bool
  | .ptr _ => true
  | .named id => match env.lookup id with
    | some (.alias (.ptr _)) => true
    | _ => false
  | _ => false

/-- `isFieldRequired` -/
def isFieldRequired (env : Env) (m : FieldMeta) (t : Ty) : Bool :=
  if isPtrKind env t then false else contains m.validate (s "required")

/-- what one comma separated part of a `validate` tag does to a schema (the `switch` of
    applyValidationConstraints) -/
inductive PartEffect
  | none
  | minimum (x : Nat) (exclusive : Bool)
  | maximum (x : Nat) (exclusive : Bool)
  | minLength (x : Nat)
  | maxLength (x : Nat)
  | len (x : Nat)
  | enum (vs : List B)

def numEffect (v : B) (f : Nat → PartEffect) : PartEffect :=
  match parseNat v with
  | some x => f x
  | none => .none

def classifyPart (part0 : B) : PartEffect :=
  let part := trimSpace part0
  if part = [] then .none
  else if hasPrefix (s "min=") part then numEffect (part.drop 4) (.minimum · false)
  else if hasPrefix (s "max=") part then numEffect (part.drop 4) (.maximum · false)
  else if hasPrefix (s "gte=") part then numEffect (part.drop 4) (.minimum · false)
  else if hasPrefix (s "lte=") part then numEffect (part.drop 4) (.maximum · false)
  else if hasPrefix (s "gt=") part then numEffect (part.drop 3) (.minimum · true)
  else if hasPrefix (s "lt=") part then numEffect (part.drop 3) (.maximum · true)
  else if hasPrefix (s "minlen=") part || hasPrefix (s "minLength=") part then
    -- strings.TrimPrefix(strings.TrimPrefix(part, "minlen="), "minLength=")
    let v1 := (cutPrefix (s "minlen=") part).getD part
    numEffect ((cutPrefix (s "minLength=") v1).getD v1) .minLength
  else if hasPrefix (s "maxlen=") part || hasPrefix (s "maxLength=") part then
    let v1 := (cutPrefix (s "maxlen=") part).getD part
    numEffect ((cutPrefix (s "maxLength=") v1).getD v1) .maxLength
  else if hasPrefix (s "len=") part then numEffect (part.drop 4) .len
  else if hasPrefix (s "oneof=") part then .enum (fields (part.drop 6))
  else .none

def applyEffect (h : Head) : PartEffect → Head
  | .none => h
  | .minimum x e => { h with minimum := some (x, e) }
  | .maximum x e => { h with maximum := some (x, e) }
  | .minLength x => { h with minLength := some x }
  | .maxLength x => { h with maxLength := some x }
  | .len x => { h with minLength := some x, maxLength := some x }
  | .enum vs => { h with enum := vs }

def applyPart (h : Head) (part : B) : Head := applyEffect h (classifyPart part)

/-- the format a `validate` tag implies (first `switch` of applyValidationConstraints) -/
def validateFormat (v : B) : Option B :=
  if contains v (s "email") then some (s "email")
  else if contains v (s "url") then some (s "uri")
  else if contains v (s "uuid") then some (s "uuid")
  else none

/-- `applyValidationConstraints` on the scalar members -/
def applyConstraintsHead (v : B) (h : Head) : Head :=
  if v = [] then h
  else
    let h1 := match validateFormat v with
      | some f => { h with format := f }
      | none => h
    let h2 := if contains v (s "alphanum") then { h1 with pattern := s "^[a-zA-Z0-9]+$" } else h1
    (splitOn ',' v).foldl applyPart h2

def applyConstraints (v : B) (t : IR) : IR := t.modHead (applyConstraintsHead v)

/-- `if doc != "" { fs.Description = doc }; if ex != "" { fs.Example = ex }` in the walkFields callback of
    structSchema / GenerateProjected (on a `$ref` schema both are dropped by the projections) -/
def docTagsHead (m : FieldMeta) (h : Head) : Head :=
  { h with description := if m.docT ≠ [] then m.docT else h.description,
           exampleV := if m.exampleT ≠ [] then m.exampleT else h.exampleV }

def docTags (m : FieldMeta) (t : IR) : IR := t.modHead (docTagsHead m)

/-! ## Generate / structSchema / GenerateProjected -/

/-- component schemas registered so far, newest first (`sg.schemas`) -/
abbrev Schemas := List (B × IR)

def hasKey (st : Schemas) (name : B) : Bool := st.any (fun e => e.1 == name)

def isByteSlice : Ty → Bool
  | .slice (.prim .uint8) => true
  | _ => false

/-- the schema of a struct: `{Kind: object, Properties: …, Required: …}` -/
def objNode (req : List B) (props : PTree Head) : IR := .node { kind := .object, required := req } .none props .none

def setNullable (t : IR) : IR := t.modHead fun h => { h with nullable := true }
def arrayOf (t : IR) : IR := .node { kind := .array } (.some t) .nil .none
def mapOf (t : IR) : IR := .node { kind := .object } .none .nil (.some t)

mutual
  /-- `SchemaGenerator.Generate(t)`; `seen` = struct types being generated, `opn` = named container
      types open since the innermost struct (both are stacks: restored on return by the deferred
      deletes), `st` = `sg.schemas`. -/
  def gen (env : Env) (seen opn : List Nat) (t : Ty) (st : Schemas) : IR × Schemas :=
    match t with
    | .prim k => (primSchema k, st)
    | .time => (timeSchema, st)
    | .ptr e =>
      let r := gen env seen opn e st
      (setNullable r.1, r.2)
    | .slice e =>
      if isByteSlice (.slice e) then (bytesSchema, st)
      else
        let r := gen env seen opn e st
        (arrayOf r.1, r.2)
    | .array e =>
      let r := gen env seen opn e st
      (arrayOf r.1, r.2)
    | .map strKey e =>
      if !strKey then (objectSchema, st)
      else
        let r := gen env seen opn e st
        (mapOf r.1, r.2)
    | .named id =>
      match _hl : env.lookup id with
      | none => (objectSchema, st)
      | some (.alias u) =>
        if isByteSlice u then (bytesSchema, st)
        else if _ho : id ∈ opn then (objectSchema, st)       -- `sg.open[t]` (K07i)
        else if id ∈ seen then (objectSchema, st)            -- never: only structs are in `seen`
        else gen env seen (id :: opn) u st                    -- guard(t), then the kind switch on t
      | some (.struct name pkg fs) =>
        if _hs : id ∈ seen then
          (if schemaName name pkg ≠ [] then refTo (schemaName name pkg) else objectSchema, st)
        else
          -- structSchema
          let nm := schemaName name pkg
          if nm ≠ [] ∧ hasKey st nm then (refTo nm, st)
          else
            let r := genFields env (id :: seen) [] false (flatten env [id] fs) .nil [] st
            let sch : IR := objNode r.2.1 r.1
            if nm ≠ [] then (refTo nm, (nm, sch) :: r.2.2) else (sch, r.2.2)
  termination_by (unseen env seen, unseen env opn, sizeOf t)
  decreasing_by
    all_goals simp_wf
    · exact Prod.Lex.right _ (Prod.Lex.right _ (by omega))
    · exact Prod.Lex.right _ (Prod.Lex.right _ (by omega))
    · exact Prod.Lex.right _ (Prod.Lex.right _ (by omega))
    · exact Prod.Lex.right _ (Prod.Lex.right _ (by omega))
    · exact Prod.Lex.right _ (Prod.Lex.left _ _ (unseen_lt _hl _ho))
    · exact Prod.Lex.left _ _ (unseen_lt _hl _hs)

  /-- the body of the `walkFields` callback of structSchema / GenerateProjected, over the flattened
      fields; `projected` = the `include` filter of buildOperation (JSON-tagged fields only) -/
  def genFields (env : Env) (seen opn : List Nat) (projected : Bool) (fs : List (FieldMeta × Ty))
      (props : PTree Head) (req : List B) (st : Schemas) : PTree Head × List B × Schemas :=
    match fs with
    | [] => (props, req, st)
    | (m, t) :: rest =>
      if !m.exported || (projected && (m.json = [] || m.json = s "-")) then
        genFields env seen opn projected rest props req st
      else if m.json = s "-" then
        genFields env seen opn projected rest props req st
      else
        let fieldName := parseJSONName m.json m.name
        let r := gen env seen opn t st
        let fsch := applyConstraints m.validate (docTags m r.1)
        let req' :=
          if isFieldRequired env m t && !contains m.json (s "omitempty") && !req.contains fieldName
          then req ++ [fieldName] else req
        genFields env seen opn projected rest (props.set fieldName fsch) req' r.2
  termination_by (unseen env seen, unseen env opn, sizeOf fs)
  decreasing_by
    all_goals simp_wf
    · exact Prod.Lex.right _ (Prod.Lex.right _ (by omega))
    · exact Prod.Lex.right _ (Prod.Lex.right _ (by omega))
    · exact Prod.Lex.right _ (Prod.Lex.right _ (by omega))
    · exact Prod.Lex.right _ (Prod.Lex.right _ (by omega))
end

end Rivaas.OpenAPI
