import Rivaas.Model.BindAll
import Rivaas.Model.BindNestJSON
/-
C04 — the nested-struct JSON shortcut in a collecting bind (`WithAllErrors`): the same first step of
setNestedStructWithDepth, behind its depth test and in front of the nested bind. Core Lean only.
-/
namespace Rivaas.Bind

def fieldActionAllJ (P : Params) (cfg : Cfg) (nest : NestAll) (g : Getter) (depth : Nat) (f : FieldInfo) (cur : Val) :
    StepAll :=
  if !isMapTy f.ty && isStructTy f.ty && !decide (cfg.maxDepth < depth + 1) then
    match nestShortcut P (g.push f.tagName) with
    | some dv => .store (rewrap f.ty dv) []
    | none => fieldActionAll P cfg nest g depth f cur
  else fieldActionAll P cfg nest g depth f cur

def loopAllWithJ (P : Params) (cfg : Cfg) (nest : NestAll) (sty : List Fld) :
    List FieldInfo → Val → Getter → Nat → OutAll
  | [], elem, _, _ => .done elem []
  | f :: rest, elem, g, depth =>
    match reach elem f.index with
    | .bad => .panic
    | _ =>
      if !wants g f then loopAllWithJ P cfg nest sty rest elem g depth
      else
        let elem1 := updAt (.struct sty) elem f.index id
        match reach elem1 f.index with
        | .ok cur =>
          match fieldActionAllJ P cfg nest g depth f cur with
          | .store nv es =>
            (loopAllWithJ P cfg nest sty rest (updAt (.struct sty) elem1 f.index (fun _ => nv)) g depth).prepend es
          | .skip es => (loopAllWithJ P cfg nest sty rest elem1 g depth).prepend es
          | .panic => .panic
        | _ => .panic

def bindAtAllJ (P : Params) (cfg : Cfg) (tag : Tag) : Nat → NestAll
  | 0 => fun sty elem g depth =>
    loopAllWithJ P cfg (fun _ v _ _ => .done v [.depth]) sty (flatten P tag sty) elem g depth
  | n + 1 => fun sty elem g depth =>
    loopAllWithJ P cfg (bindAtAllJ P cfg tag n) sty (flatten P tag sty) elem g depth

def bindAllJ (P : Params) (cfg : Cfg) (tag : Tag) (ty : Ty) (init : Val) (src : Src) : OutAll :=
  match ty with
  | .struct fs => bindAtAllJ P cfg tag cfg.maxDepth fs init { src := src } 0
  | _ => .done init [.conv]

theorem lemma_fieldActionAllJ_eq (P : Params) (cfg : Cfg) (nest : NestAll) (h : ∀ s, (P s).nj = none) (g : Getter) (depth : Nat)
    (f : FieldInfo) (cur : Val) : fieldActionAllJ P cfg nest g depth f cur = fieldActionAll P cfg nest g depth f cur := by
  unfold fieldActionAllJ
  split
  · simp only [lemma_nestShortcut_none P h]
  · rfl

theorem lemma_loopAllWithJ_eq (P : Params) (cfg : Cfg) (nest : NestAll) (sty : List Fld) (h : ∀ s, (P s).nj = none) :
    ∀ (fis : List FieldInfo) (elem : Val) (g : Getter) (depth : Nat),
      loopAllWithJ P cfg nest sty fis elem g depth = loopAllWith P cfg nest sty fis elem g depth
  | [], _, _, _ => rfl
  | f :: rest, elem, g, depth => by
    have ih := lemma_loopAllWithJ_eq P cfg nest sty h rest
    unfold loopAllWithJ loopAllWith
    simp only [lemma_fieldActionAllJ_eq P cfg nest h, ih]
    -- what is left differs in the names of the `match` auxiliaries only
    rfl

theorem lemma_bindAtAllJ_eq (P : Params) (cfg : Cfg) (tag : Tag) (h : ∀ s, (P s).nj = none) :
    ∀ n, bindAtAllJ P cfg tag n = bindAtAll P cfg tag n
  | 0 => by
    funext sty elem g depth
    simp only [bindAtAllJ, bindAtAll, lemma_loopAllWithJ_eq P cfg _ sty h]
  | n + 1 => by
    have ih := lemma_bindAtAllJ_eq P cfg tag h n
    funext sty elem g depth
    simp only [bindAtAllJ, bindAtAll, ih, lemma_loopAllWithJ_eq P cfg _ sty h]

end Rivaas.Bind
